/-
  Driver.CodecProofs — the %-escaping of the line protocol (`Driver/Codec.lean`) is correct: byte strings, lists and
  maps survive encoding and decoding (`decB_encB`, `decL_encL`, `decM_encKVs`, `decM_encM`), and an encoded token holds
  only ASCII characters, none of them a framing character (`encB_tokChar`).  The list and map round trips go through
  core's `String.splitOn`, which is related once to the list-level `List.splitOn` (`splitOnChar_eq`); the framing the
  two share is `commaLine`.

  NOT imported by `Driver/Main.lean`; the executable is unaffected.  Core Lean only.
-/
import Driver.Codec
namespace Driver
open Mux

namespace P20

def encByte (b : UInt8) : List Char :=
  if isSafe b then [Char.ofNat b.toNat] else ['%', hexDigit (b.toNat / 16), hexDigit (b.toNat % 16)]

/-- The characters emitted for a byte string (before the `%_` special case). -/
def encChars (s : Bytes) : List Char := s.flatMap encByte

/-- The framing characters of the line protocol. -/
def seps : List Char := [' ', ',', '=', '|', '+', '\n', ';', ':']

/-- What the encoding may emit: ASCII, so that a character is a byte on the wire, and no framing
    character. -/
abbrev TokChar (c : Char) : Prop := c.toNat < 128 ∧ c ∉ seps

theorem hexDigit_spec : ∀ n < 16, hexVal (hexDigit n) = some n ∧ TokChar (hexDigit n) := by
  decide +kernel

theorem hexVal_hexDigit (n : Nat) (h : n < 16) : hexVal (hexDigit n) = some n :=
  (hexDigit_spec n h).1

theorem ofNat_div_mod (x : UInt8) : UInt8.ofNat (x.toNat / 16 * 16 + x.toNat % 16) = x := by
  rw [Nat.div_add_mod']; simp

theorem nibble_lt (b : UInt8) : b.toNat / 16 < 16 ∧ b.toNat % 16 < 16 :=
  ⟨Nat.div_lt_of_lt_mul b.toNat_lt, Nat.mod_lt _ (Nat.zero_lt_succ 15)⟩

theorem isSafe_lt {b : UInt8} (h : isSafe b = true) : b.toNat < 127 := by
  simp only [isSafe, decide_eq_true_eq, UInt8.le_iff_toNat_le, ← UInt8.toNat_inj,
    UInt8.toNat_ofNat] at h
  omega

theorem not_isSafe_special : ∀ c ∈ '%' :: seps, isSafe (UInt8.ofNat c.toNat) = false := by
  decide +kernel

theorem toNat_ofNat (n : Nat) (h : n < 55296) : (Char.ofNat n).toNat = n := by
  rw [Char.ofNat, dif_pos (Or.inl h)]; rfl

theorem safe_char {b : UInt8} (h : isSafe b = true) :
    UInt8.ofNat (Char.ofNat b.toNat).toNat = b ∧ Char.ofNat b.toNat ≠ '%' ∧
      TokChar (Char.ofNat b.toNat) := by
  have hlt := isSafe_lt h
  have hc : (Char.ofNat b.toNat).toNat = b.toNat := toNat_ofNat _ (by omega)
  have hb : UInt8.ofNat (Char.ofNat b.toNat).toNat = b := by rw [hc, UInt8.ofNat_toNat]
  have hs : ∀ c ∈ '%' :: seps, Char.ofNat b.toNat ≠ c := by
    intro c hm e
    have := not_isSafe_special c hm
    rw [← e, hb, h] at this
    contradiction
  exact ⟨hb, hs _ List.mem_cons_self, by omega, fun hm => hs _ (List.mem_cons_of_mem _ hm) rfl⟩

theorem decodeChars_cons_ne (c : Char) (rest : List Char) (h : c ≠ '%') :
    decodeChars (c :: rest) = UInt8.ofNat c.toNat :: decodeChars rest := by
  rw [decodeChars]
  intro a b r hc
  exact absurd hc h

theorem decodeChars_pct (a b : Char) (x y : Nat) (rest : List Char)
    (ha : hexVal a = some x) (hb : hexVal b = some y) :
    decodeChars ('%' :: a :: b :: rest) = UInt8.ofNat (x * 16 + y) :: decodeChars rest := by
  rw [decodeChars, ha, hb]

theorem decodeChars_encByte (b : UInt8) (rest : List Char) :
    decodeChars (encByte b ++ rest) = b :: decodeChars rest := by
  unfold encByte
  split
  · next hs =>
    obtain ⟨hb, hne, _⟩ := safe_char hs
    rw [List.singleton_append, decodeChars_cons_ne _ _ hne, hb]
  · exact (decodeChars_pct _ _ _ _ rest (hexVal_hexDigit _ (nibble_lt b).1)
      (hexVal_hexDigit _ (nibble_lt b).2)).trans (congrArg (· :: _) (ofNat_div_mod b))

theorem decodeChars_encChars (s : Bytes) : decodeChars (encChars s) = s := by
  induction s with
  | nil => rfl
  | cons b s ih =>
    show decodeChars (encByte b ++ encChars s) = _
    rw [decodeChars_encByte, ih]

theorem encByte_chars (b : UInt8) : ∀ c ∈ encByte b, TokChar c := by
  unfold encByte
  split
  · next hs => exact List.forall_mem_singleton.mpr (safe_char hs).2.2
  · intro c hc
    simp only [List.mem_cons, List.not_mem_nil, or_false] at hc
    rcases hc with rfl | rfl | rfl
    · decide +kernel
    · exact (hexDigit_spec _ (nibble_lt b).1).2
    · exact (hexDigit_spec _ (nibble_lt b).2).2

theorem toList_encB (s : Bytes) :
    (encB s).toList = if s = [] then ['%', '_'] else encChars s := by
  rw [encB]
  split
  · rfl
  · exact String.toList_ofList

end P20

open P20

/-- `%_` stands for the empty byte string only: the two bytes `%_` themselves are sent as `%25_`. -/
theorem encB_ne_empty (b : Bytes) (h : b ≠ []) : encB b ≠ "%_" := by
  intro e
  have : encChars (decodeChars "%_".toList) = "%_".toList := by
    rw [← e, toList_encB, if_neg h, decodeChars_encChars]
  exact absurd this (by decide +kernel)

theorem decB_encB (b : Bytes) : decB (encB b) = b := by
  by_cases h : b = []
  · subst h; rfl
  · unfold decB
    rw [if_neg (encB_ne_empty b h), toList_encB, if_neg h, decodeChars_encChars]

/-- Malformed escapes cannot blow up; the decoder is total and never produces more bytes
    than it reads characters, whatever the (possibly malformed) input. -/
theorem decodeChars_length_le (cs : List Char) : (decodeChars cs).length ≤ cs.length := by
  fun_induction decodeChars cs <;> simp only [List.length_cons, List.length_nil] <;> omega

theorem decB_length_le (tok : String) : (decB tok).length ≤ tok.toList.length := by
  unfold decB
  split
  · exact Nat.zero_le _
  · exact decodeChars_length_le _

theorem encB_injective {a b : Bytes} (h : encB a = encB b) : a = b := by
  rw [← decB_encB a, h, decB_encB]

/-- A token that decoding and encoding again does not give back is not an encoding. -/
theorem encB_ne_of_decB {t : String} (ht : encB (decB t) ≠ t) (b : Bytes) : encB b ≠ t :=
  fun e => ht (by rw [← e, decB_encB])

/-- No byte string is encoded as the reserved token `%-` (the empty list / map). -/
theorem encB_ne_emptyList (b : Bytes) : encB b ≠ "%-" :=
  encB_ne_of_decB (by decide +kernel) b

theorem encB_tokChar (b : Bytes) : ∀ c ∈ (encB b).toList, TokChar c := by
  rw [toList_encB]
  split
  · decide +kernel
  · intro c hc
    obtain ⟨x, _, hx⟩ := List.mem_flatMap.mp hc
    exact encByte_chars x c hx

/-- The second half of `encB_tokChar`, character by character: `encB b` contains none of `' ' , = | + \n ; :`. -/
theorem encB_sepFree (b : Bytes) :
    ' ' ∉ (encB b).toList ∧ ',' ∉ (encB b).toList ∧ '=' ∉ (encB b).toList ∧
    '|' ∉ (encB b).toList ∧ '+' ∉ (encB b).toList ∧ '\n' ∉ (encB b).toList ∧
    ';' ∉ (encB b).toList ∧ ':' ∉ (encB b).toList := by
  have h : ∀ c ∈ seps, c ∉ (encB b).toList := fun c hc hm => (encB_tokChar b c hm).2 hc
  simpa only [seps, List.forall_mem_cons, List.not_mem_nil, false_imp_iff, implies_true, and_true] using h

/-- Every character of `encB b` is ASCII, so on the wire one character is one byte. -/
theorem encB_ascii (b : Bytes) (c : Char) (hc : c ∈ (encB b).toList) : c.toNat < 128 :=
  (encB_tokChar b c hc).1

/-- The encoding is never the empty string (so tokens survive whitespace splitting). -/
theorem encB_ne_emptyString (b : Bytes) : encB b ≠ "" :=
  encB_ne_of_decB (by decide +kernel) b

/-! `String.splitOn` is the legacy byte-position loop `String.splitOnAux`.  We relate it to core's
list-level `List.splitOn` (for which `List.splitOn_intercalate` is available). -/

namespace P20
open String

/-- UTF-8 length of a list of characters. -/
def ulen : List Char → Nat
  | [] => 0
  | c :: cs => c.utf8Size + ulen cs

theorem ulen_append (a b : List Char) : ulen (a ++ b) = ulen a + ulen b := by
  induction a with
  | nil => exact (Nat.zero_add _).symm
  | cons c a ih => rw [List.cons_append, ulen, ulen, ih, Nat.add_assoc]

theorem utf8ByteSize_ofList (cs : List Char) : (String.ofList cs).utf8ByteSize = ulen cs := by
  induction cs with
  | nil => rfl
  | cons c cs ih =>
    rw [String.ofList_cons, String.utf8ByteSize_append, String.utf8ByteSize_singleton, ih, ulen]

/-- If walking from byte `i` over `x :: l` ends at byte `p`, then `i` is not yet `p`, and walking on
    from behind `x` over `l` ends at `p`: the step of every induction below. -/
theorem walk_cons {x : Char} {l : List Char} {i p : Nat} (hp : p = i + ulen (x :: l)) :
    (⟨i⟩ : Pos.Raw) ≠ ⟨p⟩ ∧ p = i + x.utf8Size + ulen l := by
  have := x.utf8Size_pos
  rw [ulen] at hp
  have h : i ≠ p ∧ p = i + x.utf8Size + ulen l := by omega
  exact ⟨mt (congrArg Pos.Raw.byteIdx) h.1, h.2⟩

theorem getAux_at (l : List Char) (c : Char) (r : List Char) (i p : Nat) (hp : p = i + ulen l) :
    Pos.Raw.utf8GetAux (l ++ c :: r) ⟨i⟩ ⟨p⟩ = c := by
  induction l generalizing i with
  | nil => subst hp; rw [List.nil_append, Pos.Raw.utf8GetAux]; exact if_pos rfl
  | cons x l ih =>
    rw [List.cons_append, Pos.Raw.utf8GetAux, if_neg (walk_cons hp).1]
    exact ih _ (walk_cons hp).2

theorem go₂_at (m r : List Char) (i p : Nat) (hp : p = i + ulen m) :
    Pos.Raw.extract.go₂ (m ++ r) ⟨i⟩ ⟨p⟩ = m := by
  induction m generalizing i with
  | nil =>
    subst hp
    cases r with
    | nil => rfl
    | cons c r => rw [List.nil_append, Pos.Raw.extract.go₂]; exact if_pos rfl
  | cons x m ih =>
    rw [List.cons_append, Pos.Raw.extract.go₂, if_neg (walk_cons hp).1]
    exact congrArg (x :: ·) (ih _ (walk_cons hp).2)

theorem go₁_at (l m r : List Char) (i b e : Nat) (hb : b = i + ulen l) (he : e = b + ulen m) :
    Pos.Raw.extract.go₁ (l ++ (m ++ r)) ⟨i⟩ ⟨b⟩ ⟨e⟩ = m := by
  induction l generalizing i with
  | nil =>
    subst hb
    rw [List.nil_append]
    cases hmr : m ++ r with
    | nil => rw [Pos.Raw.extract.go₁]; exact (List.append_eq_nil_iff.mp hmr).1.symm
    | cons c cs => rw [Pos.Raw.extract.go₁, if_pos rfl, ← hmr]; exact go₂_at m r _ _ he
  | cons x l ih =>
    rw [List.cons_append, Pos.Raw.extract.go₁, if_neg (walk_cons hb).1]
    exact ih _ (walk_cons hb).2

variable {cs l m r : List Char} {c : Char}

theorem get_at (h : cs = l ++ c :: r) : Pos.Raw.get (String.ofList cs) ⟨ulen l⟩ = c := by
  rw [Pos.Raw.get, String.toList_ofList, h]
  exact getAux_at l c r 0 _ (Nat.zero_add _).symm

theorem next_at (h : cs = l ++ c :: r) :
    Pos.Raw.next (String.ofList cs) ⟨ulen l⟩ = ⟨ulen (l ++ [c])⟩ := by
  rw [Pos.Raw.next, get_at h, ulen_append]; rfl

theorem atEnd_at (h : cs = l ++ r) :
    Pos.Raw.atEnd (String.ofList cs) ⟨ulen l⟩ = decide (r = []) := by
  rw [Pos.Raw.atEnd, utf8ByteSize_ofList, h, ulen_append]
  show decide (ulen l ≥ ulen l + ulen r) = _
  cases r with
  | nil => exact decide_eq_true (Nat.le_refl _)
  | cons c r =>
    have := c.utf8Size_pos
    rw [ulen, decide_eq_false (List.cons_ne_nil _ _)]
    exact decide_eq_false (by omega)

theorem extract_at {p : List Char} (h : cs = p ++ r) (hp : p = l ++ m) :
    Pos.Raw.extract (String.ofList cs) ⟨ulen l⟩ ⟨ulen p⟩ = String.ofList m := by
  subst hp
  have hgo : Pos.Raw.extract.go₁ (l ++ (m ++ r)) 0 ⟨ulen l⟩ ⟨ulen (l ++ m)⟩ = m :=
    go₁_at l m r 0 _ _ (Nat.zero_add _).symm (ulen_append l m)
  rw [Pos.Raw.extract, String.toList_ofList, h, List.append_assoc, hgo]
  split
  · next hle =>
    have hle : ulen l + ulen m ≤ ulen l := ulen_append l m ▸ hle
    cases m with
    | nil => rfl
    | cons x m => have := x.utf8Size_pos; rw [ulen] at hle; omega
  · rfl

/-- The loop of `String.splitOn` for a one-character separator, at list level: of the characters
    `cs = l ++ m ++ r`, `l` lies before the piece being read, `m` is what has been read of it (the
    cursor stands behind `p = l ++ m`), and `r` is still to come. -/
theorem splitOnAux_at (c : Char) (cs r l m p : List Char) (acc : List String)
    (h : cs = p ++ r) (hp : p = l ++ m) :
    String.splitOnAux (String.ofList cs) (String.ofList [c]) ⟨ulen l⟩ ⟨ulen p⟩ 0 acc =
      acc.reverse ++ (List.splitOnPPrepend (· == c) r m.reverse).map String.ofList := by
  induction r generalizing l m p acc with
  | nil =>
    rw [String.splitOnAux, if_pos ((atEnd_at h).trans (decide_eq_true rfl)), extract_at h hp,
      List.splitOnPPrepend_nil, List.reverse_reverse, List.reverse_cons]
    rfl
  | cons x r ih =>
    have h' : cs = p ++ [x] ++ r := h.trans (List.append_cons ..)
    have sget : Pos.Raw.get (String.ofList [c]) 0 = c := get_at (l := []) rfl
    rw [String.splitOnAux, if_neg (by rw [atEnd_at h]; simp), get_at h, sget]
    by_cases hxc : (x == c) = true
    · have snext : Pos.Raw.next (String.ofList [c]) 0 = ⟨ulen [c]⟩ := next_at (l := []) rfl
      have send : Pos.Raw.atEnd (String.ofList [c]) ⟨ulen [c]⟩ = true :=
        (atEnd_at (l := [c]) (r := []) rfl).trans (decide_eq_true rfl)
      have hun : Pos.Raw.unoffsetBy ⟨ulen (p ++ [x])⟩ ⟨ulen [c]⟩ = ⟨ulen p⟩ := by
        rw [ulen_append, beq_iff_eq.mp hxc]
        exact congrArg Pos.Raw.mk (Nat.add_sub_cancel ..)
      rw [if_pos hxc, next_at h, snext]
      dsimp only
      rw [if_pos send, hun, extract_at h hp]
      refine (ih (p ++ [x]) [] (p ++ [x]) _ h' (List.append_nil _).symm).trans ?_
      rw [List.splitOnPPrepend_cons_pos (p := (· == c)) hxc, List.reverse_cons, List.append_assoc,
        List.reverse_reverse]
      rfl
    · rw [if_neg hxc, Pos.Raw.unoffsetBy_zero, next_at h]
      refine (ih l (m ++ [x]) (p ++ [x]) acc h' (by rw [hp, List.append_assoc])).trans ?_
      rw [List.splitOnPPrepend_cons_neg (p := (· == c)) (Bool.eq_false_iff.mpr hxc), List.reverse_append]
      rfl

end P20

open P20

theorem splitOnChar_eq (s : String) (c : Char) :
    splitOnChar s c = (s.toList.splitOn c).map String.ofList := by
  have := splitOnAux_at c s.toList s.toList [] [] [] [] (List.nil_append _).symm (List.nil_append _).symm
  rw [String.ofList_toList, List.reverse_nil, List.nil_append] at this
  rw [splitOnChar, String.splitOn, beq_eq_false_iff_ne.mpr String.singleton_ne_empty,
    String.singleton_eq_ofList, if_neg Bool.false_ne_true]
  exact this

theorem splitOnChar_intercalate (c : Char) {sep : String} (hsep : sep.toList = [c])
    {ss : List String} (hne : ss ≠ []) (hfree : ∀ s ∈ ss, c ∉ s.toList) :
    splitOnChar (sep.intercalate ss) c = ss := by
  rw [splitOnChar_eq, String.toList_intercalate, hsep,
    List.splitOn_intercalate c _ (mt List.map_eq_nil_iff.mp hne), List.map_map]
  · exact (List.map_congr_left fun s _ => String.ofList_toList).trans (List.map_id ss)
  · intro l hl
    obtain ⟨s, hs, rfl⟩ := List.mem_map.mp hl
    exact hfree s hs

/-- A `c`-joined list of `c`-free tokens is not a `c`-free token other than its members: split at `c`, the
    one gives the list back and the other itself. -/
theorem intercalate_ne (c : Char) {sep : String} (hsep : sep.toList = [c])
    {ss : List String} (hne : ss ≠ []) (hfree : ∀ s ∈ ss, c ∉ s.toList)
    {t : String} (ht : c ∉ t.toList) (hmem : ∀ s ∈ ss, s ≠ t) : sep.intercalate ss ≠ t := by
  intro h
  have hss : splitOnChar t c = ss := h ▸ splitOnChar_intercalate c hsep hne hfree
  have ht := splitOnChar_intercalate c hsep (List.cons_ne_nil t []) (List.forall_mem_singleton.mpr ht)
  rw [String.intercalate_singleton, hss] at ht
  exact hmem t (ht ▸ List.mem_singleton_self t) rfl

/-- The framing that lists and maps share: each element is printed as a token without a comma that is not
    the reserved token `%-`; the comma-joined line of a non-empty list is then not `%-` either, and splits
    into the tokens. -/
theorem commaLine {α : Type} {enc : α → String} (hfree : ∀ a, ',' ∉ (enc a).toList)
    (hres : ∀ a, enc a ≠ "%-") {l : List α} (h : l ≠ []) :
    ",".intercalate (l.map enc) ≠ "%-" ∧
      splitOnChar (",".intercalate (l.map enc)) ',' = l.map enc :=
  have hne : l.map enc ≠ [] := mt List.map_eq_nil_iff.mp h
  have hfree : ∀ s ∈ l.map enc, ',' ∉ s.toList := List.forall_mem_map.mpr fun a _ => hfree a
  ⟨intercalate_ne ',' rfl hne hfree (by decide +kernel) (List.forall_mem_map.mpr fun a _ => hres a),
    splitOnChar_intercalate ',' rfl hne hfree⟩

theorem decL_encL (l : List Bytes) : decL (encL l) = l := by
  by_cases h : l = []
  · subst h; rfl
  · obtain ⟨hne, hsplit⟩ := commaLine (fun b => (encB_sepFree b).2.1) encB_ne_emptyList h
    rw [encL, if_neg h, decL, if_neg hne, hsplit, List.map_map]
    simp only [Function.comp_def, decB_encB, List.map_id']

namespace P20

/-- One `k=v` entry as printed by `encM` (and by the harness' `encKVs`). -/
def encKV (e : Bytes × Bytes) : String := encB e.1 ++ "=" ++ encB e.2

theorem toList_encKV (e : Bytes × Bytes) :
    (encKV e).toList = (encB e.1).toList ++ '=' :: (encB e.2).toList := by
  rw [encKV, String.toList_append, String.toList_append, List.append_assoc]; rfl

theorem encKV_noComma (e : Bytes × Bytes) : ',' ∉ (encKV e).toList := by
  rw [toList_encKV, List.mem_append, List.mem_cons]
  rintro (h | h | h)
  · exact (encB_sepFree e.1).2.1 h
  · exact absurd h (by decide)
  · exact (encB_sepFree e.2).2.1 h

theorem encKV_ne_emptyList (e : Bytes × Bytes) : encKV e ≠ "%-" := by
  intro h
  have hmem : '=' ∈ (encKV e).toList := by
    rw [toList_encKV]; exact List.mem_append_right _ List.mem_cons_self
  rw [h] at hmem
  exact absurd hmem (by decide +kernel)

theorem splitOnChar_encKV (e : Bytes × Bytes) :
    splitOnChar (encKV e) '=' = [encB e.1, encB e.2] := by
  have := splitOnChar_intercalate '=' (sep := "=") rfl (List.cons_ne_nil (encB e.1) [encB e.2])
    (List.forall_mem_cons.mpr ⟨(encB_sepFree e.1).2.2.1,
      List.forall_mem_singleton.mpr (encB_sepFree e.2).2.2.1⟩)
  rwa [String.intercalate_cons_cons, String.intercalate_singleton] at this

theorem insertKV_length {α : Type} (e : Bytes × α) (xs : List (Bytes × α)) :
    (insertKV e xs).length = xs.length + 1 := by
  fun_induction insertKV e xs with
  | case1 => rfl
  | case2 x xs h => rfl
  | case3 x xs h ih => rw [List.length_cons, ih, List.length_cons]

theorem sortKV_length {α : Type} (l : List (Bytes × α)) : (sortKV l).length = l.length := by
  induction l with
  | nil => rfl
  | cons x l ih => exact (insertKV_length x (sortKV l)).trans (congrArg (· + 1) ih)

end P20

open P20

/-- **Round trip for `k=v` sequences in the given order** (the harness' `encKVs`, used in
    operation lines): the driver's `decM` returns exactly the pairs, in order. -/
theorem decM_encKVs (l : List (Bytes × Bytes)) (h : l ≠ []) :
    decM (",".intercalate (l.map encKV)) = l := by
  obtain ⟨hne, hsplit⟩ := commaLine encKV_noComma encKV_ne_emptyList h
  rw [decM, if_neg hne, hsplit, List.filterMap_map]
  simp only [Function.comp_def, splitOnChar_encKV, decB_encB]
  exact List.filterMap_some

theorem decM_encM (m : List (Bytes × Bytes)) : decM (encM m) = sortKV m := by
  by_cases h : m = []
  · subst h; rfl
  · unfold encM
    rw [if_neg h]
    refine decM_encKVs (sortKV m) fun e => h ?_
    exact List.eq_nil_of_length_eq_zero ((sortKV_length m).symm.trans (congrArg List.length e))

-- all the awkward bytes at once: empty, ≥ 0x80, '%', ',', '=', '|', '+', space, newline, 0, 255
example : decB (encB []) = [] := decB_encB _
example : decB (encB [0x80, 37, 44, 61, 124, 43, 32, 10, 0, 255, 95]) =
    [0x80, 37, 44, 61, 124, 43, 32, 10, 0, 255, 95] := decB_encB _
example : ([37, 95] : Bytes) ≠ [] := by decide                     -- hypothesis of `encB_ne_empty`
example : decL (encL [[], [44], [37, 45]]) = [[], [44], [37, 45]] := decL_encL _
example : ([[]] : List Bytes) ≠ [] := by decide                    -- hypothesis of `commaLine`
example : ([([], [])] : List (Bytes × Bytes)) ≠ [] := by decide    -- hypothesis of `decM_encKVs`
example : ["a", "", "b=c"] ≠ [] ∧ ∀ s ∈ ["a", "", "b=c"], ',' ∉ s.toList := by decide +kernel

end Driver
