import Mux.Model.Call
import Mux.Spec.Defs
import Mux.Ties
import Mux.Proofs.Regex
import Mux.Proofs.SegMatch
import Mux.Properties.C13
import Mux.Properties.C15
import Mux.Properties.C20
import Mux.Properties.C08
import Mux.Properties.C16
import Mux.Properties.C18
import Mux.Properties.C01
import Mux.Proofs.Priority
import Mux.Properties.C05
import Mux.Properties.C10
import Mux.Properties.C11
import Mux.Properties.C12
import Mux.Properties.C04
import Mux.Properties.C05serve
import Mux.Properties.C08tree
import Mux.Properties.C18tree
import Mux.Properties.C06
import Mux.Properties.C07
import Mux.Properties.C14
import Mux.Properties.C05match
import Mux.Properties.C02
import Mux.Properties.C01b
import Mux.Properties.C09
import Mux.Properties.C19
import Mux.Properties.C03
import Mux.Properties.C04star
import Mux.Properties.C17
import Mux.Properties.C05handle
import Mux.Properties.C01c
import Mux.Properties.C01d
import Mux.Properties.C10strict
import Mux.Properties.C03frame
import Mux.Properties.C14reach
import Mux.Properties.C02resolve
import Mux.Properties.C02all
import Mux.Properties.C03witness
import Mux.Properties.C14late
import Mux.Properties.C16stable
import Mux.Properties.C01group
import Mux.Properties.C09facade
import Mux.Proofs.AmbigSplit
import Mux.Proofs.AutoServe
import Mux.Proofs.ConcOwned
import Mux.Proofs.ConcProg
import Mux.Proofs.GroupHistory
import Mux.Proofs.ParseInt
import Mux.Proofs.WitnessVals
import Mux.Properties.C01router
import Mux.Properties.C03method
import Mux.Properties.C04resp
import Mux.Properties.C05ascii
import Mux.Properties.C05group
import Mux.Properties.C05router
import Mux.Properties.C06allow
import Mux.Properties.C06resp
import Mux.Properties.C07distinct
import Mux.Properties.C08router
import Mux.Properties.C16seq
import Mux.Properties.C17dup
import Mux.Properties.C18router
import Mux.Properties.C20history
import Mux.Proofs.CorsFinal
import Mux.Properties.C13history
import Mux.Properties.C11history
import Mux.Properties.C12router
import Mux.Proofs.HostsDelete
import Mux.Proofs.HostsResolve
import Mux.Proofs.UrlMalformed
import Mux.Proofs.UrlText
import Mux.Properties.C02router
import Mux.Properties.C10text
import Mux.Properties.C14delete
import Mux.Properties.C14resolve
import Mux.Properties.C15ctor
import Mux.Spec.UrlText
