/-
  C07: no shared mutable state between instances, and a read-only serve path, as side conditions about the regenerated facts
  `Facts.globals`, `Facts.serveWrites`, `Facts.serveReach`, closed by kernel evaluation; `Mux.Ties.Consts` says what happens
  when the source changes a fact.
-/
import Mux.Generated.Facts
import Mux.Model.Ctx
namespace Mux.Ties
open Mux Mux.Facts

/-- Every package-level variable is never mutated after initialisation, or is the `sync.Pool`, or is
only touched under a package-level lock. -/
theorem C07_globals : ∀ g ∈ Facts.globals, g.mutatedIn = [] ∨ g.isSyncPool = true ∨ g.guarded = true := by decide

/-- No function statically reachable from `Router.ServeHTTP` / `Group.ServeHTTP` (matcher
combinators included) writes to router, tree, node, segment, CORS, matcher or group state. -/
theorem C07_readonly : Facts.serveWrites = [] := rfl

/-- The serve path is what the model mirrors: dispatch, CORS, matchers, the context. -/
theorem C07_reach : ∀ f ∈ ["Router.ServeHTTP", "Router.serveContext", "Tree.Handler", "node.matchChildren", "Segment.Match",
    "cors.handle", "Group.ServeHTTP", "Hosts.Match", "pathVersion.Match", "headerVersion.Match"], f ∈ Facts.serveReach := by decide +kernel

end Mux.Ties
