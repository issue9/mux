/-
  Mux.Ties.Info — INFORMATIONAL facts about the shape of the Go source (regenerated by factgen on every run). They are not
  premises of any theorem and a behaviour-preserving refactoring changes them; when one stops checking, bin/check records
  it in the evidence and runs the wide failing-input search, but reports a violation only if that search finds one.
  Not imported by `Mux.lean`; built as a separate target.
-/
import Mux.Generated.Facts
namespace Mux.Ties.Info
open Mux.Facts

/-- (index expressions, slice expressions, type assertions, panic calls) per function: the counts
the model's `Err.fault` sites were written against. A new unchecked site changes a count. -/
theorem faultSites_shape : Facts.faultSites = [
    ("internal/syntax.Interceptors.NewSegment", some (3, 8, 0, 0)),
    ("internal/syntax.Interceptors.Split", some (4, 0, 0, 0)),
    ("internal/syntax..splitString", some (0, 3, 0, 0)),
    ("internal/syntax.Segment.cleanName", some (1, 1, 0, 0)),
    ("internal/syntax.Segment.Match", some (5, 8, 0, 0)),
    ("internal/syntax..longestPrefix", some (3, 0, 0, 0)),
    ("internal/syntax.Segment.Split", some (0, 2, 0, 0)),
    ("internal/syntax.Segment.Valid", some (2, 0, 0, 0)),
    ("internal/tree.node.matchChildren", some (4, 0, 0, 0)),
    ("internal/tree.node.buildIndexes", some (2, 0, 0, 0)),
    ("internal/tree.node.checkAmbiguous", some (1, 3, 0, 0)),
    ("internal/tree.Tree.Handler", some (3, 0, 0, 0)),
    (".Hosts.Match", some (0, 3, 0, 0)),
    ("..validOptionalPort", some (1, 1, 0, 0)),
    (".pathVersion.Match", some (0, 1, 0, 0)),
    ("..NewPathVersion", some (3, 0, 0, 1)),
    (".headerVersion.Match", some (1, 0, 0, 0)),
    (".cors.handle", some (0, 0, 0, 0)),
    (".cors.headerIsAllowed", some (0, 0, 0, 0))] := rfl

/-- Middlewares of a registration come before those of the façade / the router (`slices.Concat(m, x.ms)`). -/
theorem concatOrder_shape : Facts.concatOrder =
    [("Router.Handle", "m,r.ms"), ("Prefix.Handle", "m,p.ms"), ("Resource.Handle", "m,r.ms"),
     ("Prefix.Prefix", "m,p.ms"), ("Prefix.Resource", "m,p.ms")] := rfl

/-- The named constants are found under the names factgen knows; `destroyMaxSize` (the size limit above which a context is
not returned to the pool) has no observable effect and is informational altogether. -/
theorem consts_found : Facts.indexesSize = some 5 ∧ Facts.destroyMaxSize = some 30 ∧ Facts.startByte.isSome ∧ Facts.endByte.isSome ∧
    Facts.separatorByte.isSome ∧ Facts.ignoreByte.isSome := by decide

end Mux.Ties.Info
