/-
  Mux.Ties.Consts — side conditions about the facts regenerated from the Go source (`Mux.Generated.Facts`,
  rewritten by factgen on every check run), closed by kernel evaluation: `rfl` where the fact is the generated value
  itself, `decide` where something is computed from it (`decide +kernel` where plain `decide` is slow to check).  When the source
  changes a fact, the obligation stops checking and the properties that rely on it are reported (DESIGN §5.2).
-/
import Mux.Generated.Facts
import Mux.Model.Ctx
namespace Mux.Ties
open Mux Mux.Facts

-- a constant that factgen finds under its name must have the model's value; a constant it does NOT find (renamed by a
-- refactoring) is recorded by `Mux.Ties.Info` (informational) — the differential tie still checks its value (the streams
-- build nodes with 4, 5 and 6 children and compare `dump`/`serve`), so "not found" alone is no alarm
theorem indexesSize_tie : Facts.indexesSize.all (· = Mux.indexesSize) = true := by decide
theorem startByte_tie : Facts.startByte.all (· = Mux.startByte.toNat) = true := by decide +kernel
theorem endByte_tie : Facts.endByte.all (· = Mux.endByte.toNat) = true := by decide +kernel
theorem separatorByte_tie : Facts.separatorByte.all (· = Mux.separatorByte.toNat) = true := by decide +kernel
theorem ignoreByte_tie : Facts.ignoreByte.all (· = Mux.ignoreByte.toNat) = true := by decide +kernel
theorem methodNotAllowed_tie : Facts.methodNotAllowedIsEmpty = true ∧ Mux.mNotAllowed = [] := by decide

/-- The `Methods` table of the source is the model's table, in the same order (the bit of a method
is its position), and `AnyMethods` cuts off exactly the last three: TRACE, HEAD, OPTIONS. -/
theorem methods_tie : (Facts.methods.map (fun l => l.map (fun s => s.toUTF8.toList))) = some Mux.methodsTable := by decide +kernel
theorem anyCut_tie : Facts.anyCut = some 3 ∧ Mux.anyMethods = Mux.methodsTable.take 6 := by decide +kernel
theorem methods_nodup : Mux.methodsTable.Nodup := by decide +kernel
theorem reserved_last : Mux.methodsTable.drop 6 = [Mux.mTRACE, Mux.mHEAD, Mux.mOPTIONS] := rfl

/-- The kind order `String < Interceptor < Regexp < Named` is the order of the Go iota block. -/
theorem kindOrder_tie : Facts.kindOrder = some ["String", "Interceptor", "Regexp", "Named"] := rfl
theorem kindRank_tie : Kind.str.rank = 0 ∧ Kind.icpt.rank = 1 ∧ Kind.rx.rank = 2 ∧ Kind.named.rank = 3 := by decide

/-- `node.priority` is `Type*10` plus at most two increments: the kind dominates. -/
theorem priority_tie : Facts.priorityWeights = some (10, 2) := rfl

end Mux.Ties
