/-
  Mux.Ties.C16 — side conditions about the facts regenerated from the Go source (`Mux.Generated.Facts`) for the bundled
  recovery options and the shorthand registration methods, closed by kernel evaluation.
-/
import Mux.Generated.Facts
import Mux.Model.Http
namespace Mux.Ties
open Mux Mux.Facts

/-- Every bundled recovery option answers with `http.Error(w, http.StatusText(status), status)` — the call the model's
`httpErrorActs status (statusTextLen status)` stands for. -/
theorem C16_recovery_shapes : Facts.recoveryShapes =
    [("WithStatusRecovery", "w|http.StatusText(status)|status"), ("WithWriteRecovery", "w|http.StatusText(status)|status"),
     ("WithLogRecovery", "w|http.StatusText(status)|status"), ("WithSLogRecovery", "w|http.StatusText(status)|status")] := rfl

/-- The model's table of `http.StatusText` lengths agrees with the toolchain that builds the harness, on every code 0..599. -/
theorem C16_statusText : Facts.statusTextLens.all (fun e => statusTextLen e.1 = e.2) = true := by decide +kernel

/-- `Get/Post/Delete/Put/Patch` of Router, Prefix and Resource pass the method they are named after to `Handle`; `Any`
passes none (C19: the shorthand methods are `Handle` calls). -/
theorem C19_shorthands : Facts.shorthandMethods =
    (["Router", "Prefix", "Resource"].flatMap fun r =>
      [(r ++ ".Get", "GET"), (r ++ ".Post", "POST"), (r ++ ".Delete", "DELETE"), (r ++ ".Put", "PUT"),
       (r ++ ".Patch", "PATCH"), (r ++ ".Any", "-")]) := by decide +kernel

end Mux.Ties
