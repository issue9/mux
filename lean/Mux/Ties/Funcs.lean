/-
  `Mux/Generated/Funcs.lean` is written by factgen/go2lean.go from the current Go text of a few leaf functions on every run; each
  `…_tie` below states that the translation returns, for EVERY input, exactly what the hand-written model function returns, and
  never faults (`= .ok …`).  The byte loops are one lemma proved by induction on the string (`rejectLoop`); the index loop of
  `longestPrefix` is proved with a loop invariant (`mvcgen`).  Like the shape facts of `Mux.Ties.Info` this module is built as a
  separate target and is INFORMATIONAL: a harmless rewrite (another loop form) breaks the proof while the behaviour is unchanged,
  so bin/check records it, runs the wide failing-input search, and reports a violation only with a failing input (the
  differential tie of the same functions — ops u-match, hosts-match, u-lp — runs in any case).  On the unchanged tree it
  upgrades the tie of these functions from sampled to proved.
-/
import Mux.Generated.Funcs
import Mux.Model.Syntax
import Mux.Model.Router
open Std.Do
namespace Mux.Ties.Funcs
open Mux

set_option mvcgen.warning false

theorem matchAny_tie (p : Bytes) : Gen.matchAny p = .ok (Mux.matchAny p) := by
  simp [Gen.matchAny, Mux.matchAny, Go.len, pure, Except.pure]

/-- The Go idiom `for _, c := range p { if bad(c) { return false } }; return k`, as go2lean translates it. -/
theorem rejectLoop (bad : UInt8 → Bool) (p : Bytes) (k : Bool) :
    (do for c in p do
          if bad c then
            return false
        return k : Go.M Bool) = .ok (p.all (!bad ·) && k) := by
  induction p with
  | nil => rfl
  | cons c p ih =>
    rw [List.all_cons]
    simp only [List.forIn_cons]
    cases bad c
    · exact ih
    · rfl

/-- `MatchDigit`: the translated loop (early return on the first byte outside `0-9`) is the model's `all … && length > 0`. -/
theorem matchDigit_tie (p : Bytes) : Gen.matchDigit p = .ok (Mux.matchDigit p) := by
  rw [Gen.matchDigit, rejectLoop]
  -- `← decide_not` turns Go's negated test `!decide (c < 48)` into the model's `decide (48 ≤ c)`
  simp [Mux.matchDigit, Go.len, ← decide_not]

theorem matchWord_tie (p : Bytes) : Gen.matchWord p = .ok (Mux.matchWord p) := by
  rw [Gen.matchWord, rejectLoop]
  simp [Mux.matchWord, Go.len, ← decide_not, Bool.or_assoc]

/-- `validOptionalPort`: empty, or `:` followed by digits only; the index `port[0]` and the slice `port[1:]` are in range. -/
theorem validOptionalPort_tie (p : Bytes) : Gen.validOptionalPort p = .ok (Mux.validOptionalPort p) := by
  cases p with
  | nil => rfl
  | cons c rest =>
    rw [Gen.validOptionalPort, Go.idx_ok _ _ (by simp), pure_bind, Go.slice_ok _ _ _ (by simp [Go.len]; omega), pure_bind,
      rejectLoop]
    -- `-List.all_eq_true`: keep `all` as it stands on both sides
    by_cases h : c = 58 <;>
      simp [Mux.validOptionalPort, Go.len, Bool.decide_and, -List.all_eq_true, h, ← decide_not] <;> rfl

theorem range_toList (n : Nat) : [0:n].toList = List.range' 0 n := by simp [Std.Legacy.Range.toList]

theorem range_split {n : Nat} {pref suff : List Nat} {cur : Nat}
    (h : [0:n].toList = pref ++ cur :: suff) : cur = pref.length ∧ cur < n := by
  rw [range_toList] at h
  -- both sides read at index `pref.length`
  have h3 := congrArg (·[pref.length]?) h
  simp [List.getElem?_eq_some_iff] at h3
  omega

/-- one step of the model's scan, stated with indices (the translated loop walks indices, the model walks the lists) -/
theorem lpLoop_step (a b : Bytes) (k : Nat) (ha : k < a.length) (hb : k < b.length) (si ei : Int) (ib : Bool) :
    lpLoop (a.drop k) (b.drop k) k si ei ib =
      if a[k] ≠ b[k] then (if ib ∨ ei + 1 = (k : Int) then si else (k : Int))
      else if a[k] = startByte then lpLoop (a.drop (k + 1)) (b.drop (k + 1)) (k + 1) (if ib then si else (k : Int)) ei true
      else if a[k] = endByte then lpLoop (a.drop (k + 1)) (b.drop (k + 1)) (k + 1) si k false
      else lpLoop (a.drop (k + 1)) (b.drop (k + 1)) (k + 1) si ei ib := by
  rw [List.drop_eq_getElem_cons ha, List.drop_eq_getElem_cons hb]
  simp only [lpLoop]

theorem lpLoop_end (a b : Bytes) (k : Nat) (h : a.length ≤ k ∨ b.length ≤ k) (si ei : Int) (ib : Bool) :
    lpLoop (a.drop k) (b.drop k) k si ei ib = if ei = (k : Int) - 1 then si else (k : Int) := by
  rcases h with h | h
  · rw [List.drop_eq_nil_of_le h]; simp [lpLoop]
  · rw [List.drop_eq_nil_of_le h]
    cases a.drop k <;> simp [lpLoop]

/-- how `mvcgen +jp` hands over `l := len(s1); if len(s2) < l { l = len(s2) }` -/
theorem len_min {l : Int} {m n : Nat} : (if (n : Int) < m then True ∧ l = n else True ∧ l = m) ↔ l = (min m n : Nat) := by
  split <;> simp <;> omega

theorem longestPrefix_tie (a b : Bytes) : Gen.longestPrefix a b = .ok (Mux.longestPrefix a b) := by
  apply Except.of_wp_eq rfl (fun r => r = .ok (Mux.longestPrefix a b))
  -- `+jp`: the `if len(s2) < l` in front of the loop is a join point, not two copies of the loop;
  -- `-trivial`: mvcgen's own closing attempt settles none of the conditions and is slow on them
  mvcgen +jp -trivial [Gen.longestPrefix] invariants
  · Invariant.withEarlyReturnNewDo
      (onReturn := fun ret _ => ⌜ret = Mux.longestPrefix a b⌝)
      (onContinue := fun xs st => ⌜(st.2.2 = 123 ∨ st.2.2 = 125) ∧
        Mux.longestPrefix a b = lpLoop (a.drop xs.prefix.length) (b.drop xs.prefix.length) xs.prefix.length st.1 st.2.1 (st.2.2 == 123)⌝)
  -- every condition: the loop bound is `min (len s1) (len s2)`
  all_goals
    simp +zetaDelta only [Go.len, decide_eq_true_eq, len_min, List.length_append, List.length_singleton] at *
    subst ‹_ = ((min _ _ : Nat) : Int)›
  -- inside the loop: the index `k` is the length of the prefix walked and in range for both strings, the early-return
  -- case of the invariant contradicts `suffix = k :: _`, the bytes read are `a[k]`, `b[k]`, and `hs` is the model's step
  all_goals try (
    obtain ⟨rfl, hk⟩ := range_split ‹_ = _ ++ _ :: _›
    obtain ⟨hka, hkb⟩ := Nat.lt_min.1 hk
    obtain ⟨-, hst, hinv⟩ | ⟨_, -, ⟨⟩, -⟩ := ‹_ ∨ ∃ _, _›
    simp only [Int.toNat_natCast, List.getElem?_eq_getElem hka, List.getElem?_eq_getElem hkb, Option.some.injEq] at *
    have hs := hinv.trans (lpLoop_step a b _ hka hkb _ _ _))
  -- `s1[i]`, `s2[i]` do not fault
  case vc1 | vc2 | vc5 => omega
  -- the loop body: the tests on the path select the branch of `hs`
  case vc3 | vc4 | vc6 | vc7 | vc8 => grind only [startByte, endByte]
  -- before the loop
  case vc9 => exact Or.inl ⟨trivial, Or.inr trivial, rfl⟩
  -- after the loop: left by `return`, or one string exhausted
  case vc10 | vc11 | vc12 => simp_all [range_toList, lpLoop_end a b (min a.length b.length) (by omega)]

end Mux.Ties.Funcs
