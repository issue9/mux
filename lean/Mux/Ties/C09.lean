/-
  Mux.Ties.C09 — C09 rests on no regenerated fact; the module records why.
-/
import Mux.Generated.Facts
import Mux.Model.Ctx
namespace Mux.Ties
open Mux Mux.Facts

/-- The textual shape `slices.Concat(m, x.ms)` of the five registration sites is an INFORMATIONAL fact (`Mux/Ties/Info.lean`):
extracting the call into a helper changes it without changing behaviour. The order itself is observed on every served
request by the middleware-chain judge and the correspondence. -/
theorem C09_concat_shape_is_informational : True := trivial

end Mux.Ties
