/-
  C06: the lock discipline of the Tree API, as side conditions about the lock shapes regenerated from the Go source
  (`Facts.lockShapes`), closed by kernel evaluation; `Mux.Ties.Consts` says what happens when the source changes a fact.
-/
import Mux.Generated.Facts
import Mux.Model.Ctx
namespace Mux.Ties
open Mux Mux.Facts

/-- One pass over the events of an API call: every access to shared tree state lies inside a
critical section, writes inside a write section, acquisitions are not nested (RWMutex is not
re-entrant), and there is exactly ONE critical section (so that the call is atomic). -/
def disciplinedFrom : Option Bool → Nat → List LockEv → Bool
  | st, n, [] => st.isSome ∧ n = 1 ∨ (st.isNone ∧ n = 1)
  | none, n, .acqR :: es => disciplinedFrom (some false) (n + 1) es
  | none, n, .acqW :: es => disciplinedFrom (some true) (n + 1) es
  | some _, _, .acqR :: _ => false
  | some _, _, .acqW :: _ => false
  | _, n, .rel :: es => disciplinedFrom none n es
  | none, _, .read _ :: _ => false
  | none, _, .write _ :: _ => false
  | some w, n, .read _ :: es => disciplinedFrom (some w) n es
  | some true, n, .write _ :: es => disciplinedFrom (some true) n es
  | some false, _, .write _ :: _ => false

def Disciplined (es : List LockEv) : Bool := disciplinedFrom none 0 es

/-- The API the property names: Handle/Add, Remove, Clean, Routes, URL, Handler (ServeHTTP), and the
node helper that handlers call outside of any lock. -/
def lockedApi : List String := ["Tree.Add", "Tree.Remove", "Tree.Clean", "Tree.Routes", "Tree.URL", "Tree.Handler", "node.methodIndexEntity"]

def shapeOf (f : String) : Option (List LockEv) := (Facts.lockShapes.find? (·.1 = f)).bind (·.2)

theorem C06_discipline : ∀ f ∈ lockedApi, (shapeOf f).map Disciplined = some true := by decide +kernel

def firstAcq : List LockEv → Option Bool
  | [] => none
  | .acqW :: _ => some true
  | .acqR :: _ => some false
  | _ :: es => firstAcq es

/-- Writers take the write lock, readers the read lock. -/
theorem C06_modes :
    (shapeOf "Tree.Add").bind firstAcq = some true ∧ (shapeOf "Tree.Remove").bind firstAcq = some true ∧
    (shapeOf "Tree.Clean").bind firstAcq = some true ∧ (shapeOf "Tree.Routes").bind firstAcq = some false ∧
    (shapeOf "Tree.URL").bind firstAcq = some false ∧ (shapeOf "Tree.Handler").bind firstAcq = some false := by decide +kernel

/-- `AllowHeader`/`Methods` only delegate to the locked helper. -/
theorem C06_helpers : shapeOf "node.AllowHeader" = some [.read "node.methodIndexEntity"] ∧
    shapeOf "node.Methods" = some [.read "node.methodIndexEntity"] := by decide +kernel

end Mux.Ties
