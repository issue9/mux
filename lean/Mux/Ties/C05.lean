/-
  Mux.Ties.C05 — C05 rests on no regenerated fact besides the constants (`Mux.Ties.Consts`); the module records why.
-/
import Mux.Generated.Facts
import Mux.Model.Ctx
namespace Mux.Ties
open Mux Mux.Facts

/-- The inventory of fault-capable expressions per function is an INFORMATIONAL fact (`Mux/Ties/Info.lean`): it changes
under behaviour-preserving refactorings, so a change only triggers the wide failing-input search (bin/check). What C05
rests on is the correspondence on the crash/fault streams and the no-fault judge. -/
theorem C05_inventory_is_informational : True := trivial

end Mux.Ties
