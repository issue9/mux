/-
  C09 — Middlewares wrap every handler in the documented onion order.

  `Handler.wraps` lists the middleware applications of a handler innermost first; every element records the
  arguments `(method, pattern, router)` its factory was called with.  `mkWraps ms k p name` is the list obtained by
  applying `ms` in order with the arguments `(k, p, name)`; an equation `h.wraps = mkWraps (own ++ useMs) k p name`
  therefore states order (the `Use` middlewares are the outermost ones, the most recent outermost), arguments, and
  "exactly once" (list equality) at the same time.
-/
import Mux.Proofs.Onion
import Mux.Proofs.GroupHistory
import Mux.Proofs.RunFuel
import Mux.Proofs.Facade
import Mux.Properties.C13
namespace Mux.C09
open Mux Mux.P10

/-- The `Use` list of the router after a history is the initial one followed by all `Use` arguments of the history,
in order (`useMs` in the docstrings below). -/
theorem C09_useMs (r : Router) (ops : List ROp) : (r.run ops).ms = r.ms ++ (ops.filterMap useArg).flatten :=
  run_ms r ops

theorem C09_useMs_new {cfg : RouterCfg} {r0 : Router} (hnew : Router.new cfg = some r0) (ops : List ROp) :
    (r0.run ops).ms = (ops.filterMap useArg).flatten := by
  rw [run_ms, Router.new_ms hnew, List.nil_append]

/-- `WrapInv` holds for a new router and is kept by every operation, hence by every history. -/
theorem C09_wrap_new {cfg : RouterCfg} {r : Router} (h : Router.new cfg = some r) : WrapInv r := wrap_new h
theorem C09_wrap_step {r : Router} (hw : WrapInv r) (op : ROp) : WrapInv (r.step op) := wrap_step hw op
theorem C09_wrap_run {cfg : RouterCfg} {r0 : Router} (hnew : Router.new cfg = some r0) (ops : List ROp) :
    WrapInv (r0.run ops) := wrap_run (wrap_new hnew) ops

/-- On a tree with consistent stored patterns the node `Tree.add` registers on is
the node whose stored pattern (the one a later `Use` wraps with) is the registered pattern. -/
theorem C09_target_pattern (ic : Interceptors) {root root' : Node} {p v : Bytes} {rest : List Bytes}
    {path : List Nat} (hroot : Node.PatternOk root) (hp0 : root.pattern = [])
    (hs : splitString p = v :: rest) (h : getNode ic root v rest = .ok (root', path)) :
    Node.PatternOk root' ∧ ∃ m, root'.getAt path = some m ∧ m.pattern = p := by
  obtain ⟨hok, _, m, hm, hmp⟩ := getNode_target_pattern ic hroot h
  refine ⟨hok, m, hm, ?_⟩
  rw [hmp, hp0]
  exact splitString_cons_join hs

/-- The invariant spelled out for a reachable router (`useMs` = all `Use` arguments so far, in order):
every handler the router stores — not only those some request reaches — has the documented stack. -/
theorem C09_stored {cfg : RouterCfg} {r0 : Router} (hnew : Router.new cfg = some r0) (ops : List ROp) :
    let r := r0.run ops
    let useMs := (ops.filterMap useArg).flatten
    -- 404
    r.tree.notFound.wraps = mkWraps useMs [] [] cfg.name ∧
    -- TRACE
    (∀ h, r.tree.trace = some h → h.wraps = mkWraps useMs mTRACE [] cfg.name) ∧
    -- the root node (`OPTIONS *` and its 405): pattern `""`
    (∀ e ∈ r.tree.root.handlers, e.2.wraps = mkWraps useMs e.1 [] cfg.name) ∧
    -- every entry `(key, h)` of every node below the root
    (∀ n ∈ nodesL r.tree.root.children, ∀ e ∈ n.handlers,
      ∃ own : List Nat, e.2.wraps = mkWraps (own ++ useMs) e.1 n.pattern cfg.name) ∧
    -- stored patterns are the concatenation of the segment texts
    Node.PatternOk r.tree.root := by
  intro r useMs
  have hw : WrapInv r := wrap_run (wrap_new hnew) ops
  have hms : r.ms = useMs := C09_useMs_new hnew ops
  have hname : r.tree.name = cfg.name := (Router.run_treeCfg hnew ops).2.1
  unfold WrapInv at hw
  rw [hms] at hw
  refine ⟨hname ▸ hw.nf, hname ▸ hw.tr, hname ▸ hw.rootHs, ?_, hw.patternOk⟩
  intro n hn e he
  rw [← hname]
  exact hw.belowR hn e he

/-- For every history from `NewRouter` and every request, the handler handed to `CallFunc` has
(see `OnionSpec`, with `callKey` = the request method, or `""` for a 405):
* 404: `mkWraps useMs "" "" name`;
* the TRACE short-circuit: `mkWraps useMs TRACE "" name`;
* `OPTIONS *` / the root's 405: `mkWraps useMs key "" name`;
* a route method, the automatic HEAD or OPTIONS, or the 405 of a matched node `n`:
  `∃ own, mkWraps (own ++ useMs) key n.pattern name`,
where `useMs` is the concatenation of the `Use` arguments of the history in order.  Since `wraps` is innermost
first, the `Use` middlewares are the outermost ones and the most recently added is the outermost, whether `Use`
came before or after the registration. -/
theorem C09_order {cfg : RouterCfg} {r0 : Router} (hnew : Router.new cfg = some r0) (ops : List ROp)
    (env : Env) (req : Req) (ps : Params) {c : Call}
    (hc : (r0.run ops).serveContext env req ps = .call c) :
    OnionSpec (ops.filterMap useArg).flatten cfg.name (r0.run ops).tree.root cfg.trace req c := by
  have hw : WrapInv (r0.run ops) := wrap_run (wrap_new hnew) ops
  have hinv : TreeInv (r0.run ops).tree := (run_reach hnew ops).tree.inv
  have := serve_onion hw hinv env req ps hc
  rwa [C09_useMs_new hnew ops, (Router.run_treeCfg hnew ops).2.1, (Router.run_treeCfg hnew ops).1] at this

/-- Every element of the stack of a called handler carries that handler's key, the matched node's pattern
(`""` when there is none / for the root) and the router's name. -/
theorem C09_args {cfg : RouterCfg} {r0 : Router} (hnew : Router.new cfg = some r0) (ops : List ROp)
    (env : Env) (req : Req) (ps : Params) {c : Call}
    (hc : (r0.run ops).serveContext env req ps = .call c) :
    ∀ w ∈ c.handler.wraps, w.router = cfg.name ∧
      w.pattern = (match c.node with
        | some n => n.pattern
        | none => []) ∧
      (w.method = callKey req c ∨ (c.node = none ∧ w.method = []) ∨ (req.method = mTRACE ∧ w.method = mTRACE)) := by
  intro w hwm
  obtain ⟨ms, k, hw, hk⟩ := (C09_order hnew ops env req ps hc).stack (wrap_run (wrap_new hnew) ops).rootPat
  rw [hw] at hwm
  obtain ⟨hwk, hwp, hwr, _⟩ := mem_mkWraps hwm
  exact ⟨hwr, hwp, by rw [hwk]; exact hk⟩

/-! ## Who contributes the inner part `own` -/

/-- A handler freshly wrapped at registration: exactly the call's middleware list, innermost first. -/
theorem C09_wrapWith (b : Base) (k p name : Bytes) (ms : List Nat) :
    wrapWith { base := b } k p name ms = { base := b, wraps := mkWraps ms k p name } := rfl

/-- After a successful `r.Handle(p, h, m, methods...)` the node of `p` (the node at `path`, whose stored
pattern is `p`) has, with `n0` = that node before the call (a node of the old tree with pattern `p`, or a fresh
node without handlers), see `AddedSpec`:
* for every `k` of `methods` (of `AnyMethods` when none is given) the entry `h` with stack `mkWraps (m ++ r.ms) k p name`:
  `own = m`;
* when GET is among them, HEAD with `mkWraps (m ++ r.ms) HEAD p name`: the same `own` as GET;
* OPTIONS and the 405 entry `""`: unchanged when `n0` had them, otherwise created with
  `mkWraps (m ++ r.ms) OPTIONS/"" p name` — they carry the `own` of the call that made the pattern live;
* every other entry unchanged. -/
theorem C09_own {r r' : Router} {p : Bytes} {h : Nat} {m : List Nat} {methods : List Bytes}
    (hw : WrapInv r) (he : r.handle p h m methods = .ok r') :
    ∃ (path : List Nat) (n0 n' : Node), path ≠ [] ∧ r'.tree.root.getAt path = some n' ∧ n'.pattern = p ∧
      (n0.handlers = [] ∨ ∃ y ∈ nodesL r.tree.root.children, y.pattern = p ∧ y.handlers = n0.handlers) ∧
      AddedSpec r.tree { base := .user h } p (m ++ r.ms) (effMethods methods) n0.handlers n'.handlers := by
  obtain ⟨t', ht', rfl⟩ := map_ok_iff.1 ((Router.handle_eq ..).symm.trans he)
  obtain ⟨path, n0, n', hne, hfrom, hn0p, hn', hget⟩ := Tree.add_target hw.patternOk hw.rootPat ht'
  obtain ⟨a, _, _, hspec⟩ := addMethodsNode_spec _ _ _ _ _ _ _ hn'
  refine ⟨path, n0, n', hne, hget, a.trans hn0p, ?_, hspec⟩
  rcases hfrom with h0 | ⟨y, hy, hs⟩
  · exact .inl h0
  · exact .inr ⟨y, hy, hs.1.symm.trans hn0p, hs.2.1.symm⟩

/-- The same, spelled out with `mkWraps` for the route methods and HEAD. -/
theorem C09_own_route {r r' : Router} {p : Bytes} {h : Nat} {m : List Nat} {methods : List Bytes}
    (hw : WrapInv r) (he : r.handle p h m methods = .ok r') :
    ∃ (path : List Nat) (n' : Node), r'.tree.root.getAt path = some n' ∧ n'.pattern = p ∧
      (∀ k ∈ effMethods methods,
        n'.handlers.get? k = some { base := .user h, wraps := mkWraps (m ++ r.ms) k p r.tree.name }) ∧
      (mGET ∈ effMethods methods →
        n'.handlers.get? mHEAD = some { base := .user h, wraps := mkWraps (m ++ r.ms) mHEAD p r.tree.name }) := by
  obtain ⟨path, _, n', _, h1, h2, _, hs⟩ := C09_own hw he
  exact ⟨path, n', h1, h2, hs.route, hs.head⟩

/-- Through a façade (`Prefix`, nested `Prefix`, `Resource`): `own = m ++ f.ms`, i.e. the route's middlewares, then
the prefix middlewares from the innermost prefix outwards (`Facade.sub` prepends the inner list), then `Use`. -/
theorem C09_own_facade {f : Facade} {r r' : Router} {pat : Bytes} {h : Nat} {m : List Nat} {methods : List Bytes}
    (hw : WrapInv r) (he : f.handle r pat h m methods = .ok r') :
    ∃ (path : List Nat) (n' : Node), r'.tree.root.getAt path = some n' ∧ n'.pattern = f.pattern ++ pat ∧
      (∀ k ∈ effMethods methods, n'.handlers.get? k =
        some { base := .user h, wraps := mkWraps ((m ++ f.ms) ++ r.ms) k (f.pattern ++ pat) r.tree.name }) ∧
      (mGET ∈ effMethods methods → n'.handlers.get? mHEAD =
        some { base := .user h, wraps := mkWraps ((m ++ f.ms) ++ r.ms) mHEAD (f.pattern ++ pat) r.tree.name }) :=
  C09_own_route hw he

/-- `Group.Use(m...)`: the group's own not-found handler gets `m` on the outside (method, pattern and router name
`""`), `m` is remembered, and every member router receives `Router.Use(m...)` — provided the member ids are pairwise
distinct, which `Group.Add` guarantees (`ids_step`).  Routers outside the group are untouched. -/
theorem C09_group_use (g : Group) (rt : RTab) (m : List Nat) (hnd : (Group.ids g).Nodup) :
    (g.use rt m).1.notFound.wraps = g.notFound.wraps ++ mkWraps m [] [] [] ∧
    (g.use rt m).1.ms = g.ms ++ m ∧
    (∀ rid, (g.use rt m).2.get? rid =
      if rid ∈ Group.ids g then (rt.get? rid).map (·.use m) else rt.get? rid) :=
  ⟨(C13.C13_use_notfound g rt m).1, (C13.C13_use_notfound g rt m).2.2.1,
    fun rid => useFold_get m g.routers hnd rt rid⟩

/-- `Group.Add`: the added router receives `Router.Use(g.ms...)` — all `Group.Use` middlewares so far, outside
everything it already has; nothing else changes. -/
theorem C09_group_add (g : Group) (rt : RTab) (mt : Matcher) (rid : Nat) (g' : Group) (rt' : RTab)
    (h : g.add rt mt rid = some (g', rt')) :
    ∃ r, rt.get? rid = some r ∧ rt'.get? rid = some (r.use g.ms) ∧ (r.use g.ms).ms = r.ms ++ g.ms ∧
      (∀ id, id ≠ rid → rt'.get? id = rt.get? id) ∧ g'.ms = g.ms ∧ g'.notFound = g.notFound := by
  obtain ⟨r, hr, _, rfl, rfl⟩ := Group.add_some_inv g rt mt rid g' rt' h
  refine ⟨r, hr, by rw [RTab.get?_set]; simp, rfl, ?_, rfl, rfl⟩
  intro id hid
  rw [RTab.get?_set]; simp [hid]

/-- Over any history of `Group.Add/Use/Remove` and calls on the routers themselves, starting from a
group whose member ids are distinct (e.g. the empty group), every router of the table is its initial state run on
the plain history `effOps` — its own operations interleaved, in call order, with `Use (g.ms)` at the moment it is
added and `Use m` for every `Group.Use m` while it is a member.  Hence `C09_order`/`C09_stored` apply to it with
`useMs` = that interleaving. -/
theorem C09_group (s : GState) (hnd : (Group.ids s.1).Nodup) (prog : List GOp) (rid : Nat) :
    (grun s prog).2.get? rid = (s.2.get? rid).map (·.run (effOps s rid prog)) :=
  grun_get prog s hnd rid

/-- `C09_group` combined with `C09_order`, for a router made by `NewRouter` before it was put into the table. -/
theorem C09_group_order {cfg : RouterCfg} {r0 : Router} (hnew : Router.new cfg = some r0) (s : GState)
    (hnd : (Group.ids s.1).Nodup) (prog : List GOp) (rid : Nat) (hr : s.2.get? rid = some r0)
    (env : Env) (req : Req) (ps : Params) {c : Call} :
    ∃ r, (grun s prog).2.get? rid = some r ∧
      (r.serveContext env req ps = .call c →
        OnionSpec ((effOps s rid prog).filterMap useArg).flatten cfg.name r.tree.root cfg.trace req c) := by
  refine ⟨r0.run (effOps s rid prog), by rw [C09_group s hnd prog rid, hr]; rfl, fun hc => ?_⟩
  exact C09_order hnew _ env req ps hc

/-- The group's own not-found handler (called when no router accepts, `C13_notfound`) carries exactly the
`Group.Use` middlewares, in order, each created with method, pattern and router name `""`. -/
theorem C09_group_notfound (prog : List GOp) (rt : RTab) :
    (grun ({}, rt) prog).1.notFound =
      { base := .groupNotFound, wraps := mkWraps (grun ({}, rt) prog).1.ms [] [] [] } :=
  grun_useInv prog ({}, rt) rfl

/-! ## Non-vacuity

A real history (evaluated by the kernel through `Router.run_eq_F`): `Use(1)`; `GET /a` with `[2]`;
`Use(3)`; `Any /a/{id}` with `[4, 5] ++ ([12] ++ [11])`, the list a route with `[4, 5]` gets through a façade with
`[12]` nested in one with `[11]` (`C09_own_facade`); `Use(6)`.
So `Use` is called before, between and after the registrations. -/

def exCfg : RouterCfg := { name := [114], trace := true }   -- "r"
def exR0 : Router := (Router.new exCfg).getD default
def exOps : List ROp :=
  [.use [1], .handle (bytesOfString "/a") 7 [2] [mGET], .use [3],
   .handle (bytesOfString "/a/{id}") 8 ([4, 5] ++ ([12] ++ [11])) [], .use [6]]
def exEnv : Env := ⟨fun _ _ => true⟩

/-- `some wraps` of the handler called for a request, `none` if no handler is called. -/
def wrapsOf (r : Router) (req : Req) : Option (List Wrap) :=
  match r.serveContext exEnv req [] with
  | .call c => some c.handler.wraps
  | _ => none

theorem wrapsOf_some {r : Router} {req : Req} {ws : List Wrap} (h : wrapsOf r req = some ws) :
    ∃ c, r.serveContext exEnv req [] = .call c ∧ c.handler.wraps = ws := by
  unfold wrapsOf at h
  split at h
  · rename_i c hc; exact ⟨c, hc, by simpa using h⟩
  · cases h

-- the hypotheses of `C09_order` / `C09_stored` / `C09_args`
theorem exNew : Router.new exCfg = some exR0 := rfl
example : ((exOps.filterMap useArg).flatten) = [1, 3, 6] := by decide
/-- The stacks handed to `CallFunc` on this history, for the requests looked at below (one evaluation). -/
private theorem exOps_wraps :
    wrapsOf (exR0.run exOps) { method := mPOST, path := bytesOfString "/a/5" } =
      some (mkWraps ([4, 5, 12, 11] ++ [1, 3, 6]) mPOST (bytesOfString "/a/{id}") (bytesOfString "r")) ∧
    wrapsOf (exR0.run exOps) { method := mGET, path := bytesOfString "/a" } =
      some (mkWraps ([2] ++ [1, 3, 6]) mGET (bytesOfString "/a") (bytesOfString "r")) ∧
    wrapsOf (exR0.run exOps) { method := mHEAD, path := bytesOfString "/a" } =
      some (mkWraps ([2] ++ [1, 3, 6]) mHEAD (bytesOfString "/a") (bytesOfString "r")) ∧
    wrapsOf (exR0.run exOps) { method := mOPTIONS, path := bytesOfString "/a" } =
      some (mkWraps ([2] ++ [1, 3, 6]) mOPTIONS (bytesOfString "/a") (bytesOfString "r")) ∧
    wrapsOf (exR0.run exOps) { method := mPOST, path := bytesOfString "/a" } =
      some (mkWraps ([2] ++ [1, 3, 6]) [] (bytesOfString "/a") (bytesOfString "r")) ∧
    wrapsOf (exR0.run exOps) { method := mGET, path := bytesOfString "/zzz" } =
      some (mkWraps [1, 3, 6] [] [] (bytesOfString "r")) ∧
    wrapsOf (exR0.run exOps) { method := mOPTIONS, path := [42] } =
      some (mkWraps [1, 3, 6] mOPTIONS [] (bytesOfString "r")) ∧
    wrapsOf (exR0.run exOps) { method := mTRACE, path := bytesOfString "/a/5" } =
      some (mkWraps [1, 3, 6] mTRACE [] (bytesOfString "r")) := by
  simp only [Router.run_eq_F, exOps, bytesOfString_eq_data]
  decide +kernel

-- a route method registered through a nested prefix: own = route ++ inner prefix ++ outer prefix, then all `Use`s
example : wrapsOf (exR0.run exOps) { method := mPOST, path := bytesOfString "/a/5" } =
    some (mkWraps ([4, 5, 12, 11] ++ [1, 3, 6]) mPOST (bytesOfString "/a/{id}") (bytesOfString "r")) :=
  exOps_wraps.1
-- GET registered after `Use(1)` and before `Use(3)`, `Use(6)`: the `Use` part is the same `[1, 3, 6]`
example : wrapsOf (exR0.run exOps) { method := mGET, path := bytesOfString "/a" } =
    some (mkWraps ([2] ++ [1, 3, 6]) mGET (bytesOfString "/a") (bytesOfString "r")) :=
  exOps_wraps.2.1
-- the automatic HEAD has GET's `own`, with method HEAD
example : wrapsOf (exR0.run exOps) { method := mHEAD, path := bytesOfString "/a" } =
    some (mkWraps ([2] ++ [1, 3, 6]) mHEAD (bytesOfString "/a") (bytesOfString "r")) :=
  exOps_wraps.2.2.1
-- automatic OPTIONS and the 405 (`POST /a`) carry the `own` of the call that made `/a` live, method OPTIONS / ""
example : wrapsOf (exR0.run exOps) { method := mOPTIONS, path := bytesOfString "/a" } =
    some (mkWraps ([2] ++ [1, 3, 6]) mOPTIONS (bytesOfString "/a") (bytesOfString "r")) :=
  exOps_wraps.2.2.2.1
example : wrapsOf (exR0.run exOps) { method := mPOST, path := bytesOfString "/a" } =
    some (mkWraps ([2] ++ [1, 3, 6]) [] (bytesOfString "/a") (bytesOfString "r")) :=
  exOps_wraps.2.2.2.2.1
-- 404, `OPTIONS *`, TRACE: only the `Use` middlewares, pattern ""
example : wrapsOf (exR0.run exOps) { method := mGET, path := bytesOfString "/zzz" } =
    some (mkWraps [1, 3, 6] [] [] (bytesOfString "r")) :=
  exOps_wraps.2.2.2.2.2.1
example : wrapsOf (exR0.run exOps) { method := mOPTIONS, path := [42] } =
    some (mkWraps [1, 3, 6] mOPTIONS [] (bytesOfString "r")) :=
  exOps_wraps.2.2.2.2.2.2.1
example : wrapsOf (exR0.run exOps) { method := mTRACE, path := bytesOfString "/a/5" } =
    some (mkWraps [1, 3, 6] mTRACE [] (bytesOfString "r")) :=
  exOps_wraps.2.2.2.2.2.2.2

/-- The hypothesis of `C09_order` is satisfiable on this history (matched-node case). -/
example : ∃ c, (exR0.run exOps).serveContext exEnv { method := mPOST, path := bytesOfString "/a/5" } [] = .call c := by
  obtain ⟨c, hc, _⟩ := wrapsOf_some exOps_wraps.1
  exact ⟨c, hc⟩

/-- Hypotheses of `C09_own` / `C09_own_facade`: `WrapInv` of a reachable router and a successful `Handle` through a
nested façade. -/
example : WrapInv (exR0.run [.use [1]]) ∧
    (match ((Facade.ofRouter (bytesOfString "/a") [11]).sub (bytesOfString "/b") [12]).handle
        (exR0.run [.use [1]]) (bytesOfString "/{id}") 8 [4, 5] [] with
      | .ok _ => true
      | .error _ => false) = true := by
  refine ⟨C09_wrap_run exNew _, ?_⟩
  simp only [Facade.handle, Router.handle, Tree.add_eq_F, Router.run_eq_F, bytesOfString_eq_data]
  decide +kernel

/-- Hypotheses of `C09_group` / `C09_group_order`: a group history over a table with one fresh router; seen from the
router, `Group.Use(9)` before it was added arrives at `Add` (after its own `Use(1)`), `Group.Use(8)` afterwards. -/
def exProg : List GOp :=
  [.use [9], .router 0 (.use [1]), .add .any 0, .use [8], .router 0 (.handle (bytesOfString "/a") 7 [2] [mGET])]

example : (Group.ids ({} : Group)).Nodup ∧ RTab.get? [(0, exR0)] 0 = some exR0 := ⟨List.nodup_nil, rfl⟩
example : (effOps ({}, [(0, exR0)]) 0 exProg).map ropCode =
    [ROp.use [1], .use [9], .use [8], .handle (bytesOfString "/a") 7 [2] [mGET]].map ropCode := by decide +kernel
example : ((effOps ({}, [(0, exR0)]) 0 exProg).filterMap useArg).flatten = [1, 9, 8] := by decide +kernel

end Mux.C09
