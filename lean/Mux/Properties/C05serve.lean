/-
  C05 (serve path) — no request can make `Tree.Handler` / `Router.serveContext` fault, on any route
  table reachable by `Handle/Remove/Clean/Use`; the selected handler is never the nil handler.
  (The parser clauses of C05 are in `C05.lean`, the matcher clauses in `C05match.lean`, `Handle` in `C05handle.lean`.)
-/
import Mux.Proofs.TreeHead
import Mux.Proofs.Hosts
namespace Mux.C05
open Mux

/-- `TreeInv` is the invariant every history preserves: it holds of a new tree, and of `t.step op` when it holds of `t`. -/
theorem C05_inv_new (name : Bytes) (ic : Interceptors) (nf : Handler) (tr : Option Handler)
    (ob : Base := .options) (nb : Base := .notAllowed) : TreeInv (Tree.new name ic nf tr ob nb) :=
  inv_new name ic nf tr ob nb

theorem C05_inv_step {t : Tree} (h : TreeInv t) (op : TOp) : TreeInv (t.step op) := inv_step h op

theorem C05_inv_run {t : Tree} (h : TreeInv t) (ops : List TOp) : TreeInv (t.run ops) := inv_run h ops

/-- `hasTrace`, `name`, `ic` and the OPTIONS/405 bases are never changed by a history. -/
theorem C05_cfg_run (t : Tree) (ops : List TOp) : t.SameCfg (t.run ops) := sameCfg_run t ops

/-- No fault on the serve path: on a tree satisfying the invariant `Tree.Handler` never reaches
`n.children[i]` out of range (site 220) — for every path, method and parameter context. -/
theorem C05_serve_inv {t : Tree} (hinv : TreeInv t) (env : Env) (path : Bytes) (ps : Params) (method : Bytes)
    (s : Nat) : t.handler env path ps method ≠ .fault s :=
  handler_no_fault hinv env path ps method s

/-- No fault on the serve path of any tree made by `Tree.new` and a history. -/
theorem C05_serve_tree (name : Bytes) (ic : Interceptors) (nf : Handler) (tr : Option Handler) (ob nb : Base)
    (ops : List TOp) (env : Env) (path : Bytes) (ps : Params) (method : Bytes) (s : Nat) :
    ((Tree.new name ic nf tr ob nb).run ops).handler env path ps method ≠ .fault s :=
  handler_no_fault (inv_run (inv_new name ic nf tr ob nb) ops) env path ps method s

/-- The answer of `Tree.Handler` on a reachable tree is one of: 404 with `notFound`; the TRACE
short-circuit; an entry of the matched node's handler map for the method; the matched node's `""`
entry (405).  The nil-handler fallback is never taken. -/
theorem C05_serve_answer {t : Tree} (hr : t.Reach) (env : Env) (path : Bytes) (ps : Params) (method : Bytes) :
    (∃ f, t.handler env path ps method = .res f ∧ FoundSpec t method f) ∨
    t.handler env path ps method = .unsupported :=
  handler_spec hr.inv env path ps method

/-- The selected handler is never nil when the tree was created with non-nil `notFound`, `trace`,
OPTIONS and 405 values and only non-nil handlers were registered. -/
theorem C05_serve_not_nil_tree {t : Tree} (hr : t.ReachNonNil) (env : Env) (path : Bytes) (ps : Params)
    (method : Bytes) (f : Found) (h : t.handler env path ps method = .res f) : f.handler.base ≠ .nil :=
  handler_base hr.reach.inv hr.vals h

/-- `Router.serveContext` never faults, for every router made by `NewRouter` and any history. -/
theorem C05_serve {r : Router} (hr : r.Reach) (env : Env) (req : Req) (ps : Params) (s : Nat) (rc : Bool) :
    r.serveContext env req ps ≠ .fault s rc :=
  fun h => handler_no_fault hr.tree.inv env req.path ps req.method s (Router.serveContext_fault_iff.1 h).1

/-- The handler `serveContext` hands to `CallFunc` is never nil (`NewRouter` got a non-nil
`notFound`). -/
theorem C05_serve_not_nil {cfg : RouterCfg} {r0 : Router} (hnew : Router.new cfg = some r0)
    (hnf : cfg.notFoundBase ≠ .nil) (ops : List ROp) (env : Env) (req : Req) (ps : Params) (c : Call)
    (h : (r0.run ops).serveContext env req ps = .call c) : c.handler.base ≠ .nil := by
  obtain ⟨f, hf, rfl⟩ := Router.serveContext_call_iff.1 h
  exact handler_base (run_reach hnew ops).tree.inv
    (Router.run_vals (B := (· ≠ .nil)) hnew hnf nofun nofun nofun (fun _ => nofun) ops) hf

/-- `Hosts.Match` never faults: the private tree of a `Hosts` matcher satisfies the invariant at
creation and after every `Add`, `Delete` and `RegisterInterceptor` (`Hosts.inv_empty`, `Hosts.inv_step`), and then no host string reaches a fault. -/
theorem C05_hosts_match {hs : Hosts} (hinv : TreeInv hs.tree) (env : Env) (host path : Bytes) (ps : Params)
    (s : Nat) : hs.match env host path ps ≠ .fault s :=
  P12.Hosts.match_no_fault hinv env host path ps s

/-! ## Non-vacuity -/

/-- The hypothesis `TreeInv` holds of a hand-built tree with the route `GET /posts/{id}`. -/
example : TreeInv exTree := exTree_inv
/-- `TreeInv` holds of every tree a history produces. -/
example (ops : List TOp) : TreeInv ((Tree.new (bytesOfString "r") [] { base := .notFound } none).run ops) :=
  inv_run (inv_new _ _ _ _) ops
/-- Test of an answer (for the examples). -/
def resIs (r : HR) (p : Found → Bool) : Bool :=
  match r with
  | .res f => p f
  | _ => false

/-- On the hand-built tree a request for `/posts/5` reaches the `{id}` node, with `GET` served by the
user handler and `PUT` by the node's 405 entry; `/nothing` is a 404. -/
example : resIs (exTree.handler ⟨fun _ _ => true⟩ (bytesOfString "/posts/5") [] mGET)
    (fun f => decide (f.handler = { base := .user 1 }) && f.ok &&
      decide (f.params = [(bytesOfString "id", bytesOfString "5")])) = true := by decide +kernel
example : resIs (exTree.handler ⟨fun _ _ => true⟩ (bytesOfString "/posts/5") [] mPUT)
    (fun f => decide (f.handler = { base := .notAllowed }) && !f.ok) = true := by decide +kernel
example : resIs (exTree.handler ⟨fun _ _ => true⟩ (bytesOfString "/nothing") [] mGET)
    (fun f => decide (f.handler = { base := .notFound }) && !f.ok) = true := by decide +kernel
/-- `Router.Reach` is inhabited. -/
example : ∃ r : Router, r.Reach :=
  ⟨_, { name := [114] }, _, [.handle (bytesOfString "/a") 1 [] [mGET]], rfl, rfl⟩
example : TreeInv Hosts.empty.tree := Hosts.inv_empty
example : exTree.handler ⟨fun _ _ => true⟩ [42] [] mOPTIONS ≠ .fault 220 :=
  C05_serve_inv exTree_inv _ _ _ _ _

end Mux.C05
