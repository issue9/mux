/-
  C01 — dispatch soundness, capstone: the statement of the property for every tree reachable by a history of
  Handle/Remove/Clean/Use whose registered patterns are well-formed (balanced, non-nested `{…}` tokens, literal text
  without braces — the property's own hypothesis), with NO further hypothesis.  It combines
    * matcher soundness (`C01_found`, Mux/Proofs/MatchSound.lean, HandlerSound.lean),
    * the structural invariants of reachable trees (`C01_found_reach`: index entries point to literals, node pattern =
      concatenated segment texts; Mux/Proofs/Structure.lean), and
    * distinctness of parameter names along every chain (`reach_namesOk`; Mux/Proofs/Names.lean).
-/
import Mux.Properties.C01b
import Mux.Proofs.Names
namespace Mux.C01
open Mux Mux.P9

/-- Whenever a reachable router reports a node for a request (a registered handler, a 405 or the automatic OPTIONS
answer), the request path is that node's pattern with every parameter replaced by its reported value: there is a chain of
tree segments from the root to the node whose instantiation spells the path byte for byte, every value satisfies its
segment's constraint (interceptor function / denotation of the regexp rule), the reported parameters are exactly the
chain's capturing parameters in order, the node's `pattern` is the concatenation of the chain's texts, and the handler
is the node's entry for the method (its 405 entry when the method has none). -/
theorem C01_dispatch_sound (env : Env) (t : Tree) (hr : ReachWf t) (path method : Bytes) (f : Found) (n : Node)
    (hp : path ≠ []) (hs : path ≠ [42]) (htr : t.trace = none ∨ method ≠ mTRACE)
    (h : t.handler env path [] method = .res f) (hf : f.node = some n) :
    ∃ chain : List (Seg × Bytes),
      chain ≠ [] ∧ Chain t.root (chain.map (·.1)) n ∧ path = instChain chain ∧
      (∀ sv ∈ chain, sv.1.Satisfies env t.ic sv.2) ∧
      f.params = captures chain ∧ n.handlers ≠ [] ∧ HandlerAgrees n method f ∧
      n.pattern = (chain.map (·.1.value)).flatten :=
  C01_found_reach env t hr.reach path method f n (reach_namesOk hr) hp hs htr h hf

/-- A 404 of a reachable router reports no route parameters at all. -/
theorem C01_dispatch_404 (env : Env) (t : Tree) (hr : ReachWf t) (path method : Bytes) (f : Found)
    (h : t.handler env path [] method = .res f) (hf : f.node = none) :
    f.params = [] ∧ f.handler = t.notFound ∧ f.ok = false :=
  C01_404 env t path method f (reach_namesOk hr) (C01_idxLit_reach t hr.reach) h hf

end Mux.C01
