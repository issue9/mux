/-
  C07 (distinct instances) — "distinct instances may be built, mutated and served from different
  goroutines at the same time without data races", and instance isolation for Hosts matchers.

  * `C07_distinct_drf_generic` / `C07_distinct_seq_generic` — in the interleaving semantics WITHOUT any
    lock (`RWLock.NoLock`: nothing excludes anything, writers included): if every thread only runs
    operations on state it owns (`RWLock.Owned`), no two threads ever have conflicting accesses; and if
    moreover an operation is a function of its owner's component of the state (`RWLock.Local`), every
    thread computes exactly its own sequential program.
  * `C07_distinct_drf` — the instance: a table of routers, goroutine `i` creates / mutates
    (`Handle`, `Remove`, `Clean`, `Use`) / serves router `i`, no lock anywhere.  Race free, and every
    response of goroutine `i` is the response of its own program run alone.
  * `C07_fresh_hosts_match` — Hosts matchers: after ANY interleaved history of `NewHosts`, `Add`,
    `Delete`, `RegisterInterceptor` on any number of matchers, what a matcher answers to `Match` is
    what it answers after its own operations alone.

  What this does NOT say (and cannot, in the model): that the Go instances have no location in common.
  The model has no package-level state at all (`Router.new cfg` and `Hosts.empty` are closed terms,
  `renderMethods` is a pure function where Go has the `methodIndexes` memo), so the assumption "the
  accesses of an operation on instance `i` touch locations of instance `i` only" (`Owned.accs_owned`)
  is, for Go, the regenerated-fact obligation `C07_globals` (no package-level variable is mutated after
  initialisation except the `sync.Pool` and what a package-level lock guards) — extractor trusted.
  Groups are not covered: a Group shares its routers with its callers by design.
-/
import Mux.Proofs.Conc
import Mux.Proofs.ConcOwned
import Mux.Proofs.Hosts
import Mux.Proofs.HostsReachExamples
namespace Mux.C07
open Mux Mux.RWLock Mux.Conc

/-! ## Generic: disjointly owned state needs no lock -/

/-- **Generic, no lock, writers allowed.**  Every operation and every location has an owner, the
micro-accesses of an operation touch its owner's locations only, and every operation in thread `i`'s
program is owned by `i` ("one goroutine per instance").  Then for any number of threads and any
schedule no two distinct threads have conflicting next micro-accesses.
(Without the ownership hypothesis the same semantics does reach a conflict: `RWLock.toy_nolock_race`.) -/
theorem C07_distinct_drf_generic (S : Sys) (O : Owned S) (s0 : S.σ) (progs : Nat → List S.Op)
    (hown : ∀ i, ∀ op ∈ progs i, O.owner op = i)
    (c : NoLock.NConfig S) (h : NoLock.NReachable s0 progs c) :
    ∀ i j a b, i ≠ j → (c.thr i).ph.next? = some a → (c.thr j).ph.next? = some b → ¬ Conflict a b :=
  fun _ _ _ _ hij ha hb => owned_drf O hown h hij ha hb

/-- **Generic: each thread computes its own sequential program.**  If moreover the state has one
component per owner and an operation reads and writes its owner's component only (`Local`), then for
every thread `j`: its completed operations are a prefix of `progs j`, their responses are those of
running that prefix ALONE on `j`'s initial component (`L.resps`), and when `j` is idle its component
of the shared state is the result of that sequential run (`L.run`) and the completed operations
followed by the rest of its program are its program. -/
theorem C07_distinct_seq_generic (S : Sys) (O : Owned S) (L : Local S O) (s0 : S.σ) (progs : Nat → List S.Op)
    (hown : ∀ i, ∀ op ∈ progs i, O.owner op = i)
    (c : NoLock.NConfig S) (h : NoLock.NReachable s0 progs c) (j : Nat) :
    (c.doneOf j).map (·.op) <+: progs j ∧
    (c.doneOf j).map (·.resp) = L.resps (L.view j s0) ((c.doneOf j).map (·.op)) ∧
    ((c.thr j).ph = .idle → L.view j c.st = L.run (L.view j s0) ((c.doneOf j).map (·.op)) ∧
      (c.doneOf j).map (·.op) ++ (c.thr j).prog = progs j) :=
  owned_seq L hown h j

/-! ## The instance: a table of routers, one goroutine per router, no lock -/

/-- What a goroutine does with ITS router: create it / mutate it (`IOp`: `NewRouter`, and
`Handle`/`Remove`/`Clean`/`Use` as `ROp`), or serve a request on it. -/
inductive XOp where
  | mutate (o : IOp)
  | serve (req : Req)

inductive XResp where
  | done
  /-- `none`: the handle denotes no router (yet) -/
  | served (r : Option ServeRes)

/-- One instance alone. -/
def XOp.own (env : Env) : XOp → Option Router → Option Router × XResp
  | .mutate o, cur => (IOp.own cur o, .done)
  | .serve req, cur => (cur, .served (cur.map (·.serveContext env req [])))

/-- The shared state is the table of all routers; an operation carries the handle it works on.
Mutations are writers with a write access to the instance, serving is a reader with a read access;
the location is (handle, "router"): every access of an operation on handle `id` is to instance `id`. -/
@[reducible] def instSys (env : Env) : Sys where
  σ := RTab
  Op := Nat × XOp
  Resp := XResp
  Loc := Nat × String
  mode := fun op => match op.2 with | .mutate _ => true | .serve _ => false
  sem := fun op rt => match op.2 with
    | .mutate o => (applyAt rt op.1 o, .done)
    | .serve req => (rt, .served ((rt.get? op.1).map (·.serveContext env req [])))
  accs := fun op => match op.2 with
    | .mutate _ => [((op.1, "router"), true)]
    | .serve _ => [((op.1, "router"), false)]
  reader_pure := by
    intro op s h
    obtain ⟨id, o⟩ := op
    cases o with
    | mutate o => simp at h
    | serve req => rfl
  reader_accs := by
    intro op h a ha
    obtain ⟨id, o⟩ := op
    cases o with
    | mutate o => simp at h
    | serve req => simp at ha; simp [ha]

@[reducible] def instOwned (env : Env) : Owned (instSys env) where
  owner := fun op => op.1
  locOwner := fun l => l.1
  accs_owned := by
    intro op a ha
    obtain ⟨id, o⟩ := op
    cases o <;> (simp at ha; simp [ha])

@[reducible] def instLocal (env : Env) : Local (instSys env) (instOwned env) where
  V := Option Router
  view := fun id rt => rt.get? id
  lsem := fun op cur => XOp.own env op.2 cur
  sem_own := by
    intro op s
    obtain ⟨id, o⟩ := op
    cases o with
    | mutate o => exact ⟨by simp [XOp.own, applyAt_get?], rfl⟩
    | serve req => exact ⟨rfl, rfl⟩
  sem_other := by
    intro op s j hj
    obtain ⟨id, o⟩ := op
    cases o with
    | mutate o =>
      have : ¬ j = id := hj
      simp [applyAt_get?, this]
    | serve req => rfl

/-- The sequential run of a program of `XOp`s on one router alone: the final router. -/
def ownRun (env : Env) (cur : Option Router) (ops : List XOp) : Option Router :=
  ops.foldl (fun cur o => (XOp.own env o cur).1) cur
/-- The responses of that sequential run. -/
def ownResps (env : Env) : Option Router → List XOp → List XResp
  | _, [] => []
  | cur, o :: ops => (XOp.own env o cur).2 :: ownResps env (XOp.own env o cur).1 ops

theorem local_run_eq (env : Env) (cur : Option Router) (ops : List (Nat × XOp)) :
    (instLocal env).run cur ops = ownRun env cur (ops.map (·.2)) := by
  simp [Local.run, ownRun, instLocal, List.foldl_map]

theorem local_resps_eq (env : Env) (cur : Option Router) (ops : List (Nat × XOp)) :
    (instLocal env).resps cur ops = ownResps env cur (ops.map (·.2)) := by
  induction ops generalizing cur with
  | nil => rfl
  | cons o ops ih => simp only [Local.resps, List.map_cons, ownResps]; rw [ih]

/-- **C07: distinct routers built, mutated and served from different goroutines without any lock.**
Goroutine `i` runs an arbitrary program of `NewRouter` / `Handle` / `Remove` / `Clean` / `Use` /
`ServeHTTP` calls, all on the router with handle `i` (`hown`); there is no lock.  Then, for any number
of goroutines, any initial table and any schedule, in every reachable configuration:

1. no two goroutines have conflicting next accesses (no data race);
2. for every goroutine `j`, with `ds` its completed calls in order of return: `ds` is a prefix of its
   program; the responses it received are those of running `ds` alone on its own router
   (`ownResps`, which mentions no other router: `XOp.own`); and
3. when it is between two calls, the table's entry for `j` is the router its completed calls alone
   produce (`ownRun`) — whatever the other goroutines did to their routers in the meantime.

Hypothesis `hown` is the scenario of the clause (distinct instances in different goroutines).  The
location assignment of `instSys` — an operation on handle `id` accesses instance `id` only — is, for
the Go code, `C07_globals` (see the header). -/
theorem C07_distinct_drf (env : Env) (rt0 : RTab) (progs : Nat → List (Nat × XOp))
    (hown : ∀ i, ∀ op ∈ progs i, op.1 = i)
    (c : NoLock.NConfig (instSys env)) (h : NoLock.NReachable (S := instSys env) rt0 progs c) :
    (∀ i j a b, i ≠ j → (c.thr i).ph.next? = some a → (c.thr j).ph.next? = some b →
      ¬ Conflict (S := instSys env) a b) ∧
    (∀ j, (c.doneOf j).map (·.op) <+: progs j ∧
      (c.doneOf j).map (·.resp) = ownResps env (rt0.get? j) ((c.doneOf j).map (·.op.2))) ∧
    (∀ j, (c.thr j).ph = .idle → c.st.get? j = ownRun env (rt0.get? j) ((c.doneOf j).map (·.op.2))) := by
  refine ⟨C07_distinct_drf_generic (instSys env) (instOwned env) rt0 progs hown c h, fun j => ?_, fun j hj => ?_⟩
  · have := C07_distinct_seq_generic (instSys env) (instOwned env) (instLocal env) rt0 progs hown c h j
    refine ⟨this.1, ?_⟩
    rw [this.2.1, local_resps_eq, List.map_map]; rfl
  · have := (C07_distinct_seq_generic (instSys env) (instOwned env) (instLocal env) rt0 progs hown c h j).2.2 hj
    have h1 := this.1
    rw [local_run_eq, List.map_map] at h1
    exact h1

/-! ### Non-vacuity -/

/-- Goroutine 0 builds router `a` and calls `Clean("")` on it; goroutine 1 builds router `b` and serves a
request; all on their own handle. -/
def exProgsI : Nat → List (Nat × XOp) := fun i =>
  if i = 0 then [(0, .mutate (.create { name := [97] })), (0, .mutate (.op (.clean [])))]
  else if i = 1 then [(1, .mutate (.create { name := [98] })), (1, .serve { method := mGET, path := [47] })]
  else []

theorem exProgsI_own : ∀ i, ∀ op ∈ exProgsI i, op.1 = i := by
  intro i op hop
  unfold exProgsI at hop
  split at hop
  · simp at hop; rcases hop with rfl | rfl <;> simp [*]
  · split at hop
    · simp at hop; rcases hop with rfl | rfl <;> simp [*]
    · simp at hop

/-- A reachable configuration in which BOTH goroutines are in the middle of a mutation of their own
router at the same time, each with a WRITE as next access (no lock prevents it) — and the two writes
do not conflict, as the theorem says. -/
example (env : Env) : ∃ c : NoLock.NConfig (instSys env),
    NoLock.NReachable (S := instSys env) [] exProgsI c ∧
    (c.thr 0).ph.next? = some ((0, "router"), true) ∧ (c.thr 1).ph.next? = some ((1, "router"), true) ∧
    ¬ Conflict (S := instSys env) ((0, "router"), true) ((1, "router"), true) := by
  have h2 : NoLock.NReachable (S := instSys env) [] exProgsI _ :=
    .step (.step .init (.start _ 0 _ _ rfl)) (.start _ 1 _ _ rfl)
  exact ⟨_, h2, rfl, rfl, C07_distinct_drf_generic _ (instOwned env) _ _ exProgsI_own _ h2 0 1 _ _ (by decide) rfl rfl⟩

/-- A complete interleaved run (create a, create b, clean on a, serve on b): goroutine 1 has two
completed calls, and its second response is `serveContext` of the router `NewRouter("b")` alone. -/
example (env : Env) : ∃ c : NoLock.NConfig (instSys env),
    NoLock.NReachable (S := instSys env) [] exProgsI c ∧ (c.doneOf 1).length = 2 ∧ (c.thr 1).ph = .idle ∧
    (c.doneOf 1).map (·.resp) = [.done, .served ((Router.new { name := [98] }).map
      (·.serveContext env { method := mGET, path := [47] } []))] := by
  have h0 : NoLock.NReachable (S := instSys env) [] exProgsI (NoLock.NConfig.init [] exProgsI) := .init
  have h1 := nsolo_run h0 (i := 0) (op := ((0, .mutate (.create { name := [97] })) : Nat × XOp))
    (rest := [(0, .mutate (.op (.clean [])))]) rfl
  have h2 := nsolo_run h1 (i := 1) (op := ((1, .mutate (.create { name := [98] })) : Nat × XOp))
    (rest := [(1, .serve { method := mGET, path := [47] })]) rfl
  have h3 := nsolo_run h2 (i := 0) (op := ((0, .mutate (.op (.clean []))) : Nat × XOp)) (rest := []) rfl
  have h4 := nsolo_run h3 (i := 1) (op := ((1, .serve { method := mGET, path := [47] }) : Nat × XOp)) (rest := []) rfl
  refine ⟨_, h4, rfl, rfl, ?_⟩
  rw [((C07_distinct_drf env [] exProgsI exProgsI_own _ h4).2.1 1).2]
  rfl

/-! ## Hosts matchers are isolated -/

/-- What can be done with a Hosts matcher held under a handle: `NewHosts()` (a fresh, empty matcher
replaces whatever the handle denoted) and the three mutators (`HOp`). -/
inductive HIOp where
  | create
  | op (o : P12.HOp)

/-- One matcher alone. -/
def HIOp.own : Option Hosts → HIOp → Option Hosts
  | _, .create => some Hosts.empty
  | cur, .op o => cur.map (P12.hostsStep · o)

/-- The table of all matchers (`tab : Nat → Option Hosts`, as used by `Group.serve` and the matcher
expressions), with an operation on the matcher under handle `id`. -/
def happlyAt (tab : Nat → Option Hosts) (id : Nat) (o : HIOp) : Nat → Option Hosts :=
  fun j => if j = id then HIOp.own (tab id) o else tab j

def hrunAll (tab : Nat → Option Hosts) (h : List (Nat × HIOp)) : Nat → Option Hosts :=
  h.foldl (fun tab e => happlyAt tab e.1 e.2) tab

theorem hrunAll_get (tab : Nat → Option Hosts) (h : List (Nat × HIOp)) (id : Nat) :
    hrunAll tab h id = ((h.filter (·.1 = id)).map (·.2)).foldl HIOp.own (tab id) :=
  List.foldl_keyed (fun tab => tab) (app := happlyAt) (fun _ _ _ _ => rfl) h tab id

/-- **C07, isolation of Hosts matchers.**  After ANY interleaved history `h` of `NewHosts`, `Add`,
`Delete`, `RegisterInterceptor` on any number of matchers (each operation tagged with the handle of the
matcher it is applied to), the matcher under handle `id` is what its OWN operations alone make of what
the handle denoted initially — so its answer to `Match` for every host, path and parameter context is
the answer after its own operations alone; and two histories (on two tables) that agree on `id`'s own
operations and initial entry give the same answers. -/
theorem C07_fresh_hosts_match (env : Env) (tab : Nat → Option Hosts) (h : List (Nat × HIOp)) (id : Nat)
    (host path : Bytes) (ps : Params) :
    (hrunAll tab h id).map (·.match env host path ps) =
      (((h.filter (·.1 = id)).map (·.2)).foldl HIOp.own (tab id)).map (·.match env host path ps) ∧
    (∀ (tab' : Nat → Option Hosts) (h' : List (Nat × HIOp)), tab id = tab' id →
      (h.filter (·.1 = id)).map (·.2) = (h'.filter (·.1 = id)).map (·.2) →
      (hrunAll tab h id).map (·.match env host path ps) = (hrunAll tab' h' id).map (·.match env host path ps)) := by
  refine ⟨by rw [hrunAll_get], fun tab' h' e1 e2 => ?_⟩
  rw [hrunAll_get, hrunAll_get, e1, e2]

theorem foldl_own_ops (hs : Hosts) (own : List P12.HOp) :
    (own.map HIOp.op).foldl HIOp.own (some hs) = some (P12.hostsRun hs own) := by
  rw [List.foldl_map]
  exact List.foldl_option_map P12.hostsStep own (some hs)

/-- For a matcher created in the history and only mutated afterwards: it is `hostsRun Hosts.empty` of its
own mutations — a matcher of `HostsReach`, to which the C05/C14 theorems about `Hosts.Match` apply. -/
theorem C07_fresh_hosts_run (tab : Nat → Option Hosts) (h : List (Nat × HIOp)) (id : Nat) (own : List P12.HOp)
    (hown : (h.filter (·.1 = id)).map (·.2) = .create :: own.map .op) :
    hrunAll tab h id = some (P12.hostsRun Hosts.empty own) ∧ P12.HostsReach (P12.hostsRun Hosts.empty own) := by
  refine ⟨?_, own, rfl⟩
  rw [hrunAll_get, hown, List.foldl_cons]
  exact foldl_own_ops _ own

/-- Non-vacuity: two matchers, operations interleaved; the own history of handle 1. -/
example : let h : List (Nat × HIOp) := [(0, .create), (1, .create), (0, .op (.add [97])), (1, .op (.add [98])),
      (0, .op (.delete [97])), (1, .op (.add [99]))]
    (h.filter (·.1 = 1)).map (·.2) = HIOp.create :: [P12.HOp.add [98], P12.HOp.add [99]].map HIOp.op := by
  exact rfl

end Mux.C07
