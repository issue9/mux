/-
  C05 (groups, whole histories) — `GroupOk`, the hypothesis of `C05_group` ("`Group.ServeHTTP` never faults"), holds
  in EVERY state reached by a group history: `Group.Add`, `Group.Use`, `Group.Remove` and `Handle/Remove/Clean/Use`
  on member (or not yet added) routers through their own handles, in any order, starting from a group without
  members over a table of routers that were each made by `NewRouter` and a history.  So the group-level no-fault
  theorem needs no hypothesis about the state.
-/
import Mux.Proofs.GroupHistory
import Mux.Properties.C05match
import Mux.Properties.C05router
import Mux.Properties.C16
namespace Mux.C05
open Mux Mux.P10 Mux.P12

/-- Every router of the table was made by `NewRouter` and a history of `Handle/Remove/Clean/Use`. -/
def TabReach (rt : RTab) : Prop := ∀ e ∈ rt, e.2.Reach

/-- `GroupOk` holds in every state of a group history.  Hypotheses: the group starts without
members (`NewGroup`; its middleware list, not-found handler and options are arbitrary); the routers in the table were
made by `NewRouter` and histories (`TabReach`); the `Hosts` matchers named in the matchers passed to `Group.Add` exist
in the `Hosts` table and were made by `NewHosts` and histories (`hm` — the natural well-formedness of the arguments of
`Add`; `C05_matchers_dangling` shows it is needed).  Nothing is assumed about intermediate states: in particular that
every member's router is in the table is DERIVED (`Group.Add` refuses an unknown router). -/
theorem C05_group_history (tab : Nat → Option Hosts) (g0 : Group) (hg0 : g0.routers = []) (rt0 : RTab)
    (h0 : TabReach rt0) (prog : List GOp)
    (hm : ∀ mt rid, GOp.add mt rid ∈ prog → AllHosts (HostsReachAt tab) mt) :
    GroupOk tab (grun (g0, rt0) prog).2 (grun (g0, rt0) prog).1 := by
  have hinv : P25.GInv (AllHosts (HostsReachAt tab)) Router.Reach (grun (g0, rt0) prog) :=
    P25.GInv.run Router.Reach.step prog (P25.GInv.init g0 hg0 rt0 h0) hm
  intro e he
  obtain ⟨h1, r, hr⟩ := hinv.members e he
  exact ⟨h1, r, hr, hinv.table _ r hr⟩

/-- For the group `NewGroup` makes without options, `{}`. -/
theorem C05_group_history_new (tab : Nat → Option Hosts) (rt0 : RTab) (h0 : TabReach rt0) (prog : List GOp)
    (hm : ∀ mt rid, GOp.add mt rid ∈ prog → AllHosts (HostsReachAt tab) mt) :
    GroupOk tab (grun (({} : Group), rt0) prog).2 (grun (({} : Group), rt0) prog).1 :=
  C05_group_history tab {} rfl rt0 h0 prog hm

/-- Clause "the same for `Group.ServeHTTP`", over whole histories: in every state of a
group history `Group.ServeHTTP` reaches no fault site — neither inside a matcher, nor the missing-router site 320, nor
inside the accepted router — for every request. -/
theorem C05_group_history_serve (env : Env) (tab : Nat → Option Hosts) (g0 : Group) (hg0 : g0.routers = [])
    (rt0 : RTab) (h0 : TabReach rt0) (prog : List GOp)
    (hm : ∀ mt rid, GOp.add mt rid ∈ prog → AllHosts (HostsReachAt tab) mt) (req : Req) (s : Nat) (rc : Bool) :
    Group.serve env tab (grun (g0, rt0) prog).2 (grun (g0, rt0) prog).1 req ≠ .fault s rc :=
  C05_group env tab _ _ (C05_group_history tab g0 hg0 rt0 h0 prog hm) req s rc


/-! ## `Group.ServeHTTP` with quiet user code -/

/-- The router was made by `NewRouter` with a real (callable) not-found handler, and a history. -/
def RouterMade (r : Router) : Prop :=
  ∃ cfg r0 ops, Router.new cfg = some r0 ∧ Callable cfg.notFoundBase ∧ r = r0.run ops

theorem RouterMade.reach {r : Router} (h : RouterMade r) : r.Reach := by
  obtain ⟨cfg, r0, ops, hnew, _, rfl⟩ := h
  exact ⟨cfg, r0, ops, hnew, rfl⟩

theorem RouterMade.step (r : Router) (op : ROp) (h : RouterMade r) : RouterMade (r.step op) := by
  obtain ⟨cfg, r0, ops, hnew, hnf, rfl⟩ := h
  exact ⟨cfg, r0, ops ++ [op], hnew, hnf, (Router.run_snoc r0 ops op).symm⟩

/-- The handler such a router hands to `CallFunc` is callable, for every request. -/
theorem RouterMade.callable {r : Router} (h : RouterMade r) (env : Env) (req : Req) (ps : Params) (c : Call)
    (hc : r.serveContext env req ps = .call c) : Callable c.handler.base := by
  obtain ⟨cfg, r0, ops, hnew, hnf, rfl⟩ := h
  rcases C05_serveHTTP_quiet cfg r0 hnew hnf ops env [] req ps with ⟨c', _, _, h2, h3⟩ | ⟨_, h2⟩
  · rw [h2] at hc; cases hc; exact h3
  · rw [h2] at hc; cases hc

/-- Clause "`Group.ServeHTTP` does not panic when the user's handlers do not", complete
`ServeHTTP`, whole group histories.  The group was made without members and with a callable not-found handler
(`NewGroup` always has one); every router of the table was made by `NewRouter` with a callable not-found handler and
a history; the `Hosts` matchers named in `Add`ed matchers exist and were made by `NewHosts` and histories.  Then in
EVERY state of EVERY group history, for EVERY request, with no panicking user code: `Group.ServeHTTP` selects a
callable handler (the group's not-found handler or one of the accepted router) and returns normally, or the request
lies outside the modelled domain (`.unsupported`: non-ASCII Host for a `Hosts` matcher, or a wide regexp class on a
non-ASCII path).  Never a fault, never a nil call. -/
theorem C05_group_serveHTTP_quiet (env : Env) (tab : Nat → Option Hosts) (scripts : Scripts) (g0 : Group)
    (hg0 : g0.routers = []) (hnf : Callable g0.notFound.base) (rt0 : RTab) (h0 : ∀ e ∈ rt0, RouterMade e.2)
    (prog : List GOp) (hm : ∀ mt rid, GOp.add mt rid ∈ prog → AllHosts (HostsReachAt tab) mt) (req : Req) :
    let s := grun (g0, rt0) prog
    (∃ c rec, s.1.serveHTTP env tab {} scripts s.2 req = (some c, .normal rec) ∧
        s.1.serve env tab s.2 req = .call c ∧ Callable c.handler.base) ∨
    s.1.serveHTTP env tab {} scripts s.2 req = (none, .unsupported) := by
  intro s
  have hinv : P25.GInv (fun _ => True) RouterMade s :=
    P25.GInv.run RouterMade.step prog (P25.GInv.init g0 hg0 rt0 h0) (fun _ _ _ => trivial)
  have hnofault := C05_group_history_serve env tab g0 hg0 rt0 (fun e he => (h0 e he).reach) prog hm req
  unfold Group.serveHTTP
  cases hs : s.1.serve env tab s.2 req with
  | fault k rc => exact absurd hs (hnofault k rc)
  | unsupported => exact .inr rfl
  | call c =>
    left
    have hb : Callable c.handler.base := by
      rcases C16.C16_group env tab s.2 s.1 req c hs with ⟨h1, _⟩ | ⟨pre, rid, m, post, p0, p, ps, r, _, _, _, hr, hc, _⟩
      · rw [h1, show s.1 = _ from grun_fields prog (g0, rt0)]; exact hnf
      · exact (hinv.table rid r hr).callable env _ ps c hc
    obtain ⟨rec, hrec⟩ := runCall_quiet scripts c hb
    exact ⟨c, rec, finish_call_ok hrec, rfl, hb⟩

/-! ## Non-vacuity -/

/-- Two routers in the table; the group adds both (the second under the example matcher over a reachable `Hosts`),
uses a middleware, registers a route on a member through its own handle, removes one. -/
def exRt : RTab := [(7, exRouter), (8, { tree := Tree.new [115] [] { base := .notFound } none })]
def exGProg : List GOp :=
  [.add .any 7, .add exMatcher 8, .use [1], .router 7 (.handle [47, 97] 1 [] [mGET]), .remove [115]]

private theorem exRt_made : ∀ e ∈ exRt, RouterMade e.2 := by
  intro e he
  simp only [exRt, List.mem_cons, List.not_mem_nil, or_false] at he
  rcases he with rfl | rfl
  · exact ⟨{ name := [114] }, _, [], rfl, ⟨by decide, by decide⟩, rfl⟩
  · exact ⟨{ name := [115] }, _, [], rfl, ⟨by decide, by decide⟩, rfl⟩

example : TabReach exRt := fun e he => (exRt_made e he).reach
example : ∀ mt rid, GOp.add mt rid ∈ exGProg → AllHosts (HostsReachAt exTabR) mt := by
  intro mt rid h
  simp only [exGProg, List.mem_cons, List.not_mem_nil, or_false, GOp.add.injEq, reduceCtorEq, or_false] at h
  rcases h with ⟨rfl, _⟩ | ⟨rfl, _⟩
  · simp [AllHosts]
  · simp only [exMatcher, AllHosts, AllHostsL, and_true]
    exact ⟨_, rfl, _, rfl⟩
example : ∀ e ∈ exRt, RouterMade e.2 := exRt_made
example : Callable ({} : Group).notFound.base := ⟨by decide, by decide⟩
-- the history really builds a group with members: after the first three operations both routers are members
example : (grun (({} : Group), exRt) (exGProg.take 3)).1.routers.map (·.1) = [7, 8] := by decide +kernel

end Mux.C05
