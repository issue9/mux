/-
  C08 (tree part) — HEAD follows GET through every history, OPTIONS and the 405 entry exist on every
  node with handlers, OPTIONS cannot be removed while another method remains, reserved and unknown
  methods can never be registered by hand.
  (The `headResponse` recorder clauses of C08 live in `Mux/Properties/C08.lean`.)
-/
import Mux.Proofs.TreeHead
import Mux.Proofs.AutoServe
import Mux.Proofs.DecEq
namespace Mux.C08
open Mux

/-- In every tree satisfying `TreeInv` (so in every reachable tree: `C08_head_iff_get`) every node (the root
included) has a HEAD entry exactly when it has a GET entry, and HEAD's stored handler has the same base as GET's (it was built
from the same handler value). -/
theorem C08_head_iff_get_inv {t : Tree} (hinv : TreeInv t) {n : Node} (hn : n ∈ t.root.nodes) :
    (mHEAD ∈ n.handlers.keys ↔ mGET ∈ n.handlers.keys) ∧
    (∀ hg hh, n.handlers.get? mGET = some hg → n.handlers.get? mHEAD = some hh → hh.base = hg.base) :=
  head_get hinv hn

theorem C08_head_iff_get {t : Tree} (hr : t.Reach) {n : Node} (hn : n ∈ t.root.nodes) :
    (mHEAD ∈ n.handlers.keys ↔ mGET ∈ n.handlers.keys) ∧
    (∀ hg hh, n.handlers.get? mGET = some hg → n.handlers.get? mHEAD = some hh → hh.base = hg.base) :=
  C08_head_iff_get_inv hr.inv hn

/-- HEAD is served exactly as long as GET is registered: on every node of a reachable tree the HEAD entry is
present exactly when the GET entry is (for the two requests on the same path: `C08_head_request`, `C08router.lean`). -/
theorem C08_head_served_iff_get {t : Tree} (hr : t.Reach) {n : Node} (hn : n ∈ t.root.nodes) :
    (n.handlers.get? mHEAD).isSome = (n.handlers.get? mGET).isSome :=
  head_isSome_get hr.inv hn

/-- Every node with handlers has the OPTIONS entry and the 405 entry. -/
theorem C08_options_inv {t : Tree} (hinv : TreeInv t) {n : Node} (hn : n ∈ t.root.nodes) (hne : n.handlers ≠ []) :
    mOPTIONS ∈ n.handlers.keys ∧ mNotAllowed ∈ n.handlers.keys :=
  (hinv.has_entries hn hne).symm

theorem C08_options {t : Tree} (hr : t.Reach) {n : Node} (hn : n ∈ t.root.nodes) (hne : n.handlers ≠ []) :
    mOPTIONS ∈ n.handlers.keys ∧ mNotAllowed ∈ n.handlers.keys :=
  C08_options_inv hr.inv hn hne

/-- Removing OPTIONS (or HEAD, or `""`) by hand changes nothing on a node that still has
another method (`handlers.length ≠ 2`: more than OPTIONS and `""`): `Remove(p, OPTIONS)` is ignored. -/
theorem C08_options_not_removable {t : Tree} (hr : t.Reach) {n : Node} (hn : n ∈ nodesL t.root.children)
    (hother : n.handlers.length ≠ 2) (methods : List Bytes) (hne : methods ≠ [])
    (hm : ∀ m ∈ methods, m = mOPTIONS ∨ m = mHEAD ∨ m = mNotAllowed) :
    removeMethods t.hasTrace methods n = n :=
  removeMethods_noop (hr.inv.good hn) methods hne hm hother

/-- The same with "another method remains" spelled out: the node has a key besides OPTIONS and `""`. -/
theorem C08_options_kept_while_other {t : Tree} (hr : t.Reach) {n : Node} (hn : n ∈ nodesL t.root.children)
    (hother : ∃ k ∈ n.handlers.keys, k ≠ mOPTIONS ∧ k ≠ mNotAllowed) :
    removeMethods t.hasTrace [mOPTIONS] n = n ∧ mOPTIONS ∈ (removeMethods t.hasTrace [mOPTIONS] n).handlers.keys := by
  have hg := hr.inv.good hn
  have hne : n.handlers ≠ [] := by
    obtain ⟨k, hk, _⟩ := hother
    intro h0; simp [h0, AMap.keys] at hk
  have hshape : KeyShape t.hasTrace n.handlers := hg.1.2.resolve_left hne
  have heq := removeMethods_noop hg [mOPTIONS] (by simp) (by simp) (length_ne_two_of_other hshape hother)
  exact ⟨heq, by rw [heq]; exact hshape.options⟩

/-- A method list containing OPTIONS, HEAD, TRACE (when a TRACE handler is
configured) or a name outside `Methods` — at ANY position — is never accepted, on any tree. -/
theorem C08_reserved (t : Tree) (p : Bytes) (h : Handler) (ms : List Nat) (methods : List Bytes)
    (hbad : ∃ m ∈ methods, m = mOPTIONS ∨ m = mHEAD ∨ (t.hasTrace = true ∧ m = mTRACE) ∨ m ∉ methodsTable) :
    (∀ t', t.add p h ms methods ≠ .ok t') ∧ t.step (.add p h ms methods) = t := by
  obtain ⟨⟨e, he⟩, hs⟩ := add_bad_rejected t p h ms methods hbad
  exact ⟨fun t' ht' => absurd (he.symm.trans ht') nofun, hs⟩

/-- Once the pattern itself is acceptable the error is `reserved`, `unknownMethod` or `dupMethod`. -/
theorem C08_reserved_class (t : Tree) (p : Bytes) (h : Handler) (ms : List Nat) (methods : List Bytes)
    (hbad : ∃ m ∈ methods, m = mOPTIONS ∨ m = mHEAD ∨ (t.hasTrace = true ∧ m = mTRACE) ∨ m ∉ methodsTable)
    {a : Option Bool} (hamb : t.root.checkAmb t.ic p false = .ok a) (ha : a ≠ some true)
    {segs : List Seg} (hsp : split t.ic p = .ok segs) :
    ∃ e, t.add p h ms methods = .error e ∧ (e = .reserved ∨ e = .unknownMethod ∨ e = .dupMethod) :=
  add_bad_class t p h ms methods hbad hamb ha hsp

/-! ## Non-vacuity -/

example : TreeInv exTree ∧ exLeaf ∈ exTree.root.nodes ∧ exLeaf.handlers ≠ [] ∧ exLeaf.handlers.length ≠ 2 :=
  ⟨exTree_inv, exLeaf_mem_nodes, by simp [exLeaf], by simp [exLeaf]⟩
example : mOPTIONS ∈ exLeaf.handlers.keys ∧ mNotAllowed ∈ exLeaf.handlers.keys :=
  C08_options_inv exTree_inv exLeaf_mem_nodes (by simp [exLeaf])
example : (mHEAD ∈ exLeaf.handlers.keys ∧ mGET ∈ exLeaf.handlers.keys) := by decide +kernel
example : ∃ k ∈ exLeaf.handlers.keys, k ≠ mOPTIONS ∧ k ≠ mNotAllowed :=
  ⟨mGET, by decide +kernel, method_consts_ne.2.1, method_consts_ne.2.2.1⟩
example : removeMethods false [mOPTIONS] exLeaf = exLeaf :=
  removeMethods_noop (exTree_inv.good exLeaf_mem) [mOPTIONS] (by simp) (by simp) (by simp [exLeaf])
/-- the hypothesis of `C08_reserved` at the last position of a list -/
example : ∃ m ∈ [mGET, mPOST, mHEAD], m = mOPTIONS ∨ m = mHEAD ∨ (exTree.hasTrace = true ∧ m = mTRACE) ∨
    m ∉ methodsTable := ⟨mHEAD, by simp, .inr (.inl rfl)⟩
example : ∃ m ∈ [mGET, bytesOfString "get"], m = mOPTIONS ∨ m = mHEAD ∨ (exTree.hasTrace = true ∧ m = mTRACE) ∨
    m ∉ methodsTable := ⟨bytesOfString "get", by simp, .inr (.inr (.inr (by decide +kernel)))⟩
/-- the pattern hypotheses of `C08_reserved_class` on the empty tree -/
example : ∃ a segs, (Tree.new [114] [] { base := .notFound } none).root.checkAmb [] (bytesOfString "/a") false = .ok a ∧
    a ≠ some true ∧ split [] (bytesOfString "/a") = .ok segs := by
  obtain ⟨segs, hs⟩ : ∃ segs, split [] (bytesOfString "/a") = .ok segs := Except.exists_ok (by decide +kernel)
  exact ⟨none, segs, by decide +kernel, by simp, hs⟩

end Mux.C08
