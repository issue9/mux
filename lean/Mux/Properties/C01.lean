/-
  C01 — dispatch soundness, at the level of the matcher and of `Tree.Handler`.

  Hypotheses on the tree (established for reachable trees in C01c.lean, `C01_namesOk`, and C01b.lean, `C01_idxLit_reach`):
  * `NamesOkL used t.root.children` — `Mux/Proofs/MatchHyps.lean`: along every chain the `seg.name`
    of every node differs from the keys that are live when the node is tried (`used` and the
    capturing names above it).  Implied by the textbook condition `NamesStrictL` + `SegNameWf`
    (`NamesOkL_of_strict`).
  * `Node.All IdxLit t.root` — the index fast path only selects literal children (`matchAt` does not
    undo a capture).

  The segment-level fact underneath is `Seg.match_sound` (`Mux/Proofs/SegMatch.lean`).
-/
import Mux.Proofs.HandlerSound
namespace Mux.C01
open Mux

/-- Soundness of a hit of `matchChildren`, for every node, path and incoming parameters: the result
is reached through a chain of children; the path is the chain instantiated with the captured values
(literal text byte for byte); every value satisfies its constraint; the node has handlers; and, when
names are tracked, the parameters are exactly the incoming ones followed by the captures of the
chain, in order — none missing, none left over from abandoned alternatives. -/
theorem C01_match_hit (env : Env) (ic : Interceptors) (n : Node) (path : Bytes) (ps : Params) (m : Node) (ps' : Params)
    (h : n.matchChildren env ic path ps = .hit m ps') :
    ∃ chain : List (Seg × Bytes),
      Chain n (chain.map (·.1)) m ∧ path = instChain chain ∧
      (∀ sv ∈ chain, sv.1.Satisfies env ic sv.2) ∧ m.handlers ≠ [] ∧
      (∀ used, Node.NamesOk used n → Node.All IdxLit n → (∀ k ∈ ps.keys, k ∈ used) → ps' = ps ++ captures chain) :=
  Node.matchChildren_hit h

/-- A miss leaves no trace (the D1 repair). -/
theorem C01_match_miss (env : Env) (ic : Interceptors) (n : Node) (path : Bytes) (ps ps' : Params) (used : List Bytes)
    (hn : Node.NamesOk used n) (hi : Node.All IdxLit n) (hk : ∀ k ∈ ps.keys, k ∈ used)
    (h : n.matchChildren env ic path ps = .miss ps') : ps' = ps :=
  (matchChildren_walk env ic trackNames n path ps).of_miss h ⟨used, hn, hi, hk⟩

/-- Lookup form: every capturing segment of the chain maps to its value. -/
theorem C01_match_lookup (env : Env) (ic : Interceptors) (n : Node) (path : Bytes) (ps : Params) (m : Node) (ps' : Params)
    (used : List Bytes) (hn : Node.NamesOk used n) (hi : Node.All IdxLit n) (hk : ∀ k ∈ ps.keys, k ∈ used)
    (h : n.matchChildren env ic path ps = .hit m ps') :
    ∃ chain : List (Seg × Bytes),
      Chain n (chain.map (·.1)) m ∧ path = instChain chain ∧ ps' = ps ++ captures chain ∧
      ∀ sv ∈ chain, sv.1.kind ≠ .str ∧ ¬ sv.1.ignoreName → ps'.get? sv.1.name = some sv.2 := by
  obtain ⟨chain, h1, h2, _, _, h5⟩ := Node.matchChildren_hit h
  have e := h5 used hn hi hk
  refine ⟨chain, h1, h2, e, ?_⟩
  intro sv hsv hcap
  obtain ⟨hnd, hdis⟩ := chain_names hn h1
  have hfresh : sv.1.name ∉ ps.keys := fun hmem =>
    hdis _ (List.mem_map_of_mem (f := (·.1)) (mem_captures hsv hcap)) (hk _ hmem)
  rw [e, AMap.get?_append_fresh hfresh]
  exact (AMap.mem_iff_get? _ _ _ hnd).1 (mem_captures hsv hcap)

/-- A node is reported (200, 405 or the automatic OPTIONS answer) for a path other than `""`/`*`,
outside the TRACE short-circuit: the node is reached from the root through a non-empty chain, the
path is that chain instantiated, every value satisfies its constraint, the reported parameters are
exactly the captures of the chain, and the handler agrees with the node's handler map. -/
theorem C01_found (env : Env) (t : Tree) (path method : Bytes) (f : Found) (n : Node)
    (hN : NamesOkL [] t.root.children) (hI : Node.All IdxLit t.root)
    (hp : path ≠ []) (hs : path ≠ [42]) (htr : t.trace = none ∨ method ≠ mTRACE)
    (h : t.handler env path [] method = .res f) (hf : f.node = some n) :
    ∃ chain : List (Seg × Bytes),
      chain ≠ [] ∧ Chain t.root (chain.map (·.1)) n ∧ path = instChain chain ∧
      (∀ sv ∈ chain, sv.1.Satisfies env t.ic sv.2) ∧
      f.params = captures chain ∧ n.handlers ≠ [] ∧ HandlerAgrees n method f :=
  Tree.handler_found (ps := []) ⟨hN, hI⟩ hp hs htr h hf

/-- The same with incoming parameters `ps` (what `Group` dispatch passes on): they stay in front. -/
theorem C01_found_from (env : Env) (t : Tree) (path method : Bytes) (ps : Params) (f : Found) (n : Node)
    (hN : NamesOkL ps.keys t.root.children) (hI : Node.All IdxLit t.root)
    (hp : path ≠ []) (hs : path ≠ [42]) (htr : t.trace = none ∨ method ≠ mTRACE)
    (h : t.handler env path ps method = .res f) (hf : f.node = some n) :
    ∃ chain : List (Seg × Bytes),
      chain ≠ [] ∧ Chain t.root (chain.map (·.1)) n ∧ path = instChain chain ∧
      (∀ sv ∈ chain, sv.1.Satisfies env t.ic sv.2) ∧
      f.params = ps ++ captures chain ∧ n.handlers ≠ [] ∧ HandlerAgrees n method f :=
  Tree.handler_found ⟨hN, hI⟩ hp hs htr h hf

/-- A 404 reports no route parameters at all, and its handler is the tree's `notFound`
(every path, every method). -/
theorem C01_404 (env : Env) (t : Tree) (path method : Bytes) (f : Found)
    (hN : NamesOkL [] t.root.children) (hI : Node.All IdxLit t.root)
    (h : t.handler env path [] method = .res f) (hf : f.node = none) :
    f.params = [] ∧ f.handler = t.notFound ∧ f.ok = false :=
  Tree.handler_404 (ps := []) ⟨hN, hI⟩ h hf

/-- With incoming parameters: a 404 hands them back untouched. -/
theorem C01_404_from (env : Env) (t : Tree) (path method : Bytes) (ps : Params) (f : Found)
    (hN : NamesOkL ps.keys t.root.children) (hI : Node.All IdxLit t.root)
    (h : t.handler env path ps method = .res f) (hf : f.node = none) :
    f.params = ps ∧ f.handler = t.notFound ∧ f.ok = false :=
  Tree.handler_404 ⟨hN, hI⟩ h hf

/-- The key set of the reported parameters is exactly the set of names of the capturing segments of
the chain (in chain order, without repetition), and each key maps to its segment's value. -/
theorem C01_params_exact (env : Env) (t : Tree) (path method : Bytes) (f : Found) (n : Node)
    (hN : NamesOkL [] t.root.children) (hI : Node.All IdxLit t.root)
    (hp : path ≠ []) (hs : path ≠ [42]) (htr : t.trace = none ∨ method ≠ mTRACE)
    (h : t.handler env path [] method = .res f) (hf : f.node = some n) :
    ∃ chain : List (Seg × Bytes),
      Chain t.root (chain.map (·.1)) n ∧ path = instChain chain ∧
      f.params.keys = (chain.filter (fun sv => decide (sv.1.kind ≠ .str ∧ ¬ sv.1.ignoreName))).map (·.1.name) ∧
      f.params.keys.Nodup ∧
      (∀ sv ∈ chain, sv.1.kind ≠ .str ∧ ¬ sv.1.ignoreName → f.params.get? sv.1.name = some sv.2) := by
  obtain ⟨chain, _, h1, h2, _, h4, _⟩ := C01_found env t path method f n hN hI hp hs htr h hf
  have hnd := (chain_names ((Node.namesOk_iff _ _).2 hN) h1).1
  refine ⟨chain, h1, h2, ?_, ?_, ?_⟩
  · rw [h4]; exact captures_keys chain
  · rw [h4]; exact hnd
  · intro sv hsv hcap
    rw [h4]; exact (AMap.mem_iff_get? _ _ _ hnd).1 (mem_captures hsv hcap)

/-- `""` and `*` address the root; nothing is matched and no parameter is reported. -/
theorem C01_root (env : Env) (t : Tree) (path method : Bytes) (f : Found)
    (hpath : path = [] ∨ path = [42]) (h : t.handler env path [] method = .res f) :
    f.params = [] ∧ (f.node = some t.root ∨ (f.node = none ∧ t.root.handlers = [])) ∧
    (t.root.handlers ≠ [] → f.node = some t.root) :=
  Tree.handler_root hpath h

/-- The TRACE short-circuit: the root, the tree's TRACE handler, the parameters as they came. -/
theorem C01_trace (env : Env) (t : Tree) (path : Bytes) (ps : Params) (h : Handler) (ht : t.trace = some h) :
    t.handler env path ps mTRACE = .res { node := some t.root, handler := h, ok := true, params := ps } :=
  Tree.handler_trace env t path ps h ht

/-- The reported node's `pattern` is the root's pattern followed by the segment texts of the chain,
when every node's pattern extends its parent's by its own segment text. -/
theorem C01_pattern (root n : Node) (segs : List Seg) (hP : Node.PatternOk root) (hc : Chain root segs n) :
    n.pattern = root.pattern ++ (segs.map (·.value)).flatten :=
  (chain_pattern hc hP).1

/-! ## Non-vacuity: the D1 table `/users/{id}/{page:\d+}`, `/users/{id}/{action}/log` -/

/-- `{page:\d+}` (endpoint, regexp). -/
def segPage : Seg :=
  { value := [123,112,97,103,101,58,92,100,43,125], kind := .rx, name := [112,97,103,101],
    rule := [92,100,43], re := .plus { neg := false, ranges := [(48, 57)] } }
/-- `{action}/log`. -/
def segAction : Seg :=
  { value := [123,97,99,116,105,111,110,125,47,108,111,103], kind := .named,
    name := [97,99,116,105,111,110], suffix := [47,108,111,103] }
/-- `{id}/`. -/
def segId : Seg := { value := [123,105,100,125,47], kind := .named, name := [105,100], suffix := [47] }
/-- `/users/`. -/
def segUsers : Seg := { value := [47,117,115,101,114,115,47] }

/-- `"GET"`, spelled out so that `decide` can compute with it (`bytesOfString "GET"` goes through
`ByteArray.toList`, which the kernel does not unfold). -/
def bGET : Bytes := [71,69,84]

def hGet (i : Nat) : AMap Handler := [(bGET, { base := .user i }), (mNotAllowed, { base := .notAllowed })]

def nPage : Node := .mk segPage (segUsers.value ++ segId.value ++ segPage.value) 1 (hGet 1) [] []
def nAction : Node := .mk segAction (segUsers.value ++ segId.value ++ segAction.value) 1 (hGet 2) [] []
def nId : Node := .mk segId (segUsers.value ++ segId.value) 0 [] [] [nPage, nAction]
def nUsers : Node := .mk segUsers segUsers.value 0 [] [] [nId]
def d1Root : Node := .mk { value := [] } [] 0 [] [] [nUsers]
def d1Tree : Tree := { root := d1Root, name := [], notFound := { base := .notFound } }
def env0 : Env := { icpt := fun _ _ => true }

/-- `/users/5/7/log` -/
def d1Path : Bytes := [47,117,115,101,114,115,47,53,47,55,47,108,111,103]

def foundOf : HR → Option Found
  | .res f => some f
  | _ => none

/-- The tree hypotheses hold for the D1 table. -/
example : NamesOkL [] d1Tree.root.children := by decide
example : Node.All IdxLit d1Tree.root := by
  simp only [d1Tree, d1Root, nUsers, nId, nPage, nAction, Node.All, AllL, and_true]
  refine ⟨?_, ?_, ?_, ?_, ?_⟩ <;> exact IdxLit.of_nil rfl
example : Node.PatternOk d1Tree.root := by
  simp [d1Tree, d1Root, nUsers, nId, nPage, nAction, Node.PatternOk, PatternOkL, Node.pattern, Node.seg]
example : d1Path ≠ [] ∧ d1Path ≠ [42] ∧ (d1Tree.trace = none ∨ bGET ≠ mTRACE) := by decide

/-- The request reaches the backtracking branch (`{page:\d+}` captures `7`, its subtree misses on
`/log`, the capture is undone) and arrives at `{action}/log` with exactly `{id:5, action:7}`. -/
example : ((foundOf (d1Tree.handler env0 d1Path [] bGET)).map (·.params)) =
    some [([105,100], [53]), ([97,99,116,105,111,110], [55])] := by decide +kernel
example : ((foundOf (d1Tree.handler env0 d1Path [] bGET)).map (fun f => (f.node.map (·.pattern), f.ok, f.handler))) =
    some (some nAction.pattern, true, ({ base := .user 2 } : Handler)) := by decide +kernel
/-- A 404 on the same table (the abandoned `{page}` leaves nothing behind). -/
example : ((foundOf (d1Tree.handler env0 [47,117,115,101,114,115,47,53,47,55,47,120] [] bGET)).map
    (fun f => (f.node.isNone, f.params))) = some (true, []) := by decide +kernel

/-- An index whose positions hold literal children satisfies `IdxLit` (non-empty index). -/
example : IdxLit (.mk { value := [] } [] 0 [] [(97, 0), (98, 1)]
    [.mk { value := [97] } [97] 0 [] [] [], .mk { value := [98] } [98] 0 [] [] [], nId]) := by
  apply IdxLit.of_positions
  decide

/-! ## The name hypothesis and the D30 repair

The undo after an abandoned child puts the previous value back (`restoreParam`, the D30 repair; `ctx.Delete(name)`
would drop it), so the lookup form holds even without `NamesOk`: with `{i}/` above the siblings `{i}/z` (same name as
its parent, abandoned) and `{a}/`, the request `5/7/` is answered by `{a}/` with `{i:5, a:7}` — the abandoned sibling
does not take the parent's capture `i` with it.  `NamesOk` stays as the hypothesis of the theorems above (it is what
makes `ps ++ captures chain` the exact answer); the law without it is `Mux.P19.matchChildren_restore`
(Proofs/RestoreMatch.lean) and `C01_group_dispatch_exact` (C01group.lean). -/

def cexRoot : Node :=
  .mk { value := [] } [] 0 [] []
    [.mk { value := [123,105,125,47], kind := .named, name := [105], suffix := [47] } [] 0 [] []
      [.mk { value := [123,105,125,47], kind := .named, name := [105], suffix := [47] } [] 0 [] []
          [.mk { value := [122] } [] 1 (hGet 1) [] []],
       .mk { value := [123,97,125,47], kind := .named, name := [97], suffix := [47] } [] 1 (hGet 2) [] []]]

def paramsOf : MR → Option Params
  | .hit _ ps => some ps
  | _ => none

example : paramsOf (cexRoot.matchChildren env0 [] [53,47,55,47] []) = some [([105], [53]), ([97], [55])] := by decide +kernel
example : ¬ NamesOkL [] cexRoot.children := by decide

end Mux.C01
