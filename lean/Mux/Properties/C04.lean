/-
  C04 — Allow headers and method sets are accurate at every moment (node part and rendering).
-/
import Mux.Proofs.TreeHead
namespace Mux.C04
open Mux

/-- The rendering of the mask of a duplicate-free list of known methods lists exactly
those methods, in sorted order without repetitions. -/
theorem C04_render (ks : List Bytes) (hnd : ks.Nodup) (hsub : ∀ k ∈ ks, k ∈ methodsTable) :
    renderMethods ((ks.map methodBit).sum) = sortBytes (methodsTable.filter (fun m => decide (m ∈ ks))) ∧
    (∀ m, m ∈ renderMethods ((ks.map methodBit).sum) ↔ m ∈ ks) ∧
    (renderMethods ((ks.map methodBit).sum)).Pairwise (fun a b => bytesLt a b = true) ∧
    (renderMethods ((ks.map methodBit).sum)).Nodup :=
  ⟨renderMethods_sum ks hnd hsub, mem_renderMethods_sum ks hnd hsub, renderMethods_sorted _, renderMethods_nodup _⟩

/-- The rendering of every mask is sorted, duplicate-free and inside the table, and lists a method exactly
when its bit is set.  (Injectivity on the `2^|methods|` masks is `C04_render_injective`.) -/
theorem C04_render_all (i : Nat) :
    (renderMethods i).Pairwise (fun a b => bytesLt a b = true) ∧ (renderMethods i).Nodup ∧
    (∀ m ∈ renderMethods i, m ∈ methodsTable) ∧
    (∀ m, m ∈ renderMethods i ↔ m ∈ methodsTable ∧ i.testBit ((methodsTable.idxOf? m).getD 0) = true) :=
  ⟨renderMethods_sorted i, renderMethods_nodup i, renderMethods_subset i, mem_renderMethods i⟩

theorem C04_render_injective (i j : Nat) (hi : i < 2 ^ methodsTable.length) (hj : j < 2 ^ methodsTable.length)
    (h : renderMethods i = renderMethods j) : i = j := renderMethods_injective i j hi hj h

/-- In every tree with `TreeInv` (every reachable tree: `C04_node`), for EVERY node below the root that has handlers,
`Node().Methods()` is the rendering of the sum of the bits of its keys (plus TRACE when configured);
as a set it is exactly: the methods registered by hand, HEAD iff GET is among them, OPTIONS, and
TRACE iff a TRACE handler is configured; it is sorted and duplicate-free; and `AllowHeader()` is its
`", "`-join. -/
theorem C04_node_inv {t : Tree} (hinv : TreeInv t) {n : Node} (hn : n ∈ nodesL t.root.children)
    (hne : n.handlers ≠ []) :
    n.methodIndex = ((maskKeys t.hasTrace n.handlers).map methodBit).sum ∧
    n.methods = renderMethods (((maskKeys t.hasTrace n.handlers).map methodBit).sum) ∧
    n.methods = sortBytes (methodsTable.filter (fun m => decide (m ∈ maskKeys t.hasTrace n.handlers))) ∧
    (∀ m, m ∈ n.methods ↔ (m ∈ n.handlers.keys ∧ m ≠ mNotAllowed) ∨ (t.hasTrace = true ∧ m = mTRACE)) ∧
    (∀ m, m ∈ n.methods ↔
      m ∈ n.registered ∨ (m = mHEAD ∧ mGET ∈ n.registered) ∨ m = mOPTIONS ∨ (t.hasTrace = true ∧ m = mTRACE)) ∧
    n.methods.Pairwise (fun a b => bytesLt a b = true) ∧ n.methods.Nodup ∧
    n.allow = joinWith [44, 32] n.methods := by
  have hg := hinv.good hn
  have hshape : KeyShape t.hasTrace n.handlers := hg.1.2.resolve_left hne
  have hmi : n.methodIndex = ((maskKeys t.hasTrace n.handlers).map methodBit).sum := by
    rw [hg.1.1]; exact nodeMethodIndex_eq_mask _ _ hne
  obtain ⟨h1, h2⟩ := good_methods hg hne
  refine ⟨hmi, by unfold Node.methods; rw [hmi], h1, h2, ?_, renderMethods_sorted _, renderMethods_nodup _, rfl⟩
  intro m
  rw [h2 m, keys_registered hshape m, or_assoc, or_assoc]

/-- `C04_node_inv` for every tree a history of `Handle/Remove/Clean/Use` produces. -/
theorem C04_node {t : Tree} (hr : t.Reach) {n : Node} (hn : n ∈ nodesL t.root.children)
    (hne : n.handlers ≠ []) :
    n.methodIndex = ((maskKeys t.hasTrace n.handlers).map methodBit).sum ∧
    n.methods = renderMethods (((maskKeys t.hasTrace n.handlers).map methodBit).sum) ∧
    n.methods = sortBytes (methodsTable.filter (fun m => decide (m ∈ maskKeys t.hasTrace n.handlers))) ∧
    (∀ m, m ∈ n.methods ↔ (m ∈ n.handlers.keys ∧ m ≠ mNotAllowed) ∨ (t.hasTrace = true ∧ m = mTRACE)) ∧
    (∀ m, m ∈ n.methods ↔
      m ∈ n.registered ∨ (m = mHEAD ∧ mGET ∈ n.registered) ∨ m = mOPTIONS ∨ (t.hasTrace = true ∧ m = mTRACE)) ∧
    n.methods.Pairwise (fun a b => bytesLt a b = true) ∧ n.methods.Nodup ∧
    n.allow = joinWith [44, 32] n.methods := C04_node_inv hr.inv hn hne

/-- `Routes()` names the same sets: below the `*` entry, `Tree.Routes()` lists exactly the pairs
`(n.pattern, n.methods)` of the nodes that have handlers. -/
theorem C04_routes_inv {t : Tree} (hinv : TreeInv t) (x : Bytes × List Bytes) :
    x ∈ routesL t.root.children ↔ ∃ n ∈ nodesL t.root.children, n.handlers ≠ [] ∧ x = (n.pattern, n.methods) :=
  hinv.mem_routesL x

theorem C04_routes {t : Tree} (hr : t.Reach) (x : Bytes × List Bytes) :
    x ∈ t.routes ↔ x = ([42], mOPTIONS :: (if t.hasTrace then [mTRACE] else [])) ∨
      ∃ n ∈ nodesL t.root.children, n.handlers ≠ [] ∧ x = (n.pattern, n.methods) :=
  hr.inv.mem_routes x

/-- The node `OPTIONS *` is answered from (the root): its `Methods()` are OPTIONS, TRACE iff
configured, and the methods whose tree-wide counter is positive.  (That the counter of `m` is the
number of live routes with `m` — I-count — is the other half: `C04_star`, C04star.lean.) -/
theorem C04_star_partial_inv {t : Tree} (hinv : TreeInv2 t) (m : Bytes) :
    m ∈ t.root.methods ↔ m = mOPTIONS ∨ (t.hasTrace = true ∧ m = mTRACE) ∨ m ∈ liveMethods t.counts :=
  root_methods hinv m

theorem C04_star_partial {t : Tree} (hr : t.Reach) (m : Bytes) :
    m ∈ t.root.methods ↔ m = mOPTIONS ∨ (t.hasTrace = true ∧ m = mTRACE) ∨ m ∈ liveMethods t.counts :=
  root_methods hr.inv2 m

/-- On every tree with `TreeInv` (every reachable tree: `C04_views_agree`) the OPTIONS answer and a 405 answer for the same path
come from the same node `n` of the tree (its `OPTIONS` entry and its `""` entry), so both `Allow`
headers are `n.allow`. -/
theorem C04_views_agree_inv {t : Tree} (hinv : TreeInv t) (env : Env) (path : Bytes) (ps : Params) (method : Bytes)
    {fo f : Found} {n : Node}
    (ho : t.handler env path ps mOPTIONS = .res fo) (hf : t.handler env path ps method = .res f)
    (hok : f.ok = false) (hn : f.node = some n) :
    fo.node = some n ∧ fo.ok = true ∧ n ∈ t.root.nodes ∧
      n.handlers.get? mOPTIONS = some fo.handler ∧ n.handlers.get? mNotAllowed = some f.handler :=
  views_agree hinv env path ps method ho hf hok hn

theorem C04_views_agree {t : Tree} (hr : t.Reach) (env : Env) (path : Bytes) (ps : Params) (method : Bytes)
    {fo f : Found} {n : Node}
    (ho : t.handler env path ps mOPTIONS = .res fo) (hf : t.handler env path ps method = .res f)
    (hok : f.ok = false) (hn : f.node = some n) :
    fo.node = some n ∧ fo.ok = true ∧ n ∈ t.root.nodes ∧
      n.handlers.get? mOPTIONS = some fo.handler ∧ n.handlers.get? mNotAllowed = some f.handler :=
  views_agree hr.inv env path ps method ho hf hok hn

/-! ## Non-vacuity -/

example : [mGET, mPOST].Nodup ∧ ∀ k ∈ [mGET, mPOST], k ∈ methodsTable := by decide +kernel
example : (3 : Nat) < 2 ^ methodsTable.length := by decide
/-- The hand-built tree (route `GET /posts/{id}`) is an instance of the conclusion of `C04_node`:
the `{id}` node has handlers, its method index is the sum of the bits of GET, HEAD, OPTIONS, and
its `Methods()`/`AllowHeader()` are as the property says. -/
example : TreeInv exTree ∧ exLeaf ∈ nodesL exTree.root.children ∧ exLeaf.handlers ≠ [] :=
  ⟨exTree_inv, exLeaf_mem, by simp [exLeaf]⟩
example : ∀ m, m ∈ exLeaf.methods ↔
    m ∈ exLeaf.registered ∨ (m = mHEAD ∧ mGET ∈ exLeaf.registered) ∨ m = mOPTIONS ∨ (exTree.hasTrace = true ∧ m = mTRACE) :=
  (C04_node_inv exTree_inv exLeaf_mem (by simp [exLeaf])).2.2.2.2.1
example : exTree.routes = [([42], [mOPTIONS]), (bytesOfString "/posts/{id}", [mGET, mHEAD, mOPTIONS])] := by
  decide +kernel
/-- with a TRACE handler configured TRACE is listed too -/
example : exLeafT.methods = [mGET, mHEAD, mOPTIONS, mTRACE] ∧ TreeInv exTreeT ∧ exTreeT.hasTrace = true :=
  ⟨by decide +kernel, exTreeT_inv, rfl⟩
example : exLeaf.methods = [mGET, mHEAD, mOPTIONS] ∧ exLeaf.allow = bytesOfString "GET, HEAD, OPTIONS" ∧
    exLeaf.registered = [mGET] := by decide +kernel
example : exTree.root.methods = [mGET, mOPTIONS] ∧ TreeInv2 exTree := ⟨by decide +kernel, exTree_inv2⟩
/-- the hypotheses of `C04_views_agree`: `OPTIONS /posts/5` and `PUT /posts/5` (a 405) on the hand-built tree -/
example : ∃ fo f, exTree.handler ⟨fun _ _ => true⟩ (bytesOfString "/posts/5") [] mOPTIONS = .res fo ∧
    exTree.handler ⟨fun _ _ => true⟩ (bytesOfString "/posts/5") [] mPUT = .res f ∧ f.ok = false ∧
    f.node.isSome = true := by
  obtain ⟨fo, _, ho, _⟩ :
      ∃ f q, exTree.handler ⟨fun _ _ => true⟩ (bytesOfString "/posts/5") [] mOPTIONS = .res f ∧ f.node = some q ∧
        q.pattern = bytesOfString "/posts/{id}" ∧ f.handler = { base := .options } ∧ f.ok = true ∧
        f.params = [(bytesOfString "id", bytesOfString "5")] := P14.view_spec (by decide +kernel)
  obtain ⟨f, q, hf, hq, _, _, hok, _⟩ :
      ∃ f q, exTree.handler ⟨fun _ _ => true⟩ (bytesOfString "/posts/5") [] mPUT = .res f ∧ f.node = some q ∧
        q.pattern = bytesOfString "/posts/{id}" ∧ f.handler = { base := .notAllowed } ∧ f.ok = false ∧
        f.params = [(bytesOfString "id", bytesOfString "5")] := P14.view_spec (by decide +kernel)
  exact ⟨fo, f, ho, hf, hok, by rw [hq]; rfl⟩
/-- `Tree.Reach` is inhabited by every history. -/
example : ((Tree.new (bytesOfString "r") [] { base := .notFound } (some { base := .trace })).run
    [.add (bytesOfString "/a") { base := .user 1 } [] [mGET]]).Reach := ⟨_, _, _, _, _, _, _, rfl⟩

end Mux.C04
