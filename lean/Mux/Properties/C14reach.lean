/-
  C14 — the `Hosts` matcher, side hypotheses discharged.  The theorems `C14_match_found`, `C14_match_reject`,
  `C14_reject_clean` of `Mux/Properties/C14.lean` assume `NamesOkL [] root.children` and `Node.All IdxLit root`
  of the private tree; here they are PROVED for every matcher reached from `NewHosts` by a history of
      Add (domain with balanced, non-nested braces) | Delete | RegisterInterceptor(rule)
  in which `RegisterInterceptor(rule)` is not called while a REGEXP segment stored in the tree uses `rule` as
  its rule text (`HostsReachWf`) — in particular for every history that registers its interceptors before the
  first domain (`C14_reach_regsFirst`).  `Delete` is shown to leave every host that was resolved to ANOTHER
  domain matched exactly as before (`C14_delete_frame`: these histories are among those of `C14late.lean`,
  `HostsLateWf.of_reachWf`, whose frame property `delete_frame_late` is the statement of `C03_frame_remove` on the
  table-free invariant).

  The side condition on `RegisterInterceptor` (stated, not hidden): a registration changes the table under which
  the stored segments were parsed; `{a:rule}` stored as a regexp segment would parse as an interceptor segment
  afterwards, so the tree invariants ("every segment is `newSegment ic` of its text") survive exactly when no
  stored regexp segment uses that rule.  For other histories the theorems of `C14.lean` with their explicit
  hypotheses remain the available form.

  Helper lemmas: `Mux/Proofs/HostsReach.lean` (namespace `Mux.P14`).
-/
import Mux.Proofs.HostsReachExamples
import Mux.Proofs.HostsLate
import Mux.Properties.C14
namespace Mux.C14
open Mux Mux.P12 Mux.P14

/-- The private tree of such a matcher satisfies all tree invariants of C01–C03 (`AllInv`: `StructInv2`,
`WellFormedTree`, `TInv`), and the matcher is reachable in the sense of `C14.lean`. -/
theorem C14_reach_tree (hs : Hosts) (h : HostsReachWf hs) : AllInv hs.tree ∧ HostsReach hs :=
  ⟨h.inv, h.reach⟩

/-- "Interceptors first" is a sufficient condition; the private tree is then even the tree of a well-formed
history of `Tree.add`/`Tree.remove` (`ReachAll`), so every theorem about such trees applies to it verbatim. -/
theorem C14_reach_regsFirst (regs ops : List HOp) (hregs : ∀ op ∈ regs, HOp.isReg op)
    (hops : ∀ op ∈ ops, HOp.domainOk op) :
    HostsReachWf (hostsRun (hostsRun Hosts.empty regs) ops) ∧
      ReachAll (hostsRun (hostsRun Hosts.empty regs) ops).tree :=
  ⟨HostsReachWf.of_regsFirst hregs hops, regsFirst_reachAll hregs hops⟩

/-- The side hypotheses of `C14_match_found`/`C14_match_reject`/`C14_reject_clean` hold. -/
theorem C14_reach_hyps (hs : Hosts) (h : HostsReachWf hs) :
    NamesOkL [] hs.tree.root.children ∧ Node.All IdxLit hs.tree.root ∧ TreeInv hs.tree ∧ HostsGet hs :=
  ⟨h.inv.names, h.inv.idxLit, h.reach.inv, h.reach.get⟩

/-- `C14_match_found` without side hypotheses: an accepting `Hosts.Match` resolved the normalised host along a
non-empty chain of the private tree to a node with a `GET` entry (a registered domain), every captured value
satisfies its constraint, and the reported parameters are exactly the captures of that domain pattern. -/
theorem C14_match_found_reach (env : Env) (hs : Hosts) (hr : HostsReachWf hs)
    (host path : Bytes) (ha : isAscii host = true) (p : Bytes) (q : Params)
    (h : hs.match env host path [] = .accept p q) :
    p = path ∧ ∃ (n : Node) (chain : List (Seg × Bytes)),
      chain ≠ [] ∧ Chain hs.tree.root (chain.map (·.1)) n ∧ normHost host = instChain chain ∧
      (∀ sv ∈ chain, sv.1.Satisfies env hs.tree.ic sv.2) ∧ q = captures chain ∧
      (n.handlers.get? mGET).isSome = true :=
  C14_match_found env hs hr.reach.inv hr.inv.names hr.inv.idxLit host path ha p q h

/-- With incoming parameters `ps` whose keys are not parameter names of the tree (`NamesOkL ps.keys`; the
index hypothesis is discharged). -/
theorem C14_match_found_from_reach (env : Env) (hs : Hosts) (hr : HostsReachWf hs) (ps : Params)
    (hN : NamesOkL ps.keys hs.tree.root.children)
    (host path : Bytes) (ha : isAscii host = true) (p : Bytes) (q : Params)
    (h : hs.match env host path ps = .accept p q) :
    p = path ∧ ∃ (n : Node) (chain : List (Seg × Bytes)),
      chain ≠ [] ∧ Chain hs.tree.root (chain.map (·.1)) n ∧ normHost host = instChain chain ∧
      (∀ sv ∈ chain, sv.1.Satisfies env hs.tree.ic sv.2) ∧ q = ps ++ captures chain ∧
      (n.handlers.get? mGET).isSome = true :=
  C14_match_found_from env hs hr.reach.inv ps hN hr.inv.idxLit host path ha p q h

/-- `C14_match_reject` without side hypotheses (no incoming parameters). -/
theorem C14_match_reject_reach (env : Env) (hs : Hosts) (hr : HostsReachWf hs)
    (host path : Bytes) (ha : isAscii host = true) (p : Bytes) (q : Params)
    (h : hs.match env host path [] = .reject p q) :
    p = path ∧ (q = [] ∨ ∃ (n : Node) (chain : List (Seg × Bytes)),
      chain ≠ [] ∧ Chain hs.tree.root (chain.map (·.1)) n ∧ normHost host = instChain chain ∧
      q = [] ++ captures chain ∧ n.handlers ≠ [] ∧ n.handlers.get? mGET = none) :=
  C14_match_reject env hs [] hr.inv.names hr.inv.idxLit host path ha p q h

/-- `C14_reject_clean` without side hypotheses: a rejecting `Hosts.Match` of a reachable matcher leaves no
parameters behind and never rewrites the path. -/
theorem C14_reject_clean_reach (env : Env) (hs : Hosts) (hr : HostsReachWf hs)
    (host path : Bytes) (ha : isAscii host = true) (p : Bytes) (q : Params)
    (h : hs.match env host path [] = .reject p q) : p = path ∧ q = [] :=
  C14_reject_clean env hs hr.reach.get [] hr.inv.names hr.inv.idxLit host path ha p q h

/-- With incoming parameters disjoint from the tree's names, a rejecting `Hosts.Match` gives them back unchanged. -/
theorem C14_reject_clean_from_reach (env : Env) (hs : Hosts) (hr : HostsReachWf hs) (ps : Params)
    (hN : NamesOkL ps.keys hs.tree.root.children)
    (host path : Bytes) (ha : isAscii host = true) (p : Bytes) (q : Params)
    (h : hs.match env host path ps = .reject p q) : p = path ∧ q = ps :=
  C14_reject_clean env hs hr.reach.get ps hN hr.inv.idxLit host path ha p q h

/-- `Delete(d)` leaves every host that was resolved to a node of a DIFFERENT domain
(`q.pattern ≠ lower d`) matched exactly as before: same verdict, same parameters, same path. -/
theorem C14_delete_frame (env : Env) (hs hs' : Hosts) (hr : HostsReachWf hs) (d : Bytes)
    (hd : hs.delete d = .ok hs') (host path : Bytes) (ha : isAscii host = true) (f : Found) (q : Node)
    (hres : hs.tree.handler env (normHost host) [] mGET = .res f) (hq : f.node = some q)
    (hne : q.pattern ≠ toLower d) :
    hs'.match env host path [] = hs.match env host path [] :=
  P17.delete_frame_late env (P17.HostsLateWf.of_reachWf hr) hd host path ha hres hq hne

/-- `Delete` never fails on such a matcher, and the result is the next state `hostsStep hs (.delete d)` of the
history (so again such a matcher: `reachWf_delete`). -/
theorem C14_delete_ok (hs : Hosts) (hr : HostsReachWf hs) (d : Bytes) :
    ∃ hs', hs.delete d = .ok hs' ∧ hs' = hostsStep hs (.delete d) :=
  P17.delete_ok_late (P17.HostsLateWf.of_reachWf hr) d

/-- `RegisterInterceptor(0, "d")`, `Add("a.com")`, `Add("A.com.CN")` is such a history (interceptors first); -/
example : HostsReachWf exHs := exHs_reachWf
/-- so is the interleaved `Add("a.com")`, `RegisterInterceptor(0, "d")`, `Add("A.com.CN")`; -/
example : HostsReachWf (hostsRun Hosts.empty exHOps2) := exHs2_reachWf
/-- incoming parameters `x = y` are disjoint from the tree's parameter names (`_from_reach` forms); -/
example : NamesOkL (AMap.keys [([120], [121])]) exHs.tree.root.children := exHs_namesFrom
/-- the host `A.COM.cn:80` is resolved to the domain `a.com.cn` and accepted; -/
example : ∃ f q, exHs.tree.handler P14.exEnv (normHost hostACn) [] mGET = .res f ∧ f.node = some q ∧
    q.pattern = toLower dACn ∧ f.ok = true := by
  obtain ⟨f, q, h1, h2, h3, _, h5, _⟩ := exHs_answer
  exact ⟨f, q, h1, h2, h3, h5⟩
/-- `Delete("A.COM")` (the INTERIOR node `a.com`, any letter case) succeeds and `A.COM.cn:80` is still accepted
with the same parameters: the hypotheses of `C14_delete_frame` are satisfiable. -/
example : ∃ hs', exHs.delete [65, 46, 67, 79, 77] = .ok hs' ∧
    hs'.match P14.exEnv hostACn [47] [] = exHs.match P14.exEnv hostACn [47] [] ∧
    exHs.match P14.exEnv hostACn [47] [] = .accept [47] [] := by
  obtain ⟨f, q, h1, h2, h3, _, h5, h6⟩ := exHs_answer
  obtain ⟨hs', hd, _⟩ := C14_delete_ok exHs exHs_reachWf [65, 46, 67, 79, 77]
  have ha := hostACn_facts.1
  refine ⟨hs', hd, C14_delete_frame P14.exEnv exHs hs' exHs_reachWf _ hd hostACn [47] ha f q h1 h2 ?_, ?_⟩
  · rw [h3]; decide +kernel
  · rw [Hosts.match_res P14.exEnv exHs hostACn [47] [] f ha h1, h5, h6]; rfl

end Mux.C14
