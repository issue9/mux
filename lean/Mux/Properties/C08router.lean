/-
  C08 (router level, over histories) — a HEAD REQUEST against the GET REQUEST for the same path.

  `C08.lean` compares `runHead` and `runGet` on one script (`C08_head_status`, …) and flips the `headWrap`
  field of one synthetic call (`C08_head_call`); `C08_head_iff_get` (`C08tree.lean`) relates the two ENTRIES of a node by
  their base only.  Here the two requests are compared through `Router.serveContext` / `Router.serveHTTP` on every router
  `NewRouter` and a history produce:
    * `C08_head_entry`            — invariant: the HEAD entry of a node is the HEAD copy of its GET entry: same base AND the
                                    same middlewares, applied in the same order with the same pattern and router name;
    * `C08_head_request`          — the call made for `HEAD p` given the call made for `GET p`;
    * `C08_head_response_partial` — the outcome (`Router.serveHTTP`) of `HEAD p` given the outcome of `GET p`: same
                                    status, same header map up to Content-Length, no body; same panics; same recovery.
  Read as "same header SNAPSHOT" (the headers as sent), the property's "same headers" is false in general
  (`C08_head_snapshot_differs`); the true part is proved.
-/
import Mux.Proofs.AutoServe
import Mux.Proofs.RunFuel
import Mux.Properties.C08
namespace Mux.C08
open Mux Mux.P10

/-- On every tree a history produces (no hypothesis on patterns), on every node, the entry stored
under HEAD is the HEAD copy of the entry stored under GET (`HeadOf`): the same base (the same user handler) and the same
list of middleware applications — the same middleware ids in the same order, each with the same pattern and router name
(the factories are called with method HEAD instead of GET, the only difference).  Route middlewares, prefix middlewares
and every later `Use` included. -/
theorem C08_head_entry {t : Tree} (hr : t.Reach) {n : Node} (hn : n ∈ t.root.nodes) {hg hh : Handler}
    (h1 : n.handlers.get? mGET = some hg) (h2 : n.handlers.get? mHEAD = some hh) :
    hh.base = hg.base ∧ hh.wraps.map Wrap.site = hg.wraps.map Wrap.site ∧
      hh.wraps.map (·.mw) = hg.wraps.map (·.mw) :=
  let h := (hr.auto.get hn).head hg hh h1 h2
  ⟨h.1, h.2, h.mws⟩

/-- On a router made by `NewRouter` and ANY history, let the request `GET path` (any path, any
parameters left by a matcher) make the call `cg`.  Then the request `HEAD path` — everything else equal — makes a call
`ch` with the same node, the same verdict `ok`, the same parameters, the same response header map at the time of the
call (CORS does not distinguish the two methods), the same router name, path and recovery settings, and:
* if GET is registered on the matched node (`cg.ok`): `cg.handler` is the node's GET entry, `ch.handler` is the node's
  HEAD entry, which is the HEAD copy of the GET entry (same base, same middlewares — `HeadOf`), and `ch` runs under the
  `headResponse` wrapper while `cg` does not;
* otherwise (404 or 405) the two calls are identical (`ch = cg`): in particular HEAD is served exactly when GET is. -/
theorem C08_head_request {cfg : RouterCfg} {r0 : Router} (hnew : Router.new cfg = some r0) (ops : List ROp)
    (env : Env) (req : Req) (ps : Params) (hg : req.method = mGET) {cg : Call}
    (hcg : (r0.run ops).serveContext env req ps = .call cg) :
    ∃ ch, (r0.run ops).serveContext env { req with method := mHEAD } ps = .call ch ∧
      ch.node = cg.node ∧ ch.ok = cg.ok ∧ ch.params = cg.params ∧ ch.respHeaders = cg.respHeaders ∧
      ch.routerName = cg.routerName ∧ ch.path = cg.path ∧ ch.recover = cg.recover ∧ ch.recActs = cg.recActs ∧
      ch.headWrap = cg.ok ∧ cg.headWrap = false ∧
      HeadOf cg.handler ch.handler ∧
      (cg.ok = true → ∃ n ∈ (r0.run ops).tree.root.nodes, cg.node = some n ∧
        n.handlers.get? mGET = some cg.handler ∧ n.handlers.get? mHEAD = some ch.handler) ∧
      (cg.ok = false → ch = cg) :=
  have hreach := (run_reach hnew ops).tree
  serve_head_get hreach.inv hreach.auto env req ps hg hcg

/-- The relation between the record of a HEAD answer and the record of the GET answer: no body byte, the same status
(an unset status being the implicit 200), the same live header map up to Content-Length, and — if the HEAD recorder took
a header snapshot (the handler sent a final status itself) — the GET recorder took one too and the two agree up to
Content-Length. -/
def HeadOfRec (rg rh : Rec) : Prop :=
  rh.body = 0 ∧ rh.status = rg.status ∧ rh.hdr.del hContentLength = rg.hdr.del hContentLength ∧
    ∀ s, rh.snap = some s → ∃ s', rg.snap = some s' ∧ s.del hContentLength = s'.del hContentLength

theorem headOfRec_run (acts : List Act) (hs : Hdr) :
    HeadOfRec (runGet acts { hdr := hs }) (runHead acts 0 false { hdr := hs }) :=
  ⟨by rw [runHead_body], C08_head_status acts _, C08_head_headers acts _, fun s h => C08_head_snapshot acts _ rfl s h⟩

/-- On a router made by `NewRouter` and ANY history, for any panic configuration and
handler scripts, let `Router.ServeHTTP` answer `GET path` with call `cg` and outcome `outg`.  Then it answers
`HEAD path` with the call `ch` of `C08_head_request` and an outcome `outh` such that
* when GET is not registered on the matched node (`cg.ok = false`: 404/405) the two outcomes are identical;
* when it is (`cg.ok = true`):
  - GET returns normally iff HEAD does, and then the HEAD record is `HeadOfRec` of the GET record: no body, same status,
    same header map up to Content-Length, snapshots agreeing whenever HEAD has one;
  - GET panics with value `v` iff HEAD does (same middlewares, same handler);
  - GET is recovered from `v` iff HEAD is, and the records the recovery function leaves are again related by
    `HeadOfRec` (the recovery function writes through the `headResponse` wrapper for HEAD).
"Partial": read as "same header snapshot", the property's "same headers" holds only in the conditional form above — see
the counterexample `C08_head_snapshot_differs` below. -/
theorem C08_head_response_partial {cfg : RouterCfg} {r0 : Router} (hnew : Router.new cfg = some r0) (ops : List ROp)
    (env : Env) (pc : PanicCfg) (scripts : Scripts) (req : Req) (ps : Params) (hg : req.method = mGET)
    {cg : Call} {outg : Outcome} (hsg : (r0.run ops).serveHTTP env pc scripts req ps = (some cg, outg)) :
    ∃ ch outh, (r0.run ops).serveHTTP env pc scripts { req with method := mHEAD } ps = (some ch, outh) ∧
      ch.node = cg.node ∧ ch.ok = cg.ok ∧ ch.params = cg.params ∧ HeadOf cg.handler ch.handler ∧
      ch.headWrap = cg.ok ∧ cg.headWrap = false ∧
      (cg.ok = false → ch = cg ∧ outh = outg) ∧
      (cg.ok = true →
        (∀ rg, outg = .normal rg → ∃ rh, outh = .normal rh ∧ HeadOfRec rg rh) ∧
        (∀ rh, outh = .normal rh → ∃ rg, outg = .normal rg) ∧
        (∀ v, outg = .panicked v ↔ outh = .panicked v) ∧
        (∀ v rg, outg = .recovered v rg → ∃ rh, outh = .recovered v rh ∧ HeadOfRec rg rh) ∧
        (∀ v rh, outh = .recovered v rh → ∃ rg, outg = .recovered v rg)) := by
  obtain ⟨hcg, houtg⟩ := serveHTTP_call.1 hsg
  obtain ⟨ch, hch, e1, e2, e3, e4, e5, e6, e7, e8, e9, e10, e11, _, e13⟩ :=
    C08_head_request hnew ops env req ps hg hcg
  refine ⟨ch, _, serveHTTP_call.2 ⟨hch, rfl⟩, e1, e2, e3, e11, e9, e10, ?_, ?_⟩
  · intro hok
    cases e13 hok
    exact ⟨rfl, houtg.symm⟩
  · intro hok
    -- one script answers both calls (the handler's, or the recovery function's), HEAD's through the wrapper
    rw [houtg, withRecover_runCall, withRecover_runCall, callScript_headOf pc scripts e11 e1, e4, e7, e8, e9, e10, hok]
    cases callScript pc scripts cg with
    | ok acts => simpa [recRec] using headOfRec_run acts _
    | error e =>
      cases cg.recover with
      | false => simp
      | true => simpa [recRec] using headOfRec_run cg.recActs _

/-- "Same header snapshot as the GET response" is false: a handler that writes a body byte and
sets a header afterwards.  GET has sent its header at the first `Write` (snapshot without `Vary`); under the
`headResponse` wrapper `Write` only counts, nothing has been sent when the handler returns (no snapshot), and the header
map that then goes out with the implicit 200 contains `Vary`.  So neither the snapshots nor the header maps AS SENT
(`snap`, or the live map when nothing was sent) agree up to Content-Length, although status and live maps do. -/
theorem C08_head_snapshot_differs :
    let acts : List Act := [.write 1, .setHeader hVary [49]]
    let rg := runGet acts {}
    let rh := runHead acts 0 false {}
    rg.snap = some [] ∧ rh.snap = none ∧
    (rh.snap.getD rh.hdr).del hContentLength ≠ (rg.snap.getD rg.hdr).del hContentLength ∧
    rh.status = rg.status ∧ rh.hdr.del hContentLength = rg.hdr.del hContentLength := by decide +kernel

/-! ## Non-vacuity -/

def exCfg : RouterCfg := { name := [114], recover := true }   -- "r", with a recovery function
def exR0 : Router := (Router.new exCfg).getD default
theorem exNew : Router.new exCfg = some exR0 := rfl
def exEnv : Env := ⟨fun _ _ => true⟩
/-- `Use(1)`; `GET,POST /a/{id}` with route middleware 2; `Use(3)`; POST removed again. -/
def exOps : List ROp :=
  [.use [1], .handle (bytesOfString "/a/{id}") 7 [2] [mGET, mPOST], .use [3],
   .remove (bytesOfString "/a/{id}") [mPOST]]
/-- handler 7 sets a header, writes 5 bytes, then tries a late status -/
def exScripts : Scripts := [(7, [.setHeader hContentType [1], .write 5, .writeHeader 404])]

/-- A decidable view of an outcome: `(ok, headWrap, handler)` of the call and `(status, body, Content-Length)` of a
normal return. -/
def outIs (x : Option Call × Outcome) (ok hw : Bool) (h : Handler) (status body : Nat) (cl : Bytes) : Bool :=
  match x with
  | (some c, .normal rec) =>
    c.ok == ok && c.headWrap == hw && c.handler == h && rec.status == status && rec.body == body &&
      rec.hdr.get hContentLength == cl
  | _ => false

theorem outIs_true {x : Option Call × Outcome} {ok hw : Bool} {h : Handler} {status body : Nat} {cl : Bytes}
    (hh : outIs x ok hw h status body cl = true) : ∃ c rec, x = (some c, .normal rec) ∧ c.ok = ok := by
  unfold outIs at hh
  split at hh
  · rename_i c rec
    simp only [Bool.and_eq_true] at hh
    exact ⟨c, rec, rfl, eq_of_beq hh.1.1.1.1.1⟩
  · cases hh

/-- The history is evaluated once, for all the facts below. -/
private theorem exRun :
    outIs ((exR0.run exOps).serveHTTP exEnv {} exScripts { method := mGET, path := bytesOfString "/a/5" } [])
      true false { base := .user 7, wraps := mkWraps [2, 1, 3] mGET (bytesOfString "/a/{id}") [114] } 200 5 [] = true ∧
    outIs ((exR0.run exOps).serveHTTP exEnv {} exScripts { method := mHEAD, path := bytesOfString "/a/5" } [])
      true true { base := .user 7, wraps := mkWraps [2, 1, 3] mHEAD (bytesOfString "/a/{id}") [114] } 200 0 [53] = true ∧
    ((match (exR0.run exOps).serveHTTP exEnv { mws := [(3, 9)] } exScripts
          { method := mGET, path := bytesOfString "/a/5" } [] with
        | (some _, .recovered v r) => v == .user 9 && r.status == 500
        | _ => false) = true ∧
      (match (exR0.run exOps).serveHTTP exEnv { mws := [(3, 9)] } exScripts
          { method := mHEAD, path := bytesOfString "/a/5" } [] with
        | (some _, .recovered v r) => v == .user 9 && r.status == 500
        | _ => false) = true) ∧
    ((exR0.run exOps).tree.root.nodes.filter
      (fun n => (n.handlers.get? mGET).isSome && (n.handlers.get? mHEAD).isSome)).length = 1 := by
  rw [Router.run_eq_F]; decide +kernel

/-- `GET /a/5`: handler 7 inside middlewares 2 (route), 1 and 3 (`Use`); 200, five body bytes. -/
theorem exGet : outIs ((exR0.run exOps).serveHTTP exEnv {} exScripts { method := mGET, path := bytesOfString "/a/5" } [])
    true false { base := .user 7, wraps := mkWraps [2, 1, 3] mGET (bytesOfString "/a/{id}") [114] } 200 5 [] = true :=
  exRun.1
/-- `HEAD /a/5`: the same handler inside the same middlewares (called with method HEAD), under the wrapper; 200, no body,
Content-Length 5. -/
example : outIs ((exR0.run exOps).serveHTTP exEnv {} exScripts { method := mHEAD, path := bytesOfString "/a/5" } [])
    true true { base := .user 7, wraps := mkWraps [2, 1, 3] mHEAD (bytesOfString "/a/{id}") [114] } 200 0 [53] = true :=
  exRun.2.1
/-- so the hypothesis of `C08_head_response_partial` (and of `C08_head_request`) is satisfiable with `cg.ok = true` -/
example : ∃ cg rg, (exR0.run exOps).serveHTTP exEnv {} exScripts { method := mGET, path := bytesOfString "/a/5" } [] =
    (some cg, .normal rg) ∧ cg.ok = true := outIs_true exGet
/-- and with a panicking middleware (`Use` middleware 3 panics with value 9) both requests are recovered -/
example :
    (match (exR0.run exOps).serveHTTP exEnv { mws := [(3, 9)] } exScripts
        { method := mGET, path := bytesOfString "/a/5" } [] with
      | (some _, .recovered v r) => v == .user 9 && r.status == 500
      | _ => false) = true ∧
    (match (exR0.run exOps).serveHTTP exEnv { mws := [(3, 9)] } exScripts
        { method := mHEAD, path := bytesOfString "/a/5" } [] with
      | (some _, .recovered v r) => v == .user 9 && r.status == 500
      | _ => false) = true := exRun.2.2.1
/-- the hypotheses of `C08_head_entry`: a reachable tree with (exactly) one node that has a GET and a HEAD entry -/
example : (exR0.run exOps).tree.Reach ∧
    ((exR0.run exOps).tree.root.nodes.filter
      (fun n => (n.handlers.get? mGET).isSome && (n.handlers.get? mHEAD).isSome)).length = 1 :=
  ⟨(run_reach exNew exOps).tree, exRun.2.2.2⟩

end Mux.C08
