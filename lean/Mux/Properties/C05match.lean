/-
  C05 (matchers and groups) — no request makes `Hosts.Match`, the version matchers, any `And`/`Or`
  combination of them, or `Group.ServeHTTP` fault.  (Serve path of one router: `C05serve.lean`; parser:
  `C05.lean`; `Handle`: `C05handle.lean`.)
-/
import Mux.Proofs.HostsExamples
import Mux.Proofs.MatcherNoFault
import Mux.Properties.C05serve
namespace Mux.C05
open Mux Mux.P12

/-- `pathVersion.Match` never faults: the slice `ver[:len(ver)-1]` (site 300) is in range for every version
string, the empty one included (C15 states the same). -/
theorem C05_matchers_pathVersion (param : Bytes) (vers : List Bytes) (p : Bytes) (ps : Params) (e : Err) :
    pathVersionMatch param vers p ps ≠ .error e :=
  pathVersionMatch_ne_error param vers p ps e

theorem C05_matchers_pathVersion_run (env : Env) (tab : Nat → Option Hosts) (param : Bytes) (vers : List Bytes)
    (req : Req) (path : Bytes) (ps : Params) :
    (∀ s, (Matcher.pathVersion param vers).run env tab req path ps ≠ .fault s) ∧
    (Matcher.pathVersion param vers).run env tab req path ps ≠ .unsupported := by
  rw [run_pathVersion]
  cases vers.find? (hasPrefix path) <;> simp

/-- `headerVersion.Match` is total: it has no checked operation at all; as a matcher it accepts or rejects
and leaves the path alone — for every header list and every result of `mime.ParseMediaType`. -/
theorem C05_matchers_headerVersion (env : Env) (tab : Nat → Option Hosts) (param key : Bytes) (vers : List Bytes)
    (req : Req) (path : Bytes) (ps : Params) :
    (∃ ps', (Matcher.headerVersion param key vers).run env tab req path ps = .accept path ps') ∨
    (Matcher.headerVersion param key vers).run env tab req path ps = .reject path ps := by
  rw [run_headerVersion]
  cases headerVersionMatch param key vers req ps with
  | none => exact .inr rfl
  | some ps' => exact .inl ⟨ps', rfl⟩

/-- `Hosts.Match` never faults on a matcher made by `NewHosts` and any history of
`Add`/`Delete`/`RegisterInterceptor` — every Host string (non-ASCII ones leave the model: `.unsupported`). -/
theorem C05_matchers_hosts (env : Env) (hs : Hosts) (h : HostsReach hs) (host path : Bytes) (ps : Params) (s : Nat) :
    hs.match env host path ps ≠ .fault s :=
  C05_hosts_match h.inv env host path ps s

/-- `Matcher.Match` never faults for any expression built from any/pathVersion/headerVersion/and/or and
`Hosts` matchers whose table entries exist and are reachable. -/
theorem C05_matchers (env : Env) (tab : Nat → Option Hosts) (m : Matcher) (hm : AllHosts (HostsReachAt tab) m)
    (req : Req) (path : Bytes) (ps : Params) (s : Nat) : m.run env tab req path ps ≠ .fault s :=
  run_no_fault env tab m (AllHosts.mono (fun _ h => h.inv) m hm) req path ps s

/-- The same from the invariant alone. -/
theorem C05_matchers_inv (env : Env) (tab : Nat → Option Hosts) (m : Matcher) (hm : AllHosts (HostsInvAt tab) m)
    (req : Req) (path : Bytes) (ps : Params) (s : Nat) : m.run env tab req path ps ≠ .fault s :=
  run_no_fault env tab m hm req path ps s

/-- The loops of `AndMatcher` and `OrMatcher`. -/
theorem C05_matchers_and_or (env : Env) (tab : Nat → Option Hosts) (ms : List Matcher)
    (hm : AllHostsL (HostsInvAt tab) ms) (req : Req) (path : Bytes) (ps : Params) (s : Nat) :
    runAnd env tab ms req path ps ≠ .fault s ∧ runOr env tab ms req path ps ≠ .fault s :=
  ⟨runAnd_no_fault env tab ms hm req path ps s, runOr_no_fault env tab ms hm req path ps s⟩

/-- The table hypothesis is needed: a dangling `Hosts` id is a (modelling) fault. -/
theorem C05_matchers_dangling (env : Env) (tab : Nat → Option Hosts) (id : Nat) (h : tab id = none)
    (req : Req) (path : Bytes) (ps : Params) : (Matcher.hosts id).run env tab req path ps = .fault 310 := by
  rw [Matcher.run, h]

/-- Every member of the group has a fault-free matcher (the hypothesis of `C05_matchers`) and its router is in the table and was made by
`NewRouter` and a history of `Handle/Remove/Clean/Use`. -/
def GroupOk (tab : Nat → Option Hosts) (rt : RTab) (g : Group) : Prop :=
  ∀ e ∈ g.routers, AllHosts (HostsReachAt tab) e.2 ∧ ∃ r, rt.get? e.1 = some r ∧ r.Reach

/-- `Group.ServeHTTP` never faults, for every request. -/
theorem C05_group (env : Env) (tab : Nat → Option Hosts) (rt : RTab) (g : Group) (hg : GroupOk tab rt g)
    (req : Req) (s : Nat) (rc : Bool) : Group.serve env tab rt g req ≠ .fault s rc := by
  unfold Group.serve
  apply go_no_fault
  intro e he
  obtain ⟨h1, r, h2, h3⟩ := hg e he
  exact ⟨AllHosts.mono (fun _ h => h.inv) e.2 h1, r, h2, fun req' ps s rc => C05_serve h3 env req' ps s rc⟩

/-- `GroupOk` survives `Group.Remove` (a sublist of the members). -/
theorem C05_group_remove (tab : Nat → Option Hosts) (rt : RTab) (g : Group) (hg : GroupOk tab rt g) (name : Bytes) :
    GroupOk tab rt (g.remove rt name) := by
  intro e he
  simp only [Group.remove, List.mem_filter] at he
  exact hg e he.1

/-! ## Non-vacuity -/

def exTab : Nat → Option Hosts := fun id => if id = 0 then some exHosts else none
def exTabR : Nat → Option Hosts := fun id => if id = 0 then some (hostsRun Hosts.empty [.add hApi, .add hSub]) else none

/-- `And(hosts, Or(pathVersion "/v1/", headerVersion))` -/
def exMatcher : Matcher := .and [.hosts 0, .or [.pathVersion [118] [[47,118,49,47]], .headerVersion [] [118] [[50]]]]

example : AllHosts (HostsInvAt exTab) exMatcher := by
  simp only [exMatcher, AllHosts, AllHostsL, and_true]
  exact ⟨exHosts, rfl, exHosts_inv⟩
example : AllHosts (HostsReachAt exTabR) exMatcher := by
  simp only [exMatcher, AllHosts, AllHostsL, and_true]
  exact ⟨_, rfl, _, rfl⟩

def exReq : Req := { method := mGET, path := [47,118,49,47,120], host := [65,80,73,46,69,120,97,109,112,108,101,46,99,111,109,58,56,48] }

/-- The example matcher accepts `GET /v1/x` for `API.Example.com:80`, rewriting the path to `/x` and recording
`v = /v1`; for `other.org` the `And` rejects and restores path and parameters. -/
example : outOf (exMatcher.run exEnv exTab exReq exReq.path []) = some (true, [47,120], [([118], [47,118,49])]) := by
  decide +kernel
example : outOf (exMatcher.run exEnv exTab { exReq with host := [111,116,104,101,114,46,111,114,103] } exReq.path []) =
    some (false, exReq.path, []) := by decide +kernel

def exRouter : Router := { tree := Tree.new [114] [] { base := .notFound } none }
example : exRouter.Reach := ⟨{ name := [114] }, _, [], rfl, rfl⟩
example : GroupOk exTabR [(7, exRouter)] { routers := [(7, exMatcher)] } := by
  intro e he
  simp only [List.mem_singleton] at he
  subst he
  refine ⟨?_, exRouter, rfl, ⟨{ name := [114] }, _, [], rfl, rfl⟩⟩
  simp only [exMatcher, AllHosts, AllHostsL, and_true]
  exact ⟨_, rfl, _, rfl⟩
/-- A member whose router is missing from the table is a fault (site 320): the hypothesis is needed. -/
example : ∃ s rc, Group.serve exEnv exTab [] { routers := [(7, .any)] } exReq = .fault s rc := ⟨320, false, rfl⟩

end Mux.C05
