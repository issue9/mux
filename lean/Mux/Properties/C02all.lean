/-
  C02 for ALL histories (`Handle`, `Remove`, `Clean`, `Use` in any order, whatever the verdicts): how far
  does the refinement of the tree-free reference resolver `Spec.resolveAll` (`C02_resolve`, proved in
  `C02resolve.lean` for add-only histories) extend to histories that delete?

  INTENDED STATEMENT: for every history `ops` with `WfOps ops`,
  `t := (Tree.new …).run ops`, every list `rs` with exactly the members of `(tableOf t).patterns`, every
  path other than `""`/`*`, no TRACE short-circuit: the outcome of `t.handler env path [] m` is
  `Admissible env ic rs path`, and it is 404 iff `resolveAll env ic rs path = []`.

  THIS STATEMENT IS FALSE — for the model and for the Go code (`C02_resolve_all_counterexample`):
  `Remove` deletes emptied leaves but never re-merges a node that has lost its handlers (or all but one
  of its children) with its single remaining child.  For LITERAL nodes this is invisible (a literal
  text is matched as a prefix, in one step or in two), for a PARAMETER node it is not: `{a}/` followed
  by the literal child `x` ends the capture at the first `/`, the merged node `{a}/x` of a freshly
  built router at the first `/x`.  So the dispatch depends on the history, not only on the route table.

  PROVED instead:
  * `C02_resolve_all_partial` / `C02_resolve_all_404_partial`: the intended statement for every history
    whose final tree satisfies `ParamStops` — below no parameter node do all live routes continue with
    one and the same literal byte.  Nothing else is asked: handler-less literal chains, unforked
    interior nodes and dead subtrees (what `Remove`/`Clean` leave behind) are covered, the tree need not
    be canonical.  `ParamStops` is decidable, it is violated by the counterexample, and it holds after
    every add-only history (`C02_resolve_all_addonly`), so the theorem contains `C02_resolve`.
  * `C02_resolve_all_chain`: unconditionally, for ALL histories, the answer is the FIRST chain of the
    tree's own segmentation in depth-first order, its route is a live route, and the answer is 404 iff
    no chain of per-segment matches reaches a node with handlers.  The gap to the intended statement
    is exactly "first occurrence of the node's own suffix" vs. "first occurrence of the merged suffix".
-/
import Mux.Properties.C02resolve
import Mux.Properties.C03
import Mux.Proofs.ResolveAllExamples
namespace Mux.C02
open Mux Mux.P8 Mux.P15 Mux.P16 Mux.Spec Mux.C03

/-! ## The intended statement is false -/

/-- **Counterexample to the intended statement.**  History: `Handle("/{a}/")`, `Handle("/{a}/x")`,
`Remove("/{a}/")` (well-formed; the tree keeps `/` → `{a}/` → `x`, the node `{a}/` without handlers).
The route table is `["/{a}/x"]`, the same as that of a fresh router on which only `/{a}/x` is
registered (tree `/` → `{a}/x`).  `GET /1/y/x`:
  * after the history: 404 (the capture of `{a}/` ends at the first `/`, then `x` does not match `y/x`);
  * the reference resolver: exactly one outcome, `/{a}/x` with `a = 1/y` — not admissible, and
    "404 iff the resolver finds nothing" fails;
  * the fresh router: `/{a}/x` with `a = 1/y`.
Hence two routers with the same route table answer differently.  The Go code does the same
(`std.NewRouter`: 200 `a=1/y` fresh, 404 after the history, `Routes()` equal;
the same with `Handle("/{a}/x")`, `Handle("/{a}/y")`, `Remove("/{a}/y")`, see
`C02_resolve_all_counterexample_fork`). -/
theorem C02_resolve_all_counterexample :
    WfOps cexOps ∧ WfOps cexFresh ∧
    (tableOf (P15.exT0.run cexOps)).patterns = [cexP] ∧ (tableOf (P15.exT0.run cexFresh)).patterns = [cexP] ∧
    (∃ f, (P15.exT0.run cexOps).handler P15.envAll cexPath [] mGET = .res f ∧ f.node = none ∧
      ¬ Admissible P15.envAll [] [cexP] cexPath (outcome f) ∧ resolveAll P15.envAll [] [cexP] cexPath ≠ []) ∧
    (∃ f, (P15.exT0.run cexFresh).handler P15.envAll cexPath [] mGET = .res f ∧
      outcome f = some (cexP, [([97], [49, 47, 121])])) ∧
    ¬ ParamStops (P15.exT0.run cexOps) := by
  refine ⟨cexOps_wf, cexFresh_wf, cexOps_table, cexFresh_table, ?_, ?_, cexOps_not_stops⟩
  · have hne : resolveAll P15.envAll [] [cexP] cexPath ≠ [] := by rw [cex_resolver]; simp
    obtain ⟨f, hr, hn, hna⟩ := res_none_not_admissible cexOps_isRes cexOps_answer hne
    exact ⟨f, hr, hn, hna, hne⟩
  · exact resOf_eq_some cexFresh_answer

/-- The same with a fork that is undone: `Handle("/{a}/x")`, `Handle("/{a}/y")`, `Remove("/{a}/y")` leaves
`/` → `{a}/` → `x` as well (the node `{a}/` was created by the split, it never had handlers). -/
theorem C02_resolve_all_counterexample_fork :
    WfOps cex2Ops ∧ (tableOf (P15.exT0.run cex2Ops)).patterns = [cexP] ∧
    (∃ f, (P15.exT0.run cex2Ops).handler P15.envAll cexPath [] mGET = .res f ∧ f.node = none ∧
      ¬ Admissible P15.envAll [] [cexP] cexPath (outcome f)) ∧
    ¬ ParamStops (P15.exT0.run cex2Ops) := by
  refine ⟨cex2Ops_wf, cex2Ops_table, ?_, cex2Ops_not_stops⟩
  exact res_none_not_admissible cex2Ops_isRes cex2Ops_answer (by rw [cex_resolver]; simp)

/-! ## The statement under `ParamStops` -/

/-- **`ParamStops` in plain words**: it FAILS exactly when some parameter node below the root has a live
route below it and all live routes below it continue — relative to the node — with one and the same
literal byte (`rems c`: the remaining texts of the live routes below `c`, paired with the routes). -/
theorem C02_paramStops_iff (t : Tree) :
    ¬ ParamStops t ↔ ∃ c ∈ nodesL t.root.children, c.seg.kind ≠ .str ∧ rems c ≠ [] ∧
      ∃ b, b ≠ startByte ∧ ∀ r ∈ rems c, r.1.head? = some b := by
  unfold ParamStops
  constructor
  · intro h
    refine Classical.byContradiction fun hno => h fun c hc hk => ?_
    refine Classical.byContradiction fun he => hno ⟨c, hc, hk, lcp_leadLit_ne_nil_iff.1 he⟩
  · rintro ⟨c, hc, hk, h⟩ hall
    exact lcp_leadLit_ne_nil_iff.2 h (hall c hc hk)

/-- Tree form: every tree reached by a history of well-formed registrations (`ReachAll`: adds, removes,
cleans, middleware, in any order) that satisfies `ParamStops`. -/
theorem C02_resolve_all_reach (env : Env) (t : Tree) (ht : P14.ReachAll t) (hstop : ParamStops t) (rs : List Bytes)
    (hrs : ∀ p, p ∈ rs ↔ p ∈ (tableOf t).patterns) (path : Bytes) (hp : path ≠ []) (hstar : path ≠ [42])
    (method : Bytes) (htr : t.trace = none ∨ method ≠ mTRACE) (f : Found) (h : t.handler env path [] method = .res f) :
    Admissible env t.ic rs path (outcome f) := by
  have hinv := ht.inv
  rw [C02_spec_order_independent env t.ic _ _ hrs path _]
  exact admissible_of_resolves hinv.s2 hinv.names
    (resolves_tree env t hinv.s2 hinv.ti (goodTree_of hinv.ti hstop (history_lens ht)) hinv.names path hp) hp hstar htr h

/-- For EVERY history of well-formed registrations (adds, removes,
cleans in any order, whatever the verdicts) whose final tree satisfies `ParamStops`, and every list
`rs` of exactly the live routes: every dispatch of a path other than `""` and `*` answers with a route
and parameters that the documented procedure admits for `rs`, and with 404 only if the procedure finds
no route.  Missing for the full statement: the hypothesis `ParamStops`, which cannot be dropped
(`C02_resolve_all_counterexample`). -/
theorem C02_resolve_all_partial (env : Env) (name : Bytes) (ic : Interceptors) (nf : Handler) (tr : Option Handler)
    (ob nb : Base) (ops : List TOp) (hw : WfOps ops)
    (hstop : ParamStops ((Tree.new name ic nf tr ob nb).run ops)) (rs : List Bytes)
    (hrs : ∀ p, p ∈ rs ↔ p ∈ (tableOf ((Tree.new name ic nf tr ob nb).run ops)).patterns)
    (path : Bytes) (hp : path ≠ []) (hstar : path ≠ [42]) (method : Bytes) (htr : tr = none ∨ method ≠ mTRACE)
    (f : Found) (h : ((Tree.new name ic nf tr ob nb).run ops).handler env path [] method = .res f) :
    Admissible env ic rs path (outcome f) := by
  have := C02_resolve_all_reach env _ ⟨name, ic, nf, tr, ob, nb, ops, hw, rfl⟩ hstop rs hrs path hp hstar method
    (run_trace ops htr) f h
  rw [run_ic] at this
  exact this

/-- "404 exactly when the procedure finds no route", for every history whose final tree satisfies
`ParamStops`. -/
theorem C02_resolve_all_404_partial (env : Env) (name : Bytes) (ic : Interceptors) (nf : Handler) (tr : Option Handler)
    (ob nb : Base) (ops : List TOp) (hw : WfOps ops)
    (hstop : ParamStops ((Tree.new name ic nf tr ob nb).run ops)) (rs : List Bytes)
    (hrs : ∀ p, p ∈ rs ↔ p ∈ (tableOf ((Tree.new name ic nf tr ob nb).run ops)).patterns)
    (path : Bytes) (hp : path ≠ []) (hstar : path ≠ [42]) (method : Bytes) (htr : tr = none ∨ method ≠ mTRACE)
    (f : Found) (h : ((Tree.new name ic nf tr ob nb).run ops).handler env path [] method = .res f) :
    f.node = none ↔ resolveAll env ic rs path = [] :=
  admissible_none_iff (C02_resolve_all_partial env name ic nf tr ob nb ops hw hstop rs hrs path hp hstar method htr f h)

/-- The node-level refinement WITHOUT canonical form: on any tree with the invariants of a well-formed
history, for a node `n` below which no parameter node is followed by a literal text common to all live
routes (`Good`, which also carries the length bound of `NewSegment`), a hit of `matchChildren` is an
outcome of the resolver run on the remainders read off the subtree (`rems n`), and a miss means that the
resolver finds nothing. -/
theorem C02_resolve_all_node (env : Env) (t : Tree) (hs : StructInv2 t) (hti : P11.TInv t) (n : Node)
    (hn : n ∈ t.root.nodes) (hg : AllL P16.Good n.children) (path : Bytes) (ps : Params) (used : List Bytes)
    (hN : NamesOkL used n.children) (hk : ∀ k ∈ ps.keys, k ∈ used) :
    (∀ m ps', n.matchChildren env t.ic path ps = .hit m ps' → (m.pattern, ps') ∈ resolveRems env t.ic (rems n) path ps) ∧
    (∀ ps', n.matchChildren env t.ic path ps = .miss ps' → resolveRems env t.ic (rems n) path ps = []) :=
  have hall := All_sub _ hs.all n hn
  refines_of_resolves hall hN hk
    (resolvesR_node env t.ic n (SOk2.all_SOk _ hall) (All_sub _ hti.sh n hn) hg path ps used hN hk)

/-- `ParamStops` holds after every add-only history: `C02_resolve_all_partial` contains `C02_resolve`. -/
theorem C02_resolve_all_addonly (name : Bytes) (ic : Interceptors) (nf : Handler) (tr : Option Handler) (ob nb : Base)
    (ops : List TOp) (ha : AddOnly ops) (hw : WfOps ops) : ParamStops ((Tree.new name ic nf tr ob nb).run ops) :=
  have h := finv_history name ic nf tr ob nb ops ha hw
  paramStops_of_TT h.sim.inv.sh h.allTT

/-! ## What holds for ALL histories -/

/-- No hypothesis on the tree.  For every history of well-formed
registrations and every dispatch of a path other than `""` and `*`:
  * a hit is the node reached by the FIRST chain of per-segment matches in depth-first order (children
    in list order — literal, interceptor, regexp, named —, a node's own "path used up" case last; every
    segment yields ONE candidate: prefix for a literal, first occurrence of the node's suffix accepted by
    the constraint for a named/interceptor token, leftmost-first regexp match), with the parameters of
    that chain; the node carries a live route of the table;
  * the answer is 404 exactly when NO chain reaches a node with handlers.
(That the path is the instantiated pattern of the route reached is C01: `C01_found`, Proofs/HandlerSound.lean.)  Compared
with `Spec.resolveAll` the only difference is the text of the segments: the tree's own, which after a
`Remove` may be a proper prefix of the merged one. -/
theorem C02_resolve_all_chain (env : Env) (name : Bytes) (ic : Interceptors) (nf : Handler) (tr : Option Handler)
    (ob nb : Base) (ops : List TOp) (hw : WfOps ops) (path : Bytes) (hp : path ≠ []) (hstar : path ≠ [42])
    (method : Bytes) (htr : tr = none ∨ method ≠ mTRACE) (f : Found)
    (h : ((Tree.new name ic nf tr ob nb).run ops).handler env path [] method = .res f) :
    let t := (Tree.new name ic nf tr ob nb).run ops
    (∀ n, f.node = some n →
      n.pattern ∈ (tableOf t).patterns ∧
      ∃ is, ReachesBy env ic t.root path [] is n f.params ∧
        ∀ is' m' ps'', ReachesBy env ic t.root path [] is' m' ps'' → is' = is ∨ Before is is') ∧
    (f.node = none ↔ ¬ ∃ m ps', Reaches env ic t.root path [] m ps') := by
  intro t
  have hinv : P14.AllInv t := (P14.AllInv.new name ic nf tr ob nb).run hw
  have hroot : t.root ∈ t.root.nodes := by rw [Node.nodes_eq]; exact List.mem_cons_self
  have hkeys : ∀ k ∈ AMap.keys ([] : Params), k ∈ ([] : List Bytes) := nofun
  rw [← run_ic name ic nf tr ob nb ops]
  rcases Tree.handler_ordinary hp hstar (run_trace ops htr) h with ⟨hr, hnone, _⟩ | ⟨m, hr, hne, hsome, _⟩
  · have hno := (C02_complete_miss env t hinv.s2 t.root hroot path [] [] hinv.names hkeys _ hr).2
    exact ⟨fun n hn => (nomatch hnone.symm.trans hn), fun _ => hno, fun _ => hnone⟩
  · obtain ⟨is, his, hfirst⟩ := C02_first_chain env t hinv.s2 t.root hroot path [] [] hinv.names hkeys m _ hr
    refine ⟨fun n hn => ?_, fun e => (nomatch hsome.symm.trans e), fun hno => (hno ⟨m, _, reaches_iff.2 ⟨is, his⟩⟩).elim⟩
    cases hsome.symm.trans hn
    exact ⟨P13.mem_tableOf_patterns.2 ⟨_, reachesBy_below his hp, rfl, hne⟩, is, his, hfirst⟩

/-! ## Non-vacuity -/

/-- Hypotheses of `C02_resolve_all_partial` on a history with a `Remove` that leaves an UNFORKED interior
node: `/a/`, `/a/b` registered, `/a/` removed.  The tree is `/a/` (no handlers) → `b`; it is not in
canonical form for its table `["/a/b"]` (so `C02_resolve_partial` does not apply), `ParamStops` holds. -/
example : WfOps litOps ∧ ParamStops (P15.exT0.run litOps) ∧
    shapesOf 0 (P15.exT0.run litOps).root.children = [(0, litA, false), (1, [98], true)] ∧
    (tableOf (P15.exT0.run litOps)).patterns = [litAB] ∧ ¬ Canonical (P15.exT0.run litOps) [litAB] :=
  ⟨litOps_wf, litOps_stops, litOps_shape, litOps_table, litOps_not_canon⟩

/-- The instance of the theorem for this history, and what the dispatch of `/a/b` answers. -/
example (env : Env) (path : Bytes) (hp : path ≠ []) (hstar : path ≠ [42]) (f : Found)
    (h : (P15.exT0.run litOps).handler env path [] mGET = .res f) :
    Admissible env [] [litAB] path (outcome f) ∧ (f.node = none ↔ resolveAll env [] [litAB] path = []) :=
  have hrs : ∀ p, p ∈ [litAB] ↔ p ∈ (tableOf (P15.exT0.run litOps)).patterns := by rw [litOps_table]; exact fun _ => Iff.rfl
  ⟨C02_resolve_all_partial env [114] [] { base := .notFound } none .options .notAllowed litOps litOps_wf litOps_stops
      [litAB] hrs path hp hstar mGET (.inl rfl) f h,
    C02_resolve_all_404_partial env [114] [] { base := .notFound } none .options .notAllowed litOps litOps_wf litOps_stops
      [litAB] hrs path hp hstar mGET (.inl rfl) f h⟩

example : resOf ((P15.exT0.run litOps).handler P15.envAll litAB [] mGET) = some (litAB, []) := litOps_answer

/-- The same for a FORK that is undone: `/a/b`, `/a/c` registered (`/a/` → `b`, `c`), `/a/c` removed.  The
interior node `/a/` is left with one literal child and no handlers — neither live nor forked, so the
invariant `C02_forked` of the add-only theorem is lost and the tree is not canonical —, `ParamStops`
holds and the theorem applies. -/
example : WfOps forkOps ∧ ParamStops (P15.exT0.run forkOps) ∧
    shapesOf 0 (P15.exT0.run (forkOps.take 2)).root.children = [(0, litA, false), (1, [98], true), (1, [99], true)] ∧
    shapesOf 0 (P15.exT0.run forkOps).root.children = [(0, litA, false), (1, [98], true)] ∧
    (tableOf (P15.exT0.run forkOps)).patterns = [litAB] ∧ ¬ Canonical (P15.exT0.run forkOps) [litAB] ∧
    ¬ AllL TT (P15.exT0.run forkOps).root.children :=
  ⟨forkOps_wf, forkOps_stops, forkOps_before, forkOps_shape, forkOps_table, forkOps_not_canon, forkOps_not_TT⟩

example (env : Env) (path : Bytes) (hp : path ≠ []) (hstar : path ≠ [42]) (f : Found)
    (h : (P15.exT0.run forkOps).handler env path [] mGET = .res f) :
    Admissible env [] [litAB] path (outcome f) :=
  have hrs : ∀ p, p ∈ [litAB] ↔ p ∈ (tableOf (P15.exT0.run forkOps)).patterns := by rw [forkOps_table]; exact fun _ => Iff.rfl
  C02_resolve_all_partial env [114] [] { base := .notFound } none .options .notAllowed forkOps forkOps_wf forkOps_stops
    [litAB] hrs path hp hstar mGET (.inl rfl) f h

example : resOf ((P15.exT0.run forkOps).handler P15.envAll litAB [] mGET) = some (litAB, []) := forkOps_answer

/-- A history with `Clean` that leaves a DEAD leaf (`/a/` without handlers and without children, no
route at all): the hypotheses hold as well. -/
example : WfOps deadOps ∧ ParamStops (P15.exT0.run deadOps) ∧
    shapesOf 0 (P15.exT0.run deadOps).root.children = [(0, litA, false)] ∧
    (tableOf (P15.exT0.run deadOps)).patterns = [] :=
  ⟨deadOps_wf, deadOps_stops, deadOps_shape, deadOps_table⟩

/-- `ParamStops` is decidable and is what fails in the counterexample; hypotheses of
`C02_resolve_all_chain`: any well-formed history, e.g. the one of the counterexample. -/
example : WfOps cexOps ∧ ¬ ParamStops (P15.exT0.run cexOps) := ⟨cexOps_wf, cexOps_not_stops⟩

/-- Hypotheses of `C02_resolve_all_reach`. -/
example : P14.ReachAll (P15.exT0.run litOps) ∧ ParamStops (P15.exT0.run litOps) :=
  ⟨⟨_, _, _, _, _, _, litOps, litOps_wf, rfl⟩, litOps_stops⟩

/-- Hypotheses of `C02_resolve_all_addonly`. -/
example : AddOnly opsAB ∧ WfOps opsAB := ⟨opsAB_addOnly, opsAB_wf⟩

end Mux.C02
