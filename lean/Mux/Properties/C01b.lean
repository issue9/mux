/-
  C01 (continued) — the tree hypotheses of `C01_found` / `C01_404` / `C01_params_exact` / `C01_pattern`
  discharged for every tree reachable by a history:

  * `Node.PatternOk t.root` and `t.root.pattern = []` (pattern part of I-seg), hence the `pattern` of
    the node reached by a chain is the concatenation of the chain's segment texts;
  * `Node.All IdxLit t.root` (I-sort + I-index: the index fast path only selects literal children).

  The only tree hypothesis left is the name hypothesis `NamesOkL [] t.root.children`
  (`Mux/Proofs/MatchHyps.lean`); it holds on trees of well-formed histories (`ReachWf`): `C01_namesOk` (C01c.lean).
-/
import Mux.Properties.C01
import Mux.Proofs.StructExamples
namespace Mux.C01
open Mux Mux.P8

/-- On a reachable tree every node's `pattern` is its parent's followed by its own segment text. -/
theorem C01_patternOk_reach (t : Tree) (ht : t.Reach) : Node.PatternOk t.root ∧ t.root.pattern = [] :=
  P10.Tree.Reach.patternOk ht

/-- On a reachable tree the `pattern` of the node at the end of a chain from the root is the
concatenation of the segment texts along the chain. -/
theorem C01_pattern_reach (t : Tree) (ht : t.Reach) (segs : List Seg) (n : Node) (hc : Chain t.root segs n) :
    n.pattern = (segs.map (·.value)).flatten := by
  have := C01_pattern t.root n segs (C01_patternOk_reach t ht).1 hc
  rwa [(C01_patternOk_reach t ht).2, List.nil_append] at this

/-- On a reachable tree the index fast path of every node only selects literal children. -/
theorem C01_idxLit_reach (t : Tree) (ht : t.Reach) : Node.All IdxLit t.root :=
  All_idxLit_of_SOk _ (struct_reach ht).all

/-- `C01_found` on a reachable tree: only the name hypothesis is left; moreover the reported node's
`pattern` is the text of the chain. -/
theorem C01_found_reach (env : Env) (t : Tree) (ht : t.Reach) (path method : Bytes) (f : Found) (n : Node)
    (hN : NamesOkL [] t.root.children)
    (hp : path ≠ []) (hs : path ≠ [42]) (htr : t.trace = none ∨ method ≠ mTRACE)
    (h : t.handler env path [] method = .res f) (hf : f.node = some n) :
    ∃ chain : List (Seg × Bytes),
      chain ≠ [] ∧ Chain t.root (chain.map (·.1)) n ∧ path = instChain chain ∧
      (∀ sv ∈ chain, sv.1.Satisfies env t.ic sv.2) ∧
      f.params = captures chain ∧ n.handlers ≠ [] ∧ HandlerAgrees n method f ∧
      n.pattern = (chain.map (·.1.value)).flatten := by
  obtain ⟨chain, h1, h2, h3, h4, h5, h6, h7⟩ :=
    C01_found env t path method f n hN (C01_idxLit_reach t ht) hp hs htr h hf
  refine ⟨chain, h1, h2, h3, h4, h5, h6, h7, ?_⟩
  have := C01_pattern_reach t ht _ n h2
  simpa [List.map_map, Function.comp_def] using this

/-- `C01_404` on a reachable tree. -/
theorem C01_404_reach (env : Env) (t : Tree) (ht : t.Reach) (path method : Bytes) (f : Found)
    (hN : NamesOkL [] t.root.children)
    (h : t.handler env path [] method = .res f) (hf : f.node = none) :
    f.params = [] ∧ f.handler = t.notFound ∧ f.ok = false :=
  C01_404 env t path method f hN (C01_idxLit_reach t ht) h hf

/-- `C01_params_exact` on a reachable tree. -/
theorem C01_params_exact_reach (env : Env) (t : Tree) (ht : t.Reach) (path method : Bytes) (f : Found) (n : Node)
    (hN : NamesOkL [] t.root.children)
    (hp : path ≠ []) (hs : path ≠ [42]) (htr : t.trace = none ∨ method ≠ mTRACE)
    (h : t.handler env path [] method = .res f) (hf : f.node = some n) :
    ∃ chain : List (Seg × Bytes),
      Chain t.root (chain.map (·.1)) n ∧ path = instChain chain ∧
      f.params.keys = (chain.filter (fun sv => decide (sv.1.kind ≠ .str ∧ ¬ sv.1.ignoreName))).map (·.1.name) ∧
      f.params.keys.Nodup ∧
      (∀ sv ∈ chain, sv.1.kind ≠ .str ∧ ¬ sv.1.ignoreName → f.params.get? sv.1.name = some sv.2) :=
  C01_params_exact env t path method f n hN (C01_idxLit_reach t ht) hp hs htr h hf

/-- A miss of the matcher below any node of a reachable tree leaves no trace. -/
theorem C01_match_miss_reach (env : Env) (ic : Interceptors) (t : Tree) (ht : t.Reach) (n : Node) (hn : n ∈ t.root.nodes)
    (path : Bytes) (ps ps' : Params) (used : List Bytes)
    (hN : Node.NamesOk used n) (hk : ∀ k ∈ ps.keys, k ∈ used)
    (h : n.matchChildren env ic path ps = .miss ps') : ps' = ps :=
  C01_match_miss env ic n path ps ps' used hN (All_sub _ (C01_idxLit_reach t ht) n hn) hk h

/-! ## Non-vacuity: the tree reached by `[Handle("/{id}", h, GET)]` -/

/-- `/7` -/
def reqPath : Bytes := [47, 55]

example : exR.Reach ∧ NamesOkL [] exR.root.children ∧ reqPath ≠ [] ∧ reqPath ≠ [42] ∧
    (exR.trace = none ∨ mGET ≠ mTRACE) :=
  ⟨exR_reach, exR_names, by decide, by decide, .inl (by rw [exR_eq]; rfl)⟩

/-- `GET /7` is answered by the node of `/{id}` with `id = 7`. -/
example : (foundOf (exR.handler env0 reqPath [] mGET)).map (fun f => (f.node.map (·.pattern), f.ok, f.params)) =
    some (some exPat, true, [([105, 100], [55])]) := by
  rw [exR_eq]; decide

/-- `GET x` (no leading slash) is a 404 without parameters. -/
example : (foundOf (exR.handler env0 [120] [] mGET)).map (fun f => (f.node.isNone, f.params)) =
    some (true, []) := by
  rw [exR_eq]; decide

/-- A chain of the reached tree and the pattern of its end node. -/
example : ∃ a b : Node, Chain exR.root [a.seg, b.seg] b ∧ b.pattern = exPat := by
  rw [exR_eq]
  refine ⟨_, _, Chain.cons (c := (exRExplicit.root.children[0]'(by decide))) (List.getElem_mem _)
    (Chain.cons (c := ((exRExplicit.root.children[0]'(by decide)).children[0]'(by decide))) (List.getElem_mem _) (Chain.nil _)), ?_⟩
  decide

end Mux.C01
