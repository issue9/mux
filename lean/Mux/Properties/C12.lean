/-
  C12 — CORS grants exactly what was configured to allowed origins.
  Same model and conventions as C11 (see Mux/Properties/C11.lean): `c` is any configuration produced
  by `Cors.sanitize origins allowHeaders exposed maxAge cred`, `h` the header map after `cors.handle`
  from the empty map, `Cors.isPreflight` is OPTIONS ∧ ACR-Method ≠ "" ∧ path ≠ "*".
-/
import Mux.Proofs.CorsConfig
import Mux.Proofs.CorsFinal
import Mux.Proofs.CorsEval
namespace Mux.C12
open Mux

variable {origins allowHeaders exposed : List Bytes} {maxAge : Int} {cred : Bool} {c : Cors}

/-- `c.allowHeadersString` and `c.anyOrigins` in terms of the `sanitize` arguments. -/
theorem C12_allowHeadersString (hs : Cors.sanitize origins allowHeaders exposed maxAge cred = some c) :
    c.allowHeadersString =
      (if [42] ∈ allowHeaders then bytesOfString "*,Authorization" else joinWith [44] allowHeaders) ∧
    c.anyOrigins = decide ([42] ∈ origins) :=
  ⟨(Cors.sanitized hs).allowHeadersString, (Cors.sanitized hs).anyOrigins⟩

/-! Non-vacuity: two sanitized configurations (listed origin with credentials; `*` without). -/
example : Cors.sanitize [CorsEx.origin] [hContentType, CorsEx.xId] [CorsEx.xId] 3600 true = some CorsEx.cfg :=
  CorsEx.sanitize_cfg
example : Cors.sanitize [[42]] [[42]] [] (-1) false = some CorsEx.cfgStar := CorsEx.sanitize_cfgStar

/-- The three preflight-only headers are written under `Cors.preOK`, which contains `isPreflight`. -/
private theorem no_preflight_headers (nodeMethods : List Bytes) (nodeAllow method path : Bytes) (reqHeaders : Hdr)
    (hnp : ¬ Cors.isPreflight method path reqHeaders) :
    (c.handle nodeMethods nodeAllow [] method path reqHeaders).has hACAM = false ∧
    (c.handle nodeMethods nodeAllow [] method path reqHeaders).has hACAH = false ∧
    (c.handle nodeMethods nodeAllow [] method path reqHeaders).has hACMA = false := by
  have hp : ¬ c.preOK nodeMethods method path reqHeaders := fun h => hnp h.2.1
  exact ⟨by simp [Cors.has_handle_ACAM, hp], by simp [Cors.has_handle_ACAH, hp], by simp [Cors.has_handle_ACMA, hp]⟩

/-- Allowed origin, not a preflight: ACAO / ACAC / ACEH exactly as configured and none of the
preflight-only headers. -/
theorem C12_simple (hs : Cors.sanitize origins allowHeaders exposed maxAge cred = some c)
    (nodeMethods : List Bytes) (nodeAllow method path : Bytes) (reqHeaders : Hdr)
    (hne : origins ≠ []) (hor : c.anyOrigins = true ∨ reqHeaders.get hOrigin ∈ origins)
    (hnp : ¬ Cors.isPreflight method path reqHeaders) :
    let h := c.handle nodeMethods nodeAllow [] method path reqHeaders
    h.values hACAO = [if c.anyOrigins = true then [42] else reqHeaders.get hOrigin] ∧
    h.values hACAC = (if cred = true then [bytesOfString "true"] else []) ∧
    h.values hACEH = (if exposed ≠ [] ∧ exposed ≠ [[]] then [joinWith [44] exposed] else []) ∧
    h.has hACAM = false ∧ h.has hACAH = false ∧ h.has hACMA = false := by
  obtain ⟨a, b, d⟩ := Cors.granted_values hs nodeAllow (Cors.granted_of hs hne hor fun h => absurd h hnp)
  exact ⟨a, b, d, no_preflight_headers nodeMethods nodeAllow method path reqHeaders hnp⟩

/-! Non-vacuity: a GET from the listed origin; a GET from anywhere under `*`; an OPTIONS without
`Access-Control-Request-Method` and an `OPTIONS *` are not preflights either. -/
example : [CorsEx.origin] ≠ [] ∧ (CorsEx.cfg.anyOrigins = true ∨ CorsEx.simple.get hOrigin ∈ [CorsEx.origin]) ∧
    ¬ Cors.isPreflight mGET CorsEx.path CorsEx.simple ∧
    ¬ Cors.isPreflight mOPTIONS CorsEx.path CorsEx.simple ∧
    ¬ Cors.isPreflight mOPTIONS [42] CorsEx.preflight := by decide +kernel
example : [([42] : Bytes)] ≠ [] ∧ (CorsEx.cfgStar.anyOrigins = true ∨ CorsEx.simpleEvil.get hOrigin ∈ [[42]]) ∧
    ¬ Cors.isPreflight mGET CorsEx.path CorsEx.simpleEvil := by decide +kernel
/-- The whole header map in the first case. -/
example : CorsEx.cfg.handle CorsEx.nodeMethods CorsEx.nodeAllow [] mGET CorsEx.path CorsEx.simple =
    [(hACAO, [CorsEx.origin]), (hVary, [hOrigin]), (hACAC, [bytesOfString "true"]), (hACEH, [CorsEx.xId])] :=
  CorsEx.handle_simple
/-- Why the Expose-Headers condition reads `exposed ≠ [] ∧ exposed ≠ [""]`: `ExposedHeaders = [""]`
joins to the empty string and (as in Go, `options.go`: `if c.exposedHeadersString != ""`) nothing is sent. -/
example : ∃ c, Cors.sanitize [CorsEx.origin] [] [[]] 0 false = some c ∧
    (c.handle CorsEx.nodeMethods CorsEx.nodeAllow [] mGET CorsEx.path CorsEx.simple).values hACEH = [] :=
  ⟨{ origins := [CorsEx.origin], deny := false }, by decide +kernel, by decide +kernel⟩

/-- Allowed origin, preflight for a served method with allowed headers: the above and
Allow-Methods = the node's Allow set, the configured Allow-Headers and Max-Age. -/
theorem C12_preflight (hs : Cors.sanitize origins allowHeaders exposed maxAge cred = some c)
    (nodeMethods : List Bytes) (nodeAllow method path : Bytes) (reqHeaders : Hdr)
    (hne : origins ≠ []) (hor : c.anyOrigins = true ∨ reqHeaders.get hOrigin ∈ origins)
    (hp : Cors.isPreflight method path reqHeaders) (hm : reqHeaders.get hACRM ∈ nodeMethods)
    (hh : c.headerIsAllowed reqHeaders = true) :
    let h := c.handle nodeMethods nodeAllow [] method path reqHeaders
    h.values hACAO = [if c.anyOrigins = true then [42] else reqHeaders.get hOrigin] ∧
    h.values hACAC = (if cred = true then [bytesOfString "true"] else []) ∧
    h.values hACEH = (if exposed ≠ [] ∧ exposed ≠ [[]] then [joinWith [44] exposed] else []) ∧
    h.values hACAM = [nodeAllow] ∧
    h.values hACAH = (if c.allowHeadersString ≠ [] then [c.allowHeadersString] else []) ∧
    h.values hACMA = (if maxAge ≠ 0 then [intToBytes maxAge] else []) := by
  have hma := (Cors.sanitized hs).maxAgeString
  have hp : c.preOK nodeMethods method path reqHeaders := (Cors.preOK_iff hs ..).mpr ⟨hne, hp, hm⟩
  obtain ⟨a, b, d⟩ := Cors.granted_values hs nodeAllow (Cors.granted_of hs hne hor fun _ => ⟨hm, hh⟩)
  refine ⟨a, b, d, by simp [Cors.values_handle_ACAM, hp], by simp [Cors.values_handle_ACAH, hp, hh], ?_⟩
  by_cases h0 : maxAge = 0 <;> simp [Cors.values_handle_ACMA, hp, hh, hma, h0, intToBytes_ne_nil]

/-! Non-vacuity: the browser-style preflight (lower-case names, odd spacing) against the listed-origin
configuration — every hypothesis holds — and the resulting header map; then the same under `*`. -/
example : [CorsEx.origin] ≠ [] ∧ (CorsEx.cfg.anyOrigins = true ∨ CorsEx.preflight.get hOrigin ∈ [CorsEx.origin]) ∧
    Cors.isPreflight mOPTIONS CorsEx.path CorsEx.preflight ∧ CorsEx.preflight.get hACRM ∈ CorsEx.nodeMethods ∧
    CorsEx.cfg.headerIsAllowed CorsEx.preflight = true :=
  ⟨List.cons_ne_nil _ _, by decide +kernel, by decide +kernel, by decide +kernel, CorsEx.allowed_preflight⟩
example : CorsEx.cfg.handle CorsEx.nodeMethods CorsEx.nodeAllow [] mOPTIONS CorsEx.path CorsEx.preflight =
    [(hACAM, [CorsEx.nodeAllow]), (hVary, [hACRM, hACRH, hOrigin]),
     (hACAH, [bytesOfString "Content-Type,X-Id"]), (hACMA, [bytesOfString "3600"]),
     (hACAO, [CorsEx.origin]), (hACAC, [bytesOfString "true"]), (hACEH, [CorsEx.xId])] := CorsEx.handle_preflight
example : [([42] : Bytes)] ≠ [] ∧
    (CorsEx.cfgStar.anyOrigins = true ∨ CorsEx.preflightEvilHeader.get hOrigin ∈ [[42]]) ∧
    Cors.isPreflight mOPTIONS CorsEx.path CorsEx.preflightEvilHeader ∧
    CorsEx.preflightEvilHeader.get hACRM ∈ CorsEx.nodeMethods ∧
    CorsEx.cfgStar.headerIsAllowed CorsEx.preflightEvilHeader = true := by decide +kernel
example : CorsEx.cfgStar.handle CorsEx.nodeMethods CorsEx.nodeAllow [] mOPTIONS CorsEx.path CorsEx.preflightEvilHeader =
    [(hACAM, [CorsEx.nodeAllow]), (hVary, [hACRM, hACRH, hOrigin]),
     (hACAH, [bytesOfString "*,Authorization"]), (hACMA, [bytesOfString "-1"]), (hACAO, [[42]])] := by
  simp only [CorsEx.cfgStar, CorsEx.nodeAllow, CorsEx.path, CorsEx.preflightEvilHeader, CorsEx.origin,
    bytesOfString_eq_data]
  decide +kernel

/-- `Vary` exactly: `Access-Control-Request-Method` iff a preflight passed the method check,
`Access-Control-Request-Headers` iff additionally the header check passed and an allow-list is sent,
`Origin` iff `Access-Control-Allow-Origin` was granted — in this order, and nothing else.
(No hypothesis on the request: this holds for every request.) -/
theorem C12_vary (hs : Cors.sanitize origins allowHeaders exposed maxAge cred = some c)
    (nodeMethods : List Bytes) (nodeAllow method path : Bytes) (reqHeaders : Hdr) :
    let h := c.handle nodeMethods nodeAllow [] method path reqHeaders
    let pre := origins ≠ [] ∧ Cors.isPreflight method path reqHeaders ∧ reqHeaders.get hACRM ∈ nodeMethods
    h.values hVary =
      (if pre then [hACRM] else []) ++
      (if pre ∧ c.headerIsAllowed reqHeaders = true ∧ c.allowHeadersString ≠ [] then [hACRH] else []) ++
      (if h.has hACAO = true then [hOrigin] else []) := by
  simp only [Cors.values_handle_Vary, Cors.has_handle_ACAO, decide_eq_true_iff, Cors.preOK_iff hs]

/-- Membership reading of `C12_vary`. -/
theorem C12_vary_mem (hs : Cors.sanitize origins allowHeaders exposed maxAge cred = some c)
    (nodeMethods : List Bytes) (nodeAllow method path : Bytes) (reqHeaders : Hdr) :
    let h := c.handle nodeMethods nodeAllow [] method path reqHeaders
    let pre := origins ≠ [] ∧ Cors.isPreflight method path reqHeaders ∧ reqHeaders.get hACRM ∈ nodeMethods
    (h.values hVary).Sublist [hACRM, hACRH, hOrigin] ∧
    (hOrigin ∈ h.values hVary ↔ h.has hACAO = true) ∧
    (hACRM ∈ h.values hVary ↔ pre) ∧
    (hACRH ∈ h.values hVary ↔ pre ∧ c.headerIsAllowed reqHeaders = true ∧ c.allowHeadersString ≠ []) := by
  obtain ⟨hsub, hm, hh, ho⟩ := c.mem_values_handle_Vary nodeMethods nodeAllow method path reqHeaders
  rw [Cors.preOK_iff hs] at hm hh
  dsimp only
  rw [Cors.has_handle_ACAO, decide_eq_true_iff]
  exact ⟨hsub, ho, hm, hh⟩

/-! Non-vacuity: all four shapes of `Vary` occur. -/
example :
    (CorsEx.cfg.handle CorsEx.nodeMethods CorsEx.nodeAllow [] mOPTIONS CorsEx.path CorsEx.preflight).values hVary
      = [hACRM, hACRH, hOrigin] ∧
    (CorsEx.cfg.handle CorsEx.nodeMethods CorsEx.nodeAllow [] mOPTIONS CorsEx.path CorsEx.preflightEvilHeader).values hVary
      = [hACRM] ∧
    (CorsEx.cfg.handle CorsEx.nodeMethods CorsEx.nodeAllow [] mOPTIONS CorsEx.path CorsEx.preflightDelete).values hVary
      = [] ∧
    (CorsEx.cfg.handle CorsEx.nodeMethods CorsEx.nodeAllow [] mGET CorsEx.path CorsEx.simple).values hVary
      = [hOrigin] := by
  rw [CorsEx.handle_preflight, CorsEx.handle_simple]
  decide +kernel

/-- Requests that are not preflights never carry the preflight-only headers — whatever the origin. -/
theorem C12_not_preflight (nodeMethods : List Bytes) (nodeAllow method path : Bytes) (reqHeaders : Hdr)
    (hnp : ¬ Cors.isPreflight method path reqHeaders) :
    let h := c.handle nodeMethods nodeAllow [] method path reqHeaders
    h.has hACAM = false ∧ h.has hACAH = false ∧ h.has hACMA = false ∧
    hACRM ∉ h.values hVary ∧ hACRH ∉ h.values hVary := by
  have hp : ¬ c.preOK nodeMethods method path reqHeaders := fun h => hnp h.2.1
  obtain ⟨_, hm, hh, _⟩ := c.mem_values_handle_Vary nodeMethods nodeAllow method path reqHeaders
  obtain ⟨a, b, d⟩ := no_preflight_headers (c := c) nodeMethods nodeAllow method path reqHeaders hnp
  exact ⟨a, b, d, fun h => hp (hm.1 h), fun h => hp (hh.1 h).1⟩

example : ¬ Cors.isPreflight mOPTIONS [42] CorsEx.preflight ∧ ¬ Cors.isPreflight mGET CorsEx.path CorsEx.preflight := by
  decide +kernel

/-- `cors.handle` writes nothing but the six `Access-Control-*` response headers and `Vary`. -/
theorem C12_only_cors_headers (nodeMethods : List Bytes) (nodeAllow method path : Bytes) (reqHeaders : Hdr)
    (k : Bytes) (hk : k ∉ [hACAO, hACAC, hACEH, hACAM, hACAH, hACMA, hVary]) :
    (c.handle nodeMethods nodeAllow [] method path reqHeaders).has k = false := by
  simp only [List.mem_cons, List.not_mem_nil, or_false, not_or] at hk
  simp [Hdr.has_eq, Cors.get?_handle, hk]

example : hContentType ∉ [hACAO, hACAC, hACEH, hACAM, hACAH, hACMA, hVary] := by decide +kernel

/-- Tie to the router: for a served request (`ok = true`) there is a node and the response header
map handed to the handler is exactly `cors.handle` run on the empty map with that node's method set
and `Allow` value. -/
theorem C12_served {env : Env} {r : Router} {req : Req} {ps : Params} {call : Call}
    (h : r.serveContext env req ps = .call call) (hok : call.ok = true) :
    ∃ n, call.node = some n ∧
      call.respHeaders = r.cors.handle n.methods n.allow [] req.method req.path req.headers :=
  Router.serveContext_ok h hok

/-! Non-vacuity: the preflight through a router with the live route `/a` (GET) and the configuration above:
`ok = true`, a node, and exactly the header map of `C12_preflight`'s example. -/
example : CorsEx.servedOK CorsEx.router { method := mOPTIONS, path := CorsEx.path, headers := CorsEx.preflight }
    [(hACAM, [CorsEx.nodeAllow]), (hVary, [hACRM, hACRH, hOrigin]),
     (hACAH, [bytesOfString "Content-Type,X-Id"]), (hACMA, [bytesOfString "3600"]),
     (hACAO, [CorsEx.origin]), (hACAC, [bytesOfString "true"]), (hACEH, [CorsEx.xId])] = true := by
  simp only [CorsEx.router, CorsEx.tree, CorsEx.cfg, CorsEx.path, CorsEx.preflight, CorsEx.nodeAllow, CorsEx.origin,
    CorsEx.xId, bytesOfString_eq_data]
  decide +kernel

end Mux.C12
