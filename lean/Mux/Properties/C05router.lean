/-
  C05 (ROUTER level, whole histories) — `Handle`, `Remove`, `Clean` (also through the `Prefix` / `Resource`
  façades) never fault on a router made by `NewRouter` and ANY history whose registered patterns pass the brace
  check; and `Router.ServeHTTP` with quiet user code ends normally on every request.

  These are lifts of the tree-level theorems of `C05handle.lean` / `C05serve.lean` to the level the property
  speaks about.  The hypothesis on histories (`P18.ROp.wf`: the pattern of every `Handle` IN THE HISTORY is
  `WfPattern`) is the one under which the tree-level no-fault proofs hold; the pattern, handler,
  middleware list and method list of the call UNDER CONSIDERATION are arbitrary.
-/
import Mux.Proofs.FoldRules
import Mux.Proofs.Head
import Mux.Proofs.ReachAll
import Mux.Properties.C05handle
import Mux.Properties.C05serve
namespace Mux.C05
open Mux

/-- The tree of a router reached by a history of well-formed registrations is `ReachWf`. -/
theorem router_reachWf {cfg : RouterCfg} {r0 : Router} (hnew : Router.new cfg = some r0) {ops : List ROp}
    (hops : ∀ op ∈ ops, P18.ROp.wf op = true) : P9.ReachWf (r0.run ops).tree :=
  (P18.reachAll_run hnew hops).reachWf

/-- `Router.Handle` on a router whose tree is `ReachWf`: registered, or an error VALUE of a listed class. -/
theorem handle_total_of_reachWf (r : Router) (hr : P9.ReachWf r.tree) (p : Bytes) (h : Nat) (m : List Nat)
    (methods : List Bytes) :
    (∃ r', r.handle p h m methods = .ok r') ∨ ∃ e, r.handle p h m methods = .error e ∧ HandleErr e := by
  rw [Router.handle_eq]
  rcases C05_handle r.tree hr p { base := .user h } (m ++ r.ms) methods with ⟨t', ht⟩ | ⟨e, he, hc⟩
  · rw [ht]; exact .inl ⟨_, rfl⟩
  · rw [he]; exact .inr ⟨e, rfl, hc⟩

theorem remove_total_of_reachWf (r : Router) (hr : P9.ReachWf r.tree) (p : Bytes) (methods : List Bytes) :
    ∃ r', r.remove p methods = .ok r' := by
  rw [Router.remove_eq]
  obtain ⟨t', ht⟩ := C05_remove r.tree (C05_reach_valsNonEmpty r.tree hr) p methods
  rw [ht]; exact ⟨_, rfl⟩

theorem clean_total_of_reachWf (r : Router) (hr : P9.ReachWf r.tree) (p : Bytes) :
    ∃ r', r.clean p = .ok r' := by
  rw [Router.clean_eq]
  obtain ⟨t', ht⟩ := C05_clean r.tree (C05_reach_valsNonEmpty r.tree hr) p
  rw [ht]; exact ⟨_, rfl⟩

/-- Clause "`Handle` on any pattern registers it or panics with an error value, never a
runtime fault", at the level of `Router.Handle/Remove/Clean`, over whole histories.  For a router made by
`NewRouter(cfg)` (`hnew`: the name is non-empty) and ANY history `ops` of `Handle/Remove/Clean/Use` in which every
REGISTERED pattern passes the brace check (`hops`; arguments of `Remove/Clean/Use` arbitrary), and for ANY pattern
string, handler id, middleware list and method list:
 * `Handle` either succeeds or answers an error value of one of the classes of `HandleErr` (no `.fault`);
 * `Remove` succeeds; `Clean` succeeds (their only error sites are faults).
Hypotheses: `hnew` and `hops` delimit the histories (see the header; `P18.reachAll_run` derives the invariant of the
reached router from them, nothing is assumed of the intermediate states). -/
theorem C05_router_total (cfg : RouterCfg) (r0 : Router) (hnew : Router.new cfg = some r0)
    (ops : List ROp) (hops : ∀ op ∈ ops, P18.ROp.wf op = true)
    (p : Bytes) (h : Nat) (m : List Nat) (methods : List Bytes) :
    ((∃ r', (r0.run ops).handle p h m methods = .ok r') ∨
       ∃ e, (r0.run ops).handle p h m methods = .error e ∧ HandleErr e) ∧
    (∃ r', (r0.run ops).remove p methods = .ok r') ∧ (∃ r', (r0.run ops).clean p = .ok r') :=
  have hr := router_reachWf hnew hops
  ⟨handle_total_of_reachWf _ hr p h m methods, remove_total_of_reachWf _ hr p methods, clean_total_of_reachWf _ hr p⟩

/-- Corollary in the `≠ .fault` form. -/
theorem C05_router_no_fault (cfg : RouterCfg) (r0 : Router) (hnew : Router.new cfg = some r0)
    (ops : List ROp) (hops : ∀ op ∈ ops, P18.ROp.wf op = true)
    (p : Bytes) (h : Nat) (m : List Nat) (methods : List Bytes) (k : Nat) :
    (r0.run ops).handle p h m methods ≠ .error (.fault k) ∧ (r0.run ops).remove p methods ≠ .error (.fault k) ∧
    (r0.run ops).clean p ≠ .error (.fault k) := by
  obtain ⟨h1, ⟨r2, h2⟩, ⟨r3, h3⟩⟩ := C05_router_total cfg r0 hnew ops hops p h m methods
  refine ⟨?_, by rw [h2]; simp, by rw [h3]; simp⟩
  rcases h1 with ⟨r1, h1⟩ | ⟨e, h1, hc⟩
  · rw [h1]; simp
  · rw [h1]
    intro heq
    have : e = .fault k := by simpa using heq
    subst this
    have := handleErr_not_fault hc
    simp [Err.isFault] at this

/-- In such a history no step ever swallows a fault — every `Remove` and `Clean` step IS
the Go operation's result, and a `Handle` step that leaves the router unchanged does so because `Handle` answered an
error VALUE (a Go `panic(error)` raised by validation), never a runtime fault.  (This is what connects
`Router.run`, which maps every error to "unchanged", to the Go state.) -/
theorem C05_router_step_exact (cfg : RouterCfg) (r0 : Router) (hnew : Router.new cfg = some r0)
    (ops : List ROp) (hops : ∀ op ∈ ops, P18.ROp.wf op = true) (op : ROp) :
    match op with
    | .handle p h m methods =>
        (r0.run ops).handle p h m methods = .ok ((r0.run ops).step op) ∨
          ∃ e, (r0.run ops).handle p h m methods = .error e ∧ HandleErr e ∧ (r0.run ops).step op = r0.run ops
    | .remove p methods => (r0.run ops).remove p methods = .ok ((r0.run ops).step op)
    | .clean pre => (r0.run ops).clean pre = .ok ((r0.run ops).step op)
    | .use _ => True := by
  have hr := router_reachWf hnew hops
  cases op with
  | handle p h m methods =>
    simp only [Router.step]
    rcases handle_total_of_reachWf _ hr p h m methods with ⟨r', h1⟩ | ⟨e, h1, hc⟩
    · rw [h1]; exact .inl rfl
    · rw [h1]; exact .inr ⟨e, rfl, hc, rfl⟩
  | remove p methods =>
    simp only [Router.step]
    obtain ⟨r', h1⟩ := remove_total_of_reachWf _ hr p methods
    rw [h1]
  | clean pre =>
    simp only [Router.step]
    obtain ⟨r', h1⟩ := clean_total_of_reachWf _ hr pre
    rw [h1]
  | use m => trivial

/-- The same through ANY façade value `fa` (a `Prefix`/`Resource` obtained by any chain of
`Router.Prefix/Resource`, `Prefix.Prefix/Resource`: a pattern prefix and a middleware list — both arbitrary here):
`Prefix.Handle`/`Resource.Handle` succeed or answer a `HandleErr` value; `Prefix.Remove`, `Prefix.Clean`,
`Resource.Clean` succeed.  Same hypotheses as `C05_router_total`. -/
theorem C05_facade_total (cfg : RouterCfg) (r0 : Router) (hnew : Router.new cfg = some r0)
    (ops : List ROp) (hops : ∀ op ∈ ops, P18.ROp.wf op = true) (fa : Facade)
    (p : Bytes) (h : Nat) (m : List Nat) (methods : List Bytes) :
    ((∃ r', fa.handle (r0.run ops) p h m methods = .ok r') ∨
       ∃ e, fa.handle (r0.run ops) p h m methods = .error e ∧ HandleErr e) ∧
    (∃ r', fa.remove (r0.run ops) p methods = .ok r') ∧
    (∃ r', fa.prefixClean (r0.run ops) = .ok r') ∧ (∃ r', fa.resourceClean (r0.run ops) = .ok r') :=
  have hr := router_reachWf hnew hops
  ⟨handle_total_of_reachWf _ hr _ h _ methods, remove_total_of_reachWf _ hr _ methods,
   clean_total_of_reachWf _ hr _, remove_total_of_reachWf _ hr _ []⟩

/-- The `≠ .fault` form of `C05_facade_total`. -/
theorem C05_facade_no_fault (cfg : RouterCfg) (r0 : Router) (hnew : Router.new cfg = some r0)
    (ops : List ROp) (hops : ∀ op ∈ ops, P18.ROp.wf op = true) (fa : Facade)
    (p : Bytes) (h : Nat) (m : List Nat) (methods : List Bytes) (k : Nat) :
    fa.handle (r0.run ops) p h m methods ≠ .error (.fault k) ∧ fa.remove (r0.run ops) p methods ≠ .error (.fault k) ∧
    fa.prefixClean (r0.run ops) ≠ .error (.fault k) ∧ fa.resourceClean (r0.run ops) ≠ .error (.fault k) := by
  -- a façade operation is the router operation on the concatenated pattern
  have h1 := C05_router_no_fault cfg r0 hnew ops hops (fa.pattern ++ p) h (m ++ fa.ms) methods k
  have h2 := C05_router_no_fault cfg r0 hnew ops hops fa.pattern h m [] k
  exact ⟨h1.1, h1.2.1, h2.2.2, h2.2.1⟩

/-! ### Façade PROGRAMS: histories whose steps go through façades

A façade step is a router step on the concatenated pattern, so a history of façade operations is a router history;
its registered patterns are `fa.pattern ++ p`. -/

/-- One operation issued through a façade (`direct` = directly on the router). -/
inductive FOp where
  | direct (op : ROp)
  | handle (fa : Facade) (p : Bytes) (h : Nat) (m : List Nat) (methods : List Bytes)
  | remove (fa : Facade) (p : Bytes) (methods : List Bytes)
  | prefixClean (fa : Facade)
  | resourceClean (fa : Facade)

/-- The router operation a façade operation amounts to. -/
def FOp.toROp : FOp → ROp
  | .direct op => op
  | .handle fa p h m methods => .handle (fa.pattern ++ p) h (m ++ fa.ms) methods
  | .remove fa p methods => .remove (fa.pattern ++ p) methods
  | .prefixClean fa => .clean fa.pattern
  | .resourceClean fa => .remove fa.pattern []

/-- The step of a façade program (a failing operation leaves the router as it was, as in `Router.step`). -/
def FOp.step (r : Router) : FOp → Router
  | .direct op => r.step op
  | .handle fa p h m methods => match fa.handle r p h m methods with
    | .ok r' => r'
    | .error _ => r
  | .remove fa p methods => match fa.remove r p methods with
    | .ok r' => r'
    | .error _ => r
  | .prefixClean fa => match fa.prefixClean r with
    | .ok r' => r'
    | .error _ => r
  | .resourceClean fa => match fa.resourceClean r with
    | .ok r' => r'
    | .error _ => r

theorem FOp.step_eq (r : Router) (op : FOp) : FOp.step r op = r.step op.toROp := by
  cases op <;> rfl

theorem FOp.run_eq (r : Router) (prog : List FOp) : prog.foldl FOp.step r = r.run (prog.map FOp.toROp) :=
  List.foldl_map_of_step id FOp.step_eq prog r

/-- `C05_router_total`/`C05_facade_total` for routers reached by façade PROGRAMS:
any mixture of direct operations and operations through `Prefix`/`Resource` values, provided each registered FULL
pattern (`fa.pattern ++ p`) passes the brace check. -/
theorem C05_facade_program_total (cfg : RouterCfg) (r0 : Router) (hnew : Router.new cfg = some r0)
    (prog : List FOp) (hprog : ∀ op ∈ prog, P18.ROp.wf op.toROp = true) (fa : Facade)
    (p : Bytes) (h : Nat) (m : List Nat) (methods : List Bytes) :
    let r := prog.foldl FOp.step r0
    ((∃ r', fa.handle r p h m methods = .ok r') ∨ ∃ e, fa.handle r p h m methods = .error e ∧ HandleErr e) ∧
    (∃ r', fa.remove r p methods = .ok r') ∧
    (∃ r', fa.prefixClean r = .ok r') ∧ (∃ r', fa.resourceClean r = .ok r') := by
  intro r
  have : r = r0.run (prog.map FOp.toROp) := FOp.run_eq r0 prog
  rw [this]
  refine C05_facade_total cfg r0 hnew _ ?_ fa p h m methods
  intro op hop
  obtain ⟨fop, hf, rfl⟩ := List.mem_map.1 hop
  exact hprog fop hf

/-- A base that can be called (`Handler.script` is defined): neither the nil handler nor the `Hosts` placeholder. -/
def Callable (b : Base) : Prop := b ≠ .nil ∧ b ≠ .hostEmpty

theorem callable_script {h : Handler} (hb : Callable h.base) (scripts : Scripts) (allow : Bytes) :
    ∃ acts, h.script scripts allow = some acts := by
  unfold Handler.script
  obtain ⟨h1, h2⟩ := hb
  cases hbase : h.base <;> simp_all

/-- Every handler stored in the tree of a router made by `NewRouter` with a callable `notFound` is callable, after
ANY history. -/
theorem router_vals {cfg : RouterCfg} {r0 : Router} (hnew : Router.new cfg = some r0)
    (hnf : Callable cfg.notFoundBase) (ops : List ROp) : TreeVals Callable (r0.run ops).tree :=
  Router.run_vals hnew hnf ⟨nofun, nofun⟩ ⟨nofun, nofun⟩ ⟨nofun, nofun⟩ (fun _ => ⟨nofun, nofun⟩) ops

/-- Calling a callable handler when no user code panics returns normally. -/
theorem runCall_quiet (scripts : Scripts) (c : Call) (hb : Callable c.handler.base) :
    ∃ rec, runCall {} scripts c = .ok rec := by
  obtain ⟨acts, hacts⟩ := callable_script hb scripts c.allow
  refine ⟨_, runCall_ok_iff.2 ⟨?_, ?_, acts, hacts, rfl⟩⟩
  · unfold mwPanic
    rw [show c.handler.wraps.reverse.filterMap (fun w => lookupNat ({} : PanicCfg).mws w.mw) = [] from
      List.filterMap_eq_nil_iff.2 fun _ _ => rfl]
    rfl
  · cases c.handler.base <;> rfl

/-- Clause "`Router.ServeHTTP` does not panic when the user's handlers do not", at the
level of the complete `ServeHTTP`.  Router made by `NewRouter(cfg)` with a callable not-found handler (`hnf`: the
`notFound` argument is a real handler — `NewRouter` is always called with one), ANY history `ops` (no condition), ANY
request `req` (method bytes, path bytes — empty, `*`, non-UTF-8 —, host, headers all arbitrary), ANY incoming
parameters, no user code panics (`pc = {}`), any handler scripts.  Then `ServeHTTP`
 * selects a handler `c` that is callable (not nil) and returns NORMALLY with a response record, or
 * the request lies outside the modelled regexp domain (`.unsupported`: a regexp segment with a wide class met a
   non-ASCII path; excluded for ASCII paths by `C05_serveHTTP_quiet_ascii`, `C05ascii.lean`).
In particular the outcome is never a recovered or escaped panic, so no runtime fault occurred.
(`Router.run` maps a failing operation to "router unchanged"; for histories whose registered patterns pass the brace
check `C05_router_step_exact` shows that no step hides a runtime fault, so there `r0.run ops` IS the Go state.) -/
theorem C05_serveHTTP_quiet (cfg : RouterCfg) (r0 : Router) (hnew : Router.new cfg = some r0)
    (hnf : cfg.notFoundBase ≠ .nil ∧ cfg.notFoundBase ≠ .hostEmpty) (ops : List ROp)
    (env : Env) (scripts : Scripts) (req : Req) (ps : Params) :
    (∃ c rec, (r0.run ops).serveHTTP env {} scripts req ps = (some c, .normal rec) ∧
        (r0.run ops).serveContext env req ps = .call c ∧ Callable c.handler.base) ∨
    ((r0.run ops).serveHTTP env {} scripts req ps = (none, .unsupported) ∧
        (r0.run ops).serveContext env req ps = .unsupported) := by
  have hreach := run_reach hnew ops
  have hvals := router_vals hnew hnf ops
  unfold Router.serveHTTP
  rcases C05_serve_answer hreach.tree env req.path ps req.method with ⟨f, hf, hspec⟩ | hu
  · left
    have hb : Callable f.handler.base := hspec.base hvals
    rw [Router.serveContext_res hf]
    obtain ⟨rec, hrec⟩ := runCall_quiet scripts ((r0.run ops).callOf req f) hb
    exact ⟨_, rec, finish_call_ok hrec, rfl, hb⟩
  · right
    rw [Router.serveContext_unsupported_iff.2 hu]; exact ⟨rfl, rfl⟩

/-- Corollaries of `C05_serveHTTP_quiet` in the negative form: no fault outcome, no escaping or recovered panic, and
the selected handler is never nil. -/
theorem C05_serveHTTP_no_fault (cfg : RouterCfg) (r0 : Router) (hnew : Router.new cfg = some r0)
    (hnf : cfg.notFoundBase ≠ .nil ∧ cfg.notFoundBase ≠ .hostEmpty) (ops : List ROp)
    (env : Env) (scripts : Scripts) (req : Req) (ps : Params) :
    (∀ v, ((r0.run ops).serveHTTP env {} scripts req ps).2 ≠ .panicked v) ∧
    (∀ v rec, ((r0.run ops).serveHTTP env {} scripts req ps).2 ≠ .recovered v rec) ∧
    (∀ s rc, (r0.run ops).serveContext env req ps ≠ .fault s rc) ∧
    (∀ c, ((r0.run ops).serveHTTP env {} scripts req ps).1 = some c → c.handler.base ≠ .nil ∧ c.handler.base ≠ .hostEmpty) := by
  rcases C05_serveHTTP_quiet cfg r0 hnew hnf ops env scripts req ps with ⟨c, rec, h1, h2, h3⟩ | ⟨h1, h2⟩
  · rw [h1, h2]
    refine ⟨by simp, by simp, by simp, ?_⟩
    intro c' hc'
    cases hc'; exact h3
  · rw [h1, h2]
    exact ⟨by simp, by simp, by simp, by simp⟩

/-! ## Non-vacuity -/

/-- A concrete history: `Handle("/u/{id}", GET)`, `Handle("/u/{id}/x", GET)`, `Use`, `Remove`, `Clean`. -/
def exHist : List ROp :=
  [.handle [47, 117, 47, 123, 105, 100, 125] 1 [] [mGET],
   .handle [47, 117, 47, 123, 105, 100, 125, 47, 120] 2 [7] [mGET],
   .use [3], .remove [47, 117, 47, 123, 105, 100, 125, 47, 120] [], .clean [47, 117]]

/-- A concrete façade program: the `Prefix("/u")` of the router registers `/{id}` (full pattern `/u/{id}`). -/
def exProg : List FOp :=
  [.handle { pattern := [47, 117], ms := [4] } [47, 123, 105, 100, 125] 1 [] [mGET], .prefixClean { pattern := [47, 117], ms := [4] }]

-- the hypotheses of `C05_router_total` / `C05_facade_total` / `C05_facade_program_total` are satisfiable
example : Router.new { name := [114] } = some
    { tree := Tree.new [114] [] { base := .notFound } none } := rfl
example : ∀ op ∈ exHist, P18.ROp.wf op = true := by decide
example : ∀ op ∈ exProg, P18.ROp.wf op.toROp = true := by decide
example : ({ name := [114] } : RouterCfg).notFoundBase ≠ .nil ∧ ({ name := [114] } : RouterCfg).notFoundBase ≠ .hostEmpty := by
  decide
-- and the conclusions are about arbitrary (also ill-formed) arguments: `/{a{}}y` on the router after `exHist`
example (r0 : Router) (hnew : Router.new { name := [114] } = some r0) (k : Nat) :
    (r0.run exHist).handle [47, 123, 97, 123, 125, 125, 121] 1 [] [mGET] ≠ .error (.fault k) :=
  (C05_router_no_fault _ r0 hnew exHist (by decide) _ _ _ _ k).1
-- the first alternative of `C05_serveHTTP_quiet` is what happens on a concrete table (`GET /posts/{id}` ↦ handler 1,
-- script "WriteHeader(201)"): handler 1 is called with `id = 5` and the response has status 201
example : (match ({ tree := exTree } : Router).serveHTTP ⟨fun _ _ => true⟩ {} [(1, [.writeHeader 201])]
      { method := mGET, path := bytesOfString "/posts/5" } [] with
    | (some c, .normal rec) => (c.handler.base, c.params, rec.code)
    | _ => (.nil, [], none)) = (.user 1, [(bytesOfString "id", [53])], some 201) := by decide +kernel

end Mux.C05
