/-
  C18 (closed-model part) — the bundled TRACE helper, `html.EscapeString`, and the TRACE
  short-circuit of `Tree.Handler`.
-/
import Mux.Proofs.Trace
import Mux.Proofs.TreeReach
import Mux.Proofs.GetNodeFuel
namespace Mux.C18
open Mux

/-- The five entities `html.EscapeString` produces, as text. -/
def entityTexts : List Bytes :=
  [bytesOfString "&lt;", bytesOfString "&gt;", bytesOfString "&amp;", bytesOfString "&#39;", bytesOfString "&#34;"]

theorem entityTexts_eq : entityTexts = entities := by decide +kernel

/-- Escaped text contains none of `<` (60), `>` (62), `"` (34), `'` (39), and wherever it contains
`&` (38) one of the five entities starts at that very position. -/
theorem C18_escape_safe (s : Bytes) :
    (∀ b ∈ htmlEscape s, b ≠ 60 ∧ b ≠ 62 ∧ b ≠ 34 ∧ b ≠ 39) ∧
    (∀ pre post, htmlEscape s = pre ++ 38 :: post → ∃ e ∈ entityTexts, e <+: 38 :: post) := by
  constructor
  · exact htmlEscape_safe s
  · intro pre post h
    rw [entityTexts_eq]
    exact htmlEscape_amp s pre post h

/-- Nothing is lost: un-escaping the five entities gives the original text back. -/
theorem C18_escape_inv (s : Bytes) : htmlUnescape (htmlEscape s) = s := by
  induction s with
  | nil => rfl
  | cons b rest ih => rw [htmlEscape_cons, htmlUnescape_escByte, ih]

/-- Hence escaping is injective: different dumps give different bodies. -/
theorem C18_escape_inj (s t : Bytes) (h : htmlEscape s = htmlEscape t) : s = t := by
  rw [← C18_escape_inv s, h, C18_escape_inv]

/-- The same for any response on which no status has been sent yet (other headers may be set). -/
theorem C18_helper_gen (text : Bytes) (r0 : Rec) (h0 : r0.code = none) :
    let (r, body) := traceHelper (some text) r0
    r.code = some 200 ∧ r.snap.map (·.get hContentType) = some (bytesOfString "message/http") ∧
      r.hdr.get hContentType = bytesOfString "message/http" ∧
      body = htmlEscape text ∧ r.body = r0.body + body.length := by
  rw [traceHelper_some text r0 h0]
  simp only [Option.map_some, Hdr.get_set_self, and_self]

/-- `trace.Trace` on a fresh response: status 200, the headers AS SENT (snapshot at `WriteHeader`)
carry `Content-Type: message/http`, the body is the escaped dump and all of it is delivered.  When
`httputil.DumpRequest` fails nothing is written. -/
theorem C18_helper (text : Bytes) :
    (∀ r body, traceHelper (some text) {} = (r, body) →
      r.code = some 200 ∧ r.snap.map (·.get hContentType) = some (bytesOfString "message/http") ∧
      body = htmlEscape text ∧ r.body = body.length) ∧
    (∀ r0, traceHelper none r0 = (r0, [])) := by
  refine ⟨fun r body h => ?_, fun r0 => rfl⟩
  have := C18_helper_gen text {} rfl
  rw [h] at this
  exact ⟨this.1, this.2.1, this.2.2.2.1, this.2.2.2.2.trans (Nat.zero_add _)⟩

/-- With a TRACE handler configured, a TRACE request to ANY path (registered or not, `*`, empty)
and with any parameters already in the context is answered by that handler, attached to the root
node, before any matching happens. -/
theorem C18_any_path (env : Env) (t : Tree) (h : Handler) (ht : t.trace = some h) (path : Bytes) (ps : Params) :
    t.handler env path ps mTRACE = .res { node := some t.root, handler := h, ok := true, params := ps } :=
  Tree.handler_trace env t path ps h ht

/-- At router level: the call made for a TRACE request is the TRACE handler's, `ok = true`, on the root node, not
HEAD-wrapped, path and parameters as they came — for every path. -/
theorem C18_any_path_router (env : Env) (r : Router) (h : Handler) (ht : r.tree.trace = some h)
    (req : Req) (hm : req.method = mTRACE) (ps : Params) :
    ∃ c, r.serveContext env req ps = .call c ∧ c.handler = h ∧ c.ok = true ∧ c.node = some r.tree.root ∧
      c.params = ps ∧ c.headWrap = false ∧ c.path = req.path := by
  have hne : mTRACE ≠ mHEAD := method_consts_ne.2.2.2.2.2.2.1.symm
  refine ⟨_, Router.serveContext_call_iff.2 ⟨_, hm ▸ C18_any_path env r.tree h ht req.path ps, rfl⟩,
    rfl, rfl, rfl, rfl, ?_, rfl⟩
  simp [Router.callOf, hm, hne]

/-- "…wrapped only in the `Use` middlewares": after ANY history of Handle/Remove/Clean/Use on a tree
created with TRACE handler `h0`, a TRACE request to any path is answered by `h0` wrapped with
exactly the middlewares passed to `Use` (in order, innermost first), each applied with method
TRACE, an empty pattern and the router's name — nothing else ever wraps it. -/
theorem C18_any_path_wraps (env : Env) (name : Bytes) (ic : Interceptors) (nf h0 : Handler)
    (ops : List TOp) (path : Bytes) (ps : Params) :
    let t := (Tree.new name ic nf (some h0)).run ops
    t.handler env path ps mTRACE =
      .res { node := some t.root, handler := wrapWith h0 mTRACE [] name (useMs ops), ok := true, params := ps } := by
  intro t
  apply C18_any_path
  exact (Tree.run_outer (Tree.new name ic nf (some h0)) ops).2

/-- Whether TRACE is configured never changes during a tree's life. -/
theorem C18_trace_fixed (t : Tree) (ops : List TOp) : (t.run ops).hasTrace = t.hasTrace :=
  (sameCfg_run t ops).1

/-- Without the option TRACE goes through the ordinary matching like every other method. -/
theorem C18_ordinary (env : Env) (t : Tree) (ht : t.trace = none) (path : Bytes) (ps : Params) :
    t.handler env path ps mTRACE = Tree.handler.Tree.handlerNoTrace env t path ps mTRACE :=
  Tree.handler_noTrace (.inl ht)

/-- And the option changes nothing for the other methods. -/
theorem C18_other_methods (env : Env) (t : Tree) (path : Bytes) (ps : Params) (method : Bytes)
    (hm : method ≠ mTRACE) :
    t.handler env path ps method = Tree.handler.Tree.handlerNoTrace env t path ps method :=
  Tree.handler_noTrace (.inr hm)

example : htmlEscape (bytesOfString "<a href=\"x\">&'") =
    bytesOfString "&lt;a href=&#34;x&#34;&gt;&amp;&#39;" := by simp only [bytesOfString_eq_data]; decide +kernel
example : htmlUnescape (bytesOfString "&lt;a href=&#34;x&#34;&gt;&amp;&#39;") =
    bytesOfString "<a href=\"x\">&'" := by simp only [bytesOfString_eq_data]; decide +kernel
/-- `&` does occur in escaped text, so the second clause of `C18_escape_safe` is not vacuous -/
example : htmlEscape [60] = [] ++ 38 :: [108, 116, 59] := by decide +kernel
example : (Tree.new [1] [] { base := .notFound } (some { base := .trace })).trace = some { base := .trace } := rfl
example : (Tree.new [1] [] { base := .notFound } none).trace = none := rfl
example : (({} : Rec).code = none) := rfl
example : mPOST ≠ mTRACE := by decide +kernel
example : useMs [.use [1, 2], .remove [47] [], .use [3]] = [1, 2, 3] := rfl

end Mux.C18
