/-
  C01 (closing the name hypothesis) — `C01_found`, `C01_404`, `C01_params_exact` for REACHABLE trees,
  without the hypothesis `NamesOkL [] t.root.children`: it is discharged by I-seg (names), proved in
  `Mux/Proofs/Names.lean` for every tree reachable by a history whose registered patterns are
  well-formed (`ReachWf`: balanced, non-nested `{…}` tokens; literal text without braces — the
  property's own quantifier).

  The second tree hypothesis, `Node.All IdxLit t.root` (the index fast path only selects literal
  children), follows from I-sort/I-index (`C01_idxLit_reach`, C01b.lean) and is kept as a hypothesis here.
-/
import Mux.Proofs.Names
import Mux.Proofs.P9Examples
import Mux.Properties.C01
namespace Mux.C01
open Mux Mux.P9

/-- Parameter names are pairwise distinct along every root-to-node chain of a reachable tree
(literal segments contribute no name; `-` parameters are included). -/
theorem C01_names_distinct (t : Tree) (hr : ReachWf t) (m : Node) (segs : List Seg) (hc : Chain t.root segs m) :
    (chainNames segs).Nodup := reach_chainNames hr hc

/-- The parameter names of a pattern that `Split` accepts are pairwise distinct. -/
theorem C01_pattern_names_distinct (ic : Interceptors) (p : Bytes) (segs : List Seg) (h : split ic p = .ok segs) :
    (chainNames segs).Nodup := split_names_nodup h

/-- The matcher's name hypothesis holds on every reachable tree. -/
theorem C01_namesOk (t : Tree) (hr : ReachWf t) : NamesOkL [] t.root.children := reach_namesOk hr

/-- `C01_found` on reachable trees. -/
theorem C01_found_reachWf (env : Env) (t : Tree) (hr : ReachWf t) (path method : Bytes) (f : Found) (n : Node)
    (hI : Node.All IdxLit t.root)
    (hp : path ≠ []) (hs : path ≠ [42]) (htr : t.trace = none ∨ method ≠ mTRACE)
    (h : t.handler env path [] method = .res f) (hf : f.node = some n) :
    ∃ chain : List (Seg × Bytes),
      chain ≠ [] ∧ Chain t.root (chain.map (·.1)) n ∧ path = instChain chain ∧
      (∀ sv ∈ chain, sv.1.Satisfies env t.ic sv.2) ∧
      f.params = captures chain ∧ n.handlers ≠ [] ∧ HandlerAgrees n method f :=
  C01_found env t path method f n (reach_namesOk hr) hI hp hs htr h hf

/-- `C01_404` on reachable trees: a 404 reports no route parameters at all. -/
theorem C01_404_reachWf (env : Env) (t : Tree) (hr : ReachWf t) (path method : Bytes) (f : Found)
    (hI : Node.All IdxLit t.root)
    (h : t.handler env path [] method = .res f) (hf : f.node = none) :
    f.params = [] ∧ f.handler = t.notFound ∧ f.ok = false :=
  C01_404 env t path method f (reach_namesOk hr) hI h hf

/-- `C01_params_exact` on reachable trees: the reported parameters are exactly the capturing
parameters of the chain, without repetition, each with its value. -/
theorem C01_params_exact_reachWf (env : Env) (t : Tree) (hr : ReachWf t) (path method : Bytes) (f : Found) (n : Node)
    (hI : Node.All IdxLit t.root)
    (hp : path ≠ []) (hs : path ≠ [42]) (htr : t.trace = none ∨ method ≠ mTRACE)
    (h : t.handler env path [] method = .res f) (hf : f.node = some n) :
    ∃ chain : List (Seg × Bytes),
      Chain t.root (chain.map (·.1)) n ∧ path = instChain chain ∧
      f.params.keys = (chain.filter (fun sv => decide (sv.1.kind ≠ .str ∧ ¬ sv.1.ignoreName))).map (·.1.name) ∧
      f.params.keys.Nodup ∧
      (∀ sv ∈ chain, sv.1.kind ≠ .str ∧ ¬ sv.1.ignoreName → f.params.get? sv.1.name = some sv.2) :=
  C01_params_exact env t path method f n (reach_namesOk hr) hI hp hs htr h hf

/-- Every segment stored below the root of a reachable tree is what `NewSegment` makes of its own
text (I-seg): so the kind, name, rule, suffix that the matcher uses are those of the pattern text. -/
theorem C01_segs_reparse (t : Tree) (hr : ReachWf t) :
    AllL (fun c => newSegment t.ic c.seg.value = .ok c.seg) t.root.children :=
  (AllL_mono (fun n (hn : SegOk t.ic n.seg) => hn.seg)).2 _ (reach_segOk hr)

/-! ## Non-vacuity -/

/-- `/u/{id}` then `/u/{id}/x` registered on a fresh tree, then `Remove` and `Clean`: a `ReachWf` tree. -/
example : ReachWf (exT0.run exOps) := reachWf_ex
example : NamesOkL [] (exT0.run exOps).root.children := C01_namesOk _ reachWf_ex

end Mux.C01
