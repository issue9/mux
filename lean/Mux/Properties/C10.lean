/-
  C10 (non-strict part, and `Segment.Valid`) — reverse URL building.
-/
import Mux.Proofs.Url
import Mux.Proofs.DecEq
namespace Mux.C10
open Mux

/-- The loop of `Interceptors.URL` succeeds iff every parameter of the pattern has a value, and then
the URL is the concatenation of literal texts and `value ++ suffix` (the `-` flag plays no role). -/
theorem C10_subst (ps : AMap Bytes) (segs : List Seg) (u : Bytes) :
    urlLoop ps segs = .ok u ↔
      (∀ s ∈ segs, s.kind ≠ .str → (ps.get? s.name).isSome) ∧
      u = (segs.map (fun s => if s.kind = .str then s.value
                              else (ps.get? s.name).getD [] ++ s.suffix)).flatten :=
  urlLoop_ok_iff ps segs u

/-- The only error of the loop is the missing parameter. -/
theorem C10_subst_error (ps : AMap Bytes) (segs : List Seg) (e : Err) (h : urlLoop ps segs = .error e) :
    e = .missingParam := urlLoop_error ps segs e h

/-- The loop fails exactly when a parameter is missing. -/
theorem C10_subst_error_iff (ps : AMap Bytes) (segs : List Seg) (e : Err) :
    urlLoop ps segs = .error e ↔
      e = .missingParam ∧ ¬ ∀ s ∈ segs, s.kind ≠ .str → (ps.get? s.name).isSome :=
  urlLoop_error_iff ps segs e

/-- `Interceptors.URL`: the empty pattern gives the empty URL; otherwise split, then substitute. -/
theorem C10_subst_url (ic : Interceptors) (p : Bytes) (ps : AMap Bytes) (u : Bytes) :
    ic.url p ps = .ok u ↔
      (p = [] ∧ u = []) ∨
      (∃ segs, split ic p = .ok segs ∧ (∀ s ∈ segs, s.kind ≠ .str → (ps.get? s.name).isSome) ∧
        u = (segs.map (fun s => if s.kind = .str then s.value
                                else (ps.get? s.name).getD [] ++ s.suffix)).flatten) :=
  Interceptors.url_ok_iff ic p ps u

/-- `Interceptors.URL` fails iff the pattern is malformed (the error of `Split`) or a parameter is
missing. -/
theorem C10_subst_url_error (ic : Interceptors) (p : Bytes) (ps : AMap Bytes) (e : Err) :
    ic.url p ps = .error e ↔
      (split ic p = .error e ∧ p ≠ []) ∨
      (∃ segs, split ic p = .ok segs ∧ e = .missingParam ∧
        ¬ ∀ s ∈ segs, s.kind ≠ .str → (ps.get? s.name).isSome) :=
  Interceptors.url_error_iff ic p ps e

/-- Non-strict `Router.URL` body = `Interceptors.URL` without interceptors. -/
theorem C10_subst_urlNonStrict (p : Bytes) (ps : AMap Bytes) (u : Bytes) :
    urlNonStrict p ps = .ok u ↔
      (p = [] ∧ u = []) ∨
      (∃ segs, split [] p = .ok segs ∧ (∀ s ∈ segs, s.kind ≠ .str → (ps.get? s.name).isSome) ∧
        u = (segs.map (fun s => if s.kind = .str then s.value
                                else (ps.get? s.name).getD [] ++ s.suffix)).flatten) :=
  Interceptors.url_ok_iff [] p ps u

theorem C10_subst_urlNonStrict_error (p : Bytes) (ps : AMap Bytes) (e : Err) :
    urlNonStrict p ps = .error e ↔
      (split [] p = .error e ∧ p ≠ []) ∨
      (∃ segs, split [] p = .ok segs ∧ e = .missingParam ∧
        ¬ ∀ s ∈ segs, s.kind ≠ .str → (ps.get? s.name).isSome) :=
  Interceptors.url_error_iff [] p ps e

/-- `mux.URL` with empty params returns the pattern itself, unchecked. -/
theorem C10_subst_muxURL_nil (p : Bytes) : muxURL p [] = .ok p := muxURL_nil p

theorem C10_subst_muxURL (p : Bytes) (ps : AMap Bytes) (hps : ps ≠ []) (u : Bytes) :
    muxURL p ps = .ok u ↔
      (p = [] ∧ u = []) ∨
      (∃ segs, split [] p = .ok segs ∧ (∀ s ∈ segs, s.kind ≠ .str → (ps.get? s.name).isSome) ∧
        u = (segs.map (fun s => if s.kind = .str then s.value
                                else (ps.get? s.name).getD [] ++ s.suffix)).flatten) := by
  rw [muxURL_eq p ps hps]; exact C10_subst_urlNonStrict p ps u

/-- `mux.URL` fails iff params are given and the pattern is malformed or a parameter is missing. -/
theorem C10_subst_muxURL_error (p : Bytes) (ps : AMap Bytes) (e : Err) :
    muxURL p ps = .error e ↔
      ps ≠ [] ∧ ((split [] p = .error e ∧ p ≠ []) ∨
        (∃ segs, split [] p = .ok segs ∧ e = .missingParam ∧
          ¬ ∀ s ∈ segs, s.kind ≠ .str → (ps.get? s.name).isSome)) := by
  cases ps with
  | nil => exact Iff.intro (fun h => nomatch h) (fun h => absurd rfl h.1)
  | cons a r =>
    rw [muxURL_eq p _ (List.cons_ne_nil a r)]
    exact (C10_subst_urlNonStrict_error p (a :: r) e).trans (and_iff_right (List.cons_ne_nil a r)).symm

/-- A pattern without parameters is returned as it is (given it splits). -/
theorem C10_subst_literal (ps : AMap Bytes) (segs : List Seg) (h : ∀ s ∈ segs, s.kind = .str) :
    urlLoop ps segs = .ok (segs.map (·.value)).flatten := urlLoop_all_str ps segs h

-- non-vacuity.  `/u/{id:\d+}/x` with `id = 5`  ↦  `/u/5/x`
example : muxURL [47, 117, 47, 123, 105, 100, 58, 92, 100, 43, 125, 47, 120] [([105, 100], [53])]
    = .ok [47, 117, 47, 53, 47, 120] := by decide +kernel
-- missing parameter
example : muxURL [47, 117, 47, 123, 105, 100, 125] [([120], [53])] = .error .missingParam := by decide +kernel
-- malformed pattern `{}` : the error of `Split`
example : muxURL [123, 125] [([120], [53])] = .error .syntax := by decide +kernel
-- the `-` flag is ignored: `{-id}/x`
example : muxURL [123, 45, 105, 100, 125, 47, 120] [([105, 100], [53])] = .ok [53, 47, 120] := by decide +kernel

/-- Every value accepted by a regexp segment satisfies the rule over its whole length. -/
theorem C10_valid_rx (env : Env) (ic : Interceptors) (s : Seg) (v : Bytes) (hk : s.kind = .rx)
    (h : s.valid env ic v = some true) : Re.Denotes s.re v :=
  Seg.valid_rx_sound env ic s v hk h

/-- Validity is exactly "dispatch would capture this value here" — both directions hold. -/
theorem C10_valid_rx_iff_match (env : Env) (ic : Interceptors) (s : Seg) (v : Bytes) (hk : s.kind = .rx) :
    s.valid env ic v = some true ↔ s.match env ic (v ++ s.suffix) = .yes v [] :=
  Seg.valid_rx_true_iff env ic s v hk

/-- `Valid` is outside the modelled domain exactly when the corresponding `Match` is. -/
theorem C10_valid_rx_unsupported (env : Env) (ic : Interceptors) (s : Seg) (v : Bytes) (hk : s.kind = .rx) :
    s.valid env ic v = none ↔ s.match env ic (v ++ s.suffix) = .unsupported :=
  Seg.valid_rx_none_iff env ic s v hk

/-- A denoted value is matched by dispatch, but possibly with another capture (`C10_valid_rx_converse_counterexample`). -/
theorem C10_valid_rx_denotes (env : Env) (ic : Interceptors) (s : Seg) (v : Bytes) (hk : s.kind = .rx)
    (hd : Re.Denotes s.re v) (hsup : s.valid env ic v ≠ none) :
    ∃ cap rest, s.match env ic (v ++ s.suffix) = .yes cap rest :=
  Seg.valid_rx_denotes_match env ic s v hk hd hsup

/-- The segment `{a:1|12}` as `NewSegment` builds it. -/
def segAlt : Seg :=
  { value := [123, 97, 58, 49, 124, 49, 50, 125], kind := .rx, name := [97], rule := [49, 124, 49, 50],
    re := .alt (.cls ⟨false, [(49, 49)]⟩) (.seq (.cls ⟨false, [(49, 49)]⟩) (.cls ⟨false, [(50, 50)]⟩)) }

/-- The converse of `C10_valid_rx` is FALSE (leftmost-first priority): `12` is in the language of
`1|12`, but `Valid` rejects it because the match takes the first alternative `1` and stops. This is
also what Go's `FindStringIndex` does, and it is consistent with dispatch (`C10_valid_rx_iff_match`):
on the path `12` dispatch captures `1`. -/
theorem C10_valid_rx_converse_counterexample (env : Env) :
    newSegment [] [123, 97, 58, 49, 124, 49, 50, 125] = .ok segAlt ∧
    Re.Denotes segAlt.re [49, 50] ∧ segAlt.valid env [] [49, 50] = some false ∧
    segAlt.match env [] [49, 50] = .yes [49] [50] := by
  exact ⟨by decide +kernel, .altR (.seq (s := [49]) (t := [50]) (.cls (by decide)) (.cls (by decide))), by rfl, by rfl⟩

theorem C10_valid_icpt (env : Env) (ic : Interceptors) (s : Seg) (v : Bytes) (hk : s.kind = .icpt) :
    s.valid env ic v = some (s.accepts env ic v) := Seg.valid_icpt env ic s v hk

theorem C10_valid_named (env : Env) (ic : Interceptors) (s : Seg) (v : Bytes) (hk : s.kind = .named) :
    s.valid env ic v = some true := Seg.valid_named env ic s v hk

-- non-vacuity for the regexp theorems: `{id:\d+}/x`, value `12`
/-- `{id:\d+}/x` -/
def segDigits : Seg :=
  { value := [123, 105, 100, 58, 92, 100, 43, 125, 47, 120], kind := .rx, name := [105, 100],
    rule := [92, 100, 43], suffix := [47, 120], re := .plus ⟨false, clsDigit⟩ }
example : (newSegment [] [123, 105, 100, 58, 92, 100, 43, 125, 47, 120]).toOption = some segDigits := by decide +kernel
example (env : Env) : segDigits.kind = .rx ∧ segDigits.valid env [] [49, 50] = some true := ⟨rfl, rfl⟩
example (env : Env) : segDigits.valid env [] [49, 97] = some false := by rfl
example (env : Env) : segDigits.match env [] ([49, 50] ++ segDigits.suffix) = .yes [49, 50] [] := by rfl
-- interceptor segment `{id:digit}` with the bundled `MatchDigit`
example : ({ value := [], kind := .icpt, name := [105, 100], rule := [100] } : Seg).valid
    ⟨fun _ p => matchDigit p⟩ [([100], 0)] [49, 50] = some true := by decide +kernel

-- `\d+`
example : parseRule [92, 100, 43] = .ok (.plus ⟨false, clsDigit⟩) := by decide +kernel
-- `[a-z]*`
example : parseRule [91, 97, 45, 122, 93, 42] = .ok (.star ⟨false, [(97, 122)]⟩) := by decide +kernel
-- `(ab)?c`
example : parseRule [40, 97, 98, 41, 63, 99] =
    .ok (.seq (.opt (.seq (.cls ⟨false, [(97, 97)]⟩) (.cls ⟨false, [(98, 98)]⟩))) (.cls ⟨false, [(99, 99)]⟩)) := by
  decide +kernel
-- `*` is a compile error, `^a` is outside the dialect
example : parseRule [42] = .bad := by decide +kernel
example : parseRule [94, 97] = .unsupported := by decide +kernel
-- imprecision of the fuel `rule.length + 2`: an unclosed `(` is reported as `unsupported`, not `bad`
-- (every `(` costs two units of fuel); conservative, since `unsupported` is outside the model
example : parseRule [40] = .unsupported := by decide +kernel

end Mux.C10
