/-
  C15 — Version matchers accept exactly their versions and rewrite only on success.
  Helper lemmas live in Mux/Proofs/Version.lean.

  All theorems hold for ALL version lists, paths and parameter maps.  The hypothesis "every version is
  non-empty and ends with `/`" (what `normVersion` produces) is not needed for
  `C15_path_iff`/`C15_path_first`; it is only needed for the clause "the rewritten path still starts with `/`"
  (`C15_path_rewrite`).
-/
import Mux.Proofs.Group
namespace Mux.C15
open Mux

/-- What `normVersion` produces: non-empty, ends with `/`. -/
def Normalised (vers : List Bytes) : Prop := ∀ ver ∈ vers, ver ≠ [] ∧ ver.getLast? = some 47

/-- `NewPathVersion`'s normalisation: `""` is the constructor error; otherwise a `/` is prepended iff missing and
a `/` is appended iff missing, so the result has the form `/…/`. -/
theorem C15_norm (v : Bytes) :
    (normVersion v = none ↔ v = []) ∧
    (v ≠ [] → ∃ r, normVersion v = some r ∧
      r = (if v.head? = some 47 then [] else [47]) ++ v ++ (if v.getLast? = some 47 then [] else [47]) ∧
      r.head? = some 47 ∧ r.getLast? = some 47) := by
  exact ⟨by cases v <;> simp [normVersion],
    fun hv => ⟨_, normVersion_eq v hv, rfl, (withSlashes_shape v).1, (withSlashes_shape v).2.1⟩⟩

/-- Every list obtained by normalising non-empty versions satisfies `Normalised`. -/
theorem C15_norm_normalised (vs : List Bytes) (rs : List Bytes) (h : vs.mapM normVersion = some rs) :
    Normalised rs := by
  rw [mapM_normVersion_eq] at h
  split at h
  · cases h
  · cases h
    exact List.forall_mem_map.2 fun v _ => ⟨(withSlashes_shape v).2.2, (withSlashes_shape v).2.1⟩

/-- The path matcher rejects iff no listed version is a prefix of the path, and it never faults. -/
theorem C15_path_iff (param : Bytes) (vers : List Bytes) (p : Bytes) (ps : Params) :
    (pathVersionMatch param vers p ps = .ok none ↔ ∀ ver ∈ vers, ¬ hasPrefix p ver = true) ∧
    (∀ e, pathVersionMatch param vers p ps ≠ .error e) := by
  refine ⟨?_, pathVersionMatch_ne_error param vers p ps⟩
  rw [pathVersionMatch_eq_find]
  cases h : vers.find? (hasPrefix p) with
  | none => exact ⟨fun _ => List.find?_eq_none.1 h, fun _ => rfl⟩
  | some ver => exact ⟨nofun, fun hall => absurd (List.find?_some h) (hall ver (List.mem_of_find?_eq_some h))⟩

/-- Accepting form of `C15_path_iff`: it accepts iff some listed version is a prefix of the path. -/
theorem C15_path_accept_iff (param : Bytes) (vers : List Bytes) (p : Bytes) (ps : Params) :
    (∃ r, pathVersionMatch param vers p ps = .ok (some r)) ↔ ∃ ver ∈ vers, hasPrefix p ver = true := by
  rw [pathVersionMatch_eq_find]
  cases hf : vers.find? (hasPrefix p) with
  | none => exact ⟨fun ⟨_, h⟩ => (nomatch h), fun ⟨ver, hm, hp⟩ => absurd hp (List.find?_eq_none.1 hf ver hm)⟩
  | some ver => exact ⟨fun _ => ⟨ver, List.mem_of_find?_eq_some hf, List.find?_some hf⟩, fun _ => ⟨_, rfl⟩⟩

/-- The version chosen is the FIRST one in list order that is a prefix of the path; the result is exactly
determined by it (this is an `iff`, so it also gives existence). -/
theorem C15_path_first (param : Bytes) (vers : List Bytes) (p : Bytes) (ps : Params) (p' : Bytes) (ps' : Params) :
    pathVersionMatch param vers p ps = .ok (some (p', ps')) ↔
      ∃ pre ver post, vers = pre ++ ver :: post ∧ (∀ u ∈ pre, ¬ hasPrefix p u = true) ∧
        hasPrefix p ver = true ∧ p' = p.drop (ver.length - 1) ∧
        ps' = (if param ≠ [] then ps.set param ver.dropLast else ps) := by
  rw [pathVersionMatch_eq_find]
  constructor
  · intro h
    cases hf : vers.find? (hasPrefix p) with
    | none => rw [hf] at h; cases h
    | some ver =>
      rw [hf] at h
      cases h
      obtain ⟨hver, pre, post, hvers, hpre⟩ := List.find?_eq_some_iff_append.mp hf
      exact ⟨pre, ver, post, hvers, fun u hu => by simpa using hpre u hu, hver, rfl, rfl⟩
  · rintro ⟨pre, ver, post, hvers, hpre, hver, rfl, rfl⟩
    have hf : vers.find? (hasPrefix p) = some ver :=
      List.find?_eq_some_iff_append.2 ⟨hver, pre, post, hvers, fun u hu => by simpa using hpre u hu⟩
    rw [hf]

/-- For normalised versions `ver = seg ++ "/"`: the path was `seg ++ "/" ++ rest`, the new path is `"/" ++ rest`
(exactly the version segment removed, once; still starts with `/`) and the parameter, when a name is
configured, is `seg`; nothing else in the parameters changes. -/
theorem C15_path_rewrite (param : Bytes) (vers : List Bytes) (p : Bytes) (ps : Params) (p' : Bytes) (ps' : Params)
    (hn : Normalised vers) (h : pathVersionMatch param vers p ps = .ok (some (p', ps'))) :
    ∃ pre ver post rest, vers = pre ++ ver :: post ∧ (∀ u ∈ pre, ¬ hasPrefix p u = true) ∧
      p = ver.dropLast ++ 47 :: rest ∧ ver = ver.dropLast ++ [47] ∧
      p' = 47 :: rest ∧ p' = p.drop (ver.length - 1) ∧
      ps' = (if param ≠ [] then ps.set param ver.dropLast else ps) := by
  obtain ⟨pre, ver, post, hv, hpre, hp, hp', hps'⟩ := (C15_path_first param vers p ps p' ps').mp h
  have hmem : ver ∈ vers := by rw [hv]; simp
  obtain ⟨hne, hl⟩ := hn ver hmem
  obtain ⟨rest, h1, h2⟩ := drop_of_prefix_slash p ver hp hl
  obtain ⟨seg, hseg⟩ := List.getLast?_eq_some_iff.1 hl
  exact ⟨pre, ver, post, rest, hv, hpre, h1, by rw [hseg, List.dropLast_concat], by rw [hp', h2], hp', hps'⟩

/-- A rejecting version matcher leaves the path and the parameters as they were (the request itself is
immutable in the model; the path is the only field a matcher can change). -/
theorem C15_untouched (env : Env) (tab : Nat → Option Hosts) (req : Req) (path : Bytes) (ps : Params)
    (p' : Bytes) (ps' : Params) :
    (∀ param vers, (Matcher.pathVersion param vers).run env tab req path ps = .reject p' ps' →
        p' = path ∧ ps' = ps) ∧
    (∀ param key vers, (Matcher.headerVersion param key vers).run env tab req path ps = .reject p' ps' →
        p' = path ∧ ps' = ps) :=
  ⟨fun param vers => run_reject_guarded env tab (.pathVersion param vers) rfl,
   fun param key vers => run_reject_guarded env tab (.headerVersion param key vers) rfl⟩

/-- `Matcher.run` of the path matcher in closed form: reject (untouched) or accept with the rewrite of the first
matching version; it never faults. -/
theorem C15_path_run (env : Env) (tab : Nat → Option Hosts) (param : Bytes) (vers : List Bytes)
    (req : Req) (path : Bytes) (ps : Params) :
    (Matcher.pathVersion param vers).run env tab req path ps =
      match vers.find? (hasPrefix path) with
      | none => .reject path ps
      | some ver => .accept (path.drop (ver.length - 1))
          (if param ≠ [] then ps.set param ver.dropLast else ps) :=
  run_pathVersion env tab param vers req path ps

/-- The header matcher accepts iff the Accept header is non-empty, parses as a media type and the configured
parameter of it (`""` when absent) is one of the versions; it records that version. -/
theorem C15_header_iff (param key : Bytes) (versions : List Bytes) (req : Req) (ps ps' : Params) :
    headerVersionMatch param key versions req ps = some ps' ↔
      req.headers.get hAccept ≠ [] ∧ ∃ mp, req.acceptParams = some mp ∧
        ((mp.get? key).getD []) ∈ versions ∧
        ps' = (if param ≠ [] then ps.set param ((mp.get? key).getD []) else ps) :=
  headerVersionMatch_iff param key versions req ps ps'

/-- The header matcher accepts with the path unchanged. -/
theorem C15_header_run (env : Env) (tab : Nat → Option Hosts) (param key : Bytes) (vers : List Bytes)
    (req : Req) (path : Bytes) (ps : Params) :
    (Matcher.headerVersion param key vers).run env tab req path ps =
      match headerVersionMatch param key vers req ps with
      | some ps' => .accept path ps'
      | none => .reject path ps :=
  run_headerVersion env tab param key vers req path ps

-- "/v1/", "/v11/" from "v1", "/v11"; path "/v11/x/v1/y" picks v11 (v1/ is not a prefix), removes it once.
example : normVersion [118, 49] = some [47, 118, 49, 47] ∧ normVersion [47, 118, 49, 49] = some [47, 118, 49, 49, 47] ∧
    normVersion [47] = some [47] := by decide +kernel
example : Normalised [[47, 118, 49, 47], [47, 118, 49, 49, 47]] := by
  intro ver h; simp at h; rcases h with h | h <;> subst h <;> decide
example : pathVersionMatch [118] [[47, 118, 49, 47], [47, 118, 49, 49, 47]]
      [47, 118, 49, 49, 47, 120, 47, 118, 49, 47, 121] [] =
    .ok (some ([47, 120, 47, 118, 49, 47, 121], [([118], [47, 118, 49, 49])])) := by rfl
-- "/v1" without a trailing slash is rejected
example : pathVersionMatch [118] [[47, 118, 49, 47]] [47, 118, 49] [] = .ok none := by rfl
-- the rejecting hypothesis of C15_untouched is satisfiable
example : (Matcher.pathVersion [118] [[47, 118, 49, 47]]).run ⟨fun _ _ => true⟩ (fun _ => none) ⟨[71], [47, 120], [], [], none⟩ [47, 120] []
    = .reject [47, 120] [] := by
  rw [C15_path_run]; rfl
-- header matcher: Accept present, media type parameter "version" = "2" listed
example : headerVersionMatch [118] [118] [[50]] ⟨[71], [47], [], [(hAccept, [[120]])], some [([118], [50])]⟩ [] =
    some [([118], [50])] := by decide +kernel

end Mux.C15
