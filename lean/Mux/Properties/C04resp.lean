/-
  C04 (responses) — the `Allow` header of the OPTIONS and the 405 RESPONSE, through `Router.serveHTTP`, and
  `OPTIONS *` against `Routes()`.

  `C04.lean` stops at "which node dispatch reports" (`C04_views_agree`) and at the node's `Methods()`
  (`C04_node`).  Here:
    * `C04_auto_bases`      — the entry stored under OPTIONS / `""` on every node with handlers IS the automatic
                              OPTIONS / 405 handler (keyed base invariant, every history, no hypothesis on patterns);
    * `C04_allow_response`  — for a request answered on a matched node by OPTIONS or by a 405, the response record
                              `Router.serveHTTP` returns carries `Allow: <rendering of the node's method set>`;
    * `C04_star_routes`     — the method set of `OPTIONS *` against the observable `Routes()`;
    * `C04_star_response`   — the response record of the request `OPTIONS *` with that set in its `Allow` header.
-/
import Mux.Proofs.AutoServe
import Mux.Proofs.ReachAll
import Mux.Proofs.RunFuel
import Mux.Properties.C04
namespace Mux.C04
open Mux Mux.P10 Mux.P18

/-- The keyed base invariant: wherever a node stores something under OPTIONS it has the tree's options base, and
wherever it stores something under `""` it has the tree's not-allowed base. -/
def AutoBases (t : Tree) : Prop := ∀ n ∈ t.root.nodes, ∀ h,
  (n.handlers.get? mOPTIONS = some h → h.base = t.optionsBase) ∧
  (n.handlers.get? mNotAllowed = some h → h.base = t.notAllowedBase)

/-- On every tree a history of `Handle/Remove/Clean/Use` produces (`Tree.Reach`, no hypothesis on
the patterns), `AutoBases` holds, and every node (root included) that has handlers HAS an OPTIONS entry whose base is
the tree's options base and a `""` (405) entry whose base is the tree's not-allowed base: they are the automatic
handlers, never a user handler. -/
theorem C04_auto_bases {t : Tree} (hr : t.Reach) :
    AutoBases t ∧
    ∀ n ∈ t.root.nodes, n.handlers ≠ [] →
      ∃ ho hna, n.handlers.get? mOPTIONS = some ho ∧ ho.base = t.optionsBase ∧
        n.handlers.get? mNotAllowed = some hna ∧ hna.base = t.notAllowedBase := by
  have ha := hr.auto
  refine ⟨fun n hn h => ⟨(ha.get hn).options h, (ha.get hn).notAllowed h⟩, ?_⟩
  intro n hn hne
  obtain ⟨h1, h2⟩ := hr.inv.has_entries hn hne
  obtain ⟨vn, hna⟩ := AMap.exists_get?_of_mem h1
  obtain ⟨vo, ho⟩ := AMap.exists_get?_of_mem h2
  exact ⟨vo, vn, ho, (ha.get hn).options vo ho, hna, (ha.get hn).notAllowed vn hna⟩

/-- The same for a router made by `NewRouter` and any history: the two bases are the builders `NewRouter` passes
(`Base.options`: answers `Allow: node.AllowHeader()`; `Base.notAllowed`: the same plus status 405). -/
theorem C04_auto_bases_router {cfg : RouterCfg} {r0 : Router} (hnew : Router.new cfg = some r0) (ops : List ROp) :
    ∀ n ∈ (r0.run ops).tree.root.nodes, n.handlers ≠ [] →
      ∃ ho hna, n.handlers.get? mOPTIONS = some ho ∧ ho.base = .options ∧
        n.handlers.get? mNotAllowed = some hna ∧ hna.base = .notAllowed := by
  obtain ⟨b1, b2⟩ := (Router.run_treeCfg hnew ops).2.2.2
  have := (C04_auto_bases (run_reach hnew ops).tree).2
  rw [b1, b2] at this
  exact this

/-- Take a router made by `NewRouter cfg` and ANY history `ops`, any request, any panic
configuration and handler scripts, and let `Router.ServeHTTP` make the call `c` with a matched node `n`
(`c.node = some n`).  Then `n` is a node of the tree that has handlers, `AllowHeader()` of `n` is the `", "`-join of
its `Methods()`, and

* if the request method is OPTIONS: the call succeeds (`ok`), the handler called is `n`'s OPTIONS entry, it is the
  automatic OPTIONS handler, and whenever the call returns normally the response record has
  `Allow = n.AllowHeader()` on its header map, no status written by the handler (net/http then sends the implicit
  200 with that map) and no body;
* if the call is a 405 (`ok = false`): the handler called is `n`'s `""` entry, it is the automatic 405 handler, and
  whenever the call returns normally the response has status 405, the headers AS SENT (snapshot at `WriteHeader`)
  carry `Allow = n.AllowHeader()`, and there is no body;
* in both cases the call does return normally unless a middleware around the entry or the automatic handler itself
  is configured to panic (the two hypotheses of the last conjuncts).

Finally the method set that `Allow` renders is as C04 says: for a node below the root it is the methods registered by
hand on `n`, HEAD iff GET is among them, OPTIONS, and TRACE iff `cfg.trace`; for the root (the node of `OPTIONS *`) it
is OPTIONS, TRACE iff `cfg.trace`, and the methods with a positive tree-wide counter (see `C04_star_routes`).
No hypothesis on the patterns of the history. -/
theorem C04_allow_response {cfg : RouterCfg} {r0 : Router} (hnew : Router.new cfg = some r0) (ops : List ROp)
    (env : Env) (pc : PanicCfg) (scripts : Scripts) (req : Req) (ps : Params)
    {c : Call} {n : Node} {out : Outcome}
    (hs : (r0.run ops).serveHTTP env pc scripts req ps = (some c, out)) (hn : c.node = some n) :
    n ∈ (r0.run ops).tree.root.nodes ∧ n.handlers ≠ [] ∧ n.allow = joinWith [44, 32] n.methods ∧
    (req.method = mOPTIONS →
      c.ok = true ∧ n.handlers.get? mOPTIONS = some c.handler ∧ c.handler.base = .options ∧
      (∀ rec, out = .normal rec →
        rec.hdr.get hAllow = n.allow ∧ rec.code = none ∧ rec.snap = none ∧ rec.body = 0) ∧
      (mwPanic pc c.handler = none → lookupNat pc.bases Base.options.code = none → ∃ rec, out = .normal rec)) ∧
    (c.ok = false →
      n.handlers.get? mNotAllowed = some c.handler ∧ c.handler.base = .notAllowed ∧
      (∀ rec, out = .normal rec →
        rec.code = some 405 ∧ rec.snap.map (·.get hAllow) = some n.allow ∧ rec.hdr.get hAllow = n.allow ∧
        rec.body = 0) ∧
      (mwPanic pc c.handler = none → lookupNat pc.bases Base.notAllowed.code = none → ∃ rec, out = .normal rec)) ∧
    ((n ∈ nodesL (r0.run ops).tree.root.children ∧
        ∀ m, m ∈ n.methods ↔
          m ∈ n.registered ∨ (m = mHEAD ∧ mGET ∈ n.registered) ∨ m = mOPTIONS ∨ (cfg.trace = true ∧ m = mTRACE)) ∨
     (n = (r0.run ops).tree.root ∧
        ∀ m, m ∈ n.methods ↔
          m = mOPTIONS ∨ (cfg.trace = true ∧ m = mTRACE) ∨ m ∈ liveMethods (r0.run ops).tree.counts)) := by
  obtain ⟨hc, hout⟩ := serveHTTP_call.1 hs
  have hreach := (run_reach hnew ops).tree
  obtain ⟨htr, _, _, b1, b2⟩ := Router.run_treeCfg hnew ops
  obtain ⟨hmem, hne, hopt, hna⟩ := call_auto hreach.inv hreach.auto env req ps hc hn
  have hallow : c.allow = n.allow := by simp [Call.allow, hn]
  rw [← htr]
  refine ⟨hmem, hne, rfl, fun hm => ?_, fun hok => ?_, ?_⟩
  · obtain ⟨h1, h2, h3, h4⟩ := hopt hm
    obtain ⟨hrec, hret⟩ := outcome_base (h3.trans b1) rfl h4 hout
    refine ⟨h1, h2, h3.trans b1, fun rec h => ?_, hret⟩
    rw [hrec rec h, hallow]
    exact ⟨Hdr.get_set_self _ _ _, rfl, rfl, rfl⟩
  · obtain ⟨h1, h2, h3⟩ := hna hok
    obtain ⟨hrec, hret⟩ := outcome_base (h2.trans b2) rfl h3 hout
    refine ⟨h1, h2.trans b2, fun rec h => ?_, hret⟩
    rw [hrec rec h, hallow]
    exact ⟨rfl, congrArg some (Hdr.get_set_self _ _ _), Hdr.get_set_self _ _ _, rfl⟩
  · rw [Node.nodes_eq] at hmem
    rcases List.mem_cons.1 hmem with rfl | hbelow
    · exact .inr ⟨rfl, root_methods hreach.inv2⟩
    · exact .inl ⟨hbelow, (C04_node hreach hbelow hne).2.2.2.2.1⟩

theorem cntE_pos (m : Bytes) (es : List (Bytes × AMap Handler)) :
    0 < P11.cntE m es ↔ ∃ e ∈ es, m ∈ regKeys e.2 := by
  unfold P11.cntE
  rw [List.length_pos_iff_exists_mem]
  constructor
  · rintro ⟨e, he⟩
    rw [List.mem_filter] at he
    exact ⟨e, he.1, by simpa using he.2⟩
  · rintro ⟨e, he, hm⟩
    exact ⟨e, List.mem_filter.2 ⟨he, by simpa using hm⟩⟩

/-- The two observables `OPTIONS *` and `Routes()` against each other, at router level over
histories.  The method set the root answers `OPTIONS *` with (the `Allow` of that response is its rendering, by
`C04_allow_response` with `n` = the root) consists of OPTIONS, TRACE iff the option is configured, and EXACTLY the
non-automatic methods (not HEAD, not OPTIONS, not the configured TRACE) that appear in some entry of `Routes()`; on a
brand-new router (`ops = []`), after removals and after `Clean` alike.
Hypothesis `hwf`: every pattern REGISTERED by the history has balanced, non-nested braces (the global domain
restriction of the route-table theorems C03/`C04_star`, DESIGN §0.4b); arguments of `Remove/Clean/Use` are arbitrary. -/
theorem C04_star_routes {cfg : RouterCfg} {r0 : Router} (hnew : Router.new cfg = some r0) (ops : List ROp)
    (hwf : ∀ op ∈ ops, ROp.wf op = true) (m : Bytes) :
    m ∈ (r0.run ops).tree.root.methods ↔
      m = mOPTIONS ∨ (cfg.trace = true ∧ m = mTRACE) ∨
      ∃ x ∈ (r0.run ops).routes, m ∈ x.2 ∧ m ≠ mHEAD ∧ m ≠ mOPTIONS ∧ ¬ (cfg.trace = true ∧ m = mTRACE) := by
  obtain ⟨tb, hsim⟩ := (reachAll_run hnew hwf).sim
  have htr := (Router.run_treeCfg hnew ops).1
  rw [← htr]
  exact P11.star_routes hsim m

/-- The call made for `OPTIONS *` is attached to the root node (any tree with the invariant). -/
theorem star_call {r : Router} (hinv : TreeInv r.tree) (env : Env) (req : Req) (ps : Params)
    (hm : req.method = mOPTIONS) (hp : req.path = [42]) :
    ∃ c, r.serveContext env req ps = .call c ∧ c.node = some r.tree.root := by
  obtain ⟨_, _, _, _, _, _, _, c8, c9, _⟩ := method_consts_ne
  have hne := hinv.root_handlers_ne
  obtain ⟨h, hg⟩ := AMap.exists_get?_of_mem (hinv.has_entries (n := r.tree.root) (by rw [Node.nodes_eq]; simp) hne).2
  rw [Router.serveContext_eq, hm, hp, Tree.handler_noTrace (.inr c9), handlerNoTrace_eq, Tree.matched_of_eq (.inr rfl),
    Tree.answer, if_neg hne, Node.answer_of_get ps c8 hg]
  exact ⟨_, rfl, rfl⟩

/-- The RESPONSE to `OPTIONS *` against `Routes()`.  On a router made by `NewRouter` and a history
`ops` (registered patterns with balanced, non-nested braces: `hwf`, as in `C04_star_routes`), `Router.ServeHTTP` answers
the request `OPTIONS *` from the root node with the automatic OPTIONS handler; whenever that call returns normally the
response carries `Allow:` the `", "`-join of a sorted duplicate-free list `ms` and nothing else is written (implicit 200,
no body); and `ms` consists of OPTIONS, TRACE iff the option is configured, and exactly the non-automatic methods that
appear in some entry of `Routes()`. -/
theorem C04_star_response {cfg : RouterCfg} {r0 : Router} (hnew : Router.new cfg = some r0) (ops : List ROp)
    (hwf : ∀ op ∈ ops, ROp.wf op = true) (env : Env) (pc : PanicCfg) (scripts : Scripts) (req : Req) (ps : Params)
    (hm : req.method = mOPTIONS) (hp : req.path = [42]) :
    ∃ c out ms, (r0.run ops).serveHTTP env pc scripts req ps = (some c, out) ∧
      c.node = some (r0.run ops).tree.root ∧ c.ok = true ∧ c.handler.base = .options ∧
      ms = (r0.run ops).tree.root.methods ∧
      ms.Pairwise (fun a b => bytesLt a b = true) ∧ ms.Nodup ∧
      (∀ rec, out = .normal rec →
        rec.hdr.get hAllow = joinWith [44, 32] ms ∧ rec.code = none ∧ rec.snap = none ∧ rec.body = 0) ∧
      (mwPanic pc c.handler = none → lookupNat pc.bases Base.options.code = none → ∃ rec, out = .normal rec) ∧
      (∀ m, m ∈ ms ↔ m = mOPTIONS ∨ (cfg.trace = true ∧ m = mTRACE) ∨
        ∃ x ∈ (r0.run ops).routes, m ∈ x.2 ∧ m ≠ mHEAD ∧ m ≠ mOPTIONS ∧ ¬ (cfg.trace = true ∧ m = mTRACE)) := by
  have hreach := (run_reach hnew ops).tree
  obtain ⟨c, hc, hn⟩ := star_call hreach.inv env req ps hm hp
  have hs := (serveHTTP_call (pc := pc) (scripts := scripts)).2 ⟨hc, rfl⟩
  obtain ⟨_, _, _, hopt, _, _⟩ := C04_allow_response hnew ops env pc scripts req ps hs hn
  obtain ⟨h1, _, h3, h4, h5⟩ := hopt hm
  exact ⟨c, _, _, hs, hn, h1, h3, rfl, renderMethods_sorted _, renderMethods_nodup _, h4, h5,
    C04_star_routes hnew ops hwf⟩

/-! ## Non-vacuity -/

def exCfg : RouterCfg := { name := [114], trace := true }   -- "r"
def exR0 : Router := (Router.new exCfg).getD default
theorem exNew : Router.new exCfg = some exR0 := rfl
def exEnv : Env := ⟨fun _ _ => true⟩
/-- `GET,POST /a/{id}` with middleware 2, `Use(3)`, POST removed again, a second route `PUT /a`. -/
def exOps : List ROp :=
  [.handle (bytesOfString "/a/{id}") 7 [2] [mGET, mPOST], .use [3], .remove (bytesOfString "/a/{id}") [mPOST],
   .handle (bytesOfString "/a") 8 [] [mPUT]]

theorem exOps_wf : ∀ op ∈ exOps, ROp.wf op = true := by decide +kernel

/-- A decidable view of a response: the call has a node and the given `ok`, and it returned normally with the given
`Allow` on the live map, status, `Allow` as sent, and body size. -/
def respIs (x : Option Call × Outcome) (ok : Bool) (allow : Bytes) (code : Option Nat) (sent : Option Bytes)
    (body : Nat) : Bool :=
  match x with
  | (some c, .normal rec) =>
    c.ok == ok && c.node.isSome && rec.hdr.get hAllow == allow && rec.code == code &&
      rec.snap.map (·.get hAllow) == sent && rec.body == body
  | _ => false

theorem respIs_true {x : Option Call × Outcome} {ok : Bool} {allow : Bytes} {code : Option Nat} {sent : Option Bytes}
    {body : Nat} (h : respIs x ok allow code sent body = true) :
    ∃ c rec n, x = (some c, .normal rec) ∧ c.node = some n ∧ c.ok = ok := by
  unfold respIs at h
  split at h
  · rename_i c rec
    simp only [Bool.and_eq_true] at h
    obtain ⟨n, hn⟩ := Option.isSome_iff_exists.1 h.1.1.1.1.2
    exact ⟨c, rec, n, rfl, hn, eq_of_beq h.1.1.1.1.1⟩
  · cases h

/-- The history is evaluated once, for all the facts below. -/
private theorem exRun :
    respIs ((exR0.run exOps).serveHTTP exEnv {} [] { method := mOPTIONS, path := bytesOfString "/a/5" } [])
      true (bytesOfString "GET, HEAD, OPTIONS, TRACE") none none 0 = true ∧
    respIs ((exR0.run exOps).serveHTTP exEnv {} [] { method := mPOST, path := bytesOfString "/a/5" } [])
      false (bytesOfString "GET, HEAD, OPTIONS, TRACE") (some 405) (some (bytesOfString "GET, HEAD, OPTIONS, TRACE")) 0 =
      true ∧
    respIs ((exR0.run exOps).serveHTTP exEnv {} [] { method := mOPTIONS, path := [42] } [])
      true (bytesOfString "GET, OPTIONS, PUT, TRACE") none none 0 = true ∧
    ((exR0.run exOps).routes =
      [([42], [mOPTIONS, mTRACE]), (bytesOfString "/a", [mOPTIONS, mPUT, mTRACE]),
       (bytesOfString "/a/{id}", [mGET, mHEAD, mOPTIONS, mTRACE])] ∧
      (exR0.run exOps).tree.root.methods = [mGET, mOPTIONS, mPUT, mTRACE]) ∧
    ((exR0.run exOps).tree.root.nodes.filter (fun n => !n.handlers.isEmpty)).length = 3 := by
  simp only [Router.run_eq_F, exOps, bytesOfString_eq_data]
  decide +kernel

/-- `OPTIONS /a/5` after the history: answered with `Allow: GET, HEAD, OPTIONS, TRACE` on the live map, no status. -/
example : respIs ((exR0.run exOps).serveHTTP exEnv {} [] { method := mOPTIONS, path := bytesOfString "/a/5" } [])
    true (bytesOfString "GET, HEAD, OPTIONS, TRACE") none none 0 = true := exRun.1
/-- `POST /a/5` (POST was removed): 405 with `Allow: GET, HEAD, OPTIONS, TRACE` as sent. -/
theorem ex405 : respIs ((exR0.run exOps).serveHTTP exEnv {} [] { method := mPOST, path := bytesOfString "/a/5" } [])
    false (bytesOfString "GET, HEAD, OPTIONS, TRACE") (some 405) (some (bytesOfString "GET, HEAD, OPTIONS, TRACE")) 0 =
    true := exRun.2.1
/-- `OPTIONS *`: the root's set (the hypotheses of `C04_star_response` are just the shape of the request). -/
example : respIs ((exR0.run exOps).serveHTTP exEnv {} [] { method := mOPTIONS, path := [42] } [])
    true (bytesOfString "GET, OPTIONS, PUT, TRACE") none none 0 = true := exRun.2.2.1
/-- …so the hypotheses of `C04_allow_response` are satisfiable on this history (405 case), with a normal return. -/
example : ∃ c n rec, (exR0.run exOps).serveHTTP exEnv {} [] { method := mPOST, path := bytesOfString "/a/5" } [] =
    (some c, .normal rec) ∧ c.node = some n ∧ c.ok = false := by
  obtain ⟨c, rec, n, h1, h2, h3⟩ := respIs_true ex405
  exact ⟨c, n, rec, h1, h2, h3⟩
/-- `Routes()` of the same router, and the root's method set: `GET` and `PUT` are the non-automatic methods of the
entries, as `C04_star_routes` says. -/
example : (exR0.run exOps).routes =
    [([42], [mOPTIONS, mTRACE]), (bytesOfString "/a", [mOPTIONS, mPUT, mTRACE]),
     (bytesOfString "/a/{id}", [mGET, mHEAD, mOPTIONS, mTRACE])] ∧
    (exR0.run exOps).tree.root.methods = [mGET, mOPTIONS, mPUT, mTRACE] := exRun.2.2.2.1
/-- a reachable tree (hypothesis of `C04_auto_bases`) with a node that has handlers -/
example : (exR0.run exOps).tree.Reach ∧
    ((exR0.run exOps).tree.root.nodes.filter (fun n => !n.handlers.isEmpty)).length = 3 :=
  ⟨(run_reach exNew exOps).tree, exRun.2.2.2.2⟩

end Mux.C04
