/-
  C02 (remaining parts) — B3 "404 exactly when the documented procedure finds no route", the
  first-chain ("no widening") reading of the depth-first search, and the refinement of the tree-free
  reference resolver `Spec.resolveAll` (`Mux/Spec/Resolve.lean`) by every tree in canonical form.

  * `Reaches env ic n path ps m ps'` (`Mux/Proofs/MatchSound.lean`): a chain of children from `n`,
    each child's deterministic per-segment match `Seg.match` (first candidate only) succeeding on the
    remaining path, ending in the node `m` with handlers when the path is used up.  `ReachesBy` is the
    same with the positions in the child lists made explicit, `Before` (`Mux/Proofs/ResolveReach.lean`) the
    depth-first order on such index paths (children in list order, a node's own "path used up" case last).
  * Hypotheses: `StructInv2 t` (the structural invariant incl. distinct first bytes of literal
    siblings; holds of every tree reached by a history registering tidy patterns, `struct2_reach`) and
    the parameter-tracking hypotheses `NamesOkL` of `C02_priority`.
  * `matchChildren` may answer `unsupported` (a regexp outside the modelled dialect on a non-ASCII
    path): then nothing is claimed; `C02_supported` shows that this never happens on ASCII paths.

  * B4 (`C02_canonical`): after ANY add-only history of well-formed patterns (any order, whatever the
    accept/reject verdicts) the tree is in canonical form for its own route table.  Proof: `getNode`
    keeps every node "forked or live" (`ResolveForked.lean`, uses that `longestPrefix` is exact), and a
    tree with the shape invariant `Sh` all of whose nodes are forked or live IS canonical
    (`ResolveStatic.lean`).  The reference resolver does not depend on the order in which the routes
    are listed (`ResolveRems.lean`), hence the FULL statement `C02_resolve` below: every dispatch of
    every add-only history answers with an outcome the documented procedure admits for the set of
    registered routes, and with 404 exactly when the procedure finds no route.
-/
import Mux.Proofs.ResolveExamples
import Mux.Proofs.HandlerSound
import Mux.Proofs.ResolveHistory
import Mux.Proofs.ReachAll
namespace Mux.C02
open Mux Mux.P8 Mux.P15 Mux.Spec

/-! ## B3: completeness of the search -/

/-- **No fault.** On a tree with the structural invariant the matcher never faults. -/
theorem C02_match_no_fault (env : Env) (t : Tree) (hs : StructInv2 t) (n : Node) (hn : n ∈ t.root.nodes)
    (path : Bytes) (ps : Params) (used : List Bytes) (hN : NamesOkL used n.children) (hk : ∀ k ∈ ps.keys, k ∈ used)
    (s : Nat) : n.matchChildren env t.ic path ps ≠ .fault s :=
  (complete_names env t.ic (All_sub _ hs.all n hn) path ps used hN hk).1 s

/-- **A miss means that nothing is reachable** (and leaves the parameters alone). -/
theorem C02_complete_miss (env : Env) (t : Tree) (hs : StructInv2 t) (n : Node) (hn : n ∈ t.root.nodes)
    (path : Bytes) (ps : Params) (used : List Bytes) (hN : NamesOkL used n.children) (hk : ∀ k ∈ ps.keys, k ∈ used)
    (ps' : Params) (h : n.matchChildren env t.ic path ps = .miss ps') :
    ps' = ps ∧ ¬ ∃ m ps'', Reaches env t.ic n path ps m ps'' := by
  obtain ⟨h1, h2⟩ := (complete_names env t.ic (All_sub _ hs.all n hn) path ps used hN hk).2.1 ps' h
  refine ⟨h1, ?_⟩
  rintro ⟨m, ps'', hr⟩
  obtain ⟨is, his⟩ := reaches_iff.1 hr
  exact h2 is m ps'' his

/-- **The hit is the FIRST chain** in depth-first order: it is reached by an index path `is`, and every
index path along which the per-segment matches succeed down to a node with handlers is `is` itself or
comes after `is`.  An alternative is given up only by falling back to the next choice — a later
sibling, or the node's own "path used up" case — never by widening an earlier capture (`Seg.match`
yields one candidate per segment). -/
theorem C02_first_chain (env : Env) (t : Tree) (hs : StructInv2 t) (n : Node) (hn : n ∈ t.root.nodes)
    (path : Bytes) (ps : Params) (used : List Bytes) (hN : NamesOkL used n.children) (hk : ∀ k ∈ ps.keys, k ∈ used)
    (m : Node) (ps' : Params) (h : n.matchChildren env t.ic path ps = .hit m ps') :
    ∃ is, ReachesBy env t.ic n path ps is m ps' ∧
      ∀ is' m' ps'', ReachesBy env t.ic n path ps is' m' ps'' → is' = is ∨ Before is is' :=
  (complete_names env t.ic (All_sub _ hs.all n hn) path ps used hN hk).2.2 m ps' h

/-- Consequently a hit is reachable (`Reaches` form). -/
theorem C02_hit_reaches (env : Env) (t : Tree) (hs : StructInv2 t) (n : Node) (hn : n ∈ t.root.nodes)
    (path : Bytes) (ps : Params) (used : List Bytes) (hN : NamesOkL used n.children) (hk : ∀ k ∈ ps.keys, k ∈ used)
    (m : Node) (ps' : Params) (h : n.matchChildren env t.ic path ps = .hit m ps') : Reaches env t.ic n path ps m ps' := by
  obtain ⟨is, his, _⟩ := C02_first_chain env t hs n hn path ps used hN hk m ps' h
  exact reaches_iff.2 ⟨is, his⟩

/-- **B3**: the matcher misses EXACTLY when no chain of per-segment matches leads to a
node with handlers, and hits exactly when one does (the answer `unsupported` excluded). -/
theorem C02_complete (env : Env) (t : Tree) (hs : StructInv2 t) (n : Node) (hn : n ∈ t.root.nodes)
    (path : Bytes) (ps : Params) (used : List Bytes) (hN : NamesOkL used n.children) (hk : ∀ k ∈ ps.keys, k ∈ used)
    (hsup : n.matchChildren env t.ic path ps ≠ .unsupported) :
    (n.matchChildren env t.ic path ps = .miss ps ↔ ¬ ∃ m ps', Reaches env t.ic n path ps m ps') ∧
    ((∃ m ps', n.matchChildren env t.ic path ps = .hit m ps') ↔ ∃ m ps', Reaches env t.ic n path ps m ps') :=
  complete_iff env t.ic (All_sub _ hs.all n hn) path ps used hN hk hsup

/-- On an ASCII path the matcher stays inside the modelled regexp domain. -/
theorem C02_supported (env : Env) (t : Tree) (hs : StructInv2 t) (n : Node) (hn : n ∈ t.root.nodes)
    (path : Bytes) (hp : isAscii path = true) (ps : Params) (used : List Bytes) (hN : NamesOkL used n.children)
    (hk : ∀ k ∈ ps.keys, k ∈ used) : n.matchChildren env t.ic path ps ≠ .unsupported :=
  supported_node env t.ic (SOk2.all_SOk _ (All_sub _ hs.all n hn)) path ps hp

/-- `C02_complete` for trees reached by histories that register tidy patterns, ASCII paths: no
hypothesis on the tree or on the answer is left. -/
theorem C02_complete_tidy (env : Env) (t : Tree) (ht : ReachTidy t) (n : Node) (hn : n ∈ t.root.nodes)
    (path : Bytes) (hp : isAscii path = true) (ps : Params) (used : List Bytes) (hN : NamesOkL used n.children)
    (hk : ∀ k ∈ ps.keys, k ∈ used) :
    (n.matchChildren env t.ic path ps = .miss ps ↔ ¬ ∃ m ps', Reaches env t.ic n path ps m ps') ∧
    ((∃ m ps', n.matchChildren env t.ic path ps = .hit m ps') ↔ ∃ m ps', Reaches env t.ic n path ps m ps') :=
  C02_complete env t (struct2_reach ht) n hn path ps used hN hk
    (C02_supported env t (struct2_reach ht) n hn path hp ps used hN hk)

/-- The depth-first order is a strict total order on index paths. -/
theorem C02_before_order : (∀ a, ¬ Before a a) ∧ (∀ a b c, Before a b → Before b c → Before a c) ∧
    (∀ a b, a = b ∨ Before a b ∨ Before b a) :=
  ⟨Before.irrefl, fun _ _ _ => Before.trans, Before.total⟩

/-- The index path determines the chain (each segment has ONE candidate match). -/
theorem C02_chain_deterministic (env : Env) (ic : Interceptors) (n : Node) (path : Bytes) (ps : Params) (is : List Nat)
    (m m' : Node) (ps' ps'' : Params) (h : ReachesBy env ic n path ps is m ps') (h' : ReachesBy env ic n path ps is m' ps'') :
    m' = m ∧ ps'' = ps' :=
  h.deterministic h'

/-! ## The reference resolver: the cases of DESIGN §7 -/

/-- Interceptor `any` (id 0, non-empty text) and `digit` (id 1). -/
def exIc : Interceptors := [([97, 110, 121], 0), ([100, 105, 103, 105, 116], 1)]
def exEnv : Env := { icpt := fun id p => if id = 0 then matchAny p else if id = 1 then matchDigit p else false }

/-- D1: `/users/{id}/{page:\d+}`, `/users/{id}/{action}/log`; `/users/5/7/log` resolves to the second
route with `id=5, action=7` (the regexp sibling matches `7` but fails on `/log` and is abandoned). -/
example : resolveAll exEnv exIc [exPA, exPB] exPathD1 =
    [(exPB, [([105, 100], [53]), ([97, 99, 116, 105, 111, 110], [55])])] := by decide +kernel

/-- D19: `/x/{v:any}aa` on `/x/aaa`: the first candidate (`v=""`) is rejected by the interceptor, the
search resumes ONE byte further and finds `v=a`. -/
example : resolveAll exEnv exIc [[47, 120, 47, 123, 118, 58, 97, 110, 121, 125, 97, 97]] [47, 120, 47, 97, 97, 97] =
    [([47, 120, 47, 123, 118, 58, 97, 110, 121, 125, 97, 97], [([118], [97])])] := by decide +kernel

/-- D22: `/p/{name}` and `/p/{n}/x` are different tokens, hence different groups: `/p/1` resolves to
the first route … -/
example : resolveAll exEnv exIc [[47, 112, 47, 123, 110, 97, 109, 101, 125], [47, 112, 47, 123, 110, 125, 47, 120]]
    [47, 112, 47, 49] = [([47, 112, 47, 123, 110, 97, 109, 101, 125], [([110, 97, 109, 101], [49])])] := by decide +kernel

/-- … and on `/p/1/x` both same-kind groups succeed (freedom 1): `{name}=1/x` and `{n}=1`. -/
example : resolveAll exEnv exIc [[47, 112, 47, 123, 110, 97, 109, 101, 125], [47, 112, 47, 123, 110, 125, 47, 120]]
    [47, 112, 47, 49, 47, 120] =
    [([47, 112, 47, 123, 110, 97, 109, 101, 125], [([110, 97, 109, 101], [49, 47, 120])]),
     ([47, 112, 47, 123, 110, 125, 47, 120], [([110], [49])])] := by decide +kernel

/-- Freedom 2: `/a` and `/a{x}` on `/a`: the empty remainder and the parameter matching the empty rest. -/
example : resolveAll exEnv exIc [[47, 97], [47, 97, 123, 120, 125]] [47, 97] =
    [([47, 97, 123, 120, 125], [([120], [])]), ([47, 97], [])] := by decide +kernel

/-- No route: 404. -/
example : Admissible exEnv exIc [exPA, exPB] [47, 117, 115, 101, 114, 115, 47, 53] none := by decide +kernel

/-! ## C: trees in canonical form refine the resolver -/

/-- **Canonical form** of the tree for the route patterns `rs`: below the root, the children of every
node carry, up to order, the texts of the groups the reference resolver forms from the remainders
below that node; every child stands for the members of its group; a node has handlers iff one of its
remainders is empty, and then its pattern is that route.  (The kind order of the children is part of
`StructInv2`.)  Decidable: checked by `decide` below. -/
def Canonical (t : Tree) (rs : List Bytes) : Prop :=
  KidsCanon t.root.children (rs.map (fun p => (p, p)))

instance (t : Tree) (rs : List Bytes) : Decidable (Canonical t rs) := by unfold Canonical; infer_instance

/-- The outcome of a dispatch as the resolver reports it: `none` for 404, else route and parameters. -/
def outcome (f : Found) : Option (Bytes × Params) := f.node.map (fun n => (n.pattern, f.params))

/-- Node-level form: for a node standing for the remainders `R`, a hit is a member of the resolver's
list and a miss means that the list is empty. -/
theorem C02_resolve_node (env : Env) (t : Tree) (hs : StructInv2 t) (n : Node) (hn : n ∈ t.root.nodes)
    (R : List Rem) (hC : Node.Canon n R) (path : Bytes) (ps : Params) (used : List Bytes)
    (hN : NamesOkL used n.children) (hk : ∀ k ∈ ps.keys, k ∈ used) :
    (∀ m ps', n.matchChildren env t.ic path ps = .hit m ps' → (m.pattern, ps') ∈ resolveRems env t.ic R path ps) ∧
    (∀ ps', n.matchChildren env t.ic path ps = .miss ps' → resolveRems env t.ic R path ps = []) :=
  have hall := All_sub _ hs.all n hn
  refines_of_resolves hall hN hk (resolves_node env t.ic n (SOk2.all_SOk _ hall) R hC path ps used hN hk)

/-- On a tree in canonical form for `rs` (with the structural invariant and
distinct parameter names along every chain), every dispatch of a path other than `""` and `*` answers
with an outcome the documented procedure admits: the route and parameters are a member of
`Spec.resolveAll … rs path`, and the answer is 404 only if that list is empty. -/
theorem C02_resolve_partial (env : Env) (t : Tree) (rs : List Bytes) (hs : StructInv2 t) (hC : Canonical t rs)
    (hN : NamesOkL [] t.root.children) (path : Bytes) (hp : path ≠ []) (hstar : path ≠ [42]) (method : Bytes)
    (htr : t.trace = none ∨ method ≠ mTRACE) (f : Found) (h : t.handler env path [] method = .res f) :
    Admissible env t.ic rs path (outcome f) :=
  admissible_of_resolves hs hN (resolves_canon env t.ic t.root (SOk2.all_SOk _ hs.all) (rs.map (fun p => (p, p))) path [] []
    hC (fun e => absurd e hp) hN (by simp [AMap.keys])) hp hstar htr h

/-- "404 exactly when the procedure finds no route", resolver form. -/
theorem C02_resolve_404_iff (env : Env) (t : Tree) (rs : List Bytes) (hs : StructInv2 t) (hC : Canonical t rs)
    (hN : NamesOkL [] t.root.children) (path : Bytes) (hp : path ≠ []) (hstar : path ≠ [42]) (method : Bytes)
    (htr : t.trace = none ∨ method ≠ mTRACE) (f : Found) (h : t.handler env path [] method = .res f) :
    f.node = none ↔ resolveAll env t.ic rs path = [] :=
  admissible_none_iff (C02_resolve_partial env t rs hs hC hN path hp hstar method htr f h)

/-! ## B4: every add-only history builds a canonical tree; the full theorem -/

/-- **B4.**  After an add-only history of well-formed patterns — in any order, each
registration accepted or rejected — the tree is in canonical form for its own route table. -/
theorem C02_canonical (name : Bytes) (ic : Interceptors) (nf : Handler) (tr : Option Handler) (ob nb : Base)
    (ops : List TOp) (ha : AddOnly ops) (hw : ∀ op ∈ ops, op.wf = true) :
    Canonical ((Tree.new name ic nf tr ob nb).run ops) (tableOf ((Tree.new name ic nf tr ob nb).run ops)).patterns :=
  canonical_of_FInv (finv_history name ic nf tr ob nb ops ha hw)

/-- The invariant behind it: every node below the root whose pattern is not a registered route has a
parameter child or two children that start with different bytes. -/
theorem C02_forked (name : Bytes) (ic : Interceptors) (nf : Handler) (tr : Option Handler) (ob nb : Base)
    (ops : List TOp) (ha : AddOnly ops) (hw : ∀ op ∈ ops, op.wf = true) (x : Node)
    (hx : x ∈ nodesL ((Tree.new name ic nf tr ob nb).run ops).root.children) : x.handlers ≠ [] ∨ Forked x.children :=
  ((All_iff_nodes _).2 _).1 (finv_history name ic nf tr ob nb ops ha hw).allTT x hx

/-- The specification does not depend on how the routes are listed. -/
theorem C02_spec_order_independent (env : Env) (ic : Interceptors) (rs rs' : List Bytes) (h : ∀ p, p ∈ rs ↔ p ∈ rs')
    (path : Bytes) (o : Option (Bytes × Params)) : Admissible env ic rs path o ↔ Admissible env ic rs' path o := by
  have hs := resolveAll_setEq env ic (rs := rs) (rs' := rs') h path
  cases o with
  | none => exact hs.nil_iff
  | some o => exact hs o

/-- **The full statement.**  For every add-only history of well-formed patterns, in any
registration order, and every list `rs` of exactly the routes the router holds: every dispatch of a
path other than `""` and `*` answers with a route and parameters that the documented procedure
admits for `rs`, and with 404 only if the procedure finds no route. -/
theorem C02_resolve (env : Env) (name : Bytes) (ic : Interceptors) (nf : Handler) (tr : Option Handler) (ob nb : Base)
    (ops : List TOp) (ha : AddOnly ops) (hw : ∀ op ∈ ops, op.wf = true) (rs : List Bytes)
    (hrs : ∀ p, p ∈ rs ↔ p ∈ (tableOf ((Tree.new name ic nf tr ob nb).run ops)).patterns)
    (path : Bytes) (hp : path ≠ []) (hstar : path ≠ [42]) (method : Bytes) (htr : tr = none ∨ method ≠ mTRACE)
    (f : Found) (h : ((Tree.new name ic nf tr ob nb).run ops).handler env path [] method = .res f) :
    Admissible env ic rs path (outcome f) := by
  have hinv : P14.AllInv ((Tree.new name ic nf tr ob nb).run ops) := (P14.AllInv.new name ic nf tr ob nb).run hw
  have := C02_resolve_partial env _ _ hinv.s2 (C02_canonical name ic nf tr ob nb ops ha hw) hinv.names
    path hp hstar method (run_trace ops htr) f h
  rw [run_ic] at this
  exact (C02_spec_order_independent env ic _ _ hrs path _).2 this

/-- "404 exactly when the procedure finds no route", for every add-only history. -/
theorem C02_resolve_404 (env : Env) (name : Bytes) (ic : Interceptors) (nf : Handler) (tr : Option Handler) (ob nb : Base)
    (ops : List TOp) (ha : AddOnly ops) (hw : ∀ op ∈ ops, op.wf = true) (rs : List Bytes)
    (hrs : ∀ p, p ∈ rs ↔ p ∈ (tableOf ((Tree.new name ic nf tr ob nb).run ops)).patterns)
    (path : Bytes) (hp : path ≠ []) (hstar : path ≠ [42]) (method : Bytes) (htr : tr = none ∨ method ≠ mTRACE)
    (f : Found) (h : ((Tree.new name ic nf tr ob nb).run ops).handler env path [] method = .res f) :
    f.node = none ↔ resolveAll env ic rs path = [] :=
  admissible_none_iff (C02_resolve env name ic nf tr ob nb ops ha hw rs hrs path hp hstar method htr f h)

/-- When every registration is accepted, the routes the router holds are the registered patterns. -/
theorem C02_routes_registered (name : Bytes) (ic : Interceptors) (nf : Handler) (tr : Option Handler) (ob nb : Base)
    (ops : List TOp) (ha : AddOnly ops) (hw : ∀ op ∈ ops, op.wf = true)
    (hacc : Accepted (Tree.new name ic nf tr ob nb) ops) (p : Bytes) :
    p ∈ (tableOf ((Tree.new name ic nf tr ob nb).run ops)).patterns ↔ ∃ h ms methods, TOp.add p h ms methods ∈ ops := by
  have hs := (finv_history name ic nf tr ob nb ops ha hw).sim
  rw [hs.patterns p]
  unfold specRun
  rw [patterns_of_accepted ops _ _ (fun op ho => .inl (ha op ho)) hacc p]
  simp [Spec.Table.patterns]

/-- **B4, independence of the registration order.**  Two add-only histories that register the same
patterns (in any order, with any handlers and methods), every registration being accepted: both
routers hold the same routes, every path is answered by both with an outcome admissible for that
common route set, and it is a 404 for one exactly when it is a 404 for the other. -/
theorem C02_order_independent (env : Env) (name : Bytes) (ic : Interceptors) (nf : Handler) (tr : Option Handler)
    (ob nb : Base) (ops1 ops2 : List TOp) (ha1 : AddOnly ops1) (ha2 : AddOnly ops2)
    (hw1 : ∀ op ∈ ops1, op.wf = true) (hw2 : ∀ op ∈ ops2, op.wf = true)
    (hacc1 : Accepted (Tree.new name ic nf tr ob nb) ops1) (hacc2 : Accepted (Tree.new name ic nf tr ob nb) ops2)
    (hsame : ∀ p, (∃ h ms methods, TOp.add p h ms methods ∈ ops1) ↔ (∃ h ms methods, TOp.add p h ms methods ∈ ops2))
    (path : Bytes) (hp : path ≠ []) (hstar : path ≠ [42]) (method : Bytes) (htr : tr = none ∨ method ≠ mTRACE)
    (f1 f2 : Found)
    (h1 : ((Tree.new name ic nf tr ob nb).run ops1).handler env path [] method = .res f1)
    (h2 : ((Tree.new name ic nf tr ob nb).run ops2).handler env path [] method = .res f2) :
    let rs := (tableOf ((Tree.new name ic nf tr ob nb).run ops1)).patterns
    (∀ p, p ∈ rs ↔ p ∈ (tableOf ((Tree.new name ic nf tr ob nb).run ops2)).patterns) ∧
    Admissible env ic rs path (outcome f1) ∧ Admissible env ic rs path (outcome f2) ∧
    (f1.node = none ↔ f2.node = none) := by
  intro rs
  have hrs : ∀ p, p ∈ rs ↔ p ∈ (tableOf ((Tree.new name ic nf tr ob nb).run ops2)).patterns := by
    intro p
    rw [C02_routes_registered name ic nf tr ob nb ops1 ha1 hw1 hacc1 p,
      C02_routes_registered name ic nf tr ob nb ops2 ha2 hw2 hacc2 p]
    exact hsame p
  have a1 := C02_resolve env name ic nf tr ob nb ops1 ha1 hw1 rs (fun _ => Iff.rfl) path hp hstar method htr f1 h1
  have a2 := C02_resolve env name ic nf tr ob nb ops2 ha2 hw2 rs hrs path hp hstar method htr f2 h2
  exact ⟨hrs, a1, a2, by rw [admissible_none_iff a1, admissible_none_iff a2]⟩

/-! ## Non-vacuity -/

/-- The D1 table as a tree: all hypotheses of `C02_complete` … `C02_resolve_partial` hold. -/
example : StructInv2 exD1 ∧ Canonical exD1 [exPA, exPB] ∧ NamesOkL [] exD1.root.children ∧ exD1.trace = none :=
  ⟨exD1_struct, exD1_canon, exD1_names, rfl⟩

/-- On it `/users/5/7/log` is dispatched to the second route with `id=5, action=7` — the backtracking
case: the regexp child `{page:\d+}` matches `7`, its subtree misses, the named sibling takes over. -/
example : (match exD1.handler P15.envAll exPathD1 [] mGET with
    | .res f => outcome f
    | _ => none) = some (exPB, [([105, 100], [53]), ([97, 99, 116, 105, 111, 110], [55])]) := by decide +kernel

/-- The chain found is the index path `[0, 0, 1]`; `[0, 0, 0]` (through `{page:\d+}`) reaches nothing. -/
example : ReachesBy P15.envAll [] exD1.root exPathD1 [] [0, 0, 1] exActionLeaf
    [([105, 100], [53]), ([97, 99, 116, 105, 111, 110], [55])] :=
  .child (c := exUsersNode) (cap := []) (rest := [53, 47, 55, 47, 108, 111, 103]) rfl (by decide +kernel)
    (.child (c := exIdNode) (cap := [53]) (rest := [55, 47, 108, 111, 103]) rfl (by decide +kernel)
      (.child (c := exActionLeaf) (cap := [55]) (rest := []) rfl (by decide +kernel) (.here (by decide +kernel))))

/-- A miss on the same tree (`/users/5`): hypotheses of `C02_complete_miss`. -/
example : exD1.root.matchChildren P15.envAll [] [47, 117, 115, 101, 114, 115, 47, 53] [] = .miss [] := by rfl

/-- A node of the tree other than the root stands for remainders (`Node.Canon`, used by `C02_resolve_node`). -/
example : exIdNode ∈ exD1.root.nodes ∧
    Node.Canon exIdNode [([123, 112, 97, 103, 101, 58, 92, 100, 43, 125], exPA),
      ([123, 97, 99, 116, 105, 111, 110, 125, 47, 108, 111, 103], exPB)] := ⟨exD1_mem, by decide +kernel⟩

/-- A tree that is NOT canonical for a table is detected: the D1 tree does not stand for `[exPA]`. -/
example : ¬ Canonical exD1 [exPA] := by decide +kernel

/-- Hypotheses of `C02_canonical` / `C02_resolve`: the add-only history `/a`, `/a/b` of well-formed patterns. -/
example : AddOnly opsAB ∧ (∀ op ∈ opsAB, op.wf = true) := ⟨opsAB_addOnly, opsAB_wf⟩

/-- Hypotheses of `C02_order_independent`: the two registration orders of `/a`, `/a/b` (the second one
splits the node `/a/b` into `/a` + `/b`); every registration is accepted in both orders (evaluated by
the kernel), and both histories register the same patterns. -/
example : AddOnly opsAB ∧ AddOnly opsBA ∧ (∀ op ∈ opsAB, op.wf = true) ∧ (∀ op ∈ opsBA, op.wf = true) ∧
    Accepted P15.exT0 opsAB ∧ Accepted P15.exT0 opsBA ∧
    (∀ p, (∃ h ms methods, TOp.add p h ms methods ∈ opsAB) ↔ (∃ h ms methods, TOp.add p h ms methods ∈ opsBA)) :=
  ⟨opsAB_addOnly, opsBA_addOnly, opsAB_wf, opsBA_wf, accAB, accBA, opsAB_same⟩

/-- The instance of `C02_order_independent` for these two orders. -/
example (env : Env) (path : Bytes) (hp : path ≠ []) (hstar : path ≠ [42]) (f1 f2 : Found)
    (h1 : (P15.exT0.run opsAB).handler env path [] mGET = .res f1)
    (h2 : (P15.exT0.run opsBA).handler env path [] mGET = .res f2) :
    Admissible env [] (tableOf (P15.exT0.run opsAB)).patterns path (outcome f1) ∧
    Admissible env [] (tableOf (P15.exT0.run opsAB)).patterns path (outcome f2) ∧ (f1.node = none ↔ f2.node = none) :=
  let h := C02_order_independent env [114] [] { base := .notFound } none .options .notAllowed opsAB opsBA
    opsAB_addOnly opsBA_addOnly opsAB_wf opsBA_wf accAB accBA opsAB_same path hp hstar mGET (.inl rfl) f1 f2 h1 h2
  ⟨h.2.1, h.2.2.1, h.2.2.2⟩

end Mux.C02
