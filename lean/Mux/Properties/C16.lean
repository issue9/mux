/-
  C16 (closed-model part) — configured recovery contains every panic; without it panics pass
  through unchanged.

  `PanicCfg` says which user-supplied functions panic (handlers of every kind by `Base.code`,
  middlewares) and with which value; `runCall` is `r.call(w, req, ctx, h)`; `ServeRes.finish`
  applies the `defer recover()` recorded in `Call.recover` / `ServeRes.fault`.  `mwPanic`,
  `basePanic`, `rejectPath` are defined in `Mux.Proofs.Head` / `Mux.Proofs.Recover`.
-/
import Mux.Proofs.Recover
import Mux.Proofs.TreeReach
import Mux.Spec.Defs
namespace Mux.C16
open Mux

/-- The response the recovery function produces on the writer it is handed (the plain writer, or the `headResponse`
wrapper when the panic happened below it), starting from the headers set so far. -/
def recoveredRec (c : Call) : Rec := recRec c.recActs c.headWrap c.respHeaders

/-- The harness's `RecoverFunc` (records the value, writes status 500): status 500 on the headers set so far, with or
without the HEAD wrapper. -/
theorem C16_default_rec (hw : Bool) (hs : Hdr) :
    recRec defaultRecActs hw hs = ({ hdr := hs } : Rec).writeHeader 500 := by
  cases hw <;> rfl

/-- The status a client sees after `http.Error(w, text, code)` on a fresh writer: `code`, unless `code` is informational
(1xx except 101) — then `WriteHeader(code)` is not final and the `Write` of the text sends the implicit 200. -/
def errorStatus (code : Nat) : Nat := if informational code then 200 else code

/-- The bundled options (`WithStatusRecovery(status)` and the Write/Log/SLog variants) answer through
`http.Error(w, http.StatusText(status), status)`: the configured status (`errorStatus`: an informational status is not
final, the body that follows goes out with the implicit 200), `Content-Type: text/plain; charset=utf-8`,
`X-Content-Type-Options: nosniff`, any earlier Content-Length removed, and the text plus a newline as the body.
For EVERY configured status, informational ones included. -/
theorem C16_bundled_rec (code n : Nat) (hs : Hdr) :
    let h' := ((hs.del hContentLength).set hContentType (bytesOfString "text/plain; charset=utf-8")).set
                (bytesOfString "X-Content-Type-Options") (bytesOfString "nosniff")
    recRec (httpErrorActs code n) false hs =
      { hdr := h', code := some (errorStatus code), snap := some h', body := n + 1 } := by
  cases hi : informational code <;>
    simp [recRec, httpErrorActs, runGet, Rec.writeHeader, Rec.write, errorStatus, hi, informational_200]

/-- The bundled options when the panic happened below the `headResponse` wrapper of a HEAD request (the deferred closure sees the
reassigned `w`): the same status and headers at the moment the header is written, no body bytes, and Content-Length
set on the live header map afterwards.  With an informational status nothing is sent by the time the recovery function
returns (`wrote` stayed `false` at `WriteHeader`, `Write` only counts): no status, no snapshot — net/http then sends
the implicit 200 with the live map, the same status as for GET (`C16_bundled_status`). -/
theorem C16_bundled_rec_head (code n : Nat) (hs : Hdr) :
    let h' := ((hs.del hContentLength).set hContentType (bytesOfString "text/plain; charset=utf-8")).set
                (bytesOfString "X-Content-Type-Options") (bytesOfString "nosniff")
    recRec (httpErrorActs code n) true hs =
      { hdr := h'.set hContentLength (natToBytes (n + 1)),
        code := if informational code then none else some code,
        snap := if informational code then none else some h', body := 0 } := by
  cases hi : informational code <;>
    simp [recRec, httpErrorActs, runHead, Rec.writeHeader, hi]

/-- For a final status (anything but 1xx-except-101, in particular every 4xx/5xx) these are the records with that very
status. -/
theorem C16_bundled_rec_final (code n : Nat) (hs : Hdr) (hf : informational code = false) :
    let h' := ((hs.del hContentLength).set hContentType (bytesOfString "text/plain; charset=utf-8")).set
                (bytesOfString "X-Content-Type-Options") (bytesOfString "nosniff")
    recRec (httpErrorActs code n) false hs = { hdr := h', code := some code, snap := some h', body := n + 1 } ∧
    recRec (httpErrorActs code n) true hs =
      { hdr := h'.set hContentLength (natToBytes (n + 1)), code := some code, snap := some h', body := 0 } := by
  have h1 := C16_bundled_rec code n hs
  have h2 := C16_bundled_rec_head code n hs
  simp only [errorStatus, hf, Bool.false_eq_true, if_false] at h1 h2
  exact ⟨h1, h2⟩

/-- With or without the wrapper the client sees the same status, `errorStatus code`, and (HEAD) no body. -/
theorem C16_bundled_status (code n : Nat) (hw : Bool) (hs : Hdr) :
    (recRec (httpErrorActs code n) hw hs).status = errorStatus code ∧
    (hw = true → (recRec (httpErrorActs code n) hw hs).body = 0) := by
  cases hw
  · rw [C16_bundled_rec]; exact ⟨rfl, fun h => nomatch h⟩
  · rw [C16_bundled_rec_head]
    refine ⟨?_, fun _ => rfl⟩
    cases hi : informational code <;> simp [Rec.status, errorStatus, hi]

/-- The informational case really differs (so the statements above cannot say `code := some code` for every `code`):
`WithStatusRecovery(103)` answers 200, and under the HEAD wrapper nothing has been sent yet; 101 is final. -/
example : (recRec (httpErrorActs 103 11) false []).code = some 200 ∧
    (recRec (httpErrorActs 103 11) true []).code = none ∧ (recRec (httpErrorActs 103 11) true []).snap = none ∧
    (recRec (httpErrorActs 101 19) false []).code = some 101 ∧
    (recRec (httpErrorActs 101 19) true []).code = some 101 := by decide +kernel

/-- With recovery configured nothing escapes `Router.ServeHTTP` — neither a user panic nor a
runtime fault — and a panic with value `v` raised by the call reaches the recovery function as
that very value. -/
theorem C16_contained (r : Router) (hr : r.recover = true) (env : Env) (pc : PanicCfg)
    (scripts : Scripts) (req : Req) (ps : Params) :
    (∀ v, (r.serveHTTP env pc scripts req ps).2 ≠ .panicked v) ∧
    (∀ c v, r.serveContext env req ps = .call c → runCall pc scripts c = .error v →
      r.serveHTTP env pc scripts req ps = (some c, .recovered v (recoveredRec c))) := by
  constructor
  · intro v hp
    rcases finish_panicked _ _ _ _ hp with ⟨c, hc, hrec, _⟩ | ⟨n, hc, _⟩
    · rw [(P18.serveContext_call_recActs _ _ _ _ _ hc).2, hr] at hrec; cases hrec
    · have := (Router.serveContext_fault_iff.1 hc).2
      rw [hr] at this; cases this
  · intro c v hc hv
    rw [Router.serveHTTP, hc, finish_call_error hv, (P18.serveContext_call_recActs _ _ _ _ _ hc).2, hr]
    rfl

/-- The user-panic instance spelled out: the recovery function receives `.user v`. -/
theorem C16_contained_user (r : Router) (hr : r.recover = true) (env : Env) (pc : PanicCfg)
    (scripts : Scripts) (req : Req) (ps : Params) (c : Call) (v : Nat)
    (hc : r.serveContext env req ps = .call c) (hv : runCall pc scripts c = .error (.user v)) :
    (r.serveHTTP env pc scripts req ps).2 = .recovered (.user v) (recoveredRec c) := by
  rw [(C16_contained r hr env pc scripts req ps).2 c _ hc hv]

/-- Without the option the same value reaches the caller of `ServeHTTP`. -/
theorem C16_through (r : Router) (hr : r.recover = false) (env : Env) (pc : PanicCfg)
    (scripts : Scripts) (req : Req) (ps : Params) (c : Call) (v : PanicVal)
    (hc : r.serveContext env req ps = .call c) (hv : runCall pc scripts c = .error v) :
    r.serveHTTP env pc scripts req ps = (some c, .panicked v) := by
  rw [Router.serveHTTP, hc, finish_call_error hv, (P18.serveContext_call_recActs _ _ _ _ _ hc).2, hr]
  rfl

/-- Without a panic the recover flag is irrelevant: the response is the handler's. -/
theorem C16_normal (r : Router) (env : Env) (pc : PanicCfg) (scripts : Scripts) (req : Req)
    (ps : Params) (c : Call) (rec : Rec)
    (hc : r.serveContext env req ps = .call c) (hv : runCall pc scripts c = .ok rec) :
    r.serveHTTP env pc scripts req ps = (some c, .normal rec) := by
  rw [Router.serveHTTP, hc, finish_call_ok hv]

/-- Which value a call raises.  Middlewares run outermost first and `wraps` is stored innermost
first, so (1) the LAST element of `wraps` that is in `pc.mws` wins; (2) if no middleware panics,
the handler's own entry (`pc.handlers` for a user handler, `pc.bases` by `Base.code` for
404/405/OPTIONS/TRACE/group-not-found); (3) otherwise no user panic is raised: the call returns
or hits mux's own nil-call fault. -/
theorem C16_first_panic (pc : PanicCfg) (scripts : Scripts) (c : Call) :
    (∀ pre w post v, c.handler.wraps = pre ++ w :: post → lookupNat pc.mws w.mw = some v →
        (∀ w' ∈ post, lookupNat pc.mws w'.mw = none) → runCall pc scripts c = .error (.user v)) ∧
    ((∀ w ∈ c.handler.wraps, lookupNat pc.mws w.mw = none) →
      (∀ id v, c.handler.base = .user id → lookupNat pc.handlers id = some v →
          runCall pc scripts c = .error (.user v)) ∧
      (∀ v, (∀ id, c.handler.base ≠ .user id) → lookupNat pc.bases c.handler.base.code = some v →
          runCall pc scripts c = .error (.user v)) ∧
      (basePanic pc c.handler.base = none →
          (∀ v, runCall pc scripts c ≠ .error (.user v)) ∧
          runCall pc scripts c =
            match c.handler.script scripts c.allow with
            | none => .error .fault
            | some acts => .ok (if c.headWrap then runHead acts 0 false c.rec0 else runGet acts c.rec0))) := by
  refine ⟨fun pre w post v h1 h2 h3 => ?_, fun hmw => ?_⟩
  · exact runCall_user_iff.2 (.inl ((mwPanic_some_iff pc _ v).2 ⟨pre, w, post, h1, h2, h3⟩))
  have hm := (mwPanic_none_iff pc c.handler).2 hmw
  have base : ∀ v, basePanic pc c.handler.base = some v → runCall pc scripts c = .error (.user v) :=
    fun v hb => runCall_user_iff.2 (.inr ⟨hm, hb⟩)
  refine ⟨fun id v hb hv => base v (by rw [hb]; exact hv), fun v hb hv => base v ?_, fun hb => ?_⟩
  · revert hb hv; cases c.handler.base <;> intro hb hv
    case user id => exact absurd rfl (hb id)
    all_goals exact hv
  · exact ⟨fun v hv => by simpa [hm, hb] using runCall_user_iff.1 hv, by rw [runCall_eq, hm, hb]; rfl⟩

/-- Completeness of the characterisation: every user panic value raised by a call is the one of
the outermost panicking middleware or, if there is none, the handler's own. -/
theorem C16_first_panic_only (pc : PanicCfg) (scripts : Scripts) (c : Call) (v : Nat)
    (h : runCall pc scripts c = .error (.user v)) :
    (∃ pre w post, c.handler.wraps = pre ++ w :: post ∧ lookupNat pc.mws w.mw = some v ∧
        ∀ w' ∈ post, lookupNat pc.mws w'.mw = none) ∨
    ((∀ w ∈ c.handler.wraps, lookupNat pc.mws w.mw = none) ∧ basePanic pc c.handler.base = some v) := by
  rcases runCall_user_iff.1 h with h | ⟨h1, h2⟩
  · exact .inl ((mwPanic_some_iff pc _ v).1 h)
  · exact .inr ⟨(mwPanic_none_iff pc _).1 h1, h2⟩

/-- `Group.ServeHTTP`, no router accepts (every matcher rejects, leaving the path `p`): the
group's not-found handler is called under the GROUP's recover flag. -/
theorem C16_group_notFound (env : Env) (hostsTab : Nat → Option Hosts) (pc : PanicCfg)
    (scripts : Scripts) (rt : RTab) (g : Group) (req : Req) (p : Bytes)
    (hrej : rejectPath env hostsTab req g.routers req.path = some p) :
    let c : Call := { handler := g.notFound, node := none, ok := false, params := [], routerName := [],
                      respHeaders := [], headWrap := false, path := p, recover := g.recover, recActs := g.recActs }
    g.serveHTTP env hostsTab pc scripts rt req = (some c, withRecover g.recover [] (runCall pc scripts c) g.recActs false) := by
  intro c
  obtain ⟨rfl, hall⟩ := rejectPath_eq_some_iff.1 hrej
  rw [Group.serveHTTP, Group.serve_all_reject hall]
  rfl

/-- `Group.ServeHTTP`, router `r` is the first to accept: the request is served exactly as
`r.ServeHTTP` would (on the path and parameters the matcher left), hence under `r`'s recover flag;
the group's own flag plays no role. -/
theorem C16_group_router (env : Env) (hostsTab : Nat → Option Hosts) (pc : PanicCfg)
    (scripts : Scripts) (rt : RTab) (g : Group) (req : Req)
    (pre post : List (Nat × Matcher)) (rid : Nat) (m : Matcher) (r : Router) (p0 p : Bytes) (ps : Params)
    (hl : g.routers = pre ++ (rid, m) :: post)
    (hrej : rejectPath env hostsTab req pre req.path = some p0)
    (hacc : m.run env hostsTab req p0 [] = .accept p ps) (hr : rt.get? rid = some r) :
    g.serveHTTP env hostsTab pc scripts rt req = r.serveHTTP env pc scripts { req with path := p } ps := by
  obtain ⟨rfl, hpre⟩ := rejectPath_eq_some_iff.1 hrej
  rw [Group.serveHTTP, Group.serve_skip hl hpre, Group.serve.go, hacc, hr, Router.serveHTTP]

/-- Every call `Group.ServeHTTP` makes is one of these two, and `Call.recover` is set accordingly. -/
theorem C16_group (env : Env) (hostsTab : Nat → Option Hosts) (rt : RTab) (g : Group) (req : Req) (c : Call)
    (h : g.serve env hostsTab rt req = .call c) :
    (c.handler = g.notFound ∧ c.node = none ∧ c.recover = g.recover ∧
        ∃ p, rejectPath env hostsTab req g.routers req.path = some p ∧ c.path = p) ∨
    (∃ pre rid m post p0 p ps r, g.routers = pre ++ (rid, m) :: post ∧
        rejectPath env hostsTab req pre req.path = some p0 ∧
        m.run env hostsTab req p0 [] = .accept p ps ∧ rt.get? rid = some r ∧
        r.serveContext env { req with path := p } ps = .call c ∧ c.recover = r.recover) := by
  rcases go_cases h with ⟨hall, hgo⟩ |
    ⟨pre, rid, m, post, hl, hpre, ⟨s, _, ⟨⟩⟩ | ⟨_, ⟨⟩⟩ | ⟨p, ps, hm, ⟨_, ⟨⟩⟩ | ⟨r, hr, hgo⟩⟩⟩
  · cases hgo
    exact .inl ⟨rfl, rfl, rfl, req.path, rejectPath_eq_some_iff.2 ⟨rfl, hall⟩, rfl⟩
  · exact .inr ⟨pre, rid, m, post, req.path, p, ps, r, hl, rejectPath_eq_some_iff.2 ⟨rfl, hpre⟩, hm, hr, hgo,
      (P18.serveContext_call_recActs _ _ _ _ _ hgo).2⟩

/-- A group with recovery whose routers all have recovery (what `Group.New` arranges by forwarding
the group's options) contains every panic raised by a user-supplied function, and a panic value
raised by the call is handed to the recovery function unchanged.  (Runtime faults inside a
matcher happen outside every deferred recover, in Go as in the model; they are not user panics.) -/
theorem C16_group_contained (env : Env) (hostsTab : Nat → Option Hosts) (pc : PanicCfg)
    (scripts : Scripts) (rt : RTab) (g : Group) (req : Req) (hg : g.recover = true)
    (hrs : ∀ e ∈ g.routers, ∀ r, rt.get? e.1 = some r → r.recover = true) :
    (∀ v, (g.serveHTTP env hostsTab pc scripts rt req).2 ≠ .panicked (.user v)) ∧
    (∀ c v, g.serve env hostsTab rt req = .call c → runCall pc scripts c = .error v →
      g.serveHTTP env hostsTab pc scripts rt req = (some c, .recovered v (recoveredRec c))) := by
  have hcall : ∀ c, g.serve env hostsTab rt req = .call c → c.recover = true := by
    intro c hc
    rcases C16_group env hostsTab rt g req c hc with ⟨_, _, h, _⟩ | ⟨pre, rid, m, post, p0, p, ps, r, h1, _, _, h4, _, h6⟩
    · rw [h, hg]
    · rw [h6]; exact hrs (rid, m) (by rw [h1]; simp) r h4
  constructor
  · intro v hp
    rcases finish_panicked _ _ _ _ hp with ⟨c, hc, hrec, _⟩ | ⟨_, _, hv⟩
    · rw [hcall c hc] at hrec; cases hrec
    · cases hv
  · intro c v hc hv
    rw [Group.serveHTTP, hc, finish_call_error hv, hcall c hc]
    rfl

/-- A group without recovery lets a panic of its not-found handler through unchanged. -/
theorem C16_group_through (env : Env) (hostsTab : Nat → Option Hosts) (pc : PanicCfg)
    (scripts : Scripts) (rt : RTab) (g : Group) (req : Req) (c : Call) (v : PanicVal)
    (hc : g.serve env hostsTab rt req = .call c) (hrec : c.recover = false)
    (hv : runCall pc scripts c = .error v) :
    g.serveHTTP env hostsTab pc scripts rt req = (some c, .panicked v) := by
  rw [Group.serveHTTP, hc, finish_call_error hv, hrec]
  rfl

/-- Serving changes nothing: `Router.serveHTTP`/`Group.serveHTTP` take the router (group, router
table) and return only the call and its outcome — no new router.  Hence in every sequence of
requests, each one is answered as if it were the only one, whatever happened (panic, recovery) to
the requests before it. -/
theorem C16_continue (r : Router) (env : Env) (pc : PanicCfg) (scripts : Scripts)
    (before after : List (Req × Params)) (q : Req × Params) :
    ((before ++ q :: after).map (fun q => r.serveHTTP env pc scripts q.1 q.2))[before.length]? =
      some (r.serveHTTP env pc scripts q.1 q.2) := by
  simp

/-- The context the next request gets from the pool is empty, whatever was destroyed before
(also on the recovery path, where `ctx.Destroy()` still runs). -/
theorem C16_continue_pool (p : Pool) (c : Ctx) : (p.destroy c).newContext.1 = {} :=
  Pool.newContext_fst _

/-- The recover option is fixed at construction and no operation on the router changes it, so
`C16_contained`/`C16_through` apply to every state of the router's life. -/
theorem C16_recover_stable (cfg : RouterCfg) (r : Router) (ops : List ROp) (h : Router.new cfg = some r) :
    (r.run ops).recover = cfg.recover := by
  rw [Router.run_new h]

/-- a router with recovery, TRACE configured (so every request yields a call without any matching) -/
def demoRouter (rc : Bool) : Router :=
  { tree := { root := default, name := [1], notFound := { base := .notFound },
              trace := some { base := .trace, wraps := [⟨1, [], [], []⟩, ⟨2, [], [], []⟩, ⟨3, [], [], []⟩] } },
    recover := rc }
def env0 : Env := ⟨fun _ _ => true⟩
def demoReq : Req := { method := mTRACE, path := [47] }
def demoCall (rc : Bool) : Call :=
  { handler := { base := .trace, wraps := [⟨1, [], [], []⟩, ⟨2, [], [], []⟩, ⟨3, [], [], []⟩] },
    node := some (default : Node), ok := true, params := [], routerName := [1],
    respHeaders := (demoRouter rc).cors.handle (default : Node).methods (default : Node).allow [] mTRACE [47] [],
    headWrap := false, path := [47], recover := rc }
/-- middlewares 1 and 2 panic, and so does the TRACE handler: the outermost middleware (2) wins -/
def demoPc : PanicCfg := { mws := [(1, 11), (2, 22)], bases := [(4, 44)] }

example : (demoRouter true).recover = true := rfl
example : (demoRouter false).recover = false := rfl
example : runCall demoPc [] (demoCall true) = .error (.user 22) := rfl
example : (demoRouter true).serveContext env0 demoReq [] = .call (demoCall true) := by
  have h : mTRACE ≠ mHEAD := method_consts_ne.2.2.2.2.2.2.1.symm
  simp [Router.serveContext, Tree.handler, demoRouter, demoReq, demoCall, h]
example : (demoCall true).handler.wraps = [⟨1, [], [], []⟩] ++ ⟨2, [], [], []⟩ :: [⟨3, [], [], []⟩] ∧
    lookupNat demoPc.mws 2 = some 22 ∧ lookupNat demoPc.mws 3 = none := by decide +kernel
/-- the handler's own entry is used when no middleware panics -/
example : basePanic { bases := [(4, 44)] } (demoCall true).handler.base = some 44 := by decide +kernel
example : basePanic {} (demoCall true).handler.base = none := by decide +kernel
/-- a group: no router → `rejectPath` is `some`; hypotheses of `C16_group_notFound` are satisfiable -/
example : rejectPath env0 (fun _ => none) demoReq ({} : Group).routers demoReq.path = some [47] := rfl
/-- one router that accepts -/
example : rejectPath env0 (fun _ => none) demoReq [] demoReq.path = some [47] ∧
    Matcher.any.run env0 (fun _ => none) demoReq [47] [] = .accept [47] [] ∧
    RTab.get? [(7, demoRouter true)] 7 = some (demoRouter true) := by
  exact ⟨rfl, by simp [Matcher.run], rfl⟩

end Mux.C16
