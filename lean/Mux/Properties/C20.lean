/-
  C20 — Params accessors agree with each other and with strconv.
  Helper lemmas: Mux/Proofs/Params.lean (maps), Mux/Proofs/ParseInt.lean (strconv).
-/
import Mux.Proofs.Params
import Mux.Proofs.ParseInt
namespace Mux.C20
open Mux

/-- Contexts reachable from the pool by Set/Delete/Reset: the parameter map has unique keys. -/
def WF (c : Ctx) : Prop := (c.params.map (·.1)).Nodup

theorem wf_empty : WF {} := List.nodup_nil
theorem wf_set (c : Ctx) (k v : Bytes) (h : WF c) : WF (c.set k v) :=
  AMap.nodup_keys_set c.params k v h
theorem wf_delete (c : Ctx) (k : Bytes) (h : WF c) : WF (c.delete k) :=
  AMap.nodup_keys_erase c.params k h
theorem wf_reset (c : Ctx) : WF c.reset := List.nodup_nil

/-- Set and Delete behave as on a map. -/
theorem C20_map_get_set (c : Ctx) (k k' v : Bytes) :
    (c.set k v).get k' = if k' = k then some v else c.get k' :=
  AMap.get?_set c.params k k' v
/- (the unique-key hypothesis `_h` is unused, `erase` removes every entry with that key; it is kept for uniformity with
   `C20_map_count_delete`) -/
theorem C20_map_get_delete (c : Ctx) (k k' : Bytes) (_h : WF c) :
    (c.delete k).get k' = if k' = k then none else c.get k' :=
  AMap.get?_erase c.params k k'
theorem C20_map_count_set (c : Ctx) (k v : Bytes) :
    (c.set k v).count = if (c.get k).isSome then c.count else c.count + 1 :=
  AMap.length_set c.params k v
theorem C20_map_count_delete (c : Ctx) (k : Bytes) (h : WF c) :
    (c.delete k).count = if (c.get k).isSome then c.count - 1 else c.count :=
  AMap.length_erase c.params k h

/-- Count, Get, Exists, String and Range agree with one another. -/
theorem C20_agree_exists (c : Ctx) (k : Bytes) : c.exists_ k = (c.get k).isSome := rfl
theorem C20_agree_string (c : Ctx) (k : Bytes) :
    c.string k = (match c.get k with | some v => .ok v | none => .notExists) := rfl
theorem C20_agree_range (c : Ctx) (k v : Bytes) (h : WF c) : (k, v) ∈ c.range ↔ c.get k = some v :=
  AMap.mem_iff_get? c.params k v h
theorem C20_agree_count (c : Ctx) : c.count = c.range.length := rfl

/-- Int/Uint/Bool return strconv's result for the captured text and not-exists for absent keys. -/
theorem C20_parse_int (c : Ctx) (k : Bytes) :
    c.int k = (match c.get k with | some v => parseInt v | none => .notExists) := rfl
theorem C20_parse_uint (c : Ctx) (k : Bytes) :
    c.uint k = (match c.get k with | some v => parseUint v | none => .notExists) := rfl
theorem C20_parse_bool (c : Ctx) (k : Bytes) :
    c.bool k = (match c.get k with | some v => parseBool v | none => .notExists) := rfl
theorem C20_parse_float (pf : Bytes → Acc Bytes) (c : Ctx) (k : Bytes) :
    c.float pf k = (match c.get k with | some v => pf v | none => .notExists) := rfl

/-- `parseUint` is strconv.ParseUint(s, 10, 64): digits only, clamped with a range error. -/
theorem C20_parseUint_spec (s : Bytes) :
    (parseUint s = .syntaxErr ↔ ¬ allDigits s) ∧
    (∀ n, parseUint s = .ok n ↔ allDigits s ∧ decVal s = n ∧ n ≤ maxUint64) ∧
    (∀ n, parseUint s = .rangeErr n ↔ allDigits s ∧ decVal s > maxUint64 ∧ n = maxUint64) := by
  unfold parseUint
  cases h : digitsVal s with
  | none =>
    have hn := (digitsVal_eq_none_iff s).mp h
    simp [hn]
  | some m =>
    obtain ⟨ha, hv⟩ := (digitsVal_eq_some_iff s m).mp h
    subst hv
    simp only [ha, not_true_eq_false, true_and]
    by_cases hgt : decVal s > maxUint64
    · simp only [hgt, if_true, reduceCtorEq, false_iff, true_and, Acc.rangeErr.injEq]
      exact ⟨fun n hn => by omega, fun n => eq_comm⟩
    · simp only [hgt, if_false, reduceCtorEq, false_and, implies_true,
        and_true, Acc.ok.injEq, true_and]
      exact fun n => ⟨fun h2 => ⟨h2, by omega⟩, fun h2 => h2.1⟩

/-- `parseInt` is strconv.ParseInt(s, 10, 64): optional sign, digits, clamped with a range error. -/
theorem C20_parseInt_ok (s : Bytes) (v : Int) :
    parseInt s = .ok v ↔
      ∃ neg ds, (s = (if neg then [45] else []) ++ ds ∨ (neg = false ∧ s = 43 :: ds)) ∧ allDigits ds ∧
        v = (if neg then -(decVal ds : Int) else (decVal ds : Int)) ∧ minInt64 ≤ v ∧ v ≤ maxInt64 :=
  parseInt_eq_iff (fun neg ds => parseIntBody_ok neg ds v)

/-- Each Must* variant returns the supplied default precisely when its strict counterpart fails. -/
theorem C20_must_string (c : Ctx) (k d : Bytes) :
    c.mustString k d = (match c.string k with | .ok v => v | _ => d) := by
  unfold Ctx.mustString Ctx.string; cases c.get k <;> rfl
theorem C20_must_int (c : Ctx) (k : Bytes) (d : Int) :
    c.mustInt k d = (match c.int k with | .ok v => v | _ => d) := by
  unfold Ctx.mustInt Ctx.int; cases c.get k with
  | none => rfl
  | some v => simp only []; cases parseInt v <;> rfl
theorem C20_must_uint (c : Ctx) (k : Bytes) (d : Nat) :
    c.mustUint k d = (match c.uint k with | .ok v => v | _ => d) := by
  unfold Ctx.mustUint Ctx.uint; cases c.get k with
  | none => rfl
  | some v => simp only []; cases parseUint v <;> rfl
theorem C20_must_bool (c : Ctx) (k : Bytes) (d : Bool) :
    c.mustBool k d = (match c.bool k with | .ok v => v | _ => d) := by
  unfold Ctx.mustBool Ctx.bool; cases c.get k with
  | none => rfl
  | some v => simp only []; cases parseBool v <;> rfl
theorem C20_must_float (pf : Bytes → Acc Bytes) (c : Ctx) (k d : Bytes) :
    c.mustFloat pf k d = (match c.float pf k with | .ok v => v | _ => d) := by
  unfold Ctx.mustFloat Ctx.float; cases c.get k with
  | none => rfl
  | some v => simp only []; cases pf v <;> rfl

/-- A context obtained from the pool always starts empty, whatever the pool holds. -/
theorem C20_pool_empty (p : Pool) : (p.newContext).1 = ({} : Ctx) := Pool.newContext_fst p
theorem C20_pool_destroy_new (p : Pool) (c : Ctx) : ((p.destroy c).newContext).1 = ({} : Ctx) :=
  C20_pool_empty _

/-- Non-vacuity: a context with three parameters, one of them overwritten and one deleted. -/
example : WF (((({} : Ctx).set [97] [49]).set [98] [50]).set [97] [51]) ∧
    ((((({} : Ctx).set [97] [49]).set [98] [50]).set [97] [51]).delete [98]).get [97] = some [51] := by
  unfold WF; decide +kernel

/-- Without the invariant `C20_map_count_delete` and `C20_agree_range` fail (duplicate keys), so `WF` is needed there. -/
example : let c : Ctx := { params := [([97], [49]), ([97], [50])] }
    (c.delete [97]).count = 0 ∧ ([97], [50]) ∈ c.range ∧ c.get [97] = some [49] := by decide +kernel

/-- Edge values of the parsers: `-2^63` parses, `2^63` is a range error, `+` alone and `` are syntax errors. -/
example : parseInt [45, 57, 50, 50, 51, 51, 55, 50, 48, 51, 54, 56, 53, 52, 55, 55, 53, 56, 48, 56] = .ok minInt64 ∧
    parseInt [57, 50, 50, 51, 51, 55, 50, 48, 51, 54, 56, 53, 52, 55, 55, 53, 56, 48, 56] = .rangeErr maxInt64 ∧
    parseInt [43] = .syntaxErr ∧ parseInt [] = .syntaxErr ∧
    parseUint [49, 56, 52, 52, 54, 55, 52, 52, 48, 55, 51, 55, 48, 57, 53, 53, 49, 54, 49, 54] = .rangeErr maxUint64 ∧
    parseUint [45, 49] = .syntaxErr := by decide +kernel

end Mux.C20
