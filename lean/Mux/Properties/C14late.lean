/-
  C14 — the `Hosts` matcher after histories that register an interceptor AFTER domains were added.

  `C14reach.lean` (P14) discharges the hypotheses `NamesOkL []` / `IdxLit` of `C14_match_found` etc. for histories in
  which `RegisterInterceptor(rule)` is not called while a stored REGEXP segment uses `rule` (`HostsReachWf`), because
  the invariant "every stored segment is `newSegment ic` of its own text under the CURRENT table `ic`" breaks at that
  moment.  The Go code never re-parses a stored segment, and neither does the model (`Seg.splitAt` re-parses the two
  halves of a node that is split — see `C14_split_keeps_kind` for why that never changes a kind).  The invariant that
  survives (`LateInv`, `Mux/Proofs/HostsLate.lean`): every stored segment is `newSegment ic₀` of its own text for SOME
  table `ic₀` — the one in force when the segment was made —, names are pairwise distinct along chains, children are
  ordered by kind, the index is the built one.  It does not mention the current table, and it is all the matcher-
  soundness theorems need.  Hence, for EVERY history of
        Add (domain with balanced, non-nested braces) | Delete | RegisterInterceptor(rule)      (`HostsLateWf`)
  — registrations at any time — `C14_match_found`, `C14_match_reject`, `C14_reject_clean` hold without side
  hypotheses (`C14_match_found_late` …).  `HostsReachWf ⊆ HostsLateWf` (`C14_late_subsumes`).

  The frame property of `Delete` holds as well (`C14_delete_frame_late`): the table-free structural invariant `SX3`
  (sibling texts pairwise different, children ordered by kind, the index is the built one, literal siblings start with
  distinct bytes) survives too, and P14's frame proof only needs that.  CAVEAT: this is a theorem about the MODEL,
  whose `Add` refuses (`Err.unsupported`) to create two siblings with one text; the Go code does create them, and
  there the frame property of `Delete` was FALSE until the D29 repair — Observation 2 below.

  ## Observation 1 — what a late registration does to LATER domains (model and Go agree)
  `Add("{a:digit}.{b:digit}.com")`, `RegisterInterceptor(MatchDigit, "digit")`, `Add("{a:digit}.{c:digit}.org")`:
  the second domain is stored BELOW the regexp node `{a:digit}.` of the first (same text ⇒ `Similarity = -1`, the
  node is reused), so its first label is matched by the regular expression `digit`, its second by `MatchDigit`:
  `5.7.org` is rejected, `digit.7.org` accepted; with the registration first it is the other way round.  The doc
  comment of `RegisterInterceptor` ("only effective for domains added after the registration") does not hold for
  a label shared with an older domain.  (`exO1`, `#guard`s in `HostsLateExamples.lean`; Go: same answers.)

  ## Observation 2 — two siblings with ONE text: outside the model; the defect D29 of the Go code
  `Add("{a:digit}.x.com")`, `Add("{a:digit}.x.org")`, `RegisterInterceptor(MatchDigit, "digit")`,
  `Add("{a:digit}.x.net")`, `Add("{a:digit}.x.org2")`.  The last `Add` splits the interceptor leaf `{a:digit}.x.net`
  at `{a:digit}.x.`, the text of its REGEXP sibling.  The model answers `Err.unsupported` (`sortNode`/`hasDupValues`:
  it locates children by text; its comment says such trees only arise from a brace inside a parameter name — a late
  registration is a second way) and the history continues on the unchanged tree, so the theorems below hold but say
  nothing about Go from here on.  The Go code creates the second node.  `Delete("{a:digit}.x.com")`,
  `Delete("{a:digit}.x.org")` then empty the regexp node.  Before the D29 repair the pruning loop of `Tree.Remove`
  called `removeNodes(child.parent.children, child.segment.Value)`, removal of the FIRST child with that text, and so
  deleted the INTERCEPTOR sibling — which sorts first — with its live domains: `5.x.net` and `5.x.org2` matched
  before the two deletions and were rejected afterwards, so "Delete removes exactly the named domain and leaves every
  other domain matching as before" was false for the Go code on this history.  Since the repair the pruning loop and
  `splitNode` remove the node itself (`removeNode`, by identity, `internal/tree/node.go`).

  Helper lemmas: `Mux/Proofs/HostsLateNames.lean`, `StructDistinct.lean` (`SX`, `SX3`), `HostsLate.lean`,
  `HostsLateExamples.lean` (namespace `Mux.P17`).
-/
import Mux.Proofs.HostsLateExamples
import Mux.Properties.C14
namespace Mux.C14
open Mux Mux.P12 Mux.P14 Mux.P17

/-- A matcher made by `NewHosts` and a history of `Add` (balanced, non-nested braces) / `Delete` /
`RegisterInterceptor` — registrations at ANY time. -/
abbrev HostsLateWf := Mux.P17.HostsLateWf
abbrev LateInv := Mux.P17.LateInv

abbrev LateInv3 := Mux.P17.LateInv3

/-- The histories of `C14reach.lean` are a special case. -/
theorem C14_late_subsumes (hs : Hosts) (h : HostsReachWf hs) : HostsLateWf hs := HostsLateWf.of_reachWf h

/-- `HostsLateWf` is closed under further steps (`C14_late_empty`: the empty matcher is one). -/
theorem C14_late_step (hs : Hosts) (h : HostsLateWf hs) (op : HOp) (hop : HOp.lateOk op) :
    HostsLateWf (hostsStep hs op) := h.step hop
theorem C14_late_empty : HostsLateWf Hosts.empty := ⟨[], by simp, rfl⟩

/-- **One text, two tables.**  What `newSegment` makes of a text under two interceptor tables agrees in value, name,
`-` flag, rule and suffix; one is literal iff the other is; and if the kinds agree the segments are equal.  (The
only possible difference: interceptor under one table, regexp under the other.) -/
theorem C14_newSegment_indep (ic ic' : Interceptors) (v : Bytes) (a b : Seg)
    (ha : newSegment ic v = .ok a) (hb : newSegment ic' v = .ok b) :
    a.value = b.value ∧ a.name = b.name ∧ a.ignoreName = b.ignoreName ∧ a.rule = b.rule ∧ a.suffix = b.suffix ∧
      (a.kind = .str ↔ b.kind = .str) ∧ (a.kind = b.kind → a = b) := by
  have h := newSegment_indep ha hb
  exact ⟨h.value, h.name, h.ign, h.rule, h.suffix, h.str, h.eq_of_kind⟩

/-- **A split never changes a kind.**  Let `a` be a stored segment (parsed under SOME table `ic₀`) and `b` the new
segment `getNode` compares it with (parsed under the CURRENT table `ic`), of the same kind, with
`l = longestPrefix a.value b.value > 0` — the only situation in which `a`'s node is split.  Then `Segment.Split` under
the current table succeeds when `l` is inside `a`, the upper half keeps `a`'s kind, name, `-` flag and rule, and the
lower half is literal.  (A stored regexp segment whose rule has become an interceptor name is never in this
situation: a new segment sharing its token is an interceptor segment.) -/
theorem C14_split_keeps_kind (ic0 ic : Interceptors) (a b : Seg) (ha : P9.SegOk ic0 a) (hb : P9.SegOk ic b)
    (hk : a.kind = b.kind) (hpos : 0 < longestPrefix a.value b.value) :
    ∃ l : Nat, longestPrefix a.value b.value = (l : Int) ∧ 0 < l ∧ a.value.take l = b.value.take l ∧
      a.name = b.name ∧ a.rule = b.rule ∧
      ∃ s1, newSegment ic (a.value.take l) = .ok s1 ∧ s1.kind = a.kind ∧ s1.name = a.name ∧
        s1.ignoreName = a.ignoreName ∧ s1.rule = a.rule ∧
        (l < a.value.length → a.splitAt ic l = .ok (s1, { value := a.value.drop l })) := by
  obtain ⟨l, h1, h2⟩ := longestPrefix_pos hpos
  obtain ⟨_, _, h8, _, h10, s1, hu⟩ := P9.cutPointX ha hb hk h1 h2
  exact ⟨l, h1, h2, (longestPrefix_nat h1).2.2, h8, h10, s1, hu.seg, hu.kind, hu.name, hu.ignoreName, hu.rule, fun hl => (hu.split hl).1⟩

/-- After every such history: the invariant `LateInv`, and with it the two side
hypotheses of `C14_match_found` / `C14_match_reject` / `C14_reject_clean`, `TreeInv` and `HostsGet`. -/
theorem C14_reach_late_ic (hs : Hosts) (h : HostsLateWf hs) :
    LateInv hs.tree ∧ NamesOkL [] hs.tree.root.children ∧ Node.All IdxLit hs.tree.root ∧ TreeInv hs.tree ∧
      HostsGet hs :=
  ⟨h.inv, h.names, h.idxLit, h.reach.inv, h.reach.get⟩

/-- The full invariant (`LateInv3`): in addition `SX3` on every node — every child segment is `newSegment ic₀` of
its own text for some `ic₀`, sibling texts are pairwise different, literal siblings start with distinct bytes — and
`PatternOk` (a node's pattern is its parent's followed by its own text).  Unfolded for the segments: -/
theorem C14_late_segments (hs : Hosts) (h : HostsLateWf hs) :
    LateInv3 hs.tree ∧ ∀ m ∈ hs.tree.root.nodes, ∀ c ∈ m.children,
      ∃ ic0, newSegment ic0 c.seg.value = .ok c.seg ∧ c.seg.value ≠ [] := by
  refine ⟨h.inv3, fun m hm c hc => ?_⟩
  have := ((All_iff_nodes _).1 _).1 h.inv3.sx3 m hm
  obtain ⟨ic0, hok⟩ := this.segs c hc
  exact ⟨ic0, hok.seg, hok.ne⟩

/-- **`C14_match_found`** for every history: an accepting `Hosts.Match` resolved the normalised host along a
non-empty chain of the private tree to a node with a `GET` entry, every captured value satisfies the constraint of
ITS STORED segment (the regular expression for a segment stored as regexp, whatever the table says now), and the
reported parameters are exactly the captures of that chain. -/
theorem C14_match_found_late (env : Env) (hs : Hosts) (hr : HostsLateWf hs)
    (host path : Bytes) (ha : isAscii host = true) (p : Bytes) (q : Params)
    (h : hs.match env host path [] = .accept p q) :
    p = path ∧ ∃ (n : Node) (chain : List (Seg × Bytes)),
      chain ≠ [] ∧ Chain hs.tree.root (chain.map (·.1)) n ∧ normHost host = instChain chain ∧
      (∀ sv ∈ chain, sv.1.Satisfies env hs.tree.ic sv.2) ∧ q = captures chain ∧
      (n.handlers.get? mGET).isSome = true :=
  C14_match_found env hs hr.reach.inv hr.names hr.idxLit host path ha p q h

/-- With incoming parameters whose keys are not parameter names of the tree. -/
theorem C14_match_found_from_late (env : Env) (hs : Hosts) (hr : HostsLateWf hs) (ps : Params)
    (hN : NamesOkL ps.keys hs.tree.root.children)
    (host path : Bytes) (ha : isAscii host = true) (p : Bytes) (q : Params)
    (h : hs.match env host path ps = .accept p q) :
    p = path ∧ ∃ (n : Node) (chain : List (Seg × Bytes)),
      chain ≠ [] ∧ Chain hs.tree.root (chain.map (·.1)) n ∧ normHost host = instChain chain ∧
      (∀ sv ∈ chain, sv.1.Satisfies env hs.tree.ic sv.2) ∧ q = ps ++ captures chain ∧
      (n.handlers.get? mGET).isSome = true :=
  C14_match_found_from env hs hr.reach.inv ps hN hr.idxLit host path ha p q h

/-- **`C14_match_reject`** for every history. -/
theorem C14_match_reject_late (env : Env) (hs : Hosts) (hr : HostsLateWf hs)
    (host path : Bytes) (ha : isAscii host = true) (p : Bytes) (q : Params)
    (h : hs.match env host path [] = .reject p q) :
    p = path ∧ (q = [] ∨ ∃ (n : Node) (chain : List (Seg × Bytes)),
      chain ≠ [] ∧ Chain hs.tree.root (chain.map (·.1)) n ∧ normHost host = instChain chain ∧
      q = [] ++ captures chain ∧ n.handlers ≠ [] ∧ n.handlers.get? mGET = none) :=
  C14_match_reject env hs [] hr.names hr.idxLit host path ha p q h

/-- **`C14_reject_clean`** for every history: a rejecting `Hosts.Match` leaves no parameters behind and never
rewrites the path. -/
theorem C14_reject_clean_late (env : Env) (hs : Hosts) (hr : HostsLateWf hs)
    (host path : Bytes) (ha : isAscii host = true) (p : Bytes) (q : Params)
    (h : hs.match env host path [] = .reject p q) : p = path ∧ q = [] :=
  C14_reject_clean env hs hr.reach.get [] hr.names hr.idxLit host path ha p q h

theorem C14_reject_clean_from_late (env : Env) (hs : Hosts) (hr : HostsLateWf hs) (ps : Params)
    (hN : NamesOkL ps.keys hs.tree.root.children)
    (host path : Bytes) (ha : isAscii host = true) (p : Bytes) (q : Params)
    (h : hs.match env host path ps = .reject p q) : p = path ∧ q = ps :=
  C14_reject_clean env hs hr.reach.get ps hN hr.idxLit host path ha p q h

/-- No request makes such a matcher fault. -/
theorem C14_no_fault_late (env : Env) (hs : Hosts) (hr : HostsLateWf hs) (host path : Bytes) (ps : Params) (s : Nat) :
    hs.match env host path ps ≠ .fault s :=
  C14_no_fault env hs hr.reach host path ps s

/-- **`C14_delete_frame`** for every history (in the model — see the caveat in the header): `Delete(d)` leaves every
host that was resolved to a node of a DIFFERENT domain matched exactly as before: same verdict, same parameters. -/
theorem C14_delete_frame_late (env : Env) (hs hs' : Hosts) (hr : HostsLateWf hs) (d : Bytes)
    (hd : hs.delete d = .ok hs') (host path : Bytes) (ha : isAscii host = true) (f : Found) (q : Node)
    (hres : hs.tree.handler env (normHost host) [] mGET = .res f) (hq : f.node = some q)
    (hne : q.pattern ≠ toLower d) :
    hs'.match env host path [] = hs.match env host path [] :=
  delete_frame_late env hr hd host path ha hres hq hne

/-- `Delete` never fails on such a matcher, and the result is again such a matcher. -/
theorem C14_delete_ok_late (hs : Hosts) (hr : HostsLateWf hs) (d : Bytes) :
    ∃ hs', hs.delete d = .ok hs' ∧ hs' = hostsStep hs (.delete d) ∧ HostsLateWf hs' := by
  obtain ⟨hs', h1, h2⟩ := delete_ok_late hr d
  exact ⟨hs', h1, h2, h2 ▸ hr.step (op := .delete d) trivial⟩

/-- `Add("{a:digit}.{b}.x")`, `RegisterInterceptor(0, "digit")`, `Add("{a:DIGIT}.{b}.X.y")` is such a history; -/
example : HostsLateWf exL := exL_lateWf
/-- it is NOT one of `C14reach.lean`: `digit` is registered while the stored regexp segment `{a:digit}.` uses it; -/
example : ¬ hostsRunOk Hosts.empty exLOps := exLOps_not_ok
/-- the tree then holds a regexp segment whose rule is in the current table (no single table parses it); -/
example : (exL.tree.root.segsAt [0]).map (fun l => l.map (fun s => (s.kind, (exL.tree.ic.find s.rule).isSome))) =
    some [(.rx, true)] := exL_stale
/-- `DIGIT.foo.x.y:80` is accepted through the domain added after the registration, `a` matched by the regular
expression: the hypotheses of `C14_match_found_late` are satisfiable, and its conclusion gives the chain; -/
example : ∃ (n : Node) (chain : List (Seg × Bytes)), chain ≠ [] ∧ Chain exL.tree.root (chain.map (·.1)) n ∧
    normHost hostL1 = instChain chain ∧ captures chain = [([97], bytesOfString "digit"), ([98], bytesOfString "foo")] := by
  obtain ⟨_, n, chain, h1, h2, h3, _, h5, _⟩ :=
    C14_match_found_late exLEnv exL exL_lateWf hostL1 [47] hostL_ascii.1 _ _ exL_accept
  exact ⟨n, chain, h1, h2, h3, h5.symm⟩
/-- `5.foo.x.y` is rejected (Observation 1 in the small) and, by `C14_reject_clean_late`, leaves nothing behind. -/
example : exL.match exLEnv hostL2 [47] [] = .reject [47] [] := exL_reject
example : ([47] : Bytes) = [47] ∧ ([] : Params) = [] :=
  C14_reject_clean_late exLEnv exL exL_lateWf hostL2 [47] hostL_ascii.2 _ _ exL_reject

/-- `Delete("{A:digit}.{b}.X")` — the INTERIOR node, below the stale regexp node — succeeds, and `DIGIT.foo.x.y:80`,
resolved to the other domain, is accepted as before: the hypotheses of `C14_delete_frame_late` are satisfiable. -/
example : ∃ hs', exL.delete (bytesOfString "{A:digit}.{b}.X") = .ok hs' ∧
    hs'.match exLEnv hostL1 [47] [] = exL.match exLEnv hostL1 [47] [] := by
  obtain ⟨f, q, h1, h2, h3, _⟩ := exL_answer
  obtain ⟨hs', hd, _⟩ := C14_delete_ok_late exL exL_lateWf (bytesOfString "{A:digit}.{b}.X")
  refine ⟨hs', hd, C14_delete_frame_late exLEnv exL hs' exL_lateWf _ hd hostL1 [47] hostL_ascii.1 f q h1 h2 ?_⟩
  rw [h3]; simp only [dL2, bytesOfString_eq_data]; decide +kernel

end Mux.C14
