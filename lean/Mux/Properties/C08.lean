/-
  C08 (closed-model part) — HEAD through `headResponse`.

  A handler is a write script `List Act`; `runGet` runs it against the recorder, `runHead` runs it
  through `headResponse{size := 0, wrote := false}`.  `Rec.status r = r.code.getD 200` (an unset
  status is the implicit 200), `written acts` is the number of body bytes the script writes,
  `Act.key` the header key an action touches.  (`runGet`, `runHead`: `Mux.Model.Http`; the other three: `Mux.Proofs.Head`.)

  An informational status (`informational c`: 1xx except 101) passed to `WriteHeader` is not final, neither for the
  recorder nor for `headResponse.wrote`; every theorem below holds for ALL scripts, those with informational
  `WriteHeader`s included (`C08_informational_not_final`, `C08_head_status_informational`).
-/
import Mux.Proofs.Head
namespace Mux.C08
open Mux

/-- No body byte reaches the client. -/
theorem C08_head_body (acts : List Act) (r0 : Rec) (_hc : r0.code = none) (hb : r0.body = 0) :
    (runHead acts 0 false r0).body = 0 := by
  rw [runHead_body, hb]

/-- Stronger form, for every start state of `headResponse` and every recorder. -/
theorem C08_head_body_gen (acts : List Act) (sz : Nat) (wr : Bool) (r : Rec) :
    (runHead acts sz wr r).body = r.body := runHead_body acts sz wr r

/-- HEAD and GET answer with the same status (no hypothesis on the recorder is needed). -/
theorem C08_head_status (acts : List Act) (r0 : Rec) :
    (runHead acts 0 false r0).status = (runGet acts r0).status :=
  let ⟨_, h⟩ := (headSim_run acts 0 false r0 r0 (headSim_init r0)).1; h.status

/-- The live header maps agree, Content-Length aside. -/
theorem C08_head_headers (acts : List Act) (r0 : Rec) :
    (runHead acts 0 false r0).hdr.del hContentLength = (runGet acts r0).hdr.del hContentLength :=
  let ⟨_, h⟩ := (headSim_run acts 0 false r0 r0 (headSim_init r0)).1; h.hdr

/-- If the handler writes at least once and never touches Content-Length itself, the live header
map ends with Content-Length = number of bytes written.  (The hypothesis "no explicit
`WriteHeader`" of the property text is not needed for the live map; it is what makes the live map
the one that is sent, see `C08_head_length_sent`.) -/
theorem C08_head_length (acts : List Act) (r0 : Rec)
    (hclean : ∀ a ∈ acts, a.key ≠ some hContentLength)
    (hw : ∃ n, Act.write n ∈ acts) :
    (runHead acts 0 false r0).hdr.get hContentLength = natToBytes (written acts) := by
  rw [runHead_length_gen acts 0 false r0 hclean (.inl hw), Nat.zero_add]

/-- The induction-strength version: any start size, any `wrote` flag. -/
theorem C08_head_length_gen (acts : List Act) (sz : Nat) (wr : Bool) (r : Rec)
    (hclean : ∀ a ∈ acts, a.key ≠ some hContentLength)
    (hw : ∃ n, Act.write n ∈ acts) :
    (runHead acts sz wr r).hdr.get hContentLength = natToBytes (sz + written acts) :=
  runHead_length_gen acts sz wr r hclean (.inl hw)

/-- The same when the handler only sends informational statuses (`WriteHeader(103)` …): they are not final, so still
nothing has been sent when it returns (status unset, no header snapshot). -/
theorem C08_head_length_sent_informational (acts : List Act) (r0 : Rec)
    (hc : r0.code = none) (hs : r0.snap = none)
    (hnw : ∀ c, Act.writeHeader c ∈ acts → informational c = true) :
    (runHead acts 0 false r0).code = none ∧ (runHead acts 0 false r0).snap = none := by
  have h := runHead_unsent acts 0 false r0 hnw
  rw [h.1, h.2]; exact ⟨hc, hs⟩

/-- Without an explicit `WriteHeader` the handler returns with nothing sent yet: status unset, no
header snapshot.  (That the live map — with the Content-Length of `C08_head_length` — then goes out with
the implicit 200 is what net/http does with such a recorder; it is not part of the statement.) -/
theorem C08_head_length_sent (acts : List Act) (r0 : Rec)
    (hc : r0.code = none) (hs : r0.snap = none)
    (hnw : ∀ c, Act.writeHeader c ∉ acts) :
    (runHead acts 0 false r0).code = none ∧ (runHead acts 0 false r0).snap = none :=
  C08_head_length_sent_informational acts r0 hc hs fun c hm => absurd hm (hnw c)

/-- The header snapshot: if the HEAD recorder took one (the handler sent a final status itself before writing), the
GET recorder took one too and they agree, Content-Length aside. -/
theorem C08_head_snapshot (acts : List Act) (r0 : Rec) (h0 : r0.snap = none) (s : Hdr)
    (hs : (runHead acts 0 false r0).snap = some s) :
    ∃ s', (runGet acts r0).snap = some s' ∧ s.del hContentLength = s'.del hContentLength := by
  rcases (headSim_run acts 0 false r0 r0 (headSim_init r0)).2 (.inl h0) with h | ⟨_, s1, s', h1, h2, h3⟩
  · rw [h] at hs; cases hs
  · rw [h1] at hs; cases hs; exact ⟨s', h2, h3⟩

/-- An informational status is not final: `WriteHeader(c)` with such a `c` leaves the recorder as it was — for GET the
rest of the script runs as if the call were not there, and for HEAD likewise, `headResponse.wrote` staying `false`
(stated for a recorder with no status sent yet, `r.code = none`; the proof does not use that hypothesis). -/
theorem C08_informational_not_final (c : Nat) (hi : informational c = true) (as : List Act) :
    (∀ r : Rec, r.code = none → runGet (.writeHeader c :: as) r = runGet as r) ∧
    (∀ (sz : Nat) (r : Rec), r.code = none →
      runHead (.writeHeader c :: as) sz false r = runHead as sz false r) := by
  refine ⟨fun r _ => ?_, fun sz r _ => ?_⟩
  · simp only [runGet, Rec.writeHeader_info r c hi]
  · simp only [runHead, Bool.false_eq_true, if_false, Rec.writeHeader_info r c hi, hi, Bool.not_true]

/-- `informational c` is the negation of the flag the Go wrapper stores, `status < 100 || status > 199 || status == 101`. -/
theorem C08_informational_spec (c : Nat) :
    (informational c = true ↔ 100 ≤ c ∧ c ≤ 199 ∧ c ≠ 101) ∧
    ((!informational c) = true ↔ c < 100 ∨ c > 199 ∨ c = 101) :=
  ⟨informational_iff c, not_informational_iff c⟩

/-- A final status (also 101) sent first is the status of GET and of HEAD, whatever follows. -/
theorem C08_final_first (c : Nat) (hf : informational c = false) (as : List Act) (r : Rec) (hc : r.code = none) :
    (runGet (.writeHeader c :: as) r).status = c ∧ (runHead (.writeHeader c :: as) 0 false r).status = c := by
  have h1 : (runGet (.writeHeader c :: as) r).status = c := by
    simp only [runGet, Rec.status, runGet_code as _ c (congrArg Rec.code (Rec.writeHeader_first r c hf hc))]; rfl
  exact ⟨h1, (C08_head_status _ r).trans h1⟩

/-- `runCall` with `headWrap = true` runs the very script a GET runs — the script of `c.handler`,
after the same middleware/handler panic checks — only through `runHead … 0 false` instead of
`runGet`.  `callScript` does not depend on `headWrap`. -/
theorem C08_head_runs_get (pc : PanicCfg) (scripts : Scripts) (c : Call) :
    runCall pc scripts { c with headWrap := true }
        = (callScript pc scripts c).map (fun acts => runHead acts 0 false c.rec0) ∧
    runCall pc scripts { c with headWrap := false }
        = (callScript pc scripts c).map (fun acts => runGet acts c.rec0) ∧
    (∀ acts, callScript pc scripts c = .ok acts → c.handler.script scripts c.allow = some acts) := by
  refine ⟨?_, ?_, fun acts h => (callScript_ok_iff.1 h).2.2⟩
  · rw [runCall_eq_callScript]; rfl
  · rw [runCall_eq_callScript]; rfl

/-- Consequence at the level of calls: whenever the GET call returns a recorder, so does the HEAD
call, with no body, the same status and the same headers up to Content-Length; and the HEAD call
panics exactly when (and with what) the GET call panics. -/
theorem C08_head_call (pc : PanicCfg) (scripts : Scripts) (c : Call) :
    (∀ rg, runCall pc scripts { c with headWrap := false } = .ok rg →
      ∃ rh, runCall pc scripts { c with headWrap := true } = .ok rh ∧ rh.body = 0 ∧
        rh.status = rg.status ∧ rh.hdr.del hContentLength = rg.hdr.del hContentLength) ∧
    (∀ v, runCall pc scripts { c with headWrap := false } = .error v ↔
      runCall pc scripts { c with headWrap := true } = .error v) := by
  obtain ⟨h1, h2, _⟩ := C08_head_runs_get pc scripts c
  rw [h1, h2]
  cases callScript pc scripts c with
  | error e => exact ⟨fun rg h => (by cases h), fun v => Iff.rfl⟩
  | ok acts =>
    refine ⟨fun rg h => ?_, fun v => ⟨fun h => (by cases h), fun h => (by cases h)⟩⟩
    cases h
    exact ⟨_, rfl, runHead_body .., C08_head_status .., C08_head_headers ..⟩

/-! ## Non-vacuity -/

/-- a script with three writes (one of length 0) and header mutations between them -/
def demo : List Act :=
  [.setHeader hContentType [1], .write 3, .addHeader hVary [2], .write 0, .write 4, .delHeader hVary]

example : (∀ a ∈ demo, a.key ≠ some hContentLength) ∧ (∃ n, Act.write n ∈ demo) ∧
    (∀ c, Act.writeHeader c ∉ demo) := by
  exact ⟨by decide, ⟨3, by decide⟩, by simp [demo]⟩

example : written demo = 7 := rfl
/-- a script where HEAD's recorder really differs from GET's (status set late, body, Content-Length) -/
def demo2 : List Act := [.write 5, .writeHeader 404, .setHeader hContentLength [57]]
example : (runGet demo2 {}).body = 5 ∧ (runHead demo2 0 false {}).body = 0 ∧
    (runGet demo2 {}).status = 200 ∧ (runHead demo2 0 false {}).code = none := by decide +kernel
example : (({} : Rec).code = none) ∧ (({} : Rec).body = 0) ∧ (({} : Rec).snap = none) := ⟨rfl, rfl, rfl⟩

/-- Informational statuses, concretely: `[WriteHeader(103), WriteHeader(404)]` answers 404 for GET and for HEAD, and
`[WriteHeader(103), Write(5 bytes)]` answers the implicit 200 for both, HEAD with Content-Length 5 and no body, nothing
sent by the wrapper itself; 101 is final. -/
theorem C08_head_status_informational :
    (runGet [.writeHeader 103, .writeHeader 404] {}).status = 404 ∧
    (runHead [.writeHeader 103, .writeHeader 404] 0 false {}).status = 404 ∧
    (runGet [.writeHeader 103, .write 5] {}).status = 200 ∧
    (runHead [.writeHeader 103, .write 5] 0 false {}).status = 200 ∧
    (runHead [.writeHeader 103, .write 5] 0 false {}).hdr.get hContentLength = natToBytes 5 ∧
    (runHead [.writeHeader 103, .write 5] 0 false {}).body = 0 ∧
    (runHead [.writeHeader 103, .write 5] 0 false {}).code = none ∧
    (runGet [.writeHeader 103, .write 5] {}).body = 5 ∧
    (runGet [.writeHeader 101, .writeHeader 404] {}).status = 101 ∧
    (runHead [.writeHeader 101, .writeHeader 404] 0 false {}).status = 101 := by decide +kernel

example : informational 103 = true ∧ informational 100 = true ∧ informational 199 = true ∧
    informational 101 = false ∧ informational 99 = false ∧ informational 200 = false := by decide
/-- the hypotheses of `C08_head_length_sent_informational` are satisfiable by a script that does send a 1xx -/
example : (∀ c, Act.writeHeader c ∈ [Act.writeHeader 103, .write 5] → informational c = true) := by
  intro c hc; simp at hc; subst hc; decide

end Mux.C08
