/-
  C17 — "a duplicate pattern+method is ALWAYS rejected", completed in two directions:

  * the EMPTY method list: `Handle(p, h)` without methods registers the default set (`AnyMethods` = GET, POST,
    DELETE, PUT, PATCH, CONNECT), so it is a duplicate as soon as `p` is live with one of those.
    `C17_dup_live` (Mux/Properties/C17.lean) has `m ∈ methods`, which forces `methods ≠ []`; here the hypothesis
    is `m ∈ effMethods methods`;
  * the ROUTE TABLE OF THE HISTORY instead of the node: `C17_dup_live` speaks about the node `findPath` finds.  Here
    the hypothesis is "`(p, m)` is a live pair of the table of the history" — the abstract table `specRun` of a tree
    history, `C01.routerTable` of a router history from `NewRouter` — for every history of well-formed registrations.
-/
import Mux.Properties.C03
import Mux.Proofs.AddAtomic
import Mux.Properties.C01router
namespace Mux.C17
open Mux Mux.P9 Mux.P11

/-- The method set a `Handle` call registers: the listed methods, the default set when none is listed. -/
theorem C17_effMethods (methods : List Bytes) :
    effMethods methods = (if methods = [] then anyMethods else methods) ∧
    anyMethods = [mGET, mPOST, mDELETE, mPUT, mPATCH, mCONNECT] := by
  refine ⟨?_, by decide⟩
  unfold effMethods
  cases methods <;> simp

/-- **Node form, any method list.**  The node `findPath` finds for `p` has an entry for `m`, and `m` is among the
methods the call registers (listed, or in the default set when the list is empty): never accepted, the tree is
unchanged. -/
theorem C17_dup_live_eff (t : Tree) (p : Bytes) (h : Handler) (ms : List Nat) (methods : List Bytes)
    (path : List Nat) (n : Node) (m : Bytes)
    (hpath : t.root.findPath p = some path) (hn : t.root.getAt path = some n)
    (hm : m ∈ effMethods methods) (hlive : n.handlers.contains m = true) :
    (∃ e, t.add p h ms methods = .error e) ∧ t.step (.add p h ms methods) = t :=
  add_dup_live t p h ms methods path n m hpath hn hm hlive

/-- The error is `dupMethod` when the pattern is acceptable and no registered method is reserved or unknown. -/
theorem C17_dup_live_eff_class (t : Tree) (p : Bytes) (h : Handler) (ms : List Nat) (methods : List Bytes)
    (path : List Nat) (n : Node) (m : Bytes)
    (hpath : t.root.findPath p = some path) (hn : t.root.getAt path = some n)
    (hm : m ∈ effMethods methods) (hlive : n.handlers.contains m = true)
    (hgood : ∀ m ∈ effMethods methods, ¬ BadMethod t.hasTrace m)
    {a : Option Bool} (hamb : t.root.checkAmb t.ic p false = .ok a) (ha : a ≠ some true)
    {segs : List Seg} (hsp : split t.ic p = .ok segs) :
    t.add p h ms methods = .error .dupMethod :=
  add_dup_live_class t p h ms methods path n m hpath hn hm hlive hgood hamb ha hsp

/-- From the table to the node: on a tree satisfying the table invariant, a live pair `(p, m)` of the table read
off the tree is an entry of the node `findPath` finds for `p`. -/
theorem live_pair_findPath {t : Tree} (hinv : TInv t) {p m : Bytes} (hl : (tableOf t).has p m) :
    ∃ path n, t.root.findPath p = some path ∧ t.root.getAt path = some n ∧ n.handlers.contains m = true := by
  obtain ⟨y, hy, hyp, hk⟩ := (has_iff_node _ p m).1 hl
  obtain ⟨path, hpath, hget⟩ := (findPath_iff hinv).2 ⟨hy, hyp⟩
  exact ⟨path, y, hpath, hget, (AMap.contains_iff _ _).2 (mem_regKeys.1 hk).1⟩

/-- **Table form on one tree.**  On the tree of a well-formed history: `(p, m)` is a live pair of the table read
off the tree and the call registers `m`: never accepted, the tree is unchanged. -/
theorem C17_dup_table (t : Tree) (hr : P14.ReachAll t) (p m : Bytes) (hl : (tableOf t).has p m)
    (h : Handler) (ms : List Nat) (methods : List Bytes) (hm : m ∈ effMethods methods) :
    (∃ e, t.add p h ms methods = .error e) ∧ t.step (.add p h ms methods) = t := by
  obtain ⟨path, n, hpath, hn, hlive⟩ := live_pair_findPath hr.inv.ti hl
  exact C17_dup_live_eff t p h ms methods path n m hpath hn hm hlive

/-- **A duplicate pattern+method is always rejected**, against the abstract table of the history.
For every history `ops` of `add/remove/clean/use` on a fresh tree whose registered patterns are well-formed: if
`(p, m)` is a live pair of the abstract table `specRun … ops` (`C03_table`) and `m` is among the methods the new
`Handle(p, h, ms, methods…)` registers — listed, or in the default set when `methods = []` — then the call is
rejected and the tree is unchanged. -/
theorem C17_dup_history (name : Bytes) (ic : Interceptors) (nf : Handler) (tr : Option Handler) (ob nb : Base)
    (ops : List TOp) (hw : C03.WfOps ops) (p m : Bytes)
    (hl : (specRun (Tree.new name ic nf tr ob nb) ops).has p m)
    (h : Handler) (ms : List Nat) (methods : List Bytes) (hm : m ∈ effMethods methods) :
    let t := (Tree.new name ic nf tr ob nb).run ops
    (∃ e, t.add p h ms methods = .error e) ∧ t.step (.add p h ms methods) = t := by
  intro t
  have hsim := sim_history name ic nf tr ob nb ops hw
  exact C17_dup_table t ⟨name, ic, nf, tr, ob, nb, ops, hw, rfl⟩ p m ((hsim.has p m).2 hl) h ms methods hm

/-- **Router form.**  `NewRouter(cfg)`, any history of `Handle/Remove/Clean/Use` with well-formed registered
patterns; `(p, m)` a live pair of the route table of the history (`C01.routerTable`); a `Handle(p, h, mw, methods…)`
that registers `m`: it is rejected (`Router.handle` answers an error — the Go code panics) and the router is what it
was: same tree, hence the same `Routes()`, the same answer to every request. -/
theorem C17_dup_router {cfg : RouterCfg} {r0 : Router} (hnew : Router.new cfg = some r0) (ops : List ROp)
    (hops : ∀ op ∈ ops, C01.ROp.wf op = true) (p m : Bytes) (hl : (C01.routerTable r0 ops).has p m)
    (h : Nat) (mw : List Nat) (methods : List Bytes) (hm : m ∈ effMethods methods) :
    (∃ e, (r0.run ops).handle p h mw methods = .error e) ∧
      (r0.run ops).step (.handle p h mw methods) = r0.run ops ∧
      r0.run (ops ++ [.handle p h mw methods]) = r0.run ops := by
  obtain ⟨_, hhas, _, _⟩ := C01.C01_router_table hnew ops hops
  obtain ⟨⟨e, he⟩, _⟩ := C17_dup_table (r0.run ops).tree (C01.C01_router_reach hnew hops).1 p m ((hhas p m).2 hl)
    { base := .user h } (mw ++ (r0.run ops).ms) methods hm
  have herr : (r0.run ops).handle p h mw methods = .error e := by
    rw [Router.handle_eq, he]; rfl
  have hstep : (r0.run ops).step (.handle p h mw methods) = r0.run ops := by
    simp only [Router.step, herr]
  exact ⟨⟨e, herr⟩, hstep, (Router.run_snoc r0 ops _).trans hstep⟩

/-- On the router with the single route `("/u/{id}", GET)` (history `C01.exOps`): `(/u/{id}, GET)` is a live pair of the
route table, GET is in the DEFAULT method set, so `Handle("/u/{id}", h)` WITHOUT methods — the case `C17_dup_live`
does not cover — is rejected by `C17_dup_router`; by evaluation the error is `dupMethod`. -/
example : Router.new C01.exCfg = some C01.exR0 ∧ (∀ op ∈ C01.exOps, C01.ROp.wf op = true) ∧
    (C01.routerTable C01.exR0 C01.exOps).has (bytesOfString "/u/{id}") mGET ∧ mGET ∈ effMethods [] := by
  refine ⟨rfl, C01.exOps_wf, ?_, by decide⟩
  refine ⟨[mGET], ?_, by decide⟩
  have : C01.routerTable C01.exR0 C01.exOps = [(bytesOfString "/u/{id}", [mGET])] := by
    unfold C01.routerTable
    simp only [C01.exOps, C01.routerTableFrom, Spec.stepWith, P18.topOf, Tree.add_eq_F]
    decide +kernel
  rw [this]
  exact List.mem_singleton.2 rfl

example : (match (C01.exR0.run C01.exOps).handle (bytesOfString "/u/{id}") 9 [] [] with
    | .error e => some e | .ok _ => none) = some .dupMethod := by
  rw [Router.run_eq_F, Router.handle, Tree.add_eq_F]; decide +kernel

end Mux.C17
