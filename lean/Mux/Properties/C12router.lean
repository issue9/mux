/-
  C12 (router level, whole histories) — a passing preflight on a router made by `Router.new cfg` with a sanitized
  CORS configuration, after an ARBITRARY history of `Handle/Remove/Clean/Use`: `Access-Control-Allow-Methods` is the
  `Allow` text of the matched node, the `", "`-join of that node's rendered method set (the link to `C04_node`; the
  root's for the path `""`, `C04_star_partial`), with every other CORS header as configured — on the map handed to the
  handler and on the record AFTER `ServeHTTP`.  `C12_simple_router` is the non-preflight twin.

  Helper lemmas: `Mux/Proofs/TreeServe.lean` (`P24.served_node`, `P24.served_root`), `Mux/Proofs/CorsFinal.lean` (namespace `Mux.P24`).
-/
import Mux.Proofs.TreeServe
import Mux.Proofs.CorsFinal
import Mux.Properties.C04
import Mux.Properties.C12
import Mux.Properties.C11history
namespace Mux.C12
open Mux Mux.P24

variable {origins allowHeaders exposed : List Bytes} {maxAge : Int} {cred : Bool} {c : Cors}

/-- What a passing preflight carries, in terms of the `WithCORS` arguments and the matched node `n`. -/
def PreflightGrant (exposed : List Bytes) (maxAge : Int) (cred : Bool) (c : Cors) (req : Req) (n : Node)
    (h : Hdr) : Prop :=
  h.values hACAM = [joinWith [44, 32] n.methods] ∧
  h.values hACAO = [if c.anyOrigins = true then [42] else req.headers.get hOrigin] ∧
  h.values hACAC = (if cred = true then [bytesOfString "true"] else []) ∧
  h.values hACEH = (if exposed ≠ [] ∧ exposed ≠ [[]] then [joinWith [44] exposed] else []) ∧
  h.values hACAH = (if c.allowHeadersString ≠ [] then [c.allowHeadersString] else []) ∧
  h.values hACMA = (if maxAge ≠ 0 then [intToBytes maxAge] else []) ∧
  h.values hVary = [hACRM] ++ (if c.allowHeadersString ≠ [] then [hACRH] else []) ++ [hOrigin]

/-- The header part, for any node. -/
theorem preflightGrant_handle (hs : Cors.sanitize origins allowHeaders exposed maxAge cred = some c) (req : Req)
    (n : Node) (hne : origins ≠ []) (hor : c.anyOrigins = true ∨ req.headers.get hOrigin ∈ origins)
    (hp : Cors.isPreflight req.method req.path req.headers) (hm : req.headers.get hACRM ∈ n.methods)
    (hh : c.headerIsAllowed req.headers = true) :
    PreflightGrant exposed maxAge cred c req n
      (c.handle n.methods n.allow [] req.method req.path req.headers) := by
  obtain ⟨a, b, d, e, f, g⟩ := C12_preflight hs n.methods n.allow req.method req.path req.headers hne hor hp hm hh
  have hpre : c.preOK n.methods req.method req.path req.headers := (Cors.preOK_iff hs ..).2 ⟨hne, hp, hm⟩
  refine ⟨e, a, b, d, f, g, ?_⟩
  rw [Cors.values_handle_Vary, if_pos hpre, if_pos (Cors.granted_of hs hne hor fun _ => ⟨hm, hh⟩)]
  simp [hpre, hh]

/-- **Passing preflight, every history.**  Let `c` be a sanitized CORS configuration, `r0` the router made with it and
`ops` any history.  For a preflight (OPTIONS with `Access-Control-Request-Method`, path other than `*`) for a
non-empty path that is served (`ok = true`: the path names a live route) from an allowed origin:
the matched node `n` is a node of the tree below the root that has handlers; its method set `n.methods` is exactly
the methods registered by hand, HEAD iff GET is among them, OPTIONS, and TRACE iff the router was built with a TRACE
handler — sorted and duplicate-free — and its `Allow` text is the `", "`-join of that set; and if the requested method
is in that set and the requested headers are allowed, `Access-Control-Allow-Methods` is exactly that `Allow` text,
with Allow-Origin, Allow-Credentials, Expose-Headers, Allow-Headers, Max-Age as configured and
`Vary: Access-Control-Request-Method[, Access-Control-Request-Headers], Origin`. -/
theorem C12_preflight_router (hs : Cors.sanitize origins allowHeaders exposed maxAge cred = some c)
    {cfg : RouterCfg} {r0 : Router} (hcfg : cfg.cors = c) (hnew : Router.new cfg = some r0) (ops : List ROp)
    {env : Env} {req : Req} {ps : Params} {call : Call}
    (h : (r0.run ops).serveContext env req ps = .call call) (hok : call.ok = true)
    (hpath : req.path ≠ [])
    (hne : origins ≠ []) (hor : c.anyOrigins = true ∨ req.headers.get hOrigin ∈ origins)
    (hp : Cors.isPreflight req.method req.path req.headers) :
    ∃ n, call.node = some n ∧ n ∈ nodesL (r0.run ops).tree.root.children ∧ n.handlers ≠ [] ∧
      n.handlers.get? mOPTIONS = some call.handler ∧
      (∀ m, m ∈ n.methods ↔ m ∈ n.registered ∨ (m = mHEAD ∧ mGET ∈ n.registered) ∨ m = mOPTIONS ∨
        (cfg.trace = true ∧ m = mTRACE)) ∧
      n.methods.Pairwise (fun a b => bytesLt a b = true) ∧ n.methods.Nodup ∧
      n.allow = joinWith [44, 32] n.methods ∧
      (req.headers.get hACRM ∈ n.methods → c.headerIsAllowed req.headers = true →
        PreflightGrant exposed maxAge cred c req n call.respHeaders) := by
  obtain ⟨n, hn, hresp⟩ := Router.serveContext_ok h hok
  have hmeth : req.method = mOPTIONS := hp.1
  obtain ⟨hmem, hhne, hget⟩ := served_node (P18.serveContext_call_found env _ req ps call h).1
    (f := P18.Call.found call) hok hn hpath hp.2.2 (by rw [hmeth]; decide)
  obtain ⟨_, _, _, _, h5, h6, h7, h8⟩ := C04.C04_node (run_reach hnew ops).tree hmem hhne
  rw [(Router.run_treeCfg hnew ops).1] at h5
  refine ⟨n, hn, hmem, hhne, hmeth ▸ hget, h5, h6, h7, h8, fun hm hh => ?_⟩
  rw [hresp, (C16.C16_options_stable cfg r0 ops hnew).2.1, hcfg]
  exact preflightGrant_handle hs req n hne hor hp hm hh

/-- The same for the one preflight path that is answered from the ROOT node, the empty path: `Allow-Methods` is the
root's `Allow` text, and the root's method set is OPTIONS, TRACE iff configured, and every method that has at least
one live route in the tree (`C04_star_partial`). -/
theorem C12_preflight_root (hs : Cors.sanitize origins allowHeaders exposed maxAge cred = some c)
    {cfg : RouterCfg} {r0 : Router} (hcfg : cfg.cors = c) (hnew : Router.new cfg = some r0) (ops : List ROp)
    {env : Env} {req : Req} {ps : Params} {call : Call}
    (h : (r0.run ops).serveContext env req ps = .call call) (hok : call.ok = true)
    (hpath : req.path = [])
    (hne : origins ≠ []) (hor : c.anyOrigins = true ∨ req.headers.get hOrigin ∈ origins)
    (hp : Cors.isPreflight req.method req.path req.headers) :
    call.node = some (r0.run ops).tree.root ∧
      (∀ m, m ∈ (r0.run ops).tree.root.methods ↔ m = mOPTIONS ∨ ((r0.run ops).tree.hasTrace = true ∧ m = mTRACE) ∨
        m ∈ liveMethods (r0.run ops).tree.counts) ∧
      (r0.run ops).tree.root.allow = joinWith [44, 32] (r0.run ops).tree.root.methods ∧
      (req.headers.get hACRM ∈ (r0.run ops).tree.root.methods → c.headerIsAllowed req.headers = true →
        PreflightGrant exposed maxAge cred c req (r0.run ops).tree.root call.respHeaders) := by
  have hreach := (run_reach hnew ops).tree
  obtain ⟨n, hn, hresp⟩ := Router.serveContext_ok h hok
  have hfound := (P18.serveContext_call_found env _ req ps call h).1
  have hroot : n = (r0.run ops).tree.root :=
    served_root hfound (f := P18.Call.found call) hn (.inl hpath) (by rw [hp.1]; decide)
  subst hroot
  refine ⟨hn, C04.C04_star_partial hreach, rfl, fun hm hh => ?_⟩
  rw [hresp, (C16.C16_options_stable cfg r0 ops hnew).2.1, hcfg]
  exact preflightGrant_handle hs req _ hne hor hp hm hh

/-- `PreflightGrant` only looks at the seven CORS response headers. -/
theorem PreflightGrant.congr {req : Req} {n : Node} {h h' : Hdr} (hv : ∀ k ∈ C11.corsNames, h'.values k = h.values k)
    (hg : PreflightGrant exposed maxAge cred c req n h) : PreflightGrant exposed maxAge cred c req n h' := by
  unfold PreflightGrant at *
  simp only [C11.corsNames, List.forall_mem_cons] at hv
  obtain ⟨h1, h2, h3, h4, h5, h6, h7, _⟩ := hv
  rw [h1, h2, h3, h4, h5, h6, h7]
  exact hg

/-- **The grant at the observation point.**  Under the hypotheses of `C12_preflight_router`, the grant is still there,
unchanged, in the header map after `ServeHTTP` and in the headers as sent, however the call ended with a response
(mux's own OPTIONS handler only sets `Allow`).  User code must not rewrite the CORS headers itself: the handler's
script, if the route's OPTIONS entry is a USER handler, and the recovery function's script name none of them. -/
theorem C12_preflight_final (hs : Cors.sanitize origins allowHeaders exposed maxAge cred = some c)
    {cfg : RouterCfg} {r0 : Router} (hcfg : cfg.cors = c) (hnew : Router.new cfg = some r0) (ops : List ROp)
    {env : Env} {pc : PanicCfg} {scripts : Scripts} {req : Req} {ps : Params} {call : Call} {out : Outcome} {rec : Rec}
    (h : (r0.run ops).serveHTTP env pc scripts req ps = (some call, out)) (hok : call.ok = true)
    (hpath : req.path ≠ [])
    (hne : origins ≠ []) (hor : c.anyOrigins = true ∨ req.headers.get hOrigin ∈ origins)
    (hp : Cors.isPreflight req.method req.path req.headers)
    (hu : ∀ id, call.handler.base = .user id → Quiet C11.corsNames (scripts.get id))
    (hr : Quiet C11.corsNames cfg.recActs) (ho : outRec out = some rec) :
    ∃ n, call.node = some n ∧ n ∈ nodesL (r0.run ops).tree.root.children ∧
      (req.headers.get hACRM ∈ n.methods → c.headerIsAllowed req.headers = true →
        PreflightGrant exposed maxAge cred c req n rec.hdr ∧
        ∀ s, rec.snap = some s → PreflightGrant exposed maxAge cred c req n s) := by
  obtain ⟨n, hn, hmem, _, _, _, _, _, _, hgrant⟩ :=
    C12_preflight_router hs hcfg hnew ops (C11.serveHTTP_call h).1 hok hpath hne hor hp
  have hK := keeps_serveHTTP C11.corsNames cors_headers_free h hu
    (by rw [C16.C16_recActs_stable cfg r0 ops hnew]; exact hr) ho
  refine ⟨n, hn, hmem, fun hm hh => ⟨(hgrant hm hh).congr (fun k hk => (hK k hk).values), fun s hsnap => ?_⟩⟩
  exact (hgrant hm hh).congr (fun k hk => ((hK k hk).snap s hsnap).1)

/-- **Allowed origin, live route, served method, not a preflight — every history.**  The map handed to the handler
carries `Access-Control-Allow-Origin` (`*` if configured, else the request's origin), Allow-Credentials and
Expose-Headers exactly as configured, none of the preflight-only headers, and `Vary: Origin`. -/
theorem C12_simple_router (hs : Cors.sanitize origins allowHeaders exposed maxAge cred = some c)
    {cfg : RouterCfg} {r0 : Router} (hcfg : cfg.cors = c) (hnew : Router.new cfg = some r0) (ops : List ROp)
    {env : Env} {req : Req} {ps : Params} {call : Call}
    (h : (r0.run ops).serveContext env req ps = .call call) (hok : call.ok = true)
    (hne : origins ≠ []) (hor : c.anyOrigins = true ∨ req.headers.get hOrigin ∈ origins)
    (hnp : ¬ Cors.isPreflight req.method req.path req.headers) :
    call.respHeaders.values hACAO = [if c.anyOrigins = true then [42] else req.headers.get hOrigin] ∧
    call.respHeaders.values hACAC = (if cred = true then [bytesOfString "true"] else []) ∧
    call.respHeaders.values hACEH = (if exposed ≠ [] ∧ exposed ≠ [[]] then [joinWith [44] exposed] else []) ∧
    call.respHeaders.has hACAM = false ∧ call.respHeaders.has hACAH = false ∧ call.respHeaders.has hACMA = false ∧
    call.respHeaders.values hVary = [hOrigin] := by
  obtain ⟨n, hn, hresp⟩ := C12_served h hok
  rw [hresp, (C16.C16_options_stable cfg r0 ops hnew).2.1, hcfg]
  obtain ⟨a, b, d, e, f, g⟩ := C12_simple hs n.methods n.allow req.method req.path req.headers hne hor hnp
  refine ⟨a, b, d, e, f, g, ?_⟩
  rw [Cors.values_handle_Vary, if_pos (Cors.granted_of hs hne hor fun hp => absurd hp hnp),
    if_neg fun h => hnp h.2.1, if_neg fun h => hnp h.1.2.1]
  rfl

/-! ## Non-vacuity

The router of `C11history`: `NewRouter("r", WithCORS(origin a.example, Content-Type and X-Id allowed, X-Id exposed,
max-age 3600, credentials))`, then `Handle("/a", h1, GET)`, `Use(3)`; the browser-style preflight for `/a`. -/

def pReq : Req := { method := mOPTIONS, path := CorsEx.path, headers := CorsEx.preflight }

structure PView where
  ok : Bool
  methods : List Bytes
  acam : List Bytes
  vary : List Bytes
  final : Option (List Bytes)
  deriving DecidableEq
def pView (x : Option Call × Outcome) : Option PView :=
  x.1.map (fun c => ⟨c.ok, (c.node.map (·.methods)).getD [], c.respHeaders.values hACAM, c.respHeaders.values hVary,
    (outRec x.2).map (·.hdr.values hACAM)⟩)

/-- hypotheses of `C12_preflight_router` / `C12_preflight_final` that do not mention the call -/
example : Cors.sanitize [CorsEx.origin] [hContentType, CorsEx.xId] [CorsEx.xId] 3600 true = some C11.hCfg.cors ∧
    Router.new C11.hCfg = some C11.hR0 ∧ pReq.path ≠ [] ∧ [CorsEx.origin] ≠ [] ∧
    (CorsEx.cfg.anyOrigins = true ∨ pReq.headers.get hOrigin ∈ [CorsEx.origin]) ∧
    Cors.isPreflight pReq.method pReq.path pReq.headers ∧ CorsEx.cfg.headerIsAllowed pReq.headers = true ∧
    pReq.headers.get hACRM = mGET ∧ Quiet C11.corsNames C11.hCfg.recActs := by
  exact ⟨CorsEx.sanitize_cfg, rfl, by decide +kernel, List.cons_ne_nil _ _, by decide +kernel, by decide +kernel,
    CorsEx.allowed_preflight, by decide +kernel, by decide +kernel⟩

/-- The history is evaluated once, for the two requests below. -/
private theorem pRun_eval :
    (pView ((C11.hR0.run C11.hOps).serveHTTP CorsEx.env {} [] pReq []) ==
       some ⟨true, [mGET, mHEAD, mOPTIONS], [bytesOfString "GET, HEAD, OPTIONS"], [hACRM, hACRH, hOrigin],
         some [bytesOfString "GET, HEAD, OPTIONS"]⟩ &&
     pView ((C11.hR0.run C11.hOps).serveHTTP CorsEx.env {} [] (C11.hReq CorsEx.path CorsEx.simple) []) ==
       some ⟨true, [mGET, mHEAD, mOPTIONS], [], [hOrigin], some []⟩) = true := by
  rw [Router.run_eq_F]; decide +kernel

/-- the hypotheses that mention the call: the preflight is served, the requested method GET is in the node's set, and the outcome:
`Allow-Methods: GET, HEAD, OPTIONS` handed over and still there after mux's OPTIONS handler ran -/
example : pView ((C11.hR0.run C11.hOps).serveHTTP CorsEx.env {} [] pReq []) =
    some ⟨true, [mGET, mHEAD, mOPTIONS], [bytesOfString "GET, HEAD, OPTIONS"], [hACRM, hACRH, hOrigin],
      some [bytesOfString "GET, HEAD, OPTIONS"]⟩ := by
  have h := pRun_eval
  simp only [Bool.and_eq_true, beq_iff_eq] at h
  exact h.1

/-- hypotheses of `C12_simple_router`: a GET from the listed origin on the live route is served and is no preflight -/
example : ¬ Cors.isPreflight mGET CorsEx.path CorsEx.simple ∧
    pView ((C11.hR0.run C11.hOps).serveHTTP CorsEx.env {} [] (C11.hReq CorsEx.path CorsEx.simple) []) =
      some ⟨true, [mGET, mHEAD, mOPTIONS], [], [hOrigin], some []⟩ := by
  have h := pRun_eval
  simp only [Bool.and_eq_true, beq_iff_eq] at h
  exact ⟨by decide +kernel, h.2⟩

end Mux.C12
