/-
  C01 through a Group — dispatch soundness of `Group.serve`.

  A group hands the request to the first router whose matcher accepts (`C13_first`), on the path `p` the matcher
  left and with the parameters `ps` the matcher captured.  This file generalises `C01_dispatch_sound` /
  `C01_dispatch_404` / `C01_found_from` to ARBITRARY incoming parameters `ps` and lifts them to `Group.serve`.

  The merge law of the parameters after the D30 repair (`setAll ps caps` is `ps` overridden / extended by `caps` in
  order with the model's `AMap.set`): for ANY incoming parameters `ps` with one entry per key (`ps.keys.Nodup`, what
  every context built by `Set` satisfies),

    * a found route reports EXACTLY `setAll ps (captures chain)`: a route capture wins over an equal-named matcher
      parameter, every other matcher parameter survives with its value (and its place);
    * the router's 404 reports EXACTLY `ps`

  (`C01_found_exact`, `C01_404_exact`, `C01_dispatch_exact`, `C01_group_dispatch_exact`).  The side condition cannot be
  dropped (`C01_exact_needs_nodup`) but always holds for what a group matcher hands over (`C01_group_params_nodup`,
  hence `C01_group_dispatch_exact_all` without any hypothesis on `ps`).  No disjointness between the
  matcher's parameter names and the names of the router's tree is needed.  Before the repair the undo of an
  abandoned branch was `ctx.Delete(name)`, which erased a matcher parameter of the same name;
  `C01_group_collision_repaired` evaluates the table on which that happened.

  The weaker lookup forms (`NodeSound`, `NotFoundSound`: "… or is gone", exact only under disjointness) need no
  hypothesis on `ps` at all.
-/
import Mux.Proofs.GroupLiftParams
import Mux.Proofs.RestoreMatcher
import Mux.Proofs.GetNodeFuel
import Mux.Proofs.RunFuel
import Mux.Properties.C01d
import Mux.Properties.C13
import Mux.Proofs.HostsReachExamples
import Mux.Properties.C15
namespace Mux.C01
open Mux Mux.P18

/-- `ps` overridden / extended by `caps` in order: `caps.foldl (fun a e => a.set e.1 e.2) ps`. -/
abbrev setAll := Mux.P18.setAll
/-- The `seg.name` of every node below the root of the tree (`""` for literal nodes). -/
abbrev treeNames := Mux.P18.treeNames
/-- The names of the non-literal nodes below the root. -/
abbrev paramNames := Mux.P18.paramNames
/-- `Call.found c`: node, handler, `ok` and parameters of the call as a `Found` (to reuse `HandlerAgrees`). -/
abbrev Call.found := Mux.P18.Call.found
abbrev NodeSound := Mux.P18.NodeSound
abbrev NotFoundSound := Mux.P18.NotFoundSound
/-- A router history whose registered patterns are well-formed: `ROp.wf (.handle p …) = WfPattern p`. -/
abbrev ROp.wf := Mux.P18.ROp.wf

/-- The `set` fold: later captures override, fresh keys are appended; lookups. -/
theorem C01_setAll (ps : Params) (caps : List (Bytes × Bytes)) :
    setAll ps caps = caps.foldl (fun a e => a.set e.1 e.2) ps ∧
    (∀ k, k ∉ caps.map (·.1) → (setAll ps caps).get? k = ps.get? k) ∧
    ((caps.map (·.1)).Nodup → ∀ k v, (k, v) ∈ caps → (setAll ps caps).get? k = some v) ∧
    ((caps.map (·.1)).Nodup → (∀ k ∈ caps.map (·.1), k ∉ ps.keys) → setAll ps caps = ps ++ caps) :=
  ⟨rfl, fun _ hk => get?_setAll_other caps ps hk, fun hnd _ _ hkv => get?_setAll_mem caps ps hnd hkv,
    fun hnd hf => setAll_fresh caps ps hnd hf⟩

/-- `NodeSound env t path method ps c n` spelled out: the reported node `n` comes with a non-empty chain of tree
segments from the root whose instantiation spells `path` byte for byte; every value satisfies its segment's
constraint; `n` has handlers, its pattern is the concatenated segment texts and the handler / `ok` of the call agree
with `n`'s handler map; the capture names are pairwise distinct; and the parameters obey the merge law. -/
theorem C01_nodeSound_iff (env : Env) (t : Tree) (path method : Bytes) (ps : Params) (c : Call) (n : Node) :
    NodeSound env t path method ps c n ↔
    ∃ chain : List (Seg × Bytes),
      chain ≠ [] ∧ Chain t.root (chain.map (·.1)) n ∧ path = instChain chain ∧
      (∀ sv ∈ chain, sv.1.Satisfies env t.ic sv.2) ∧ n.handlers ≠ [] ∧ HandlerAgrees n method (Call.found c) ∧
      n.pattern = (chain.map (·.1.value)).flatten ∧
      ((captures chain).map (·.1)).Nodup ∧
      (∀ k, k ∈ (captures chain).map (·.1) ∨ k ∉ treeNames t →
        c.params.get? k = (setAll ps (captures chain)).get? k) ∧
      (∀ k, c.params.get? k = (setAll ps (captures chain)).get? k ∨ c.params.get? k = none) ∧
      ((∀ k ∈ ps.keys, k ∉ treeNames t) →
        c.params = ps ++ captures chain ∧ c.params = setAll ps (captures chain)) := Iff.rfl

/-- `NotFoundSound t ps c` spelled out: the router's own not-found handler, `ok = false`; keys foreign to the tree
keep their incoming value, every other key has its incoming value or is gone; with disjoint names exactly `ps`. -/
theorem C01_notFoundSound_iff (t : Tree) (ps : Params) (c : Call) :
    NotFoundSound t ps c ↔
    (c.handler = t.notFound ∧ c.ok = false ∧
      (∀ k, k ∉ treeNames t → c.params.get? k = ps.get? k) ∧
      (∀ k, c.params.get? k = ps.get? k ∨ c.params.get? k = none) ∧
      ((∀ k ∈ ps.keys, k ∉ treeNames t) → c.params = ps)) := Iff.rfl

/-- The tree of a router made by `NewRouter` and any history whose registered patterns are well-formed satisfies
`ReachAll` (equivalently `ReachWf`, `C03_reach_bridge`): the hypothesis of the theorems below. -/
theorem C01_router_reach {cfg : RouterCfg} {r0 : Router} (hnew : Router.new cfg = some r0) {ops : List ROp}
    (hops : ∀ op ∈ ops, ROp.wf op = true) : P14.ReachAll (r0.run ops).tree ∧ P9.ReachWf (r0.run ops).tree :=
  ⟨reachAll_run hnew hops, (reachAll_run hnew hops).reachWf⟩

/-- On such a tree the literal nodes have the name `""`: the disjointness hypothesis only concerns `""` and the
names of the route parameters. -/
theorem C01_disjoint_reach {t : Tree} (hr : P14.ReachAll t) {ps : Params} (h0 : [] ∉ ps.keys)
    (hp : ∀ k ∈ ps.keys, k ∉ paramNames t) : ∀ k ∈ ps.keys, k ∉ treeNames t := by
  intro k hk hmem
  rcases treeNames_reach hr hmem with rfl | h
  · exact h0 hk
  · exact hp k hk h

/-! ## `Router.serveContext` with incoming parameters (`C01_dispatch_sound` / `C01_dispatch_404` generalised) -/

/-- The tree-level statement (`C01_found_from` without its hypothesis on the incoming keys): it only needs the two
matcher hypotheses `NamesOkL []` and `IdxLit`, which hold on every reachable tree.  By cases: when no incoming key
is a name of the tree this is `C01_found_from` (`Tree.handler_found`), whose equation gives the lookups; otherwise the
equation is not asked for and `found_lookup` has the lookups, for every key. -/
theorem C01_found_general (env : Env) (t : Tree) (hN : NamesOkL [] t.root.children) (hI : Node.All IdxLit t.root)
    (path method : Bytes) (ps : Params) (f : Found) (n : Node)
    (hp : path ≠ []) (hs : path ≠ [42]) (htr : t.trace = none ∨ method ≠ mTRACE)
    (h : t.handler env path ps method = .res f) (hf : f.node = some n) :
    ∃ chain : List (Seg × Bytes),
      chain ≠ [] ∧ Chain t.root (chain.map (·.1)) n ∧ path = instChain chain ∧
      (∀ sv ∈ chain, sv.1.Satisfies env t.ic sv.2) ∧ n.handlers ≠ [] ∧ HandlerAgrees n method f ∧
      ((captures chain).map (·.1)).Nodup ∧
      (∀ k, k ∈ (captures chain).map (·.1) ∨ k ∉ treeNames t →
        f.params.get? k = (setAll ps (captures chain)).get? k) ∧
      (∀ k, f.params.get? k = (setAll ps (captures chain)).get? k ∨ f.params.get? k = none) ∧
      ((∀ k ∈ ps.keys, k ∉ treeNames t) →
        f.params = ps ++ captures chain ∧ f.params = setAll ps (captures chain)) := by
  by_cases hd : ∀ k ∈ ps.keys, k ∉ treeNames t
  · obtain ⟨chain, c1, c2, c3, c4, c5, c6, c7⟩ :=
      Tree.handler_found ⟨namesOkL_of_disjoint hN hd, hI⟩ hp hs htr h hf
    have heq : f.params = setAll ps (captures chain) := c5.trans (setAll_captures_disjoint hN c2 hd).symm
    exact ⟨chain, c1, c2, c3, c4, c6, c7, captures_nodup hN c2, fun k _ => by rw [heq], fun k => .inl (by rw [heq]),
      fun _ => ⟨c5, heq⟩⟩
  · obtain ⟨chain, c1, c2, c3, c4, c5, c6, c7⟩ := found_lookup env t hI path method ps f n hp hs htr h hf
    exact ⟨chain, c1, c2, c3, c4, c5, c6, captures_nodup hN c2, fun k _ => c7 k, fun k => .inl (c7 k),
      fun h => absurd h hd⟩

theorem C01_404_general (env : Env) (t : Tree) (hN : NamesOkL [] t.root.children) (hI : Node.All IdxLit t.root)
    (path method : Bytes) (ps : Params) (f : Found)
    (h : t.handler env path ps method = .res f) (hf : f.node = none) :
    f.handler = t.notFound ∧ f.ok = false ∧
      (∀ k, k ∉ treeNames t → f.params.get? k = ps.get? k) ∧
      (∀ k, f.params.get? k = ps.get? k ∨ f.params.get? k = none) ∧
      ((∀ k ∈ ps.keys, k ∉ treeNames t) → f.params = ps) := by
  obtain ⟨a, b, c⟩ := notFound_lookup env t hI path method ps f h hf
  exact ⟨a, b, fun k _ => c k, fun k => .inl (c k),
    fun hd => (Tree.handler_404 ⟨namesOkL_of_disjoint hN hd, hI⟩ h hf).1⟩

/-- For a router whose tree is reachable by a well-formed history, every request and ANY
incoming parameters `ps`: the call reports the router's name and the request path; a reported node is sound in the
sense of `NodeSound` (for a path other than `""`/`*`, outside the TRACE short-circuit); a call without node is the
router's 404 in the sense of `NotFoundSound`; `""`, `*` and TRACE report exactly `ps`. -/
theorem C01_dispatch_from (env : Env) (r : Router) (hr : P14.ReachAll r.tree) (req : Req) (ps : Params) (c : Call)
    (h : r.serveContext env req ps = .call c) :
    c.routerName = r.tree.name ∧ c.path = req.path ∧
    (∀ n, c.node = some n → req.path ≠ [] → req.path ≠ [42] → (r.tree.trace = none ∨ req.method ≠ mTRACE) →
      NodeSound env r.tree req.path req.method ps c n) ∧
    (c.node = none → NotFoundSound r.tree ps c) ∧
    ((req.path = [] ∨ req.path = [42] ∨ (r.tree.trace ≠ none ∧ req.method = mTRACE)) → c.params = ps) := by
  obtain ⟨hf, h1, h2⟩ := serveContext_call_found env r req ps c h
  refine ⟨h1, h2, fun n hn hp hs htr => ?_, fun hn => ?_, fun hcase => ?_⟩
  · obtain ⟨chain, c1, c2, c3, c4, c5, c6, c7, c8, c9, c10⟩ :=
      C01_found_general env r.tree hr.inv.names hr.inv.idxLit req.path req.method ps (Call.found c) n hp hs htr hf hn
    exact ⟨chain, c1, c2, c3, c4, c5, c6, chain_pattern_reach hr c2, c7, c8, c9, c10⟩
  · exact C01_404_general env r.tree hr.inv.names hr.inv.idxLit req.path req.method ps (Call.found c) hf hn
  · -- `""`, `*` and the TRACE short-circuit do no matching
    rcases hcase with hp | hp | ⟨htr, hm⟩
    · exact (Tree.handler_root (.inl hp) hf).1
    · exact (Tree.handler_root (.inr hp) hf).1
    · rcases Tree.handler_cases env r.tree req.path ps req.method with ⟨_, _, _, e⟩ | ⟨h', _⟩
      · rw [e] at hf
        injection hf with hf
        exact (congrArg Found.params hf).symm
      · exact (h'.elim htr (· hm)).elim

/-- The matcher is parametric in the incoming parameters: node, handler, `ok`, faults and unsupported inputs do not
depend on them (here: compared with no incoming parameters at all). -/
theorem C01_params_irrelevant (env : Env) (t : Tree) (path method : Bytes) (ps : Params) :
    (∀ s, t.handler env path ps method = .fault s ↔ t.handler env path [] method = .fault s) ∧
    (t.handler env path ps method = .unsupported ↔ t.handler env path [] method = .unsupported) ∧
    (∀ f, t.handler env path ps method = .res f →
      ∃ f0, t.handler env path [] method = .res f0 ∧ f.node = f0.node ∧ f.handler = f0.handler ∧ f.ok = f0.ok) ∧
    (∀ f0, t.handler env path [] method = .res f0 →
      ∃ f, t.handler env path ps method = .res f ∧ f.node = f0.node ∧ f.handler = f0.handler ∧ f.ok = f0.ok) := by
  have hT : Closed (fun _ _ : Params => True) := ⟨fun _ _ _ _ _ => trivial, fun _ _ _ _ _ _ _ => trivial⟩
  have h1 := handler_rel env t hT path method ps [] trivial
  have h2 := handler_rel env t hT path method [] ps trivial
  refine ⟨fun s => ⟨fun h => ?_, fun h => ?_⟩, ⟨fun h => ?_, fun h => ?_⟩, fun f h => ?_, fun f0 h => ?_⟩
  · rw [h] at h1; exact h1.fault_left
  · rw [h] at h2; exact h2.fault_left
  · rw [h] at h1; exact h1.unsupported_left
  · rw [h] at h2; exact h2.unsupported_left
  · rw [h] at h1
    obtain ⟨f0, h0, a, b, c, _⟩ := h1.res_left
    exact ⟨f0, h0, a, b, c⟩
  · rw [h] at h2
    obtain ⟨f, h0, a, b, c, _⟩ := h2.res_left
    exact ⟨f, h0, a.symm, b.symm, c.symm⟩

/-- Let `(rid, m)` be the first entry of the group whose matcher does not reject the
request as received, let it accept with the rewritten path `p` and the parameters `ps`, and let its router `r` have a
tree reachable by a well-formed history.  Then `Group.serve` is `r.serveContext` on `(p, ps)` (`C13_first`), and every
call it produces reports `r`'s name and the REWRITTEN path `p`; a reported node comes with a chain whose instantiation
spells `p` byte for byte, with every value satisfying its constraint, `n.pattern` the concatenated texts, the handler
agreeing with `n`'s handler map, and parameters that are the matcher's `ps` merged with the chain's captures
(`NodeSound`: the route capture wins, foreign keys are kept; exactly `setAll ps (captures chain) = ps ++ captures chain`
when no key of `ps` is a name of `r`'s tree); the router's 404 reports `ps` (`NotFoundSound`: exactly `ps` under the
same disjointness). -/
theorem C01_group_dispatch_sound (env : Env) (tab : Nat → Option Hosts) (rt : RTab) (g : Group) (req : Req)
    (pre post : List (Nat × Matcher)) (rid : Nat) (m : Matcher) (p : Bytes) (ps : Params) (r : Router)
    (hg : g.routers = pre ++ (rid, m) :: post)
    (hpre : ∀ e ∈ pre, C13.Rejects env tab req e)
    (hm : m.run env tab req req.path [] = .accept p ps)
    (hrt : rt.get? rid = some r) (hr : P14.ReachAll r.tree) :
    g.serve env tab rt req = r.serveContext env { req with path := p } ps ∧
    ∀ c, g.serve env tab rt req = .call c →
      c.routerName = r.tree.name ∧ c.path = p ∧ c.recover = r.recover ∧
      (∀ n, c.node = some n → p ≠ [] → p ≠ [42] → (r.tree.trace = none ∨ req.method ≠ mTRACE) →
        NodeSound env r.tree p req.method ps c n) ∧
      (c.node = none → NotFoundSound r.tree ps c) ∧
      ((p = [] ∨ p = [42] ∨ (r.tree.trace ≠ none ∧ req.method = mTRACE)) → c.params = ps) := by
  have h1 := C13.C13_first env tab rt g req pre post rid m p ps r hg hpre hm hrt
  refine ⟨h1, fun c hc => ?_⟩
  rw [h1] at hc
  obtain ⟨a, b, c1, c2, c3⟩ := C01_dispatch_from env r hr { req with path := p } ps c hc
  exact ⟨a, b, (serveContext_call_recActs env r _ ps c hc).2, c1, c2, c3⟩

/-- The exact form under DISJOINTNESS (no hypothesis on `ps` itself): when no parameter of the matcher has the name of a
node of the router's tree, the parameters handed to `CallFunc` are the matcher's followed by the route captures, and
a 404 reports the matcher's parameters unchanged. -/
theorem C01_group_dispatch_disjoint (env : Env) (tab : Nat → Option Hosts) (rt : RTab) (g : Group) (req : Req)
    (pre post : List (Nat × Matcher)) (rid : Nat) (m : Matcher) (p : Bytes) (ps : Params) (r : Router)
    (hg : g.routers = pre ++ (rid, m) :: post)
    (hpre : ∀ e ∈ pre, C13.Rejects env tab req e)
    (hm : m.run env tab req req.path [] = .accept p ps)
    (hrt : rt.get? rid = some r) (hr : P14.ReachAll r.tree)
    (hd : ∀ k ∈ ps.keys, k ∉ treeNames r.tree) (c : Call) (hc : g.serve env tab rt req = .call c) :
    (∀ n, c.node = some n → p ≠ [] → p ≠ [42] → (r.tree.trace = none ∨ req.method ≠ mTRACE) →
      ∃ chain : List (Seg × Bytes), chain ≠ [] ∧ Chain r.tree.root (chain.map (·.1)) n ∧ p = instChain chain ∧
        (∀ sv ∈ chain, sv.1.Satisfies env r.tree.ic sv.2) ∧
        c.params = ps ++ captures chain ∧ c.params = setAll ps (captures chain) ∧
        n.pattern = (chain.map (·.1.value)).flatten ∧ HandlerAgrees n req.method (Call.found c)) ∧
    (c.node = none → c.params = ps ∧ c.handler = r.tree.notFound ∧ c.ok = false) := by
  obtain ⟨_, h⟩ := C01_group_dispatch_sound env tab rt g req pre post rid m p ps r hg hpre hm hrt hr
  obtain ⟨_, _, _, h1, h2, _⟩ := h c hc
  refine ⟨fun n hn hp hs htr => ?_, fun hn => ?_⟩
  · obtain ⟨chain, c1, c2, c3, c4, _, c6, c7, _, _, _, c11⟩ := h1 n hn hp hs htr
    exact ⟨chain, c1, c2, c3, c4, (c11 hd).1, (c11 hd).2, c7, c6⟩
  · obtain ⟨a, b, _, _, e⟩ := h2 hn
    exact ⟨e hd, a, b⟩

/-! ## The exact law after the D30 repair: arbitrary incoming parameters with one entry per key -/

/-- Tree level.  On a tree whose index fast path selects literal children (`IdxLit`; every
reachable tree) and for ANY incoming parameters `ps` with one entry per key: a found route reports exactly the `set`
fold of the chain's captures over `ps`; keys that are no capture keep their incoming value.  With distinct names
along each chain of the tree (`NamesOkL []`; every reachable tree) the capture names are pairwise distinct, each
capture can be looked up, and under disjointness the fold is the concatenation. -/
theorem C01_found_exact (env : Env) (t : Tree) (hI : Node.All IdxLit t.root)
    (path method : Bytes) (ps : Params) (hnd : ps.keys.Nodup) (f : Found) (n : Node)
    (hp : path ≠ []) (hs : path ≠ [42]) (htr : t.trace = none ∨ method ≠ mTRACE)
    (h : t.handler env path ps method = .res f) (hf : f.node = some n) :
    ∃ chain : List (Seg × Bytes),
      chain ≠ [] ∧ Chain t.root (chain.map (·.1)) n ∧ path = instChain chain ∧
      (∀ sv ∈ chain, sv.1.Satisfies env t.ic sv.2) ∧ n.handlers ≠ [] ∧ HandlerAgrees n method f ∧
      f.params = setAll ps (captures chain) ∧
      (∀ k, k ∉ (captures chain).map (·.1) → f.params.get? k = ps.get? k) ∧
      (NamesOkL [] t.root.children →
        ((captures chain).map (·.1)).Nodup ∧
        (∀ k v, (k, v) ∈ captures chain → f.params.get? k = some v) ∧
        ((∀ k ∈ ps.keys, k ∉ treeNames t) → f.params = ps ++ captures chain)) := by
  obtain ⟨chain, c1, c2, c3, c4, c5, c6, c7⟩ := P19.handler_found_restore hI hnd hp hs htr h hf
  change f.params = setAll ps (captures chain) at c5
  refine ⟨chain, c1, c2, c3, c4, c6, c7, c5, fun k hk => ?_, fun hN => ?_⟩
  · rw [c5]; exact get?_setAll_other _ _ hk
  · refine ⟨captures_nodup hN c2, fun k v hkv => ?_, fun hd => c5.trans (setAll_captures_disjoint hN c2 hd)⟩
    rw [c5]; exact get?_setAll_mem _ _ (captures_nodup hN c2) hkv

/-- Tree level: a 404 reports exactly the incoming parameters — no hypothesis on names. -/
theorem C01_404_exact (env : Env) (t : Tree) (hI : Node.All IdxLit t.root)
    (path method : Bytes) (ps : Params) (hnd : ps.keys.Nodup) (f : Found)
    (h : t.handler env path ps method = .res f) (hf : f.node = none) :
    f.params = ps ∧ f.handler = t.notFound ∧ f.ok = false :=
  P19.handler_404_restore hI hnd h hf

/-- At the level of the matcher: a miss of `matchChildren` hands back exactly the parameters it was given, a hit the
`set` fold of the captures of the chain taken — whatever the names in the tree. -/
theorem C01_match_exact (env : Env) (ic : Interceptors) (n : Node) (hI : Node.All IdxLit n) (path : Bytes) (ps : Params)
    (hnd : ps.keys.Nodup) :
    (∀ ps', n.matchChildren env ic path ps = .miss ps' → ps' = ps) ∧
    (∀ m ps', n.matchChildren env ic path ps = .hit m ps' →
      ∃ chain : List (Seg × Bytes), Chain n (chain.map (·.1)) m ∧ path = instChain chain ∧
        (∀ sv ∈ chain, sv.1.Satisfies env ic sv.2) ∧ m.handlers ≠ [] ∧ ps' = setAll ps (captures chain)) := by
  refine ⟨fun ps' h => P19.matchChildren_miss_restore h hI hnd, fun m ps' h => ?_⟩
  obtain ⟨chain, h1, h2, h3, h4, h5⟩ := P19.matchChildren_restore h
  exact ⟨chain, h1, h2, h3, h4, h5 hI hnd⟩

/-- `Router.serveContext` on a reachable tree, any incoming parameters with one entry per
key. -/
theorem C01_dispatch_exact (env : Env) (r : Router) (hr : P14.ReachAll r.tree) (req : Req) (ps : Params)
    (hnd : ps.keys.Nodup) (c : Call) (h : r.serveContext env req ps = .call c) :
    (∀ n, c.node = some n → req.path ≠ [] → req.path ≠ [42] → (r.tree.trace = none ∨ req.method ≠ mTRACE) →
      ∃ chain : List (Seg × Bytes), chain ≠ [] ∧ Chain r.tree.root (chain.map (·.1)) n ∧ req.path = instChain chain ∧
        (∀ sv ∈ chain, sv.1.Satisfies env r.tree.ic sv.2) ∧
        c.params = setAll ps (captures chain) ∧ ((captures chain).map (·.1)).Nodup ∧
        (∀ k v, (k, v) ∈ captures chain → c.params.get? k = some v) ∧
        (∀ k, k ∉ (captures chain).map (·.1) → c.params.get? k = ps.get? k) ∧
        ((∀ k ∈ ps.keys, k ∉ treeNames r.tree) → c.params = ps ++ captures chain) ∧
        n.pattern = (chain.map (·.1.value)).flatten ∧ HandlerAgrees n req.method (Call.found c)) ∧
    (c.node = none → c.params = ps ∧ c.handler = r.tree.notFound ∧ c.ok = false) := by
  obtain ⟨hf, _⟩ := serveContext_call_found env r req ps c h
  refine ⟨fun n hn hp hs htr => ?_, fun hn => P19.handler_404_restore hr.inv.idxLit hnd hf hn⟩
  obtain ⟨chain, c1, c2, c3, c4, _, c6, c7, c8, c9⟩ :=
    C01_found_exact env r.tree hr.inv.idxLit req.path req.method ps hnd (Call.found c) n hp hs htr hf hn
  obtain ⟨d1, d2, d3⟩ := c9 hr.inv.names
  exact ⟨chain, c1, c2, c3, c4, c7, d1, d2, c8, d3, chain_pattern_reach hr c2, c6⟩

/-- Since the D30 repair "one entry per key" is all that is asked of the matcher's parameters (no disjointness).
Let `(rid, m)` be the first entry of the group whose matcher does not reject, accepting with the
rewritten path `p` and ANY parameters `ps` with pairwise distinct keys, and let its router `r` have a tree reachable
by a well-formed history.  Then for every call `Group.serve` produces:

* a reported node `n` comes with a chain spelling `p` whose values satisfy their constraints, and the parameters handed
  to `CallFunc` are EXACTLY `setAll ps (captures chain)`: every route capture is there with its value (it wins over a
  matcher parameter of the same name), every key that is no capture has the matcher's value — in particular a matcher
  parameter named like a route parameter of an ABANDONED branch survives;
* the router's 404 reports EXACTLY the matcher's `ps`. -/
theorem C01_group_dispatch_exact (env : Env) (tab : Nat → Option Hosts) (rt : RTab) (g : Group) (req : Req)
    (pre post : List (Nat × Matcher)) (rid : Nat) (m : Matcher) (p : Bytes) (ps : Params) (r : Router)
    (hg : g.routers = pre ++ (rid, m) :: post)
    (hpre : ∀ e ∈ pre, C13.Rejects env tab req e)
    (hm : m.run env tab req req.path [] = .accept p ps)
    (hrt : rt.get? rid = some r) (hr : P14.ReachAll r.tree)
    (hnd : ps.keys.Nodup) (c : Call) (hc : g.serve env tab rt req = .call c) :
    (∀ n, c.node = some n → p ≠ [] → p ≠ [42] → (r.tree.trace = none ∨ req.method ≠ mTRACE) →
      ∃ chain : List (Seg × Bytes), chain ≠ [] ∧ Chain r.tree.root (chain.map (·.1)) n ∧ p = instChain chain ∧
        (∀ sv ∈ chain, sv.1.Satisfies env r.tree.ic sv.2) ∧
        c.params = setAll ps (captures chain) ∧ ((captures chain).map (·.1)).Nodup ∧
        (∀ k v, (k, v) ∈ captures chain → c.params.get? k = some v) ∧
        (∀ k, k ∉ (captures chain).map (·.1) → c.params.get? k = ps.get? k) ∧
        ((∀ k ∈ ps.keys, k ∉ treeNames r.tree) → c.params = ps ++ captures chain) ∧
        n.pattern = (chain.map (·.1.value)).flatten ∧ HandlerAgrees n req.method (Call.found c)) ∧
    (c.node = none → c.params = ps ∧ c.handler = r.tree.notFound ∧ c.ok = false) := by
  have h1 := C13.C13_first env tab rt g req pre post rid m p ps r hg hpre hm hrt
  rw [h1] at hc
  exact C01_dispatch_exact env r hr { req with path := p } ps hnd c hc

/-- **The side condition always holds for a group matcher.**  `Group.serve` runs a matcher on NO incoming parameters;
every matcher kind writes with `Set` (`Hosts` through `Tree.handler`, whose exact law keeps one entry per key), so the
parameters an accepting matcher hands over have pairwise distinct keys — provided every `Hosts` matcher of the table
has the matcher hypothesis `IdxLit` (true after `NewHosts` and any history: `HostsLateWf.idxLit`). -/
theorem C01_group_params_nodup (env : Env) (tab : Nat → Option Hosts)
    (htab : ∀ id hs, tab id = some hs → Node.All IdxLit hs.tree.root) (m : Matcher) (req : Req) (path p : Bytes)
    (ps : Params) (h : m.run env tab req path [] = .accept p ps) : ps.keys.Nodup := by
  have := P19.run_nodup env tab m req path [] List.nodup_nil
  rwa [h] at this

/-- `C01_group_dispatch_exact` with its side condition discharged by `C01_group_params_nodup`: NO hypothesis on the
matcher's parameters at all. -/
theorem C01_group_dispatch_exact_all (env : Env) (tab : Nat → Option Hosts) (rt : RTab) (g : Group) (req : Req)
    (pre post : List (Nat × Matcher)) (rid : Nat) (m : Matcher) (p : Bytes) (ps : Params) (r : Router)
    (htab : ∀ id hs, tab id = some hs → Node.All IdxLit hs.tree.root)
    (hg : g.routers = pre ++ (rid, m) :: post)
    (hpre : ∀ e ∈ pre, C13.Rejects env tab req e)
    (hm : m.run env tab req req.path [] = .accept p ps)
    (hrt : rt.get? rid = some r) (hr : P14.ReachAll r.tree) (c : Call) (hc : g.serve env tab rt req = .call c) :
    (∀ n, c.node = some n → p ≠ [] → p ≠ [42] → (r.tree.trace = none ∨ req.method ≠ mTRACE) →
      ∃ chain : List (Seg × Bytes), chain ≠ [] ∧ Chain r.tree.root (chain.map (·.1)) n ∧ p = instChain chain ∧
        (∀ sv ∈ chain, sv.1.Satisfies env r.tree.ic sv.2) ∧
        c.params = setAll ps (captures chain) ∧ ((captures chain).map (·.1)).Nodup ∧
        (∀ k v, (k, v) ∈ captures chain → c.params.get? k = some v) ∧
        (∀ k, k ∉ (captures chain).map (·.1) → c.params.get? k = ps.get? k) ∧
        ((∀ k ∈ ps.keys, k ∉ treeNames r.tree) → c.params = ps ++ captures chain) ∧
        n.pattern = (chain.map (·.1.value)).flatten ∧ HandlerAgrees n req.method (Call.found c)) ∧
    (c.node = none → c.params = ps ∧ c.handler = r.tree.notFound ∧ c.ok = false) :=
  C01_group_dispatch_exact env tab rt g req pre post rid m p ps r hg hpre hm hrt hr
    (C01_group_params_nodup env tab htab m req req.path p ps hm) c hc

/-- The hypothesis on the table is satisfiable: no `Hosts` matcher at all, or one reached by a history. -/
example : (∀ id hs, (fun _ : Nat => (none : Option Hosts)) id = some hs → Node.All IdxLit hs.tree.root) ∧
    (∀ id hs, (fun _ : Nat => some P14.exHs) id = some hs → Node.All IdxLit hs.tree.root) := by
  constructor
  · intro _ _ h; cases h
  · intro _ hs h
    simp only [Option.some.injEq] at h
    subst h
    exact P14.exHs_reachWf.inv.idxLit

/-! ## What the matcher parameters are (with no incoming parameters, as `Group.serve` runs matchers) -/

/-- `nil` matcher / `any`: no parameters, path unchanged. -/
theorem C01_group_params_any (env : Env) (tab : Nat → Option Hosts) (req : Req) (path p : Bytes) (ps : Params)
    (h : Matcher.any.run env tab req path [] = .accept p ps) : p = path ∧ ps = [] := by
  simp only [Matcher.run] at h
  cases h; exact ⟨rfl, rfl⟩

/-- Path version (`C15_path_first`, `C15_path_rewrite`): the first listed version `ver` that is a prefix of the path
is cut (its last byte, the `/`, stays); the parameters are `{param: ver without the trailing "/"}`, or none when no
parameter name is configured. -/
theorem C01_group_params_pathVersion (env : Env) (tab : Nat → Option Hosts) (param : Bytes) (vers : List Bytes)
    (req : Req) (path p : Bytes) (ps : Params)
    (h : (Matcher.pathVersion param vers).run env tab req path [] = .accept p ps) :
    ∃ pre ver post, vers = pre ++ ver :: post ∧ (∀ u ∈ pre, ¬ hasPrefix path u = true) ∧
      hasPrefix path ver = true ∧ p = path.drop (ver.length - 1) ∧
      ps = (if param ≠ [] then [(param, ver.dropLast)] else []) ∧
      ps.keys = (if param ≠ [] then [param] else []) := by
  have hrun : pathVersionMatch param vers path [] = .ok (some (p, ps)) := by
    rw [pathVersionMatch_eq_find]
    rw [C15.C15_path_run] at h
    cases hf : vers.find? (hasPrefix path) with
    | none => rw [hf] at h; cases h
    | some ver => rw [hf] at h; cases h; rfl
  obtain ⟨pre, ver, post, h1, h2, h3, h4, rfl⟩ := (C15.C15_path_first param vers path [] p ps).1 hrun
  exact ⟨pre, ver, post, h1, h2, h3, h4, by split <;> rfl, by split <;> rfl⟩

/-- Header version (`C15_header_iff`): the parameters are `{param: the media-type parameter `key` of Accept}`. -/
theorem C01_group_params_headerVersion (env : Env) (tab : Nat → Option Hosts) (param key : Bytes) (vers : List Bytes)
    (req : Req) (path p : Bytes) (ps : Params)
    (h : (Matcher.headerVersion param key vers).run env tab req path [] = .accept p ps) :
    p = path ∧ ∃ mp, req.acceptParams = some mp ∧ ((mp.get? key).getD []) ∈ vers ∧
      ps = (if param ≠ [] then [(param, (mp.get? key).getD [])] else []) ∧
      ps.keys = (if param ≠ [] then [param] else []) := by
  rw [C15.C15_header_run] at h
  split at h
  · rename_i ps' heq
    cases h
    obtain ⟨_, mp, h1, h2, rfl⟩ := (C15.C15_header_iff param key vers req [] ps).1 heq
    exact ⟨rfl, mp, h1, h2, by split <;> rfl, by split <;> rfl⟩
  · cases h

/-- `Hosts` (`C14_match_found_reach`): for a matcher reached by a well-formed history, the parameters are exactly the
captures of the matched domain pattern (whose instantiation is the normalised host); the path is unchanged. -/
theorem C01_group_params_hosts (env : Env) (tab : Nat → Option Hosts) (id : Nat) (hs : Hosts)
    (htab : tab id = some hs) (hr : P14.HostsReachWf hs) (req : Req) (path p : Bytes) (ps : Params)
    (h : (Matcher.hosts id).run env tab req path [] = .accept p ps) :
    p = path ∧ ∃ (n : Node) (chain : List (Seg × Bytes)),
      chain ≠ [] ∧ Chain hs.tree.root (chain.map (·.1)) n ∧ normHost req.host = instChain chain ∧
      (∀ sv ∈ chain, sv.1.Satisfies env hs.tree.ic sv.2) ∧ ps = captures chain ∧
      (n.handlers.get? mGET).isSome = true := by
  simp only [Matcher.run, htab] at h
  exact P12.Hosts.match_accept_chain env hr.reach.inv req.host path [] hr.inv.names hr.inv.idxLit p ps h

/-- `And` threads path and parameters through its members in order (each member sees what the previous ones left);
`Or` stops at the first member that does not reject. -/
theorem C01_group_params_and_or (env : Env) (tab : Nat → Option Hosts) (req : Req) (path : Bytes) (ps : Params) :
    (∀ ms, (Matcher.and ms).run env tab req path ps =
      match runAnd env tab ms req path ps with
      | .reject _ _ => .reject path ps
      | r => r) ∧
    (runAnd env tab [] req path ps = .accept path ps) ∧
    (∀ m ms, runAnd env tab (m :: ms) req path ps =
      match m.run env tab req path ps with
      | .accept p' ps' => runAnd env tab ms req p' ps'
      | r => r) ∧
    (∀ ms, (Matcher.or ms).run env tab req path ps = runOr env tab ms req path ps) ∧
    (runOr env tab [] req path ps = .reject path ps) ∧
    (∀ m ms, runOr env tab (m :: ms) req path ps =
      match m.run env tab req path ps with
      | .reject p' ps' => runOr env tab ms req p' ps'
      | r => r) := by
  refine ⟨fun ms => ?_, ?_, fun m ms => ?_, fun ms => ?_, ?_, fun m ms => ?_⟩
  · rw [Matcher.run]; rfl
  · rw [runAnd]
  · rw [runAnd]; rfl
  · rw [Matcher.run]
  · rw [runOr]
  · rw [runOr]; rfl

/-! ## The counterexample of D30, after the repair: a matcher parameter named like a route parameter of an abandoned
branch -/

/-- The group `[PathVersion("id", "/v1") → cxRouter]` and what `CallFunc` is handed for `GET path`. -/
def cxGroup : Group := { routers := [(0, .pathVersion [105, 100] [[47, 118, 49, 47]])] }
def cxCall (path : Bytes) : Option (Option Bytes × Bool × Bytes × Params) :=
  match cxGroup.serve cxEnv (fun _ => none) [(0, cxRouter)] { method := cxGET, path := path } with
  | .call c => some (c.node.map (·.pattern), c.ok, c.path, c.params)
  | _ => none

/-- Routes `/u/{id}/a`, `/u/{id}/c`, `/u/{name}/b` (the tree these `Handle` calls build), behind a path-version
matcher `PathVersion("id", "/v1")`.  The tree satisfies the matcher's hypotheses (`NamesOkL []`, `IdxLit`), `id`
is one of its names (the disjointness hypothesis of `C01_group_dispatch_disjoint` FAILS), the matcher's parameters
`{id: /v1}` have one entry per key, and
* `GET /v1/u/5/b` is served by `/u/{name}/b` with the parameters `{id: /v1, name: 5}`: the branch `{id}/` matched `5`,
  overwrote the matcher's `id`, missed below, and its undo put `/v1` back (before the D30 repair it deleted `id`: the
  call carried `{name: 5}` only);
* `GET /v1/u/5/z` is the router's 404 with the matcher's `{id: /v1}` (before the repair: no parameters).
This is what `C01_group_dispatch_exact` says: `setAll {id: /v1} {name: 5}`, and exactly `ps` for the 404. -/
theorem C01_group_collision_repaired :
    NamesOkL [] cxTree.root.children ∧ Node.All IdxLit cxTree.root ∧ ([105, 100] : Bytes) ∈ treeNames cxTree ∧
    (Matcher.pathVersion [105, 100] [[47, 118, 49, 47]]).run cxEnv (fun _ => none)
        { method := cxGET, path := [47, 118, 49, 47, 117, 47, 53, 47, 98] } [47, 118, 49, 47, 117, 47, 53, 47, 98] [] =
      .accept [47, 117, 47, 53, 47, 98] [([105, 100], [47, 118, 49])] ∧
    (AMap.keys [(([105, 100] : Bytes), ([47, 118, 49] : Bytes))]).Nodup ∧
    cxCall [47, 118, 49, 47, 117, 47, 53, 47, 98] =
      some (some cxName.pattern, true, [47, 117, 47, 53, 47, 98],
        [([105, 100], [47, 118, 49]), ([110, 97, 109, 101], [53])]) ∧
    cxCall [47, 118, 49, 47, 117, 47, 53, 47, 122] =
      some (none, false, [47, 117, 47, 53, 47, 122], [([105, 100], [47, 118, 49])]) := by
  refine ⟨by decide, ?_, by decide, by rw [C15.C15_path_run]; rfl, by decide, by rfl, by rfl⟩
  simp only [cxTree, cxU, cxId, cxName, cxA, cxC, Node.All, AllL, and_true, and_assoc]
  refine ⟨?_, ?_, ?_, ?_, ?_, ?_⟩ <;> exact IdxLit.of_nil rfl

/-- The same at the level of `Tree.handler`: incoming `{id: v1}`; found with `{id: v1, name: 5}`, 404 with `{id: v1}`
(before the D30 repair: `{name: 5}` and `{}`). -/
theorem C01_collision_tree_repaired :
    (foundOf (cxTree.handler cxEnv [47, 117, 47, 53, 47, 98] cxPs cxGET)).map
        (fun f => (f.node.map (·.pattern), f.ok, f.params)) =
      some (some cxName.pattern, true, [([105, 100], [118, 49]), ([110, 97, 109, 101], [53])]) ∧
    (foundOf (cxTree.handler cxEnv [47, 117, 47, 53, 47, 122] cxPs cxGET)).map
        (fun f => (f.node.isNone, f.params)) = some (true, [([105, 100], [118, 49])]) :=
  ⟨by decide, by decide⟩

/-- The side condition "one entry per key" cannot be dropped from the exact law: with the key `id` TWICE in the
incoming parameters (`{id: v1, id: v2}`) the 404 of the same table reports `{id: v1, id: v1}` — the undo writes the
value `Get` saw into every entry of that key. -/
theorem C01_exact_needs_nodup :
    ¬ (AMap.keys (cxPs ++ [([105, 100], [118, 50])])).Nodup ∧
    (foundOf (cxTree.handler cxEnv [47, 117, 47, 53, 47, 122] (cxPs ++ [([105, 100], [118, 50])]) cxGET)).map
        (fun f => (f.node.isNone, f.params)) = some (true, [([105, 100], [118, 49]), ([105, 100], [118, 49])]) :=
  ⟨by decide, by decide⟩

/-! ## Non-vacuity: a group with a path-version matcher in front of a router with the route `/u/{id}` -/

def exCfg : RouterCfg := { name := [114] }
def exR0 : Router := (Router.new exCfg).getD default
def exOps : List ROp := [.handle (bytesOfString "/u/{id}") 7 [] [mGET]]
def exR : Router := exR0.run exOps
/-- `PathVersion("v", "/v1")` -/
def exM : Matcher := .pathVersion [118] [[47, 118, 49, 47]]
def exG : Group := { routers := [(0, exM)] }
def exRt : RTab := [(0, exR)]
def exEnvG : Env := ⟨fun _ _ => true⟩
/-- `GET /v1/u/5` -/
def exReqG : Req := { method := mGET, path := [47, 118, 49, 47, 117, 47, 53] }

theorem exR_reach : P14.ReachAll exR.tree :=
  (C01_router_reach (cfg := exCfg) rfl (ops := exOps) (by decide +kernel)).1

/-- the names of the tree are `""` (the literal `/u/`) and `id` -/
theorem exR_names : treeNames exR.tree = [[], bytesOfString "id"] := by
  rw [exR, Router.run_eq_F]
  simp only [bytesOfString_eq_data]
  decide +kernel

/-- the hypotheses of `C01_group_dispatch_sound` / `C01_group_dispatch_exact` hold … -/
example : exG.routers = [] ++ (0, exM) :: [] ∧ (∀ e ∈ ([] : List (Nat × Matcher)), C13.Rejects exEnvG (fun _ => none) exReqG e) ∧
    exM.run exEnvG (fun _ => none) exReqG exReqG.path [] = .accept [47, 117, 47, 53] [([118], [47, 118, 49])] ∧
    exRt.get? 0 = some exR ∧ P14.ReachAll exR.tree ∧
    (∀ k ∈ AMap.keys [(([118] : Bytes), ([47, 118, 49] : Bytes))], k ∉ treeNames exR.tree) := by
  refine ⟨rfl, by simp, ?_, rfl, exR_reach, ?_⟩
  · rw [show exM = .pathVersion [118] [[47, 118, 49, 47]] from rfl, C15.C15_path_run]
    rfl
  · rw [exR_names]; decide +kernel

set_option synthInstance.maxSize 512 in
/-- … and the group hands `CallFunc` the node of `/u/{id}` with the parameters `{v: /v1, id: 5}` on the path `/u/5`. -/
example : (match exG.serve exEnvG (fun _ => none) exRt exReqG with
      | .call c => some (c.node.map (·.pattern), c.ok, c.path, c.params, c.routerName)
      | _ => none) =
    some (some (bytesOfString "/u/{id}"), true, [47, 117, 47, 53],
      [([118], [47, 118, 49]), (bytesOfString "id", [53])], [114]) := by
  rw [exRt, exR, Router.run_eq_F]
  simp only [exOps, bytesOfString_eq_data]
  decide +kernel

/-! ## Non-vacuity of `C01_group_dispatch_exact` where disjointness FAILS: the collision table as a real history -/

/-- `/u/{id}/a`, `/u/{id}/c`, `/u/{name}/b` -/
def colA : Bytes := [47, 117, 47, 123, 105, 100, 125, 47, 97]
def colC : Bytes := [47, 117, 47, 123, 105, 100, 125, 47, 99]
def colB : Bytes := [47, 117, 47, 123, 110, 97, 109, 101, 125, 47, 98]
/-- `Handle("/u/{id}/a")`, `Handle("/u/{id}/c")`, `Handle("/u/{name}/b")` -/
def colOps : List ROp := [.handle colA 1 [] [mGET], .handle colC 3 [] [mGET], .handle colB 2 [] [mGET]]
def colR : Router := exR0.run colOps
/-- `PathVersion("id", "/v1")` -/
def colM : Matcher := .pathVersion [105, 100] [[47, 118, 49, 47]]
def colG : Group := { routers := [(0, colM)] }
def colRt : RTab := [(0, colR)]
/-- `GET /v1/u/5/b`, `GET /v1/u/5/z` -/
def colReqB : Req := { method := mGET, path := [47, 118, 49, 47, 117, 47, 53, 47, 98] }
def colReqZ : Req := { method := mGET, path := [47, 118, 49, 47, 117, 47, 53, 47, 122] }

/-- Kernel evaluation of a router history whose tree has nodes with several children (`mux_eval2` for `Router.run`).
No call site: the examples below go through `Router.run_eq_F`. -/
macro "mux_eval_router" "[" ids:ident,* "]" : tactic =>
  `(tactic| (simp only [$[$ids:ident],*, Router.run, List.foldl_cons, List.foldl_nil, Router.step,
      Router.handle, Tree.add, P10.getNode_eq_F, P16.getNodeF_eq_I]; decide +kernel))

theorem colR_reach : P14.ReachAll colR.tree :=
  (C01_router_reach (cfg := exCfg) rfl (ops := colOps) (by decide +kernel)).1

/-- The hypotheses of `C01_group_dispatch_exact` hold: the matcher accepts with `{id: /v1}` (one entry per key), the
router's tree is reachable … -/
theorem col_hyps : colG.routers = [] ++ (0, colM) :: [] ∧
    (∀ e ∈ ([] : List (Nat × Matcher)), C13.Rejects exEnvG (fun _ => none) colReqB e) ∧
    colM.run exEnvG (fun _ => none) colReqB colReqB.path [] =
      .accept [47, 117, 47, 53, 47, 98] [([105, 100], [47, 118, 49])] ∧
    colRt.get? 0 = some colR ∧ P14.ReachAll colR.tree ∧
    (AMap.keys [(([105, 100] : Bytes), ([47, 118, 49] : Bytes))]).Nodup := by
  refine ⟨rfl, by simp, ?_, rfl, colR_reach, by decide⟩
  rw [show colM = .pathVersion [105, 100] [[47, 118, 49, 47]] from rfl, C15.C15_path_run]
  rfl

set_option synthInstance.maxSize 512 in
/-- The history is evaluated once, for the three facts below. -/
private theorem colR_eval :
    ((treeNames colR.tree).contains [105, 100] &&
     (match colG.serve exEnvG (fun _ => none) colRt colReqB with
      | .call c => some (c.node.map (·.pattern), c.ok, c.path, c.params)
      | _ => none) ==
      some (some colB, true, [47, 117, 47, 53, 47, 98], [([105, 100], [47, 118, 49]), ([110, 97, 109, 101], [53])]) &&
     (match colG.serve exEnvG (fun _ => none) colRt colReqZ with
      | .call c => some (c.node.map (·.pattern), c.ok, c.path, c.params)
      | _ => none) ==
      some (none, false, [47, 117, 47, 53, 47, 122], [([105, 100], [47, 118, 49])])) = true := by
  rw [colRt, colR, Router.run_eq_F]
  decide +kernel

/-- … although `id` IS a name of the router's tree (`C01_group_dispatch_disjoint` does not apply) … -/
theorem col_collides : ([105, 100] : Bytes) ∈ treeNames colR.tree := by
  have h := colR_eval
  simp only [Bool.and_eq_true, beq_iff_eq, List.contains_iff_mem] at h
  exact h.1.1

/-- … and the group hands `CallFunc` the node of `/u/{name}/b` with `{id: /v1, name: 5}` … -/
theorem col_found : (match colG.serve exEnvG (fun _ => none) colRt colReqB with
      | .call c => some (c.node.map (·.pattern), c.ok, c.path, c.params)
      | _ => none) =
    some (some colB, true, [47, 117, 47, 53, 47, 98], [([105, 100], [47, 118, 49]), ([110, 97, 109, 101], [53])]) := by
  have h := colR_eval
  simp only [Bool.and_eq_true, beq_iff_eq] at h
  exact h.1.2

/-- … resp. the router's 404 with exactly `{id: /v1}`. -/
theorem col_404 : (match colG.serve exEnvG (fun _ => none) colRt colReqZ with
      | .call c => some (c.node.map (·.pattern), c.ok, c.path, c.params)
      | _ => none) =
    some (none, false, [47, 117, 47, 53, 47, 122], [([105, 100], [47, 118, 49])]) := by
  have h := colR_eval
  simp only [Bool.and_eq_true, beq_iff_eq] at h
  exact h.2

/-- Hypotheses of `C01_group_params_hosts`: a `Hosts` matcher reached by a well-formed history (`HostsReachExamples.lean`),
registered under id 0, accepts the host `A.COM.cn:80`. -/
example : P14.HostsReachWf P14.exHs ∧
    (Matcher.hosts 0).run P14.exEnv (fun _ => some P14.exHs) { method := mGET, path := [47], host := P14.hostACn } [47] [] =
      .accept [47] [] := by
  refine ⟨P14.exHs_reachWf, ?_⟩
  obtain ⟨f, q, h1, h2, h3, _, h5, h6⟩ := P14.exHs_answer
  have ha : isAscii P14.hostACn = true := by decide
  simp only [Matcher.run]
  rw [P12.Hosts.match_res P14.exEnv P14.exHs P14.hostACn [47] [] f ha h1, h5, h6]; rfl

end Mux.C01
