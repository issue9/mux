/-
  C03 — frame: `Remove` and `Clean` never change the handling of a request that was dispatched to a
  different route.  Stated without the two side hypotheses of `C03_frame_remove_partial` / `C03_frame_clean_partial`
  (`Mux/Properties/C03.lean`): trees WITH first-byte indexes are covered, and the parameter-tracking
  hypothesis `NamesOkL` is discharged.

  `ReachAll t` (`Mux/Proofs/ReachAll.lean`): `t` is produced from a fresh tree by a history of
  add/remove/clean/use whose REGISTERED patterns pass the executable brace check `WfPattern`.  It is
  equivalent to `P9.ReachWf t` and to `P8.ReachTidy t` (`C03_reach_bridge`), and gives all invariants
  of the tree at once (`C03_reach_everything`).
-/
import Mux.Proofs.FrameExamples
import Mux.Properties.C03
namespace Mux.C03
open Mux Mux.P11 Mux.P14

/-! ## One notion of "history with well-formed patterns" -/

/-- The three hypotheses on a registered pattern in use (`WfPattern`, `P9.WfPattern`, `P8.TidyPattern`) are equivalent. -/
theorem C03_wfPattern_bridge (p : Bytes) :
    (WfPattern p = true ↔ P9.WfPattern p) ∧ (WfPattern p = true ↔ P8.TidyPattern p) :=
  ⟨wfPattern_iff_P9 p, wfPattern_iff_P8 p⟩

/-- …hence so are the three reachability predicates. -/
theorem C03_reach_bridge (t : Tree) : (ReachAll t ↔ P9.ReachWf t) ∧ (ReachAll t ↔ P8.ReachTidy t) :=
  ⟨reachAll_iff_reachWf t, reachAll_iff_reachTidy t⟩

/-- `ReachAll` is the hypothesis of `C03_table`/`C03_routes` (`WfOps`). -/
theorem C03_reachAll_history (name : Bytes) (ic : Interceptors) (nf : Handler) (tr : Option Handler) (ob nb : Base)
    (ops : List TOp) (hw : WfOps ops) : ReachAll ((Tree.new name ic nf tr ob nb).run ops) :=
  ⟨name, ic, nf, tr, ob, nb, ops, hw, rfl⟩

/-- One predicate, all invariants: `StructInv` (I-sort, I-index), `TreeInv`, `WellFormedTree` (I-seg, names),
`NamesOkL []`, distinct first bytes of literal siblings, `IdxLit`, and the table refinement. -/
theorem C03_reach_everything (t : Tree) (h : ReachAll t) :
    P8.StructInv t ∧ TreeInv t ∧ P9.WellFormedTree t ∧ NamesOkL [] t.root.children ∧
      (∀ n ∈ t.root.nodes, P8.DistinctFirstBytes n) ∧ Node.All IdxLit t.root ∧ ∃ tb, Sim t tb :=
  h.everything

/-! ## The frame property (`C03_frame` of DESIGN §8) -/

/-- **Frame for `Remove`.**  On the tree of any well-formed history: if a request was answered with a
node `q` (a registered handler, the 405 or the automatic OPTIONS answer of `q`) and `q.pattern ≠ p`, then after
`Remove(p, methods…)` the same request is answered with the same handler, the same `ok` flag, the same
parameters, and a node with the same pattern and the same handler map. -/
theorem C03_frame_remove (t t' : Tree) (hr : ReachAll t) (p : Bytes) (methods : List Bytes)
    (he : t.remove p methods = .ok t') (env : Env) (path method : Bytes) (f : Found) (q : Node)
    (hres : t.handler env path [] method = .res f) (hq : f.node = some q) (hne : q.pattern ≠ p) :
    ∃ f', t'.handler env path [] method = .res f' ∧ SameAnswer f f' :=
  frame_remove' hr.inv he hres hq hne

/-- **Frame for `Clean`**: likewise when the pattern of the answering node does not have the cleaned
prefix. -/
theorem C03_frame_clean (t t' : Tree) (hr : ReachAll t) (pre : Bytes) (he : t.clean pre = .ok t')
    (env : Env) (path method : Bytes) (f : Found) (q : Node)
    (hres : t.handler env path [] method = .res f) (hq : f.node = some q) (hne : ¬ pre <+: q.pattern) :
    ∃ f', t'.handler env path [] method = .res f' ∧ SameAnswer f f' :=
  frame_clean' hr.inv he hres hq hne

/-- The same as one step of a history (`Remove`/`Clean` cannot fail on such a tree — `C03_no_error` — so the
step IS the operation). -/
theorem C03_frame_remove_step (t : Tree) (hr : ReachAll t) (p : Bytes) (methods : List Bytes)
    (env : Env) (path method : Bytes) (f : Found) (q : Node)
    (hres : t.handler env path [] method = .res f) (hq : f.node = some q) (hne : q.pattern ≠ p) :
    ∃ f', (t.step (.remove p methods)).handler env path [] method = .res f' ∧ SameAnswer f f' :=
  frame_remove' hr.inv (remove_step hr.inv.ti p methods) hres hq hne

theorem C03_frame_clean_step (t : Tree) (hr : ReachAll t) (pre : Bytes)
    (env : Env) (path method : Bytes) (f : Found) (q : Node)
    (hres : t.handler env path [] method = .res f) (hq : f.node = some q) (hne : ¬ pre <+: q.pattern) :
    ∃ f', (t.step (.clean pre)).handler env path [] method = .res f' ∧ SameAnswer f f' :=
  frame_clean' hr.inv (clean_step hr.inv.ti pre) hres hq hne

/-- In the form of `C03_frame_remove_partial`, without `NoIdx` and `NamesOkL`. -/
theorem C03_frame_remove_history (name : Bytes) (ic : Interceptors) (nf : Handler) (tr : Option Handler)
    (ob nb : Base) (ops : List TOp) (hw : WfOps ops) (p : Bytes) (methods : List Bytes) (t' : Tree)
    (env : Env) (path method : Bytes) (f : Found) (q : Node) :
    let t := (Tree.new name ic nf tr ob nb).run ops
    t.remove p methods = .ok t' →
    t.handler env path [] method = .res f → f.node = some q → q.pattern ≠ p →
    ∃ f', t'.handler env path [] method = .res f' ∧ SameAnswer f f' := by
  intro t he hres hq hne
  exact frame_remove' (C03_reachAll_history name ic nf tr ob nb ops hw).inv he hres hq hne

theorem C03_frame_clean_history (name : Bytes) (ic : Interceptors) (nf : Handler) (tr : Option Handler)
    (ob nb : Base) (ops : List TOp) (hw : WfOps ops) (pre : Bytes) (t' : Tree)
    (env : Env) (path method : Bytes) (f : Found) (q : Node) :
    let t := (Tree.new name ic nf tr ob nb).run ops
    t.clean pre = .ok t' →
    t.handler env path [] method = .res f → f.node = some q → ¬ pre <+: q.pattern →
    ∃ f', t'.handler env path [] method = .res f' ∧ SameAnswer f f' := by
  intro t he hres hq hne
  exact frame_clean' (C03_reachAll_history name ic nf tr ob nb ops hw).inv he hres hq hne

/-- For any tree satisfying the invariants (`AllInv`: `StructInv2`, `WellFormedTree`, `TInv`). -/
theorem C03_frame_remove_allInv {t t' : Tree} (hinv : AllInv t) {p : Bytes} {methods : List Bytes}
    (he : t.remove p methods = .ok t') {env : Env} {path method : Bytes} {f : Found} {q : Node}
    (hres : t.handler env path [] method = .res f) (hq : f.node = some q) (hne : q.pattern ≠ p) :
    ∃ f', t'.handler env path [] method = .res f' ∧ SameAnswer f f' :=
  frame_remove' hinv he hres hq hne

theorem C03_frame_clean_allInv {t t' : Tree} (hinv : AllInv t) {pre : Bytes} (he : t.clean pre = .ok t')
    {env : Env} {path method : Bytes} {f : Found} {q : Node}
    (hres : t.handler env path [] method = .res f) (hq : f.node = some q) (hne : ¬ pre <+: q.pattern) :
    ∃ f', t'.handler env path [] method = .res f' ∧ SameAnswer f f' :=
  frame_clean' hinv he hres hq hne

/-! ## Non-vacuity -/

/-- A tree REACHED by the history `Handle("/u/", h1, GET); Handle("/u/{id}", h2, GET)`. -/
example : ReachAll exT := exT_reach
example : WfOps P14.exOps := exOps_wf

/-- On it `GET /u/5` is dispatched to `/u/{id}`; removing the interior route `/u/` and cleaning `/x` succeed
and — by the theorems above — leave the answer as it was. -/
example : ∃ f q t1 t2, exT.handler exEnv exReq [] mGET = .res f ∧ f.node = some q ∧
    q.pattern ≠ exU ∧ ¬ [47, 120] <+: q.pattern ∧
    exT.remove exU [] = .ok t1 ∧ exT.clean [47, 120] = .ok t2 ∧
    (∃ f', t1.handler exEnv exReq [] mGET = .res f' ∧ SameAnswer f f') ∧
    (∃ f', t2.handler exEnv exReq [] mGET = .res f' ∧ SameAnswer f f') := by
  obtain ⟨f, q, hres, hq, hp, _⟩ := exT_answer
  have hne1 : q.pattern ≠ exU := by rw [hp]; decide
  have hne2 : ¬ [47, 120] <+: q.pattern := by rw [hp, ← hasPrefix_iff]; decide
  have hr := remove_step exT_reach.inv.ti exU []
  have hc := clean_step exT_reach.inv.ti [47, 120]
  exact ⟨f, q, _, _, hres, hq, hne1, hne2, hr, hc,
    C03_frame_remove exT _ exT_reach _ _ hr _ _ _ f q hres hq hne1,
    C03_frame_clean exT _ exT_reach _ hc _ _ _ f q hres hq hne2⟩

/-- A node WITH a first-byte index (`/a /b /c /d /e /{id}`, hand-built, `Mux/Proofs/StructExamples.lean`)
satisfies the invariant `SOk2` the frame lemma works with; removing `/a` — one of five literal siblings, so the
index stays in use afterwards: the D3 scenario — succeeds, and the node-level frame lemma applies to the
request `/x`, which is dispatched to `/{id}` through the scan after the index missed. -/
example : Node.All (P8.SOk2 []) P8.exS.root := exS_s2
example : ∃ n' x, P8.exS.root.getAt [0, 0] = some x ∧ x.pattern = [47, 97] ∧
    P8.exS.root.removeAt (removeMethods false []) [0, 0] = .ok n' ∧
    FrameMR x.pattern (P8.exS.root.matchChildren exEnv [] exReqX []) (n'.matchChildren exEnv [] exReqX []) := exS_frame
example : hitPattern (P8.exS.root.matchChildren exEnv [] exReqX []) = some P8.exPat := exS_before

/-- The three pattern hypotheses on concrete patterns. -/
example : WfPattern (bytesOfString "/u/{id:\\d+}/x") = true ∧ WfPattern (bytesOfString "{a{b}") = false := by
  decide +kernel
example : P9.WfPattern (bytesOfString "/u/{id}") ∧ P8.TidyPattern (bytesOfString "/u/{id}") :=
  ⟨(wfPattern_iff_P9 _).1 (by decide +kernel), (wfPattern_iff_P8 _).1 (by decide +kernel)⟩

/-! ## Witness reachability (`C03_witness` of DESIGN §8)

Full statement (DESIGN): `p live, vs simple → dispatch (inst p vs) m ≠ notFound, and the winner q satisfies:
q = p, or q precedes p in kind order at their first divergence`.

Proved below for patterns whose OWN chain has no regexp segment (`SimpleVal`/`SimpleInTree` require
`kind ≠ rx`; regexp segments elsewhere in the tree are allowed): for a regexp segment the capture chosen by the
leftmost-first search need not be the intended value, so the rest of the path is not the instantiation of the
rest of the chain and the induction along the chain does not go through.  That case is treated in
`C03witness.lean`, under an explicit hypothesis on the value of each regexp parameter.

The second half is stated as it is for two reasons:
* the winner may also lie BELOW `p`'s node: an endpoint parameter child (`{id}` under `/u/`) matches the empty
  rest, so `GET /u/` is answered by `/u/{id}` with `id = ""` (this is `Segment.Match` of the Go code: the named
  matcher accepts every string, `NewSegment` in `internal/syntax/segment.go`); hence `q ∈ x.nodes` rather than `q = x`;
* "no byte in common with ANY literal text of the tree" is not needed for the first half: `SimpleVal` only
  asks that a value shares no byte with the literal text following its OWN parameter. -/

/-- `SimpleVal env ic s v`: `s` is not a regexp segment, `v` satisfies the constraint of `s`, and no byte of `v`
occurs in the literal text after the parameter inside `s`. -/
abbrev SimpleVal := Mux.P14.SimpleVal
/-- The property text's "simple": … and no byte of `v` occurs in ANY literal text of the tree. -/
abbrev SimpleInTree := Mux.P14.SimpleInTree
/-- `Diverges root segs x q` (`Mux/Proofs/Witness.lean`): the chains of `x` and `q` from `root` share the nodes up
to some node `n` of `x`'s chain `segs`; either `n = x` and `q` is `x` or lies below `x`, or the chain of `x`
continues below `n` with the child `c` while `q` lies in the subtree of a child `d` of `n` that comes BEFORE `c`
in child order, with `d.seg.kind.rank ≤ c.seg.kind.rank` (literal 0 < interceptor 1 < regexp 2 < named 3). -/
abbrev Diverges := Mux.P14.Diverges

theorem C03_simpleInTree_simpleVal (env : Env) (t : Tree) (chain : List (Seg × Bytes)) (x : Node)
    (hch : Chain t.root (chain.map (·.1)) x) (h : SimpleInTree env t chain) :
    ∀ sv ∈ chain, SimpleVal env t.ic sv.1 sv.2 :=
  h.simpleVal hch

/-- **Witness, first half (chain form).**  On the tree of a well-formed history, let `x` be a live node
(it has handlers) reached from the root by the chain `chain.map (·.1)`, and let the values in `chain` be simple.
Then the request `instChain chain` — the pattern of `x` with every parameter replaced by its value — is never
answered 404, whatever the method: the answer reports a node with handlers (a registered handler, or the 405 /
OPTIONS answer of that node), and the request does not fault. -/
theorem C03_witness_partial (t : Tree) (hr : ReachAll t) (env : Env) (chain : List (Seg × Bytes)) (x : Node)
    (hch : Chain t.root (chain.map (·.1)) x) (hlive : x.handlers ≠ [])
    (hsimple : ∀ sv ∈ chain, SimpleVal env t.ic sv.1 sv.2) (method : Bytes) :
    (∀ s, t.handler env (instChain chain) [] method ≠ .fault s) ∧
    ∀ f, t.handler env (instChain chain) [] method = .res f → ∃ q, f.node = some q ∧ q.handlers ≠ [] :=
  P17.witness_tree_found hr.inv env chain x hch hlive
    (P17.matchChain_of_simple env t.ic chain t.root x hch hr.inv.ti.sh hsimple) method

/-- **Witness, second half (chain form): who answers.**  For an ordinary request (not `""`, `*`, nor
TRACE on a tracing tree) the answering node `q` is `x`, a node below `x`, or a node in the subtree of a sibling
that precedes — in child order, which is the kind order — the node of `x`'s chain at the first point where the
chains of `x` and `q` diverge. -/
theorem C03_witness_winner_partial (t : Tree) (hr : ReachAll t) (env : Env) (chain : List (Seg × Bytes)) (x : Node)
    (hch : Chain t.root (chain.map (·.1)) x) (hlive : x.handlers ≠ [])
    (hsimple : ∀ sv ∈ chain, SimpleVal env t.ic sv.1 sv.2) (method : Bytes) (f : Found) (q : Node)
    (hp : instChain chain ≠ []) (hstar : instChain chain ≠ [42]) (htr : t.trace = none ∨ method ≠ mTRACE)
    (hres : t.handler env (instChain chain) [] method = .res f) (hq : f.node = some q) :
    Diverges t.root (chain.map (·.1)) x q :=
  P17.witness_tree_winner hr.inv env chain x hch hlive
    (P17.matchChain_of_simple env t.ic chain t.root x hch hr.inv.ti.sh hsimple) method hp hstar htr hres hq

/-- A live pair `(p, m)` of the route table IS such a node: a node `x` below the root with pattern `p`, an entry
for `m`, reached by a non-empty chain whose segment texts spell `p`. -/
theorem C03_live_chain (t : Tree) (hr : ReachAll t) (p m : Bytes) (h : (tableOf t).has p m) :
    ∃ (x : Node) (segs : List Seg), Chain t.root segs x ∧ segs ≠ [] ∧ x.pattern = p ∧
      p = (segs.map (·.value)).flatten ∧ x.handlers.contains m = true :=
  live_chain hr.inv h

/-- **Witness, table form.**  For every live pair `(p, m)` of the table read off the tree there is the
chain `segs` of `p` such that for all values `vs` (one per segment; those of literal segments are ignored) that
are simple in the sense of the property text, the request `instChain (segs.zip vs)` with method `m` does not
fault and is not answered 404, and the answering node is as described by `Diverges`. -/
theorem C03_witness_table_partial (t : Tree) (hr : ReachAll t) (env : Env) (p m : Bytes) (h : (tableOf t).has p m) :
    ∃ (x : Node) (segs : List Seg), Chain t.root segs x ∧ segs ≠ [] ∧ x.pattern = p ∧
      p = (segs.map (·.value)).flatten ∧ x.handlers.contains m = true ∧
      ∀ vs : List Bytes, vs.length = segs.length → SimpleInTree env t (segs.zip vs) →
        (∀ s, t.handler env (instChain (segs.zip vs)) [] m ≠ .fault s) ∧
        ∀ f, t.handler env (instChain (segs.zip vs)) [] m = .res f →
          ∃ q, f.node = some q ∧ q.handlers ≠ [] ∧
            (instChain (segs.zip vs) ≠ [] → instChain (segs.zip vs) ≠ [42] → (t.trace = none ∨ m ≠ mTRACE) →
              Diverges t.root segs x q) := by
  obtain ⟨x, segs, hch, hne, hp, hflat, hm, hw⟩ := P17.witness_table_match hr.inv env h
  refine ⟨x, segs, hch, hne, hp, hflat, hm, fun vs hlen hsimple => hw vs hlen ?_⟩
  have hch' : Chain t.root ((segs.zip vs).map (·.1)) x := by rw [List.map_fst_zip (by omega)]; exact hch
  exact P17.matchChain_of_simple env t.ic _ t.root x hch' hr.inv.ti.sh (hsimple.simpleVal hch')

/-- History form: live pairs of the ABSTRACT table of the history (`C03_table`). -/
theorem C03_witness_history_partial (name : Bytes) (ic : Interceptors) (nf : Handler) (tr : Option Handler)
    (ob nb : Base) (ops : List TOp) (hw : WfOps ops) (env : Env) (p m : Bytes) :
    let t := (Tree.new name ic nf tr ob nb).run ops
    let tb := specRun (Tree.new name ic nf tr ob nb) ops
    tb.has p m →
    ∃ (x : Node) (segs : List Seg), Chain t.root segs x ∧ segs ≠ [] ∧ x.pattern = p ∧
      p = (segs.map (·.value)).flatten ∧
      ∀ vs : List Bytes, vs.length = segs.length → SimpleInTree env t (segs.zip vs) →
        ∀ f, t.handler env (instChain (segs.zip vs)) [] m = .res f → ∃ q, f.node = some q ∧ q.handlers ≠ [] := by
  intro t tb h
  have hr := C03_reachAll_history name ic nf tr ob nb ops hw
  have hsim := sim_history name ic nf tr ob nb ops hw
  obtain ⟨x, segs, h1, h2, h3, h4, _, h6⟩ := C03_witness_table_partial t hr env p m ((hsim.has p m).2 h)
  refine ⟨x, segs, h1, h2, h3, h4, fun vs hlen hs f hres => ?_⟩
  obtain ⟨q, hq1, hq2, _⟩ := (h6 vs hlen hs).2 f hres
  exact ⟨q, hq1, hq2⟩

/-! ### Non-vacuity of the witness theorems -/

/-- `AllInv` (hypothesis of the `_allInv` forms) holds of the reached tree `exT`, and `("/u/{id}", GET)` is a live
pair of its table (hypothesis of the table form). -/
example : AllInv exT := exT_reach.inv
example : (tableOf exT).has exUid mGET := exT_live_pair

/-- In the reached tree `exT` the node of `/u/{id}` is live and reached by the chain `"/u/"`, `{id}`; the value
`5` is simple; the witness request is `/u/5`; -/
example : ∃ x, Chain exT.root (exChain.map (·.1)) x ∧ x.handlers ≠ [] := exT_chain
example : ∀ sv ∈ exChain, SimpleVal exEnv exT.ic sv.1 sv.2 := exChain_simple
example : instChain exChain = exReq ∧ instChain exChain ≠ [] ∧ instChain exChain ≠ [42] := by decide
/-- and the theorems apply: `GET /u/5` is answered by a node with handlers (here `/u/{id}` itself), which
`Diverges` from the node of `/u/{id}`. -/
example : ∃ f q x, exT.handler exEnv (instChain exChain) [] mGET = .res f ∧ f.node = some q ∧ q.handlers ≠ [] ∧
    q.pattern = exUid ∧ Diverges exT.root (exChain.map (·.1)) x q := by
  obtain ⟨x, hch, hlive⟩ := exT_chain
  obtain ⟨f, q, hres, hq, hp, _⟩ := exT_answer
  rw [← exChain_inst] at hres
  obtain ⟨q', hq', hh⟩ := (C03_witness_partial exT exT_reach exEnv exChain x hch hlive exChain_simple mGET).2 f hres
  rw [hq] at hq'
  cases hq'
  exact ⟨f, q, x, hres, hq, hh, hp,
    C03_witness_winner_partial exT exT_reach exEnv exChain x hch hlive exChain_simple mGET f q (by decide) (by decide)
      (.inr (by decide)) hres hq⟩

end Mux.C03
