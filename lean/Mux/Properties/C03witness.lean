/-
  C03 — witness reachability for patterns WITH regexp segments on their own chain.

  `C03_witness_partial` / `C03_witness_winner_partial` (`Mux/Properties/C03frame.lean`) cover chains without a
  regexp segment.  Here, instead of that restriction, there is an explicit hypothesis on the value given to each regexp
  parameter, in three strengths:

  1. `MatchChain env ic chain` — the weakest hypothesis under which the induction along the chain goes through:
     every segment of the chain, applied (`Segment.Match`) to the text it contributed followed by the instantiation
     of the rest of the chain, consumes exactly its own text.  Decidable by evaluation.  (`C03_witness_match*`)
  2. `GoodChain`: `SimpleVal` for literal / named / interceptor segments (as in `C03_witness_partial`), and for a regexp segment
     `RxExact s v R`: the anchored leftmost-first match of `(rule)suffix` on `v ++ suffix ++ R` (`R` = the rest of
     the witness path) captures exactly `v`.  `RxExact` implies `Segment.Valid v` (`C03_rxExact_valid`, from
     `rxMatch_stable`), so "valid" is NECESSARY; it is NOT SUFFICIENT (`C03_valid_not_sufficient`: the live route
     `/{id:a/xb|a}/x{m:b}/x1` with the valid values `id = a`, `m = b` — its strict `URL` is `/a/xb/x1` — is answered
     404, in the model and in the Go code alike, because the first alternative `a/xb` is preferred once the path
     continues).  (`C03_witness_rx_exact*`)
  3. `GoodVal` — a hypothesis on each value ALONE (`RxSimple`): `v` is in the language of the rule
     (`Re.Denotes rule v`, i.e. `Seg.Satisfies`) and the rule cannot consume the first byte of the literal text
     that follows the parameter inside the segment (`Re.avoids`, syntactic: `\d+` followed by `/`); for a regexp
     parameter that ends its segment (then it ends the pattern) `Segment.Valid v` instead.  This is the regexp
     analogue of "`v` shares no byte with the literal text after its parameter" of `SimpleVal`.
     (`C03_witness_rx`, `C03_witness_winner_rx`, `C03_witness_table_rx`)

  The statement is the one of DESIGN §8 `C03_witness` for all four kinds of segments, with "simple" made explicit
  (`GoodVal`) and with the correction that the winner may lie BELOW the pattern's node (`Diverges`, C03frame.lean).
-/
import Mux.Proofs.WitnessRxExamples
import Mux.Properties.C03frame
namespace Mux.C03
open Mux Mux.P11 Mux.P14 Mux.P17

/-- Hypothesis 1 (`Mux/Proofs/Witness.lean`). -/
abbrev MatchChain := Mux.P17.MatchChain
/-- Hypothesis 2: `SimpleVal`, or a regexp segment whose match on `v ++ suffix ++ R` captures exactly `v`. -/
abbrev GoodChain := Mux.P17.GoodChain
abbrev RxExact := Mux.P17.RxExact
/-- Hypothesis 3: `SimpleVal`, or a regexp segment with `RxSimple s v`. -/
abbrev GoodVal := Mux.P17.GoodVal
abbrev RxSimple := Mux.P17.RxSimple

/-! ## The regexp facts behind the hypotheses -/

/-- **`Valid` ⇒ dispatch when the rule avoids the separator.**  If no class of `re` contains the byte `b`, then for
every `v` in the language of `re` and EVERY continuation `R`, the anchored leftmost-first match of `(re)` followed by
the literal `b :: suf` on `v ++ (b :: suf) ++ R` captures exactly `v` and leaves exactly `R`. -/
theorem C03_rxMatch_extend (re : Re) (b : UInt8) (suf v R : Bytes) (ha : P17.Re.avoids re b = true)
    (hd : Re.Denotes re v) : rxMatch re (b :: suf) (v ++ (b :: suf) ++ R) = some (v, R) :=
  rxMatch_extend re b suf v R ha hd

/-- The exact hypothesis implies `Segment.Valid` — "valid" is necessary. -/
theorem C03_rxExact_valid (env : Env) (ic : Interceptors) (s : Seg) (hk : s.kind = .rx)
    (hasc : isAscii s.suffix = true) (v R : Bytes) (h : RxExact s v R) : s.valid env ic v = some true :=
  valid_of_rxExact env ic hk hasc h

/-- The hypothesis on the value alone implies the exact one, whatever follows (`R = []` when the segment has no
literal text after the parameter — in a tree such a segment has no children). -/
theorem C03_rxSimple_exact (s : Seg) (v R : Bytes) (h : RxSimple s v) (hR : s.suffix = [] → R = [])
    (hw : s.re.wide = true → isAscii (v ++ s.suffix ++ R) = true) : RxExact s v R :=
  rxExact_of_simple h hR hw

/-- "Valid" is not sufficient: on the tree REACHED by `Handle("/{id:a/xb|a}/x{m:b}/x1", h, GET)` the node of that
pattern is live, the values `id = a`, `m = b` pass `Segment.Valid`, `Tree.URL` (strict) builds the witness path
`/a/xb/x1` from them — and `GET /a/xb/x1` is answered 404.  (Same outcome with the Go code: `URL(true, …)` returns
`/a/xb/x1`, `ServeHTTP` answers 404.) -/
theorem C03_valid_not_sufficient :
    ReachAll exC ∧ (∃ x, Chain exC.root (exCChain.map (·.1)) x ∧ x.handlers ≠ []) ∧
      exSegC1.valid P14.exEnv [] [97] = some true ∧ exSegC2.valid P14.exEnv [] [98] = some true ∧
      instChain exCChain = exReqC ∧ exC.url P14.exEnv exPC [([105, 100], [97]), ([109], [98])] = .ok exReqC ∧
      patOf (exC.handler P14.exEnv exReqC [] mGET) = none ∧ okOf (exC.handler P14.exEnv exReqC [] mGET) = some false ∧
      ¬ MatchChain P14.exEnv [] exCChain :=
  ⟨exC_reach, exC_chain, exC_valid.1, exC_valid.2.1, exC_valid.2.2, exC_url, exC_404.1, exC_404.2, exC_not_match⟩

/-! ## 1. The weakest hypothesis -/

/-- **Witness under `MatchChain`.**  On the tree of a well-formed history, let `x` be a live node reached
from the root by the chain `chain.map (·.1)` — segments of ANY kind — and let every segment of the chain consume
exactly its own text on the witness path.  Then the request `instChain chain` does not fault and is never
answered 404, whatever the method. -/
theorem C03_witness_match (t : Tree) (hr : ReachAll t) (env : Env) (chain : List (Seg × Bytes)) (x : Node)
    (hch : Chain t.root (chain.map (·.1)) x) (hlive : x.handlers ≠ [])
    (hm : MatchChain env t.ic chain) (method : Bytes) :
    (∀ s, t.handler env (instChain chain) [] method ≠ .fault s) ∧
    ∀ f, t.handler env (instChain chain) [] method = .res f → ∃ q, f.node = some q ∧ q.handlers ≠ [] :=
  witness_tree_found hr.inv env chain x hch hlive hm method

/-- …and the answering node `q` is `x`, a node below `x`, or a node in the subtree of a sibling that precedes — in
child order = kind order — the node of `x`'s chain at the first point where the chains of `x` and `q` diverge. -/
theorem C03_witness_winner_match (t : Tree) (hr : ReachAll t) (env : Env) (chain : List (Seg × Bytes)) (x : Node)
    (hch : Chain t.root (chain.map (·.1)) x) (hlive : x.handlers ≠ [])
    (hm : MatchChain env t.ic chain) (method : Bytes) (f : Found) (q : Node)
    (hp : instChain chain ≠ []) (hstar : instChain chain ≠ [42]) (htr : t.trace = none ∨ method ≠ mTRACE)
    (hres : t.handler env (instChain chain) [] method = .res f) (hq : f.node = some q) :
    Diverges t.root (chain.map (·.1)) x q :=
  witness_tree_winner hr.inv env chain x hch hlive hm method hp hstar htr hres hq

/-- The hypotheses 2 and 3 imply hypothesis 1 on such a tree. -/
theorem C03_matchChain_of_good (t : Tree) (hr : ReachAll t) (env : Env) (chain : List (Seg × Bytes)) (x : Node)
    (hch : Chain t.root (chain.map (·.1)) x) (h : GoodChain env t.ic chain) : MatchChain env t.ic chain :=
  matchChain_of_good env t.ic chain t.root x hch hr.inv.ti.sh h

theorem C03_goodChain_of_vals (t : Tree) (hr : ReachAll t) (env : Env) (chain : List (Seg × Bytes)) (x : Node)
    (hch : Chain t.root (chain.map (·.1)) x) (h : ∀ sv ∈ chain, GoodVal env t.ic sv.1 sv.2)
    (hasc : isAscii (instChain chain) = true ∨ ∀ sv ∈ chain, sv.1.kind = .rx → sv.1.re.wide = false) :
    GoodChain env t.ic chain :=
  goodChain_of_vals env t.ic chain t.root x hch hr.inv.ti.sh h hasc

/-- `SimpleVal` is the special case without regexp segments. -/
theorem C03_goodVal_of_simpleVal (env : Env) (ic : Interceptors) (s : Seg) (v : Bytes) (h : SimpleVal env ic s v) :
    GoodVal env ic s v := .inl h

/-! ## 2. The exact hypothesis on regexp values -/

theorem C03_witness_rx_exact (t : Tree) (hr : ReachAll t) (env : Env) (chain : List (Seg × Bytes)) (x : Node)
    (hch : Chain t.root (chain.map (·.1)) x) (hlive : x.handlers ≠ [])
    (hg : GoodChain env t.ic chain) (method : Bytes) :
    (∀ s, t.handler env (instChain chain) [] method ≠ .fault s) ∧
    ∀ f, t.handler env (instChain chain) [] method = .res f → ∃ q, f.node = some q ∧ q.handlers ≠ [] :=
  C03_witness_match t hr env chain x hch hlive (C03_matchChain_of_good t hr env chain x hch hg) method

theorem C03_witness_winner_rx_exact (t : Tree) (hr : ReachAll t) (env : Env) (chain : List (Seg × Bytes)) (x : Node)
    (hch : Chain t.root (chain.map (·.1)) x) (hlive : x.handlers ≠ [])
    (hg : GoodChain env t.ic chain) (method : Bytes) (f : Found) (q : Node)
    (hp : instChain chain ≠ []) (hstar : instChain chain ≠ [42]) (htr : t.trace = none ∨ method ≠ mTRACE)
    (hres : t.handler env (instChain chain) [] method = .res f) (hq : f.node = some q) :
    Diverges t.root (chain.map (·.1)) x q :=
  C03_witness_winner_match t hr env chain x hch hlive (C03_matchChain_of_good t hr env chain x hch hg) method f q
    hp hstar htr hres hq

/-! ## 3. The hypothesis on the values alone -/

/-- **Witness, first half, for chains with regexp segments.**  On the tree of a well-formed history, let `x`
be a live node reached by `chain.map (·.1)`, every value good for its segment (`GoodVal`: `SimpleVal`, or — regexp
segment — in the language of the rule, the rule avoiding the first byte of the literal text after the parameter),
and the request inside the modelled domain of the regexp engine (the path is ASCII, or no regexp segment of the
chain has `.` / a negated class).  Then `instChain chain` does not fault and is never answered 404. -/
theorem C03_witness_rx (t : Tree) (hr : ReachAll t) (env : Env) (chain : List (Seg × Bytes)) (x : Node)
    (hch : Chain t.root (chain.map (·.1)) x) (hlive : x.handlers ≠ [])
    (hg : ∀ sv ∈ chain, GoodVal env t.ic sv.1 sv.2)
    (hasc : isAscii (instChain chain) = true ∨ ∀ sv ∈ chain, sv.1.kind = .rx → sv.1.re.wide = false)
    (method : Bytes) :
    (∀ s, t.handler env (instChain chain) [] method ≠ .fault s) ∧
    ∀ f, t.handler env (instChain chain) [] method = .res f → ∃ q, f.node = some q ∧ q.handlers ≠ [] :=
  C03_witness_rx_exact t hr env chain x hch hlive (C03_goodChain_of_vals t hr env chain x hch hg hasc) method

/-- **Witness, second half: who answers** (as in `C03_witness_winner_match`). -/
theorem C03_witness_winner_rx (t : Tree) (hr : ReachAll t) (env : Env) (chain : List (Seg × Bytes)) (x : Node)
    (hch : Chain t.root (chain.map (·.1)) x) (hlive : x.handlers ≠ [])
    (hg : ∀ sv ∈ chain, GoodVal env t.ic sv.1 sv.2)
    (hasc : isAscii (instChain chain) = true ∨ ∀ sv ∈ chain, sv.1.kind = .rx → sv.1.re.wide = false)
    (method : Bytes) (f : Found) (q : Node)
    (hp : instChain chain ≠ []) (hstar : instChain chain ≠ [42]) (htr : t.trace = none ∨ method ≠ mTRACE)
    (hres : t.handler env (instChain chain) [] method = .res f) (hq : f.node = some q) :
    Diverges t.root (chain.map (·.1)) x q :=
  C03_witness_winner_rx_exact t hr env chain x hch hlive (C03_goodChain_of_vals t hr env chain x hch hg hasc) method f q
    hp hstar htr hres hq

/-- **Witness, table form, with regexp segments.**  For every live pair `(p, m)` of the table read off the
tree there is the chain `segs` of `p` such that for all values `vs` (one per segment) that are good, the request
`instChain (segs.zip vs)` with method `m` does not fault, is not answered 404, and the answering node is as described
by `Diverges`. -/
theorem C03_witness_table_rx (t : Tree) (hr : ReachAll t) (env : Env) (p m : Bytes) (h : (tableOf t).has p m) :
    ∃ (x : Node) (segs : List Seg), Chain t.root segs x ∧ segs ≠ [] ∧ x.pattern = p ∧
      p = (segs.map (·.value)).flatten ∧ x.handlers.contains m = true ∧
      ∀ vs : List Bytes, vs.length = segs.length → (∀ sv ∈ segs.zip vs, GoodVal env t.ic sv.1 sv.2) →
        (isAscii (instChain (segs.zip vs)) = true ∨ ∀ s ∈ segs, s.kind = .rx → s.re.wide = false) →
        (∀ s, t.handler env (instChain (segs.zip vs)) [] m ≠ .fault s) ∧
        ∀ f, t.handler env (instChain (segs.zip vs)) [] m = .res f →
          ∃ q, f.node = some q ∧ q.handlers ≠ [] ∧
            (instChain (segs.zip vs) ≠ [] → instChain (segs.zip vs) ≠ [42] → (t.trace = none ∨ m ≠ mTRACE) →
              Diverges t.root segs x q) :=
  witness_table_vals hr.inv env h

/-! ## Non-vacuity -/

/-- In the tree REACHED by `Handle("/u/", h2, GET); Handle("/u/{id:\d+}/x", h1, GET)` the node of
`/u/{id:\d+}/x` is live and reached by the chain `"/u/"`, `{id:\d+}/x` (a regexp segment with the suffix `/x`); -/
example : ReachAll exR := exR_reach
example : ∃ x, Chain exR.root (exRChain.map (·.1)) x ∧ x.handlers ≠ [] := exR_chain
example : (tableOf exR).has exPRx mGET := exR_live_pair
/-- the value `42` is good for it: it is in the language of `\d+`, and `\d+` cannot consume `/`; -/
example : RxSimple exSegRx [52, 50] := exSegRx_simple
example : ∀ sv ∈ exRChain, GoodVal P14.exEnv exR.ic sv.1 sv.2 := exRChain_good
example : ∀ sv ∈ exRChain, sv.1.kind = .rx → sv.1.re.wide = false := exRChain_narrow
/-- the exact hypotheses hold too (decidable by evaluation): `{id:\d+}/x` on `42/x` captures `42`, rest `""`; -/
example : MatchChain P14.exEnv [] exRChain := exRChain_match
example : RxExact exSegRx [52, 50] [] := by decide +kernel
example : rxMatch exSegRx.re exSegRx.suffix ([52, 50] ++ [47, 120] ++ [47, 121]) = some ([52, 50], [47, 121]) := by decide +kernel
/-- the witness request is `/u/42/x`; -/
example : instChain exRChain = exReqRx ∧ instChain exRChain ≠ [] ∧ instChain exRChain ≠ [42] := by decide +kernel
/-- and the theorems apply: `GET /u/42/x` is answered by a node with handlers (here `/u/{id:\d+}/x` itself, with
`id = 42`), which `Diverges` from the node of `/u/{id:\d+}/x`. -/
example : ∃ f q x, exR.handler P14.exEnv (instChain exRChain) [] mGET = .res f ∧ f.node = some q ∧ q.handlers ≠ [] ∧
    q.pattern = exPRx ∧ f.params = [([105, 100], [52, 50])] ∧ Diverges exR.root (exRChain.map (·.1)) x q := by
  obtain ⟨x, hch, hlive⟩ := exR_chain
  obtain ⟨f, q, hres, hq, hp, _, _, hps⟩ := exR_answer
  rw [← exRChain_inst] at hres
  obtain ⟨q', hq', hh⟩ := (C03_witness_rx exR exR_reach P14.exEnv exRChain x hch hlive exRChain_good
    (.inr exRChain_narrow) mGET).2 f hres
  rw [hq] at hq'
  cases hq'
  exact ⟨f, q, x, hres, hq, hh, hp, hps,
    C03_witness_winner_rx exR exR_reach P14.exEnv exRChain x hch hlive exRChain_good (.inr exRChain_narrow) mGET f q
      (by decide) (by decide) (.inr (by decide)) hres hq⟩

/-- `Re.avoids` on concrete rules: `\d+` avoids `/` but not `7`; `[^/]+` avoids `/`; `.+` does not. -/
example : P17.Re.avoids (.plus ⟨false, clsDigit⟩) 47 = true ∧ P17.Re.avoids (.plus ⟨false, clsDigit⟩) 55 = false ∧
    P17.Re.avoids (.plus ⟨true, [(47, 47)]⟩) 47 = true ∧ P17.Re.avoids (.plus clsDot) 47 = false := by decide +kernel

/-- Without `Re.avoids` the extension fails already at the level of the regexp: `(a/xb|a)` followed by `/x`. -/
example : rxMatch exReA [47, 120] ([97] ++ [47, 120]) = some ([97], []) ∧
    rxMatch exReA [47, 120] ([97] ++ [47, 120] ++ [98, 47, 120]) = some ([97, 47, 120, 98], []) := by decide +kernel

end Mux.C03
