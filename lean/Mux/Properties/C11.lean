/-
  C11 — CORS never grants more than was configured.
  Model: `Cors.sanitize`, `Cors.handle`, `Cors.headerIsAllowed` (Mux/Model/Http.lean),
  `Router.serveContext` (Mux/Model/Router.lean).  Helper lemmas: Mux/Proofs/Cors*.lean.

  Conventions: `c` is ANY configuration produced by `Cors.sanitize origins allowHeaders exposed maxAge cred`
  (all arguments symbolic); `h` is the response header map after `cors.handle` started from the empty
  map (that is what `Router.serveContext` passes, see `C11_not_ok` / `C12_served`);
  `Cors.isPreflight method path reqHeaders` is *by definition*
  `method = "OPTIONS" ∧ reqHeaders.get "Access-Control-Request-Method" ≠ "" ∧ path ≠ "*"` (`C11_preflight_def`).
  `[42]` is the byte string `"*"`.
-/
import Mux.Proofs.CorsConfig
import Mux.Proofs.CorsFinal
import Mux.Proofs.CorsEval
namespace Mux.C11
open Mux

variable {origins allowHeaders exposed : List Bytes} {maxAge : Int} {cred : Bool} {c : Cors}

theorem C11_preflight_def (method path : Bytes) (reqHeaders : Hdr) :
    Cors.isPreflight method path reqHeaders ↔
      method = mOPTIONS ∧ reqHeaders.get hACRM ≠ [] ∧ path ≠ [42] := Iff.rfl

/-- `Access-Control-Allow-Origin` is absent, or `*` (only if `*` was configured), or the request's
own `Origin` (only if exactly that origin is listed and `*` is not). -/
theorem C11_acao_values (hs : Cors.sanitize origins allowHeaders exposed maxAge cred = some c)
    (nodeMethods : List Bytes) (nodeAllow method path : Bytes) (reqHeaders : Hdr) :
    let h := c.handle nodeMethods nodeAllow [] method path reqHeaders
    let origin := reqHeaders.get hOrigin
    h.values hACAO = [] ∨ (h.values hACAO = [[42]] ∧ [42] ∈ origins) ∨
      (h.values hACAO = [origin] ∧ origin ∈ origins ∧ [42] ∉ origins) := by
  have ha := (Cors.sanitized hs).anyOrigins
  dsimp only
  rw [Cors.values_handle_ACAO, ha]
  by_cases hg : c.granted nodeMethods method path reqHeaders
  · have h3 := ((Cors.granted_iff hs ..).mp hg).2.2
    by_cases h1 : [42] ∈ origins
    · exact .inr (.inl ⟨by simp [hg, h1], h1⟩)
    · exact .inr (.inr ⟨by simp [hg, h1], h3.resolve_left h1, h1⟩)
  · exact .inl (if_neg hg)

/-! Non-vacuity: both `sanitize` hypotheses are satisfiable, and each of the three outcomes occurs
(listed origin echoed / `*` / nothing for a foreign origin). -/
example : Cors.sanitize [CorsEx.origin] [hContentType, CorsEx.xId] [CorsEx.xId] 3600 true = some CorsEx.cfg :=
  CorsEx.sanitize_cfg
example : Cors.sanitize [[42]] [[42]] [] (-1) false = some CorsEx.cfgStar := CorsEx.sanitize_cfgStar
example : Cors.sanitize [] [] [] 0 false = some CorsEx.cfgDeny := CorsEx.sanitize_cfgDeny
example : (CorsEx.cfg.handle CorsEx.nodeMethods CorsEx.nodeAllow [] mOPTIONS CorsEx.path CorsEx.preflight).values hACAO
    = [CorsEx.preflight.get hOrigin] ∧ CorsEx.preflight.get hOrigin ∈ [CorsEx.origin] ∧ [42] ∉ [CorsEx.origin] := by
  rw [CorsEx.handle_preflight]
  simp only [CorsEx.origin, CorsEx.xId, CorsEx.nodeAllow, CorsEx.preflight, bytesOfString_eq_data]
  decide +kernel
example : (CorsEx.cfgStar.handle CorsEx.nodeMethods CorsEx.nodeAllow [] mGET CorsEx.path CorsEx.simpleEvil).values hACAO
    = [[42]] ∧ [42] ∈ [([42] : Bytes)] := by
  simp only [CorsEx.cfgStar, CorsEx.simpleEvil, CorsEx.evil, CorsEx.nodeAllow, CorsEx.path, bytesOfString_eq_data]
  decide +kernel
example : (CorsEx.cfg.handle CorsEx.nodeMethods CorsEx.nodeAllow [] mGET CorsEx.path CorsEx.simpleEvil).values hACAO
    = [] := by
  simp only [CorsEx.cfg, CorsEx.simpleEvil, CorsEx.evil, CorsEx.origin, CorsEx.xId, CorsEx.nodeAllow, CorsEx.path,
    bytesOfString_eq_data]
  decide +kernel

/-- `Access-Control-Allow-Credentials: true` only ever accompanies an echoed, listed origin. -/
theorem C11_credentials (hs : Cors.sanitize origins allowHeaders exposed maxAge cred = some c)
    (nodeMethods : List Bytes) (nodeAllow method path : Bytes) (reqHeaders : Hdr) :
    let h := c.handle nodeMethods nodeAllow [] method path reqHeaders
    let origin := reqHeaders.get hOrigin
    h.get hACAC = bytesOfString "true" →
      h.values hACAO = [origin] ∧ origin ∈ origins ∧ [42] ∉ origins := by
  have hx := (Cors.sanitized hs).not_star_cred
  have ha := (Cors.sanitized hs).anyOrigins
  have hc := (Cors.sanitized hs).allowCredentials
  dsimp only
  rw [Hdr.get_eq_headD, Cors.values_handle_ACAC, Cors.values_handle_ACAO, ha]
  by_cases hg : c.granted nodeMethods method path reqHeaders ∧ c.allowCredentials = true
  · have h1 : [42] ∉ origins := fun h => hx ⟨h, hc ▸ hg.2⟩
    have h3 := ((Cors.granted_iff hs ..).mp hg.1).2.2
    exact fun _ => ⟨by simp [hg.1, h1], h3.resolve_left h1, h1⟩
  · rw [if_neg hg]
    exact fun h => absurd h.symm (mt (bytesOfString_eq_nil_iff "true").1 (by decide))

/-! Non-vacuity: the premise `Allow-Credentials = "true"` does occur. -/
example : (CorsEx.cfg.handle CorsEx.nodeMethods CorsEx.nodeAllow [] mGET CorsEx.path CorsEx.simple).get hACAC
    = bytesOfString "true" := by
  rw [CorsEx.handle_simple]
  decide +kernel

/-- No `Access-Control-Allow-Origin` at all: without configured origins; on a preflight for a method
the route does not serve; on a preflight asking for a header outside the allowed list; for an origin
that is not allowed. -/
theorem C11_never (hs : Cors.sanitize origins allowHeaders exposed maxAge cred = some c)
    (nodeMethods : List Bytes) (nodeAllow method path : Bytes) (reqHeaders : Hdr)
    (hyp : origins = [] ∨
      (Cors.isPreflight method path reqHeaders ∧ reqHeaders.get hACRM ∉ nodeMethods) ∨
      (Cors.isPreflight method path reqHeaders ∧ ¬ c.headerIsAllowed reqHeaders = true) ∨
      (¬ c.anyOrigins = true ∧ reqHeaders.get hOrigin ∉ origins)) :
    (c.handle nodeMethods nodeAllow [] method path reqHeaders).has hACAO = false := by
  have ha := (Cors.sanitized hs).anyOrigins
  rw [Cors.has_handle_ACAO, decide_eq_false_iff_not, Cors.granted_iff hs]
  rintro ⟨h1, h2, h3⟩
  rcases hyp with h | ⟨hp, h⟩ | ⟨hp, h⟩ | ⟨h, h'⟩
  · exact h1 h
  · exact h (h2 hp).1
  · exact h (h2 hp).2
  · simp [ha] at h; simp [h, h'] at h3

/-! Non-vacuity: each of the four disjuncts is satisfiable (with a sanitized configuration). -/
example : ([] : List Bytes) = [] ∧ Cors.sanitize [] [] [] 0 false = some CorsEx.cfgDeny :=
  ⟨rfl, CorsEx.sanitize_cfgDeny⟩
example : Cors.isPreflight mOPTIONS CorsEx.path CorsEx.preflightDelete ∧
    CorsEx.preflightDelete.get hACRM ∉ CorsEx.nodeMethods := by
  simp only [CorsEx.path, CorsEx.preflightDelete, CorsEx.origin, bytesOfString_eq_data]
  decide +kernel
example : Cors.isPreflight mOPTIONS CorsEx.path CorsEx.preflightEvilHeader ∧
    CorsEx.preflightEvilHeader.get hACRM ∈ CorsEx.nodeMethods ∧
    ¬ CorsEx.cfg.headerIsAllowed CorsEx.preflightEvilHeader = true :=
  ⟨by decide +kernel, by decide +kernel, CorsEx.allowed_preflightEvilHeader ▸ Bool.false_ne_true⟩
example : ¬ CorsEx.cfg.anyOrigins = true ∧ CorsEx.simpleEvil.get hOrigin ∉ [CorsEx.origin] := by
  simp only [CorsEx.cfg, CorsEx.simpleEvil, CorsEx.evil, CorsEx.origin, CorsEx.xId, bytesOfString_eq_data]
  decide +kernel

/-- `has hACAO = false` means the header is absent: no values, `Get` is empty. -/
theorem C11_never_absent (nodeMethods : List Bytes) (nodeAllow method path : Bytes) (reqHeaders : Hdr)
    (hn : (c.handle nodeMethods nodeAllow [] method path reqHeaders).has hACAO = false) :
    (c.handle nodeMethods nodeAllow [] method path reqHeaders).values hACAO = [] ∧
    (c.handle nodeMethods nodeAllow [] method path reqHeaders).get hACAO = [] := by
  simp [Hdr.get_eq_headD, Hdr.values_eq_nil_of_has_false hn]

/-- Exact decision (both directions): when is `Access-Control-Allow-Origin` present. -/
theorem C11_acao_iff (hs : Cors.sanitize origins allowHeaders exposed maxAge cred = some c)
    (nodeMethods : List Bytes) (nodeAllow method path : Bytes) (reqHeaders : Hdr) :
    (c.handle nodeMethods nodeAllow [] method path reqHeaders).has hACAO = true ↔
      origins ≠ [] ∧
      (Cors.isPreflight method path reqHeaders →
        reqHeaders.get hACRM ∈ nodeMethods ∧ c.headerIsAllowed reqHeaders = true) ∧
      ([42] ∈ origins ∨ reqHeaders.get hOrigin ∈ origins) := by
  rw [Cors.has_handle_ACAO, decide_eq_true_iff, Cors.granted_iff hs]

/-! Non-vacuity: the right-hand side holds for the browser-style preflight. -/
example : [CorsEx.origin] ≠ [] ∧
    (Cors.isPreflight mOPTIONS CorsEx.path CorsEx.preflight →
      CorsEx.preflight.get hACRM ∈ CorsEx.nodeMethods ∧ CorsEx.cfg.headerIsAllowed CorsEx.preflight = true) ∧
    ([42] ∈ [CorsEx.origin] ∨ CorsEx.preflight.get hOrigin ∈ [CorsEx.origin]) :=
  ⟨List.cons_ne_nil _ _,
    fun _ => ⟨by simp only [CorsEx.preflight, CorsEx.origin, bytesOfString_eq_data]; decide +kernel, CorsEx.allowed_preflight⟩,
    by simp only [CorsEx.preflight, CorsEx.origin, bytesOfString_eq_data]; decide +kernel⟩

/-- 404 / 405 (`ok = false`): the response header map handed on is empty — no CORS header at all. -/
theorem C11_not_ok {env : Env} {r : Router} {req : Req} {ps : Params} {call : Call}
    (h : r.serveContext env req ps = .call call) (hok : call.ok = false) : call.respHeaders = [] :=
  (P18.serveContext_not_ok env r req ps call h hok).2

/-! Non-vacuity: a 405 (POST to a GET route) and a 404 on a router with a live route and CORS. -/
example : CorsEx.servedNotOK CorsEx.router { method := mPOST, path := CorsEx.path, headers := CorsEx.preflight } = true := by
  decide +kernel
example : CorsEx.servedNotOK CorsEx.router
    { method := mGET, path := bytesOfString "/nope", headers := CorsEx.simple } = true := by decide +kernel

/-- The two grant invariants for the router as a whole: whatever `serveContext` hands to the handler
(served, 404 or 405) satisfies `C11_acao_values` and `C11_credentials`. -/
theorem C11_router (hs : Cors.sanitize origins allowHeaders exposed maxAge cred = some c)
    {env : Env} {r : Router} {req : Req} {ps : Params} {call : Call} (hc : r.cors = c)
    (h : r.serveContext env req ps = .call call) :
    let origin := req.headers.get hOrigin
    (call.respHeaders.values hACAO = [] ∨ (call.respHeaders.values hACAO = [[42]] ∧ [42] ∈ origins) ∨
      (call.respHeaders.values hACAO = [origin] ∧ origin ∈ origins ∧ [42] ∉ origins)) ∧
    (call.respHeaders.get hACAC = bytesOfString "true" →
      call.respHeaders.values hACAO = [origin] ∧ origin ∈ origins ∧ [42] ∉ origins) := by
  cases hok : call.ok with
  | false =>
    rw [C11_not_ok h hok]
    exact ⟨Or.inl rfl, fun h => absurd h.symm (mt (bytesOfString_eq_nil_iff "true").1 (by decide))⟩
  | true =>
    obtain ⟨n, hn, hresp⟩ := Router.serveContext_ok h hok
    rw [hresp, hc]
    exact ⟨C11_acao_values hs .., C11_credentials hs n.methods n.allow req.method req.path req.headers⟩

example : CorsEx.router.cors = CorsEx.cfg := rfl

/-- `*` together with credentials, and `maxAge < -1`, are constructor errors. -/
theorem C11_sanitize (origins allowHeaders exposed : List Bytes) (maxAge : Int) (cred : Bool) :
    ([42] ∈ origins ∧ cred = true → Cors.sanitize origins allowHeaders exposed maxAge cred = none) ∧
    (maxAge < -1 → Cors.sanitize origins allowHeaders exposed maxAge cred = none) :=
  ⟨fun h => by rw [Cors.sanitize_eq, if_pos (.inr h)], fun h => by rw [Cors.sanitize_eq, if_pos (.inl h)]⟩

/-! Non-vacuity of the two premises. -/
example : [42] ∈ [CorsEx.origin, [42]] ∧ true = true := by decide +kernel
example : (-2 : Int) < -1 := by decide +kernel

/-- These are the only constructor errors. -/
theorem C11_sanitize_iff (origins allowHeaders exposed : List Bytes) (maxAge : Int) (cred : Bool) :
    Cors.sanitize origins allowHeaders exposed maxAge cred = none ↔
      maxAge < -1 ∨ ([42] ∈ origins ∧ cred = true) := by
  rw [Cors.sanitize_eq]
  split <;> simp [*]

/-- The requested-header check: `*` configured, or nothing requested, or every requested item
(split at commas, white space trimmed) equals a configured name up to ASCII case. -/
theorem C11_allowed_iff (hs : Cors.sanitize origins allowHeaders exposed maxAge cred = some c) (reqHeaders : Hdr) :
    c.headerIsAllowed reqHeaders = true ↔
      [42] ∈ allowHeaders ∨ trimSpace (reqHeaders.get hACRH) = [] ∨
      ∀ item ∈ splitComma (trimSpace (reqHeaders.get hACRH)),
        ∃ a ∈ allowHeaders, toLower a = toLower (trimSpace item) := by
  rw [Cors.headerIsAllowed_iff, (Cors.sanitized hs).allowHeaders, (Cors.sanitized hs).anyHeaders, decide_eq_true_iff]

/-! Non-vacuity: the interesting (third) disjunct holds for lower-case, oddly spaced names, and fails
for a name outside the list. -/
example : ¬ [42] ∈ [hContentType, CorsEx.xId] ∧ trimSpace (CorsEx.preflight.get hACRH) ≠ [] ∧
    CorsEx.cfg.headerIsAllowed CorsEx.preflight = true ∧
    CorsEx.cfg.headerIsAllowed CorsEx.preflightEvilHeader = false :=
  ⟨by simp only [CorsEx.xId, bytesOfString_eq_data]; decide +kernel,
    by simp only [CorsEx.preflight, CorsEx.origin, bytesOfString_eq_data]; decide +kernel,
    CorsEx.allowed_preflight, CorsEx.allowed_preflightEvilHeader⟩

/-- `splitComma` is `strings.Split(·, ",")`: the comma-free pieces whose `Join` is the input. -/
theorem C11_splitComma_spec (s : Bytes) :
    joinWith [44] (splitComma s) = s ∧ splitComma s ≠ [] ∧ ∀ x ∈ splitComma s, (44 : UInt8) ∉ x :=
  ⟨joinWith_splitComma s, splitComma_ne_nil s, splitComma_no_comma s⟩

/-- `trimSpace` is `strings.TrimSpace` (ASCII): it strips a white-space prefix and suffix and the
result neither starts nor ends with white space. -/
theorem C11_trimSpace_spec (s : Bytes) :
    ∃ a b, s = a ++ trimSpace s ++ b ∧ a.all isSpaceByte = true ∧ b.all isSpaceByte = true ∧
      (∀ x, (trimSpace s).head? = some x → isSpaceByte x = false) ∧
      (∀ x, (trimSpace s).getLast? = some x → isSpaceByte x = false) := by
  let d := s.dropWhile isSpaceByte
  have hd : s = s.takeWhile isSpaceByte ++ d := (List.takeWhile_append_dropWhile).symm
  have hd2 : d = (d.reverse.dropWhile isSpaceByte).reverse ++ (d.reverse.takeWhile isSpaceByte).reverse := by
    rw [← List.reverse_append, List.takeWhile_append_dropWhile, List.reverse_reverse]
  have ht : trimSpace s = (d.reverse.dropWhile isSpaceByte).reverse := rfl
  refine ⟨s.takeWhile isSpaceByte, (d.reverse.takeWhile isSpaceByte).reverse, ?_, by simp, by simp, ?_, ?_⟩
  · rw [ht, List.append_assoc, ← hd2]; exact hd
  · intro x hx
    have h1 : d.head? = some x := by
      rw [hd2, List.head?_append, ← ht, hx]; rfl
    have := List.head?_dropWhile_not isSpaceByte s
    simp only [show s.dropWhile isSpaceByte = d from rfl, h1] at this
    exact this
  · intro x hx
    rw [ht, List.getLast?_reverse] at hx
    have := List.head?_dropWhile_not isSpaceByte d.reverse
    simp only [hx] at this
    exact this

end Mux.C11
