/-
  C17 — registration is validated before the tree is touched: a rejected `Handle` changes nothing.

  `Tree.add` runs `checkAmb → split → checkMethods → getNode → modifyAt (addMethodsNode) → bumpMethods`
  and `Tree.step` keeps the old tree on an error.  The theorems below give (A) the decision logic of
  the validation and (B) the substantive companion: on a well-formed tree (`WellFormedTree`,
  `Mux/Proofs/AddAtomic.lean`) and for a well-formed pattern (`WfPattern`: every piece of
  `splitString` is brace-free or is one `{…}` token followed by brace-free text) the stages after
  the validation cannot fail, so "a rejected Handle changes nothing" does not hold by construction
  only.
-/
import Mux.Proofs.AddNoFault
import Mux.Proofs.AmbCheck
import Mux.Proofs.P9Examples
import Mux.Proofs.AmbigSplit
import Mux.Proofs.RunFuel
namespace Mux.C17
open Mux Mux.P9 Mux.P10 Mux.P16

/-- A rejected `Handle` leaves the tree as it was (by the definition of `Tree.step`; the substance is
`C17_validated_ok`). -/
theorem C17_atomic_model (t : Tree) (p : Bytes) (h : Handler) (ms : List Nat) (methods : List Bytes) (e : Err)
    (he : t.add p h ms methods = .error e) : t.step (.add p h ms methods) = t := by
  simp only [Tree.step, he]

/-- OPTIONS, HEAD, TRACE (when configured) or an unknown name at ANY position of the method list:
`Tree.add` answers an error and the tree is unchanged. -/
theorem C17_reserved (t : Tree) (p : Bytes) (h : Handler) (ms : List Nat) (methods : List Bytes)
    (hbad : ∃ m ∈ methods, BadMethod t.hasTrace m) :
    (∃ e, t.add p h ms methods = .error e) ∧ t.step (.add p h ms methods) = t :=
  add_bad_rejected t p h ms methods hbad

/-- When the pattern itself is acceptable the error of `C17_reserved` is `reserved`, `unknownMethod` or
`dupMethod` (whichever entry is refused first). -/
theorem C17_reserved_class (t : Tree) (p : Bytes) (h : Handler) (ms : List Nat) (methods : List Bytes)
    (hbad : ∃ m ∈ methods, BadMethod t.hasTrace m)
    {a : Option Bool} (hamb : t.root.checkAmb t.ic p false = .ok a) (ha : a ≠ some true)
    {segs : List Seg} (hsp : split t.ic p = .ok segs) :
    ∃ e, t.add p h ms methods = .error e ∧ (e = .reserved ∨ e = .unknownMethod ∨ e = .dupMethod) :=
  add_bad_class t p h ms methods hbad hamb ha hsp

/-- A method occurring twice in the list: never accepted, the tree is unchanged. -/
theorem C17_dup_list (t : Tree) (p : Bytes) (h : Handler) (ms : List Nat) (methods : List Bytes)
    (hdup : ¬ methods.Nodup) :
    (∃ e, t.add p h ms methods = .error e) ∧ t.step (.add p h ms methods) = t :=
  add_dup_list t p h ms methods hdup

/-- The error is `dupMethod` when the pattern is acceptable and no entry is reserved or unknown. -/
theorem C17_dup_list_class (t : Tree) (p : Bytes) (h : Handler) (ms : List Nat) (methods : List Bytes)
    (hdup : ¬ methods.Nodup) (hgood : ∀ m ∈ methods, ¬ BadMethod t.hasTrace m)
    {a : Option Bool} (hamb : t.root.checkAmb t.ic p false = .ok a) (ha : a ≠ some true)
    {segs : List Seg} (hsp : split t.ic p = .ok segs) :
    t.add p h ms methods = .error .dupMethod :=
  add_dup_list_class t p h ms methods hdup hgood hamb ha hsp

/-- The pattern is live with method `m` (the node `findPath` finds for it has `m`) and `m` is in the
list: never accepted, the tree is unchanged. -/
theorem C17_dup_live (t : Tree) (p : Bytes) (h : Handler) (ms : List Nat) (methods : List Bytes)
    (path : List Nat) (n : Node) (m : Bytes)
    (hpath : t.root.findPath p = some path) (hn : t.root.getAt path = some n)
    (hm : m ∈ methods) (hlive : n.handlers.contains m = true) :
    (∃ e, t.add p h ms methods = .error e) ∧ t.step (.add p h ms methods) = t :=
  add_dup_live t p h ms methods path n m hpath hn (mem_effMethods hm) hlive

/-- The error is `dupMethod` when the pattern is acceptable and no entry is reserved or unknown. -/
theorem C17_dup_live_class (t : Tree) (p : Bytes) (h : Handler) (ms : List Nat) (methods : List Bytes)
    (path : List Nat) (n : Node) (m : Bytes)
    (hpath : t.root.findPath p = some path) (hn : t.root.getAt path = some n)
    (hm : m ∈ methods) (hlive : n.handlers.contains m = true)
    (hgood : ∀ m ∈ methods, ¬ BadMethod t.hasTrace m)
    {a : Option Bool} (hamb : t.root.checkAmb t.ic p false = .ok a) (ha : a ≠ some true)
    {segs : List Seg} (hsp : split t.ic p = .ok segs) :
    t.add p h ms methods = .error .dupMethod :=
  add_dup_live_class t p h ms methods path n m hpath hn (mem_effMethods hm) hlive
    (by rw [effMethods_of_ne (List.ne_nil_of_mem hm)]; exact hgood) hamb ha hsp

/-- **No false `ambiguous`.** If `Tree.add` answers `ambiguous`, the ambiguity check found a node:
there is a chain of existing nodes from the root to a node WITH HANDLERS such that the new pattern
text is consumed step by step along the chain (`AmbPath`, `Mux/Proofs/AmbCheck.lean`) — each step
either because the node's text is a literal prefix of the remaining pattern (`AmbPath.lit`), or because
the node's segment `isAmbiguous` with the first segment of the remaining pattern (same kind, rule,
suffix, endpoint; different name or `-` flag: `AmbPath.amb`), or — the branch added by the D33 repair,
`AmbPath.pre` — because the node is the upper half of a parameter node that was split: its segment is
the same token as the first segment of the remaining pattern up to the name or the `-` flag and its
literal suffix is a PROPER PREFIX of that segment's suffix (`isAmbiguousPrefix`); the walk then goes
on below the node with what follows the token and that shorter suffix.  At least one step is of the
second or third kind. -/
theorem C17_ambiguous_sound (t : Tree) (p : Bytes) (h : Handler) (ms : List Nat) (methods : List Bytes)
    (he : t.add p h ms methods = .error .ambiguous) :
    t.root.checkAmb t.ic p false = .ok (some true) ∧
      ∃ (m : Node) (steps : List (Seg × Bool)),
        AmbPath t.ic t.root p m steps ∧ Chain t.root (steps.map (·.1)) m ∧ m.handlers ≠ [] ∧
        steps.any (·.2) = true :=
  add_ambiguous_sound t p h ms methods he

/-- DESIGN.md words `C17_no_false` through an erasure of parameter names on pattern texts; no such function is
defined here, and the statement gives the certificate `AmbPath` instead.  The certificate
`AmbPath` has a constructor for each of the three ways `checkAmbiguous` descends (literal prefix,
`isAmbiguous`, and — since the D33 repair — `isAmbiguousPrefix`), so this covers every `ambiguous`
verdict of the check; see `C17_ambig_prefix_sound` for the form on reachable trees. -/
theorem C17_no_false (t : Tree) (p : Bytes) (h : Handler) (ms : List Nat) (methods : List Bytes)
    (he : t.add p h ms methods = .error .ambiguous) :
    ∃ (m : Node) (steps : List (Seg × Bool)),
      Chain t.root (steps.map (·.1)) m ∧ m.handlers ≠ [] ∧ AmbPath t.ic t.root p m steps ∧
      ∃ sb ∈ steps, sb.2 = true := by
  obtain ⟨_, m, steps, h1, h2, h3, h4⟩ := add_ambiguous_sound t p h ms methods he
  exact ⟨m, steps, h2, h3, h1, by simpa using h4⟩

/-- `t1` is a fresh tree after ONE successful `Handle` of the well-formed pattern
`q` (so `q` is the only route). `p ≠ q` is an accepted well-formed pattern that is identical to `q` up
to parameter names: segment by segment the same text, or a parameter with the same kind, rule, suffix
and endpoint flag but another name or `-` flag (`UpToNames` of the two `Split` results). Then `Handle p` is refused as
`ambiguous` (whatever handler, middlewares and methods), and the tree is unchanged. -/
theorem C17_ambig_one (name : Bytes) (ic : Interceptors) (nf : Handler) (tr : Option Handler) (ob nb : Base)
    (q p : Bytes) (h : Handler) (ms : List Nat) (methods : List Bytes) (t1 : Tree)
    (hq : P9.WfPattern q) (hp : P9.WfPattern p)
    (he : (Tree.new name ic nf tr ob nb).add q h ms methods = .ok t1)
    (psegs qsegs : List Seg) (hsp : split ic p = .ok psegs) (hsq : split ic q = .ok qsegs)
    (hu : UpToNames psegs qsegs) (hne : p ≠ q) (h' : Handler) (ms' : List Nat) (methods' : List Bytes) :
    t1.add p h' ms' methods' = .error .ambiguous ∧ t1.step (.add p h' ms' methods') = t1 := by
  have := ambig_one name ic nf tr ob nb hq hp he hsp hsq hu hne h' ms' methods'
  exact ⟨this, by simp only [Tree.step, this]⟩

/-- **The branch added by the D33 repair never produces a false positive.** On the tree
of any history with well-formed patterns (`ReachWf`), if `Handle p` is refused as `ambiguous` then the certificate
exists: a chain of existing nodes from the root to a node WITH HANDLERS along which the text of `p` is consumed
(`AmbPath`), at least one step being a parameter step.  The certificate has a constructor for each way the check
descends; for that branch, `AmbPath.pre`, the node `c` is not a textual prefix of the rest of the pattern, `Split`
accepts the rest with first segment `s0`, `c.seg.isAmbiguousPrefix s0` (same kind and rule, other name or `-`
flag, `c`'s literal suffix a PROPER prefix of `s0`'s), and the walk continues below `c` after the token and that
shorter suffix — the offset lies inside the pattern (`ambPrefix_offset_le`, no fault 252: the slice of `checkAmbL` in that branch).  All nodes of the chain
satisfy I-seg (`SegOk`: each is `NewSegment` of its own well-formed text), so the comparison the steps made is a
comparison of real tokens.  (This is `C17_no_false` with the invariants of reachable trees added.) -/
theorem C17_ambig_prefix_sound (t : Tree) (hr : ReachWf t) (p : Bytes) (h : Handler) (ms : List Nat)
    (methods : List Bytes) (he : t.add p h ms methods = .error .ambiguous) :
    ∃ (m : Node) (steps : List (Seg × Bool)),
      AmbPath t.ic t.root p m steps ∧ Chain t.root (steps.map (·.1)) m ∧ m.handlers ≠ [] ∧
      (∃ sb ∈ steps, sb.2 = true) ∧ (∀ sb ∈ steps, SegOk t.ic sb.1) ∧
      m.pattern = (steps.map (·.1.value)).flatten ∧ m.pattern ∈ (tableOf t).patterns := by
  obtain ⟨m, steps, h2, h3, h1, sb, hsb, h4⟩ := C17_no_false t p h ms methods he
  have hpat := Mux.P13.reach_chain_pattern hr h2
  have hlive := live_chain_mem hr h2 (List.ne_nil_of_mem (List.mem_map_of_mem hsb)) h3
  rw [List.map_map] at hpat hlive
  refine ⟨m, steps, h1, h2, h3, ⟨sb, hsb, h4⟩, fun s hs => ?_, hpat, hpat ▸ hlive⟩
  exact Mux.P13.reach_chain_segOk hr h2 s.1 (List.mem_map_of_mem hs)

/-- What a step of the D33 branch (`AmbPath.pre`) compares and skips, textually: the node's segment is `{bc}suf`, the
first segment of the rest of the pattern is `{b0}suf·d` with `d ≠ []`; the two tokens have the same kind and the
same rule text but different bodies (another name or `-` flag); the step skips `{b0}suf` — the node's own text up
to the parameter name — and leaves `d …` to the node's children.  So a `pre` step, like an `amb` step, consumes
text that equals the node's text up to the parameter name / `-` flag. -/
theorem C17_ambig_prefix_consumed (ic : Interceptors) (c s0 : Seg) (hc : SegOk ic c) (h0 : SegOk ic s0)
    (hp : c.isAmbiguousPrefix s0 = true) (pat : Bytes) (hpre : s0.value <+: pat) :
    ∃ bc b0 d, c.value = tok bc c.suffix ∧ s0.value = tok b0 (c.suffix ++ d) ∧ d ≠ [] ∧ bc ≠ b0 ∧
      bodyRule bc = bodyRule b0 ∧ c.kind = s0.kind ∧
      pat.take (s0.value.length - s0.suffix.length + c.suffix.length) = tok b0 c.suffix ∧
      pat.drop (s0.value.length - s0.suffix.length + c.suffix.length) = d ++ pat.drop s0.value.length :=
  ambPrefix_consumed hc h0 hp hpre

/-- The slice of the D33 branch is in bounds: whenever the `isAmbiguousPrefix` branch is taken on an
accepted rest `pat` of the pattern (first segment `s0`), the offset `len(s0.Value) - len(s0.Suffix) +
len(seg.Suffix)` does not exceed `len(pat)`; hence `checkAmbiguous` fails with a syntax error of the pattern
only, never with a fault (`checkAmb_error`). -/
theorem C17_ambig_prefix_in_bounds (ic : Interceptors) (pat : Bytes) (s0 : Seg) (segs : List Seg) (c : Seg)
    (hs : split ic pat = .ok (s0 :: segs)) (hp : c.isAmbiguousPrefix s0 = true) :
    s0.value.length - s0.suffix.length + c.suffix.length ≤ pat.length ∧
      ∀ (n : Node) (has : Bool) (e : Err), n.checkAmb ic pat has = .error e → SynErr e :=
  ⟨ambPrefix_offset_le hs hp, fun n has e he => checkAmb_error ic n pat has e he⟩

/-- The same for a tree known to be reachable (`ReachWf`), with the tree's own interceptor table. -/
theorem C17_ambig_one_reach (t : Tree) (hr : ReachWf t) (q p : Bytes) (hone : (tableOf t).patterns = [q])
    (hp : P9.WfPattern p) (psegs qsegs : List Seg) (hsp : split t.ic p = .ok psegs) (hsq : split t.ic q = .ok qsegs)
    (hu : UpToNames psegs qsegs) (hne : p ≠ q) (h : Handler) (ms : List Nat) (methods : List Bytes) :
    t.add p h ms methods = .error .ambiguous ∧ t.step (.add p h ms methods) = t := by
  have he := ambig_one_history hr hone hp hsp hsq hu hne h ms methods
  exact ⟨he, by simp only [Tree.step, he]⟩

/-- `t` is the tree of ANY history of `Handle`/`Remove`/`Clean`/`Use` whose
registered patterns are well-formed, and its route table holds exactly ONE pattern `q`.  `p ≠ q` is an accepted
well-formed pattern identical to `q` up to parameter names: `Split` of the two yields segment lists that agree one
by one — the same text, or a parameter with the same kind, rule, suffix and endpoint flag but another name or `-`
flag (`UpToNames`, as in `C17_ambig_one`).  Then `Handle p` is refused as `ambiguous`, whatever handler,
middlewares and methods, and the tree is unchanged.

Unlike `C17_ambig_one` the tree need not be the linear chain a single `Handle` builds: after
`Handle("/{a}/x")`, `Handle("/{a}/y")`, `Remove("/{a}/y")` the node of `{a}/x` is split (`{a}/` above `x`), and
the check reaches the route through the branch the D33 repair added (`isAmbiguousPrefix`).  Proof
(`Mux/Proofs/AmbigSplit.lean`): every node on the chain to `q` carries a literal piece of `q` or a whole token of
`q` with a prefix of the literal text after it; at each level the loop of `checkAmbiguous` descends into the chain
node through the literal-prefix, the `isAmbiguous` or the `isAmbiguousPrefix` branch (`AmbRel.desc`); a sibling
tried before it cannot answer "found, not ambiguous", since then `p` itself would be a live route
(`checkAmb_chain_rej`), and cannot fail, since every `Split` the check calls is a `Split` of a rest of the accepted
pattern `p` (`checkAmb_good`). -/
theorem C17_ambig_one_history (name : Bytes) (ic : Interceptors) (nf : Handler) (tr : Option Handler) (ob nb : Base)
    (ops : List TOp) (hops : ∀ op ∈ ops, PatOk op) (q p : Bytes)
    (hone : (tableOf ((Tree.new name ic nf tr ob nb).run ops)).patterns = [q]) (hp : P9.WfPattern p)
    (psegs qsegs : List Seg) (hsp : split ic p = .ok psegs) (hsq : split ic q = .ok qsegs)
    (hu : UpToNames psegs qsegs) (hne : p ≠ q) (h : Handler) (ms : List Nat) (methods : List Bytes) :
    let t := (Tree.new name ic nf tr ob nb).run ops
    t.add p h ms methods = .error .ambiguous ∧ t.step (.add p h ms methods) = t := by
  intro t
  have hic : t.ic = ic := (sameCfg_run (Tree.new name ic nf tr ob nb) ops).2.2.1
  exact C17_ambig_one_reach t ⟨name, ic, nf, tr, ob, nb, ops, hops, rfl⟩ q p hone hp psegs qsegs (hic ▸ hsp) (hic ▸ hsq)
    hu hne h ms methods

/-- On the tree of a history with well-formed patterns the ambiguity check never FAILS on an accepted well-formed
pattern (no syntax error from the `Split` calls on the rests of the pattern, no fault from the slices, the one
of the D33 branch included): it answers "no node", "found" or "found, ambiguous". -/
theorem C17_checkAmb_total (t : Tree) (hr : ReachWf t) (p : Bytes) (hp : P9.WfPattern p) (psegs : List Seg)
    (hsp : split t.ic p = .ok psegs) : ∃ a, t.root.checkAmb t.ic p false = .ok a := by
  cases hc : t.root.checkAmb t.ic p false with
  | ok a => exact ⟨a, rfl⟩
  | error e => exact absurd hc (checkAmb_good t.ic t.root (reach_segOk hr) p false e (goodRest_of_split hp hsp))

def addErr (r : Except Err Tree) : Option Err :=
  match r with
  | .error e => some e
  | .ok _ => none

theorem addErr_some {r : Except Err Tree} {e : Err} (h : addErr r = some e) : r = .error e := by
  cases r with
  | error e' => simp only [addErr, Option.some.injEq] at h; rw [h]
  | ok _ => cases h

theorem addErr_none {r : Except Err Tree} (h : addErr r = none) : ∃ t', r = .ok t' := by
  cases r with
  | error e' => cases h
  | ok t' => exact ⟨t', rfl⟩

/-- `/{a}/x` -/
def exAX : Bytes := [47, 123, 97, 125, 47, 120]
/-- `/{a}/y` -/
def exAY : Bytes := [47, 123, 97, 125, 47, 121]
/-- `/{b}/x` -/
def exBX : Bytes := [47, 123, 98, 125, 47, 120]
/-- `/{-a}/x` -/
def exIgnAX : Bytes := [47, 123, 45, 97, 125, 47, 120]
/-- `Handle("/{a}/x")`, `Handle("/{a}/y")`, `Remove("/{a}/y")`: the parameter node stays split (`{a}/` above `x`). -/
def exSplitOps : List TOp :=
  [.add exAX { base := .user 1 } [] [mGET], .add exAY { base := .user 2 } [] [mGET], .remove exAY []]

/-- `/{id}/abc` -/
def exIdAbc : Bytes := [47, 123, 105, 100, 125, 47, 97, 98, 99]
/-- `/{id}/author` -/
def exIdAuthor : Bytes := [47, 123, 105, 100, 125, 47, 97, 117, 116, 104, 111, 114]
/-- `/{x}/abc` -/
def exXAbc : Bytes := [47, 123, 120, 125, 47, 97, 98, 99]
/-- `/{x}/abd` -/
def exXAbd : Bytes := [47, 123, 120, 125, 47, 97, 98, 100]
/-- `/{x}/a` -/
def exXA : Bytes := [47, 123, 120, 125, 47, 97]
/-- `Handle("/{id}/abc")`, `Handle("/{id}/author")`: the node `{id}/a` with the children `bc` and `uthor`. -/
def exForkOps : List TOp :=
  [.add exIdAbc { base := .user 1 } [] [mGET], .add exIdAuthor { base := .user 2 } [] [mGET]]

/-- The D33 history is evaluated once: the two refused registrations and its table. -/
private theorem exSplit_eval :
    (addErr ((exT0.run exSplitOps).add exBX { base := .user 3 } [] [mGET]) = some .ambiguous ∧
      addErr ((exT0.run exSplitOps).add exIgnAX { base := .user 3 } [] [mGET]) = some .ambiguous) ∧
    (tableOf (exT0.run exSplitOps)).patterns = [exAX] := by
  rw [Tree.run_eq_F, Tree.add_eq_F, Tree.add_eq_F]; decide +kernel

/-- D33. After `Handle("/{a}/x")`, `Handle("/{a}/y")`, `Remove("/{a}/y")` the
only route is `/{a}/x`, stored as the split node `{a}/` above `x`; `Handle("/{b}/x")` and `Handle("/{-a}/x")` —
the same pattern up to the parameter name, resp. the `-` flag — are refused as `ambiguous` (before the repair they
were accepted: the check compared `{b}/x` with the stored upper half `{a}/` and found different suffixes).  With the
sibling still live — `Handle("/{id}/abc")`, `Handle("/{id}/author")` — `Handle("/{x}/abc")` is refused as
`ambiguous`, while `Handle("/{x}/abd")` and `Handle("/{x}/a")`, which are not a live route up to names, are
accepted: the `isAmbiguousPrefix` branch descends into `{id}/a` and finds no node with handlers.  Evaluated by the kernel. -/
theorem C17_split_variant_rejected :
    ((exT0.run exSplitOps).add exBX { base := .user 3 } [] [mGET] = .error .ambiguous ∧
     (exT0.run exSplitOps).add exIgnAX { base := .user 3 } [] [mGET] = .error .ambiguous) ∧
    ((exT0.run exForkOps).add exXAbc { base := .user 3 } [] [mGET] = .error .ambiguous ∧
     (∃ t', (exT0.run exForkOps).add exXAbd { base := .user 3 } [] [mGET] = .ok t') ∧
     (∃ t', (exT0.run exForkOps).add exXA { base := .user 3 } [] [mGET] = .ok t')) := by
  have hsplit := exSplit_eval.1
  -- the second history is evaluated once as well
  have hfork : addErr ((exT0.run exForkOps).add exXAbc { base := .user 3 } [] [mGET]) = some .ambiguous ∧
      addErr ((exT0.run exForkOps).add exXAbd { base := .user 3 } [] [mGET]) = none ∧
      addErr ((exT0.run exForkOps).add exXA { base := .user 3 } [] [mGET]) = none := by
    rw [Tree.run_eq_F, Tree.add_eq_F, Tree.add_eq_F, Tree.add_eq_F]; decide +kernel
  exact ⟨⟨addErr_some hsplit.1, addErr_some hsplit.2⟩, addErr_some hfork.1, addErr_none hfork.2.1,
    addErr_none hfork.2.2⟩

/-- The table of the D33 history holds the single pattern `/{a}/x`: the hypothesis of `C17_ambig_one_history`. -/
theorem exSplitOps_table : (tableOf (exT0.run exSplitOps)).patterns = [exAX] := exSplit_eval.2

/-- On a well-formed tree and for a well-formed pattern: if the ambiguity
check does not object, `Split` accepts the pattern and the method list is valid, then `Tree.add`
SUCCEEDS — `getNode`, `Segment.Split`, `sort`, `buildIndexes` and the handler loop cannot fail (no
fault, no late error) — and the new tree is well-formed again. -/
theorem C17_validated_ok (t : Tree) (p : Bytes) (h : Handler) (ms : List Nat) (methods : List Bytes)
    (hwf : WellFormedTree t) (hp : P9.WfPattern p)
    {a : Option Bool} (hamb : t.root.checkAmb t.ic p false = .ok a) (ha : a ≠ some true)
    {segs : List Seg} (hs : split t.ic p = .ok segs)
    (hm : t.checkMethods p (effMethods methods) [] = .ok ()) :
    ∃ t', t.add p h ms methods = .ok t' ∧ WellFormedTree t' :=
  add_validated_ok h ms hwf hp hamb ha hs hm

/-- The error of `Tree.add` on a well-formed tree is `ambiguous`, an error of the class `SynErr` (the errors of
`Split`/`NewSegment`, `unsupported` included) or an error of the method list: never a fault.  (`hp` is not used; that
the error is raised by the validation, before the first mutation, is the contrapositive of `C17_validated_ok`.) -/
theorem C17_error_is_validation (t : Tree) (p : Bytes) (h : Handler) (ms : List Nat) (methods : List Bytes)
    (hwf : WellFormedTree t) (hp : P9.WfPattern p) (e : Err) (he : t.add p h ms methods = .error e) :
    e = .ambiguous ∨ SynErr e ∨ MethErr e :=
  add_error_class_any hwf he

/-- The hypothesis `WellFormedTree` holds on every tree reachable by a history whose registered
patterns are well-formed. -/
theorem C17_reach_wellFormed (t : Tree) (h : ReachWf t) : WellFormedTree t := h.wf

/-- The crux: the cut-point lemma for `longestPrefix` (after the D22 repair). For two segments `a`,
`b` of the same kind, each being `NewSegment` of a well-formed piece, with `l = longestPrefix a b > 0`:
`l` is a common prefix length; both remainders are brace-free (the cut is inside literal text or at
least one byte after the closing brace — never inside `{…}`, never directly after `}`); `NewSegment`
of `a.take l` keeps kind, name, `-` flag and rule; parameter segments agree on name, flag and rule;
and `Segment.Split` succeeds with a literal lower half. -/
theorem C17_cut_point (ic : Interceptors) (sa sb : Seg) (ha : SegOk ic sa) (hb : SegOk ic sb)
    (hk : sa.kind = sb.kind) (hpos : 0 < longestPrefix sa.value sb.value) :
    ∃ l : Nat, longestPrefix sa.value sb.value = (l : Int) ∧ 0 < l ∧
      l ≤ sa.value.length ∧ l ≤ sb.value.length ∧ sa.value.take l = sb.value.take l ∧
      NoBrace (sa.value.drop l) ∧ NoBrace (sb.value.drop l) ∧
      sa.name = sb.name ∧ sa.ignoreName = sb.ignoreName ∧ sa.rule = sb.rule ∧
      ∃ s1, newSegment ic (sa.value.take l) = .ok s1 ∧ WfPiece (sa.value.take l) ∧
        s1.kind = sa.kind ∧ s1.name = sa.name ∧ s1.ignoreName = sa.ignoreName ∧ s1.rule = sa.rule ∧
        (l < sa.value.length → sa.splitAt ic l = .ok (s1, { value := sa.value.drop l }) ∧
          SegOk ic s1 ∧ SegOk ic { value := sa.value.drop l }) := by
  obtain ⟨l, hl, h0⟩ := longestPrefix_pos hpos
  obtain ⟨a1, a2, a3⟩ := longestPrefix_nat hl
  obtain ⟨a4, a5, a6, a7, a8, s1, hu⟩ := cutPointX ha hb hk hl h0
  exact ⟨l, hl, h0, a1, a2, a3, a4, a5, a6, a7, a8, s1,
    hu.seg, hu.wf, hu.kind, hu.name, hu.ignoreName, hu.rule, hu.split⟩

/-- Before the D28 repair the hypothesis on the PIECES could not be dropped: with a brace inside a parameter name the
cut of `longestPrefix` landed inside the token (`{a{b}x` against `{a{b}y`: cut at 2, the inner `{` moved the start of
the token). With the repair the scan keeps the start of the token at its first `{`: the cut is 0, the two texts become
siblings, and no node is split inside a token. -/
theorem C17_cut_inside_token_repaired :
    longestPrefix [123, 97, 123, 98, 125, 120] [123, 97, 123, 98, 125, 121] = 0 := by decide

-- the hypotheses of `C17_validated_ok` on the empty tree, pattern `/u/{id}`, methods `GET, POST`
example : WellFormedTree exT0 := wellFormed_new _ _ _ _ _ _
example : P9.WfPattern exUid := wfPattern_exUid
example : exT0.root.checkAmb exT0.ic exUid false = .ok none := by rfl
example : (split exT0.ic exUid).isOk = true := by decide
example : exT0.checkMethods exUid (effMethods [mGET, mPOST]) [] = .ok () := by rfl
-- … and on a non-empty well-formed tree (`GET /u/{id}` registered), pattern `/u/{id}/x`
example : WellFormedTree exT1 := wellFormed_exT1
example : exT1.root.checkAmb exT1.ic exUidX false = .ok none := by rfl
example : exT1.checkMethods exUidX (effMethods [mGET]) [] = .ok () := by rfl
-- the hypotheses of `C17_reserved`, `C17_dup_list`
example : ∃ m ∈ [mGET, [66, 79, 71, 85, 83]], BadMethod exT0.hasTrace m :=
  ⟨[66, 79, 71, 85, 83], by simp, by unfold BadMethod; decide⟩
example : ¬ [mGET, mPOST, mGET].Nodup := by decide
-- `C17_dup_live` on the hand-built tree
example : exT1.root.findPath exUid = some [0, 0] ∧ exT1.root.getAt [0, 0] = some exLeafId ∧
    exLeafId.handlers.contains mGET = true := ⟨by decide, by rfl, by decide⟩
-- `C17_ambiguous_sound`: `/u/{x}` is refused as ambiguous on that tree
example : exT1.root.checkAmb exT1.ic [47, 117, 47, 123, 120, 125] false = .ok (some true) := by rfl
-- … hence `Tree.add` answers `ambiguous` there: the hypothesis of `C17_ambiguous_sound` / `C17_no_false`
example : exT1.add [47, 117, 47, 123, 120, 125] { base := .user 2 } [] [mGET] = .error .ambiguous := by
  rw [Tree.add_eq]; rfl
-- `C17_cut_point`: the hypotheses for `{id}/abc` against `{id}/author` (same kind, both I-seg) …
example : SegOk [] ({ value := [123, 105, 100, 125, 47, 97, 98, 99], kind := .named, name := [105, 100], suffix := [47, 97, 98, 99] } : Seg) :=
  ⟨by rfl, .inr ⟨[105, 100], [47, 97, 98, 99], rfl, noBrace_of_all rfl, noBrace_of_all rfl⟩, by decide⟩
example : SegOk [] ({ value := [123, 105, 100, 125, 47, 97, 117, 116, 104, 111, 114], kind := .named, name := [105, 100], suffix := [47, 97, 117, 116, 104, 111, 114] } : Seg) :=
  ⟨by rfl, .inr ⟨[105, 100], [47, 97, 117, 116, 104, 111, 114], rfl, noBrace_of_all rfl, noBrace_of_all rfl⟩, by decide⟩
-- … and the cut (at 6, after `{id}/a`)
example : longestPrefix [123, 105, 100, 125, 47, 97, 98, 99] [123, 105, 100, 125, 47, 97, 117, 116, 104, 111, 114] = 6 := by
  decide
example : ReachWf (exT0.run exOps) := reachWf_ex
-- the hypotheses of `C17_ambig_one`: `q = /u/{id}` registered on the fresh tree, `p = /u/{x}`
example : ∃ t1, exT0.add exUid { base := .user 1 } [] [mGET] = .ok t1 := by
  obtain ⟨t1, h, _⟩ := C17_validated_ok exT0 exUid { base := .user 1 } [] [mGET] (wellFormed_new _ _ _ _ _ _)
    wfPattern_exUid (a := none) (by rfl) (by simp) (segs := _) (by rfl) (by rfl)
  exact ⟨t1, h⟩
example : P9.WfPattern exUx := wfPattern_exUx
example : split [] exUx = .ok exUxSegs ∧ split [] exUid = .ok exUidSegs ∧ UpToNames exUxSegs exUidSegs ∧
    exUx ≠ exUid := ⟨by rfl, by rfl, upToNames_ex, by decide⟩

-- the hypotheses of `C17_ambig_one_history` on the D33 history: table `[/{a}/x]` (`exSplitOps_table`), `p = /{b}/x`
theorem wfPattern_exAXY (n c : UInt8) (hn : ([n] : Bytes) = [97] ∨ ([n] : Bytes) = [98])
    (hc : ([c] : Bytes) = [120] ∨ ([c] : Bytes) = [121]) : P9.WfPattern [47, 123, n, 125, 47, c] := by
  -- four concrete patterns: the executable brace check decides each
  refine (P11.wfPattern_iff_P9 _).1 ?_
  rcases hn with hn | hn <;> rcases hc with hc | hc <;> cases hn <;> cases hc <;> decide +kernel
example : ∀ op ∈ exSplitOps, PatOk op := by
  intro op hop
  simp only [exSplitOps, List.mem_cons, List.not_mem_nil, or_false] at hop
  rcases hop with rfl | rfl | rfl
  · exact wfPattern_exAXY 97 120 (.inl rfl) (.inl rfl)
  · exact wfPattern_exAXY 97 121 (.inl rfl) (.inr rfl)
  · trivial
example : P9.WfPattern exBX := wfPattern_exAXY 98 120 (.inr rfl) (.inl rfl)
example : split [] exBX = .ok [{ value := [47] }, { value := [123, 98, 125, 47, 120], kind := .named, name := [98], suffix := [47, 120] }] ∧
    split [] exAX = .ok [{ value := [47] }, { value := [123, 97, 125, 47, 120], kind := .named, name := [97], suffix := [47, 120] }] ∧
    exBX ≠ exAX := ⟨by rfl, by rfl, by decide⟩
example : UpToNames
    [{ value := [47] }, { value := [123, 98, 125, 47, 120], kind := .named, name := [98], suffix := [47, 120] }]
    [{ value := [47] }, { value := [123, 97, 125, 47, 120], kind := .named, name := [97], suffix := [47, 120] }] :=
  .cons (.inl rfl) (.cons (.inr ⟨by decide, rfl, rfl, rfl, rfl, .inr (by decide)⟩) .nil)

end Mux.C17
