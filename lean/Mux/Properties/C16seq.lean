/-
  C16 (sequences of requests) — "later requests are served normally": a SEQUENCE of requests on one router, with the
  context pool threaded through it as `Router.ServeHTTP` does:

      ctx := types.NewContext()          // whatever the pool hands out, Reset()
      r.serveContext(w, req, ctx)        // deferred recover() inside, if configured
      ctx.Destroy()                      // back to the pool — SKIPPED when a panic escapes serveContext

  Each request of the sequence may have its own set of panicking functions (`PanicCfg`), so a sequence is any
  interleaving of panicking and normal requests.  What user code and `serveContext` leave in the context before
  `Destroy` (`Dirt`) is arbitrary — handlers and middlewares may `Set`/`Delete` whatever they like.

  `C16_continue` in `C16.lean` only says that serving returns no new router (it is `List.getElem?_map`); here the
  router's answer to request `k` is computed from the context the POOL hands out at that moment, and the theorems say
  that this context is empty and hence the answer is the one a router that never served anything gives.
-/
import Mux.Properties.C16
namespace Mux.C16
open Mux

/-- What is in the context when `ctx.Destroy()` runs: a function of the request's position, the context handed out
and everything observable about the request (selected call, outcome).  Universally quantified in the theorems. -/
abbrev Dirt := Nat → Ctx → Option Call × Outcome → Ctx

/-- The dirt mux itself leaves (`ctx.Path`, the captured parameters, `SetRouterName`, `SetNode`), for the examples. -/
def stdDirt : Dirt := fun _ ctx out =>
  match out.1 with
  | some c => { path := c.path, params := c.params, routerName := c.routerName, hasNode := c.node.isSome }
  | none => ctx

/-- One served request, as observed: the context `NewContext` handed out, and the call and outcome. -/
structure SeqStep where
  ctx0 : Ctx
  out : Option Call × Outcome

/-- `Router.ServeHTTP` once, on the pool: `NewContext`, `serveContext` on the parameters of THAT context, then
`Destroy` of the dirty context unless the panic escaped (then the statement `ctx.Destroy()` is never reached). -/
def serveOne (env : Env) (scripts : Scripts) (r : Router) (dirt : Dirt) (i : Nat) (pool : Pool)
    (q : Req × PanicCfg) : SeqStep × Pool :=
  let ctx := pool.newContext.1
  let out := r.serveHTTP env q.2 scripts q.1 ctx.params
  (⟨ctx, out⟩,
   match out.2 with
   | .panicked _ => pool.newContext.2
   | _ => pool.newContext.2.destroy (dirt i ctx out))

/-- A sequence of requests on one router; `i` numbers them.  Result: the steps and the pool afterwards. -/
def serveSeq (env : Env) (scripts : Scripts) (r : Router) (dirt : Dirt) : Nat → Pool → List (Req × PanicCfg) →
    List SeqStep × Pool
  | _, pool, [] => ([], pool)
  | i, pool, q :: qs =>
    let s := serveOne env scripts r dirt i pool q
    let rest := serveSeq env scripts r dirt (i + 1) s.2 qs
    (s.1 :: rest.1, rest.2)

/-- The reference: the same request on a router that has never served anything (fresh empty context). -/
def serveFresh (env : Env) (scripts : Scripts) (r : Router) (q : Req × PanicCfg) : SeqStep :=
  ⟨{}, r.serveHTTP env q.2 scripts q.1 []⟩

/-- Whatever the pool holds, `NewContext` hands out the empty context. -/
theorem newContext_empty (pool : Pool) : pool.newContext.1 = {} := Pool.newContext_fst pool

/-- One request on ANY pool (any dirty contexts in it) is observed exactly as on a fresh router:
it starts from the empty context and gets the same call and the same outcome (response record included). -/
theorem C16_seq_step (env : Env) (scripts : Scripts) (r : Router) (dirt : Dirt) (i : Nat) (pool : Pool)
    (q : Req × PanicCfg) : (serveOne env scripts r dirt i pool q).1 = serveFresh env scripts r q := by
  simp only [serveOne, serveFresh, newContext_empty]

/-- Where the context goes.  If the panic escaped (`.panicked`, no recovery configured) the
context is NOT returned (the pool is what `NewContext` left); in every other case — normal return AND recovered
panic — `Destroy` runs on the dirty context. -/
theorem C16_seq_step_pool (env : Env) (scripts : Scripts) (r : Router) (dirt : Dirt) (i : Nat) (pool : Pool)
    (q : Req × PanicCfg) :
    let out := r.serveHTTP env q.2 scripts q.1 []
    ((∃ v, out.2 = .panicked v) → (serveOne env scripts r dirt i pool q).2 = pool.newContext.2) ∧
    ((∀ v, out.2 ≠ .panicked v) →
      (serveOne env scripts r dirt i pool q).2 = pool.newContext.2.destroy (dirt i {} out)) := by
  simp only [serveOne, newContext_empty]
  constructor
  · rintro ⟨v, hv⟩
    rw [hv]
  · intro hv
    split
    · rename_i v h; exact absurd h (hv v)
    · rfl

/-- With recovery configured the context always goes back through `Destroy` (nothing escapes: `C16_contained`). -/
theorem C16_seq_step_recover (env : Env) (scripts : Scripts) (r : Router) (hr : r.recover = true) (dirt : Dirt)
    (i : Nat) (pool : Pool) (q : Req × PanicCfg) :
    (serveOne env scripts r dirt i pool q).2 =
      pool.newContext.2.destroy (dirt i {} (r.serveHTTP env q.2 scripts q.1 [])) :=
  (C16_seq_step_pool env scripts r dirt i pool q).2 (C16_contained r hr env q.2 scripts q.1 []).1

/-- Every request of every sequence, on every initial pool and whatever user code leaves in the
contexts, is observed exactly as on a router that never served anything: it starts from the EMPTY context and gets
the same `Call` and the same outcome.  (Induction over the sequence with the pool generalised; the step is
`C16_seq_step`, i.e. `NewContext` resets what it hands out.) -/
theorem C16_seq_fresh (env : Env) (scripts : Scripts) (r : Router) (dirt : Dirt) (i : Nat) (pool : Pool)
    (qs : List (Req × PanicCfg)) :
    (serveSeq env scripts r dirt i pool qs).1 = qs.map (serveFresh env scripts r) := by
  induction qs generalizing i pool with
  | nil => rfl
  | cons q qs ih =>
    simp only [serveSeq, List.map_cons]
    rw [C16_seq_step, ih]

/-- Each request starts from an empty context (no parameter, path, router name or node of an earlier request). -/
theorem C16_seq_empty_ctx (env : Env) (scripts : Scripts) (r : Router) (dirt : Dirt) (i : Nat) (pool : Pool)
    (qs : List (Req × PanicCfg)) : ∀ s ∈ (serveSeq env scripts r dirt i pool qs).1, s.ctx0 = {} := by
  rw [C16_seq_fresh]
  intro s hs
  obtain ⟨q, _, rfl⟩ := List.mem_map.1 hs
  rfl

theorem serveSeq_append (env : Env) (scripts : Scripts) (r : Router) (dirt : Dirt) (i : Nat) (pool : Pool)
    (a b : List (Req × PanicCfg)) :
    serveSeq env scripts r dirt i pool (a ++ b) =
      ((serveSeq env scripts r dirt i pool a).1 ++
         (serveSeq env scripts r dirt (i + a.length) (serveSeq env scripts r dirt i pool a).2 b).1,
       (serveSeq env scripts r dirt (i + a.length) (serveSeq env scripts r dirt i pool a).2 b).2) := by
  induction a generalizing i pool with
  | nil => rfl
  | cons q a ih =>
    simp only [List.cons_append, serveSeq, List.length_cons]
    rw [ih, Nat.add_assoc, Nat.add_comm 1]

/-- Clause "later requests are served normally".  Take any sequence `before ++ q :: after` on
any initial pool; WHATEVER happened to `q` (normal return, recovered panic, escaped panic), the requests of `after`
are observed — context they start from, `Call`, outcome with its response record — exactly
 (1) as the same requests in the sequence `before ++ after` that never contained `q`, and
 (2) as on a router that serves `after` first thing, from any other pool `pool'` and with any other dirt. -/
theorem C16_continue_seq (env : Env) (scripts : Scripts) (r : Router) (dirt dirt' : Dirt) (pool pool' : Pool) (i' : Nat)
    (before after : List (Req × PanicCfg)) (q : Req × PanicCfg) :
    ((serveSeq env scripts r dirt 0 pool (before ++ q :: after)).1.drop (before.length + 1) =
      (serveSeq env scripts r dirt 0 pool (before ++ after)).1.drop before.length) ∧
    ((serveSeq env scripts r dirt 0 pool (before ++ q :: after)).1.drop (before.length + 1) =
      (serveSeq env scripts r dirt' i' pool' after).1) := by
  simp only [C16_seq_fresh, List.map_append, List.map_cons]
  -- dropping the answers to `before` (and the one to `q`) leaves the answers to `after`
  have hl : before.length = (before.map (serveFresh env scripts r)).length := (List.length_map ..).symm
  rw [hl, ← List.drop_drop, List.drop_left, List.drop_left]
  exact ⟨rfl, rfl⟩

/-- The instance the property names.  Recovery is configured (`hr`; for every state
of a router's life by `C16_recover_stable`), request `q` selects the call `c` and the call panics with `v`
(a user value or a runtime fault).  Then, in the sequence `before ++ q :: after`:
 * `q` itself is observed as: started on the empty context, call `c`, outcome "recovered `v`" with the record the
   recovery function wrote — the original value;
 * its context went back through `Destroy` (it is the head of the pool the next request draws from, when it has
   at most 30 parameters);
 * every request of `after` is observed exactly as in the sequence without `q`. -/
theorem C16_continue_after_recovered (env : Env) (scripts : Scripts) (r : Router) (hr : r.recover = true) (dirt : Dirt)
    (pool : Pool) (before after : List (Req × PanicCfg)) (q : Req) (pc : PanicCfg) (c : Call) (v : PanicVal)
    (hc : r.serveContext env q [] = .call c) (hv : runCall pc scripts c = .error v) :
    let run := serveSeq env scripts r dirt 0 pool (before ++ (q, pc) :: after)
    let poolB := (serveSeq env scripts r dirt 0 pool before).2
    run.1[before.length]? = some ⟨{}, (some c, .recovered v (recoveredRec c))⟩ ∧
    (serveOne env scripts r dirt before.length poolB (q, pc)).2 =
      poolB.newContext.2.destroy (dirt before.length {} (some c, .recovered v (recoveredRec c))) ∧
    run.1.drop (before.length + 1) = (serveSeq env scripts r dirt 0 pool (before ++ after)).1.drop before.length := by
  intro run poolB
  have hout : r.serveHTTP env pc scripts q [] = (some c, .recovered v (recoveredRec c)) :=
    (C16_contained r hr env pc scripts q []).2 c v hc hv
  refine ⟨?_, ?_, (C16_continue_seq env scripts r dirt dirt pool pool 0 before after (q, pc)).1⟩
  · show (serveSeq env scripts r dirt 0 pool (before ++ (q, pc) :: after)).1[before.length]? = _
    rw [C16_seq_fresh, List.map_append, List.map_cons]
    rw [List.getElem?_append_right (by simp)]
    simp [serveFresh, hout]
  · have := C16_seq_step_recover env scripts r hr dirt before.length poolB (q, pc)
    rw [this]
    show _ = poolB.newContext.2.destroy (dirt before.length {} _)
    rw [← hout]

/-- With recovery configured no context is lost, however many requests panic: after a non-empty
sequence the pool holds `max pool.length 1` contexts (each request takes one out or makes one, and puts one back),
provided the contexts are small enough for `Destroy` to keep them (at most 30 parameters). -/
theorem C16_seq_no_leak (env : Env) (scripts : Scripts) (r : Router) (hr : r.recover = true) (dirt : Dirt)
    (hsmall : ∀ i c o, (dirt i c o).params.length ≤ destroyMaxSize) (i : Nat) (pool : Pool)
    (qs : List (Req × PanicCfg)) (hqs : qs ≠ []) :
    (serveSeq env scripts r dirt i pool qs).2.length = max pool.length 1 := by
  have hstep : ∀ i pool q, (serveOne env scripts r dirt i pool q).2.length = max pool.length 1 := by
    intro i pool q
    rw [C16_seq_step_recover env scripts r hr]
    exact Pool.length_recycle pool _ (hsmall _ _ _)
  induction qs generalizing i pool with
  | nil => exact absurd rfl hqs
  | cons q qs ih =>
    simp only [serveSeq]
    by_cases hq : qs = []
    · subst hq; simp only [serveSeq]; exact hstep i pool q
    · rw [ih _ _ hq, hstep]; omega

/-- Without recovery an escaping panic skips `Destroy` (there is no `defer` in
`Router.ServeHTTP`): the pool loses the context that was taken out — and the NEXT request is still served from an
empty context (`C16_seq_fresh` does not depend on `r.recover`). -/
theorem C16_seq_leak (env : Env) (scripts : Scripts) (r : Router) (hr : r.recover = false) (dirt : Dirt) (i : Nat)
    (pool : Pool) (q : Req) (pc : PanicCfg) (c : Call) (v : PanicVal)
    (hc : r.serveContext env q [] = .call c) (hv : runCall pc scripts c = .error v) :
    (serveOne env scripts r dirt i pool (q, pc)).1 = ⟨{}, (some c, .panicked v)⟩ ∧
    (serveOne env scripts r dirt i pool (q, pc)).2 = pool.tail := by
  have hout : r.serveHTTP env pc scripts q [] = (some c, .panicked v) := C16_through r hr env pc scripts q [] c v hc hv
  refine ⟨by rw [C16_seq_step]; simp [serveFresh, hout], ?_⟩
  rw [(C16_seq_step_pool env scripts r dirt i pool (q, pc)).1 ⟨v, by rw [hout]⟩]
  cases pool <;> rfl

/-- Clauses "a panic never escapes `Router.ServeHTTP`" + "later requests are served
normally", end to end: a router made by `NewRouter` WITH a recovery option (`hrec`), after ANY history of
`Handle/Remove/Clean/Use`, serving ANY sequence of requests with ANY per-request sets of panicking user functions, on
any pool: no request of the sequence ends with an escaped panic, every request starts from the empty context and is
observed as on a fresh router, and (small contexts) the pool never loses a context. -/
theorem C16_seq_contained_history (cfg : RouterCfg) (r0 : Router) (hnew : Router.new cfg = some r0)
    (hrec : cfg.recover = true) (ops : List ROp) (env : Env) (scripts : Scripts) (dirt : Dirt) (i : Nat) (pool : Pool)
    (qs : List (Req × PanicCfg)) :
    let run := serveSeq env scripts (r0.run ops) dirt i pool qs
    (∀ s ∈ run.1, ∀ v, s.out.2 ≠ .panicked v) ∧ (∀ s ∈ run.1, s.ctx0 = {}) ∧
    run.1 = qs.map (serveFresh env scripts (r0.run ops)) ∧
    ((∀ i c o, (dirt i c o).params.length ≤ destroyMaxSize) → qs ≠ [] → run.2.length = max pool.length 1) := by
  intro run
  have hr : (r0.run ops).recover = true := (C16_recover_stable cfg r0 ops hnew).trans hrec
  refine ⟨?_, C16_seq_empty_ctx env scripts _ dirt i pool qs, C16_seq_fresh env scripts _ dirt i pool qs,
    fun hsmall hqs => C16_seq_no_leak env scripts _ hr dirt hsmall i pool qs hqs⟩
  intro s hs v
  have : s ∈ qs.map (serveFresh env scripts (r0.run ops)) := by
    rw [← C16_seq_fresh env scripts _ dirt i pool qs]; exact hs
  obtain ⟨q, _, rfl⟩ := List.mem_map.1 this
  exact (C16_contained (r0.run ops) hr env q.2 scripts q.1 []).1 v

/-! ## `Group.ServeHTTP`: `defer ctx.Destroy()`

`Group.ServeHTTP` defers `Destroy`, so the context goes back to the pool on EVERY path, also when a panic escapes
(group without recovery).  The model's `Group.serveHTTP` starts each router from the empty parameter list by
construction (`Group.serve` passes `[]` to the matchers), so only the pool side is stated here. -/

/-- `Group.ServeHTTP` once, on the pool. -/
def groupServeOne (env : Env) (hostsTab : Nat → Option Hosts) (scripts : Scripts) (rt : RTab) (g : Group) (dirt : Dirt)
    (i : Nat) (pool : Pool) (q : Req × PanicCfg) : SeqStep × Pool :=
  let ctx := pool.newContext.1
  let out := g.serveHTTP env hostsTab q.2 scripts rt q.1
  (⟨ctx, out⟩, pool.newContext.2.destroy (dirt i ctx out))

/-- Every `Group.ServeHTTP` starts from the empty context and returns its context through
`Destroy` whatever the outcome — so after a request (panicking or not, recovered or not) the pool holds
`max pool.length 1` contexts when the context is small enough to be kept. -/
theorem C16_group_seq_step (env : Env) (hostsTab : Nat → Option Hosts) (scripts : Scripts) (rt : RTab) (g : Group)
    (dirt : Dirt) (i : Nat) (pool : Pool) (q : Req × PanicCfg) :
    (groupServeOne env hostsTab scripts rt g dirt i pool q).1.ctx0 = {} ∧
    ((∀ i c o, (dirt i c o).params.length ≤ destroyMaxSize) →
      (groupServeOne env hostsTab scripts rt g dirt i pool q).2.length = max pool.length 1) :=
  ⟨newContext_empty pool, fun hsmall => Pool.length_recycle pool _ (hsmall _ _ _)⟩

/-! ## Non-vacuity

The demo router of `C16.lean` (TRACE configured, so every request yields a call): a sequence
`normal, panicking, normal` on a pool that holds a dirty context. -/

/-- a dirty context left in the pool by some earlier use -/
def dirtyCtx : Ctx := { path := [47, 120], params := [([105, 100], [53])], routerName := [1], hasNode := true }

/-- request 2 of 3 panics in middleware 2 and in the TRACE handler -/
def demoSeq : List (Req × PanicCfg) := [(demoReq, {}), (demoReq, demoPc), (demoReq, {})]

-- hypotheses of `C16_continue_after_recovered` for the middle request
example : (demoRouter true).recover = true := rfl
example : runCall demoPc [] (demoCall true) = .error (.user 22) := rfl
-- the sequence really consists of a normal, a recovered and a normal request, all from the empty context, and the
-- pool (one dirty context at the start) holds one context at the end
example : ((serveSeq env0 [] (demoRouter true) stdDirt 0 [dirtyCtx] demoSeq).1.map
      (fun s => (decide (s.ctx0 = {}), match s.out.2 with
        | .normal _ => 0 | .recovered (.user v) _ => v | .recovered .fault _ => 1 | .panicked _ => 2 | .unsupported => 3)),
    (serveSeq env0 [] (demoRouter true) stdDirt 0 [dirtyCtx] demoSeq).2.length) =
    ([(true, 0), (true, 22), (true, 0)], 1) := by decide +kernel
-- without recovery the middle request's panic escapes and the pool is empty afterwards (the context leaked)
example : ((serveSeq env0 [] (demoRouter false) stdDirt 0 [dirtyCtx] (demoSeq.take 2)).1.map
      (fun s => (decide (s.ctx0 = {}), match s.out.2 with
        | .normal _ => 0 | .recovered _ _ => 1 | .panicked (.user v) => v | .panicked .fault => 2 | .unsupported => 3)),
    (serveSeq env0 [] (demoRouter false) stdDirt 0 [dirtyCtx] (demoSeq.take 2)).2.length) =
    ([(true, 0), (true, 22)], 0) := by decide +kernel
-- the smallness hypothesis of `C16_seq_no_leak` is satisfiable by a dirt that really leaves something behind
example : ∀ i c o, ((fun _ _ _ => dirtyCtx : Dirt) i c o).params.length ≤ destroyMaxSize := by
  intro _ _ _; show dirtyCtx.params.length ≤ destroyMaxSize; decide

end Mux.C16
