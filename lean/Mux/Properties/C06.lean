/-
  C06 — `WithLock(true)` makes concurrent registration, removal and serving safe.

  What is proved (DESIGN §8 "C06", §10):
  (a) side conditions over facts regenerated from the Go source on every run — every API method
      the property names is ONE critical section of the right mode with all shared accesses inside
      (`C06_discipline`, `C06_modes`, `C06_helpers`, `C06_mode_tie`);
  (b) generic theorems over the abstract interleaving semantics of `Mux.Proofs.RWLock` (any number
      of threads, any schedule) that turn (a) into race freedom (`C06_drf`) and atomicity
      (`C06_atomic`), stated for an arbitrary system and instantiated with the tree
      (`Conc.treeSys`: state `Mux.Tree`, writers `add/remove/clean` = `Tree.step`, readers
      `handler/routes/url` = the pure functions of the model).

  What is trusted and cannot be a theorem: `sync.RWMutex` implements the lock of the semantics;
  the Go memory model's DRF-SC guarantee takes a data-race-free program to "each critical section
  behaves as if executed atomically at one instant while the lock is held" (this is the `commit`
  step of the semantics); the extractor of the facts (validated by the `-race` stress harness).
-/
import Mux.Proofs.Conc
import Mux.Proofs.RWLockAtomic
namespace Mux.C06
open Mux Mux.RWLock Mux.Conc

/-! ## (a) The regenerated-fact obligations -/

/-- Every API method the property names (and the helper behind `AllowHeader`/`Methods`) is
disciplined: all shared reads inside a critical section, all shared writes inside a WRITE section,
no nested acquisition, exactly one critical section per call. -/
theorem C06_discipline : ∀ f ∈ Ties.lockedApi, (Ties.shapeOf f).map Ties.Disciplined = some true :=
  Ties.C06_discipline

/-- Writers take the write lock, readers the read lock. -/
theorem C06_modes :
    (Ties.shapeOf "Tree.Add").bind Ties.firstAcq = some true ∧ (Ties.shapeOf "Tree.Remove").bind Ties.firstAcq = some true ∧
    (Ties.shapeOf "Tree.Clean").bind Ties.firstAcq = some true ∧ (Ties.shapeOf "Tree.Routes").bind Ties.firstAcq = some false ∧
    (Ties.shapeOf "Tree.URL").bind Ties.firstAcq = some false ∧ (Ties.shapeOf "Tree.Handler").bind Ties.firstAcq = some false :=
  Ties.C06_modes

/-- `AllowHeader`/`Methods` (called by handlers outside any lock) only delegate to the locked helper. -/
theorem C06_helpers : Ties.shapeOf "node.AllowHeader" = some [.read "node.methodIndexEntity"] ∧
    Ties.shapeOf "node.Methods" = some [.read "node.methodIndexEntity"] :=
  Ties.C06_helpers

/-- The model instance uses exactly these facts: the mode of every operation of `treeSys` is the
mode of the (single) acquisition in the regenerated shape of its Go method, the method is one of
those `C06_discipline` covers, and its micro-accesses are the reads/writes of that shape. -/
theorem C06_mode_tie (env : Env) (op : Op) :
    (Ties.shapeOf op.api).bind Ties.firstAcq = some ((treeSys env).mode op) ∧ op.api ∈ Ties.lockedApi ∧
    (treeSys env).accs op = accsOf op.api := by
  have h := Ties.C06_modes
  cases op with
  | add => exact ⟨h.1, .head _, rfl⟩
  | remove => exact ⟨h.2.1, .tail _ (.head _), rfl⟩
  | clean => exact ⟨h.2.2.1, .tail _ (.tail _ (.head _)), rfl⟩
  | routes => exact ⟨h.2.2.2.1, .tail _ (.tail _ (.tail _ (.head _))), rfl⟩
  | url => exact ⟨h.2.2.2.2.1, .tail _ (.tail _ (.tail _ (.tail _ (.head _)))), rfl⟩
  | handler => exact ⟨h.2.2.2.2.2, .tail _ (.tail _ (.tail _ (.tail _ (.tail _ (.head _))))), rfl⟩

/-- The reader constraint of the instance holds by construction: reader operations return the tree
they were given, and (by the facts) perform no shared write. -/
theorem C06_readers_pure (env : Env) (op : Op) (t : Tree) (h : op.isWriter = false) :
    (sem env op t).1 = t ∧ ∀ a ∈ accsOf op.api, a.2 = false :=
  ⟨(treeSys env).reader_pure op t h, (treeSys env).reader_accs op h⟩

example : (Op.handler [47] [] mGET).isWriter = false ∧ Op.routes.isWriter = false ∧ (Op.url [47] []).isWriter = false ∧
    (Op.add [47] { base := .user 1 } [] [mGET]).isWriter = true := by decide

/-! ## (b) Data-race freedom -/

/-- **Generic.** For every system, every assignment of programs to threads and every schedule: in
every reachable configuration the lock state describes exactly who is inside a critical section
(`LockInv`: `free` — nobody; `writer i` — thread `i` in write mode and nobody else; `readers n` —
exactly `n ≥ 1` threads, all in read mode); two distinct threads are inside at the same time only
if both are readers; and no two distinct threads have conflicting next micro-accesses (same
location, at least one write). -/
theorem C06_drf_generic (S : Sys) (s0 : S.σ) (progs : Nat → List S.Op) (c : Config S)
    (h : Reachable s0 progs c) :
    LockInv c ∧
    (∀ i j mi mj, i ≠ j → (c.thr i).ph.held = some mi → (c.thr j).ph.held = some mj → mi = false ∧ mj = false) ∧
    (∀ i j a b, i ≠ j → (c.thr i).ph.next? = some a → (c.thr j).ph.next? = some b → ¬ Conflict a b) :=
  ⟨lockInv_reachable h, fun _ _ _ _ hij hi hj => drf_modes h hij hi hj, fun _ _ _ _ hij hi hj => drf h hij hi hj⟩

/-- **Instance.** Any number of goroutines calling Add/Remove/Clean/Handler/Routes/URL on one tree
created with the lock, under any schedule: never two conflicting accesses to tree state. -/
theorem C06_drf (env : Env) (t0 : Tree) (progs : Nat → List Op) (c : Config (treeSys env))
    (h : Reachable (S := treeSys env) t0 progs c) :
    LockInv c ∧
    (∀ i j mi mj, i ≠ j → (c.thr i).ph.held = some mi → (c.thr j).ph.held = some mj → mi = false ∧ mj = false) ∧
    (∀ i j a b, i ≠ j → (c.thr i).ph.next? = some a → (c.thr j).ph.next? = some b →
      ¬ Conflict (S := treeSys env) a b) :=
  C06_drf_generic (treeSys env) t0 progs c h

/-- Non-vacuity of `C06_drf`: a writer (Add) and a reader (Handler); a reachable configuration where
the reader is inside, its next access is a read of the tree, the writer waits and its `acquire` is
not enabled. -/
example (env : Env) (t0 : Tree) : ∃ c : Config (treeSys env),
    Reachable (S := treeSys env) t0
      (fun i => if i = 0 then [Op.add [47] { base := .user 1 } [] [mGET]] else if i = 1 then [Op.handler [47] [] mGET] else []) c ∧
    (c.thr 1).ph.held = some false ∧ (c.thr 1).ph.next? = some ("Tree.node", false) ∧
    (∃ p v, c.thr 0 = ⟨p, .waiting v⟩ ∧ (treeSys env).mode v.op = true ∧ c.lock.canAcq ((treeSys env).mode v.op) = false) := by
  exact ⟨_, .step (.step (.step .init (.invoke _ 1 (Op.handler [47] [] mGET) [] rfl))
      (.acquire _ 1 [] ⟨Op.handler [47] [] mGET, 0, 0⟩ rfl rfl))
    (.invoke _ 0 (Op.add [47] { base := .user 1 } [] [mGET]) [] rfl), rfl, rfl, [], ⟨_, 0, 2⟩, rfl, rfl, rfl⟩

/-! ## (b) Atomicity -/

/-- **Generic linearizability under the lock discipline.** In every reachable configuration `c`,
with `c.wlog` the writer operations in the order in which they took effect:

1. the shared state is the fold of `sem` over `c.wlog` from the initial state;
2. `c.wlog` IS the lock-acquisition order of the writers (`c.wacq`) and the list of COMPLETED writer
   operations in order of return (`c.doneW`), each up to the single writer currently inside; they
   coincide whenever the lock is not write-held; and the `k`-th completed writer is linearized at
   position `k`;
3. every completed operation `r` (published response `r.resp`) has a linearization index `r.lin`
   with `start ≤ lin ≤ fin ≤ |wlog|` — `start`/`fin` being the number of writer effects at its
   invocation / return — such that `r.resp` is the sequential response `(sem op s).2` in the state
   `s` after the first `lin` writers; a writer is itself the `lin`-th element of the order and
   `fin = lin + 1`; a reader has `fin = lin`: the state did not change while it was inside;
4. the order respects real time: if `A` returned before `B` was invoked then `A.lin ≤ B.lin`,
   strictly if `A` is a writer (so `B` sees `A`'s effect). -/
theorem C06_atomic_generic (S : Sys) (s0 : S.σ) (progs : Nat → List S.Op) (c : Config S)
    (h : Reachable s0 progs c) :
    c.st = run S s0 c.wlog ∧
    ((c.wacq = c.wlog ∨ ∃ op, c.wacq = c.wlog ++ [op]) ∧ (c.wlog = c.doneW ∨ ∃ op, c.wlog = c.doneW ++ [op]) ∧
      ((∀ i, c.lock ≠ .writer i) → c.wacq = c.wlog ∧ c.wlog = c.doneW) ∧
      (c.done.filter (fun r => S.mode r.call.op)).map (·.lin) = List.range c.doneW.length) ∧
    (∀ r ∈ c.done, r.call.start ≤ r.lin ∧ r.lin ≤ r.fin ∧ r.fin ≤ c.wlog.length ∧
      r.resp = (S.sem r.call.op (run S s0 (c.wlog.take r.lin))).2 ∧
      (S.mode r.call.op = true → c.wlog[r.lin]? = some r.call.op ∧ r.fin = r.lin + 1) ∧
      (S.mode r.call.op = false → r.fin = r.lin)) ∧
    (∀ A ∈ c.done, ∀ B ∈ c.done, A.tEnd ≤ B.call.tStart →
      A.lin ≤ B.lin ∧ (S.mode A.call.op = true → A.lin < B.lin)) := by
  have hA := atomic_reachable h
  refine ⟨hA.state, ⟨hA.writers.1, hA.writers.2.1, hA.writers.2.2, hA.lins⟩, fun r hr => ?_,
    fun A hA' B hB hle => hA.realtime hA' hB hle⟩
  have := hA.recs r hr
  exact ⟨this.start_le, this.lin_le, this.fin_le, this.resp_eq, this.writer, this.reader⟩

/-- **Instance.** The tree under the lock, any number of goroutines, any schedule. -/
theorem C06_atomic (env : Env) (t0 : Tree) (progs : Nat → List Op) (c : Config (treeSys env))
    (h : Reachable (S := treeSys env) t0 progs c) :
    c.st = run (treeSys env) t0 c.wlog ∧
    ((c.wacq = c.wlog ∨ ∃ op, c.wacq = c.wlog ++ [op]) ∧ (c.wlog = c.doneW ∨ ∃ op, c.wlog = c.doneW ++ [op]) ∧
      ((∀ i, c.lock ≠ .writer i) → c.wacq = c.wlog ∧ c.wlog = c.doneW) ∧
      (c.done.filter (fun r => r.call.op.isWriter)).map (·.lin) = List.range c.doneW.length) ∧
    (∀ r ∈ c.done, r.call.start ≤ r.lin ∧ r.lin ≤ r.fin ∧ r.fin ≤ c.wlog.length ∧
      r.resp = (sem env r.call.op (run (treeSys env) t0 (c.wlog.take r.lin))).2 ∧
      (r.call.op.isWriter = true → c.wlog[r.lin]? = some r.call.op ∧ r.fin = r.lin + 1) ∧
      (r.call.op.isWriter = false → r.fin = r.lin)) ∧
    (∀ A ∈ c.done, ∀ B ∈ c.done, A.tEnd ≤ B.call.tStart →
      A.lin ≤ B.lin ∧ (A.call.op.isWriter = true → A.lin < B.lin)) :=
  C06_atomic_generic (treeSys env) t0 progs c h

/-- **Every state of the linearization order is a sequentially reachable tree**: the state after any
prefix of the writer order — in particular the current state, and the state every completed
operation was answered in — is `t0.run` of those writer operations as history operations. Hence
every invariant of reachable trees (with `t0 = Tree.new …`: the no-fault theorem of C05, the
well-formedness invariants) applies at every linearization point. -/
theorem C06_no_fault (env : Env) (t0 : Tree) (progs : Nat → List Op) (c : Config (treeSys env))
    (h : Reachable (S := treeSys env) t0 progs c) :
    c.st = t0.run (c.wlog.filterMap Op.toTOp?) ∧
    (∀ k, run (treeSys env) t0 (c.wlog.take k) = t0.run ((c.wlog.take k).filterMap Op.toTOp?)) ∧
    (∀ r ∈ c.done, r.resp = (sem env r.call.op (t0.run ((c.wlog.take r.lin).filterMap Op.toTOp?))).2) := by
  have hA := C06_atomic env t0 progs c h
  refine ⟨by rw [hA.1, run_eq], fun k => run_eq env t0 _, fun r hr => ?_⟩
  rw [← run_eq]
  exact (hA.2.2.1 r hr).2.2.2.1

/-- In particular for a tree made by `tree.New`. -/
example (env : Env) (name : Bytes) (ic : Interceptors) (nf : Handler) (tr : Option Handler)
    (progs : Nat → List Op) (c : Config (treeSys env))
    (h : Reachable (S := treeSys env) (Tree.new name ic nf tr) progs c) :
    c.st = (Tree.new name ic nf tr).run (c.wlog.filterMap Op.toTOp?) :=
  (C06_no_fault env _ progs c h).1

/-- **Responses of requests.** Every completed `Handler` call (the tree walk of `ServeHTTP`) returned
`Tree.handler env` of ONE state of the linearization order, namely the tree after the first `lin`
writer operations, where `lin` lies between the number of writer effects at the request's start and
at its end; likewise `Routes` and `URL`. So a route that is being toggled yields what one of the
sequential states yields. That routes which are never touched are answered identically in all
those states (own handler, own parameters) is the sequential frame theorem of C03
(`C03_frame_remove`/`C03_frame_clean` in `C03frame.lean`, `C03_witness_*` in `C03witness.lean`), applied to
`t0.run …` at each of these states. -/
theorem C06_untouched_frame (env : Env) (t0 : Tree) (progs : Nat → List Op) (c : Config (treeSys env))
    (h : Reachable (S := treeSys env) t0 progs c) (r : RWLock.Rec (treeSys env)) (hr : r ∈ c.done) :
    r.call.start ≤ r.lin ∧ r.lin ≤ r.fin ∧ r.fin ≤ c.wlog.length ∧
    (∀ path ps method, r.call.op = Op.handler path ps method →
      r.resp = Resp.handler ((t0.run ((c.wlog.take r.lin).filterMap Op.toTOp?)).handler env path ps method)) ∧
    (r.call.op = Op.routes → r.resp = Resp.routes (t0.run ((c.wlog.take r.lin).filterMap Op.toTOp?)).routes) ∧
    (∀ pattern ps, r.call.op = Op.url pattern ps →
      r.resp = Resp.url ((t0.run ((c.wlog.take r.lin).filterMap Op.toTOp?)).url env pattern ps)) := by
  have hA := (C06_atomic env t0 progs c h).2.2.1 r hr
  have hR := (C06_no_fault env t0 progs c h).2.2 r hr
  refine ⟨hA.1, hA.2.1, hA.2.2.1, ?_, ?_, ?_⟩
  · intro path ps method ho; rw [hR, ho]; rfl
  · intro ho; rw [hR, ho]; rfl
  · intro pattern ps ho; rw [hR, ho]; rfl

end Mux.C06
