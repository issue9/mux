/-
  C05 (Handle / Remove / Clean part) — no pattern string can make `Handle` fault, and `Remove` and
  `Clean` cannot fail, on every tree reachable by a history whose REGISTERED patterns are well-formed
  (`ReachWf`; the pattern of the call under consideration is arbitrary).

  `Tree.add` returns `.ok` or an error whose class is one of
  `empty, adjacent, syntax, dupName, regexp, tooLong, unsupported` (pattern syntax),
  `reserved, unknownMethod, dupMethod` (method list) or `ambiguous`; never `.fault _`.
-/
import Mux.Proofs.AddNoFault
import Mux.Proofs.Names
import Mux.Proofs.P9Examples
namespace Mux.C05
open Mux Mux.P9

/-- The error classes `Handle` may answer with. -/
def HandleErr (e : Err) : Prop :=
  e = .empty ∨ e = .adjacent ∨ e = .syntax ∨ e = .dupName ∨ e = .regexp ∨ e = .tooLong ∨ e = .unsupported ∨
    e = .reserved ∨ e = .unknownMethod ∨ e = .dupMethod ∨ e = .ambiguous

theorem handleErr_of_class {e : Err} (h : e = .ambiguous ∨ SynErr e ∨ MethErr e) : HandleErr e := by
  unfold HandleErr
  rcases h with h | h | h
  · simp [h]
  · rcases h with h | h | h | h | h | h | h <;> simp [h]
  · rcases h with h | h | h <;> simp [h]

theorem handleErr_not_fault {e : Err} (h : HandleErr e) : e.isFault = false := by
  rcases h with h | h | h | h | h | h | h | h | h | h | h <;> rw [h] <;> rfl

/-- On a reachable tree, `Handle` with ANY pattern string, handler, middleware list
and method list either registers the route or answers an error value of one of the listed classes —
never a runtime fault. -/
theorem C05_handle (t : Tree) (hr : ReachWf t) (p : Bytes) (h : Handler) (ms : List Nat) (methods : List Bytes) :
    (∃ t', t.add p h ms methods = .ok t') ∨ ∃ e, t.add p h ms methods = .error e ∧ HandleErr e := by
  cases he : t.add p h ms methods with
  | ok t' => exact .inl ⟨t', rfl⟩
  | error e => exact .inr ⟨e, rfl, handleErr_of_class (add_error_class_any hr.wf he)⟩

theorem C05_handle_no_fault (t : Tree) (hr : ReachWf t) (p : Bytes) (h : Handler) (ms : List Nat)
    (methods : List Bytes) (k : Nat) : t.add p h ms methods ≠ .error (.fault k) :=
  add_no_fault hr.wf p h ms methods k

/-- The same from the two tree hypotheses directly (well-formed below the root; `TreeInv`). -/
theorem C05_handle_of_inv (t : Tree) (hwf : WellFormedTree t) (hinv : TreeInv t) (p : Bytes) (h : Handler)
    (ms : List Nat) (methods : List Bytes) (k : Nat) : t.add p h ms methods ≠ .error (.fault k) :=
  add_no_fault hwf p h ms methods k

/-- For a well-formed pattern the tree after a successful `Handle` is again `ReachWf`, and an error is of one of the
listed classes (it is raised by the validation, before the first mutation: `Mux.C17.C17_validated_ok`). -/
theorem C05_handle_wf (t : Tree) (hr : ReachWf t) (p : Bytes) (hp : WfPattern p) (h : Handler) (ms : List Nat)
    (methods : List Bytes) :
    (∃ t', t.add p h ms methods = .ok t' ∧ ReachWf t') ∨ ∃ e, t.add p h ms methods = .error e ∧ HandleErr e := by
  rcases C05_handle t hr p h ms methods with ⟨t', he⟩ | herr
  · refine .inl ⟨t', he, ?_⟩
    have := hr.step (op := .add p h ms methods) hp
    simpa [Tree.step, he] using this
  · exact .inr herr

/-- The stages before the tree is touched never fault, on ANY tree and for ANY pattern: the ambiguity
check (which calls `Split`) fails with a syntax error only. -/
theorem C05_checkAmb_no_fault (ic : Interceptors) (n : Node) (p : Bytes) (has : Bool) (k : Nat) :
    n.checkAmb ic p has ≠ .error (.fault k) := by
  intro h
  have := checkAmb_error ic n p has _ h
  simp [SynErr] at this

/-- `getNode` never faults below a node with a well-formed child list, on the pieces of any non-empty pattern string. -/
theorem C05_getNode_no_fault (ic : Interceptors) (n : Node) (used : List Bytes) (hwf : WfL ic used n.children)
    (p : Bytes) (hp : p ≠ []) (v : Bytes) (rest : List Bytes) (hv : splitString p = v :: rest) (k : Nat) :
    getNode ic n v rest ≠ .error (.fault k) :=
  getNode_no_fault ic n v rest ⟨used, hwf⟩ (splitString_pieceG hp v (hv ▸ by simp))
    (fun x hx => splitString_pieceG hp x (hv ▸ by simp [hx])) k

/-- **Remove never fails** on a tree whose nodes below the root have non-empty texts (its only error
sites are faults: an index path leaving the tree — but paths from `findPath` are valid — and
`buildIndexes` on an empty literal). -/
theorem C05_remove (t : Tree) (hne : ValsNonEmpty t) (p : Bytes) (methods : List Bytes) :
    ∃ t', t.remove p methods = .ok t' := remove_ok hne p methods

/-- **Clean never fails** on such a tree. -/
theorem C05_clean (t : Tree) (hne : ValsNonEmpty t) (pre : Bytes) : ∃ t', t.clean pre = .ok t' :=
  treeClean_ok hne pre

theorem C05_findPath_valid (n : Node) (p : Bytes) (path : List Nat) (h : n.findPath p = some path) :
    (n.getAt path).isSome = true := findPath_valid n p path h

theorem C05_reach_valsNonEmpty (t : Tree) (hr : ReachWf t) : ValsNonEmpty t := valsNonEmpty_of_wf hr.wf

theorem C05_remove_reach (t : Tree) (hr : ReachWf t) (p : Bytes) (methods : List Bytes) (k : Nat) :
    t.remove p methods ≠ .error (.fault k) := by
  obtain ⟨t', h⟩ := remove_ok (valsNonEmpty_of_wf hr.wf) p methods
  rw [h]; simp

theorem C05_clean_reach (t : Tree) (hr : ReachWf t) (pre : Bytes) (k : Nat) :
    t.clean pre ≠ .error (.fault k) := by
  obtain ⟨t', h⟩ := treeClean_ok (valsNonEmpty_of_wf hr.wf) pre
  rw [h]; simp

/-! ## Non-vacuity -/

-- a reachable tree (`GET /u/{id}`, `GET /u/{id}/x`, `Remove`, `Clean`)
example : ReachWf (exT0.run exOps) := reachWf_ex
-- the hand-built tree `exT1` is well-formed (first hypothesis of `C05_handle_of_inv`) and has non-empty texts (`C05_remove`)
example : WellFormedTree exT1 := wellFormed_exT1
example : ValsNonEmpty exT1 := valsNonEmpty_of_wf wellFormed_exT1
-- an ill-formed pattern string (`/{a{}}y`) is still answered without a fault: the theorem applies to it
example (t : Tree) (hr : ReachWf t) (k : Nat) :
    t.add [47, 123, 97, 123, 125, 125, 121] { base := .user 1 } [] [mGET] ≠ .error (.fault k) :=
  C05_handle_no_fault t hr _ _ _ _ k

end Mux.C05
