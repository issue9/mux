/-
  C14 — the `Hosts` matcher (match.go): the Host is lower-cased after a valid `:port` and IPv6 brackets were
  stripped; the normalised host is resolved for `GET` in the matcher's private tree; `Add`/`Delete` lower-case
  the domain.  Helper lemmas: `Mux/Proofs/HostNorm.lean`, `Mux/Proofs/Hosts.lean` (namespace `Mux.P12`).

  Outside the model: `strings.ToLower` on non-ASCII hosts (`Hosts.match` answers `.unsupported`, DESIGN §4.3).
  `C14_add_del` reduces `Add`/`Delete` to `Tree.add`/`Tree.remove` on the lower-cased name; "every other domain
  matches as before" after `Delete` is `C14_delete_frame` (`C14reach.lean`) and `C14_delete_frame_late` (`C14late.lean`).
-/
import Mux.Proofs.HostsExamples
namespace Mux.C14
open Mux Mux.P12

/-- `normHost` is, definitionally, the Go computation: cut at `LastIndexByte(h, ':')` when
`validOptionalPort(h[i:])`, then `h[1:len(h)-1]` when `HasPrefix(h,"[") && HasSuffix(h,"]")`, then `ToLower`. -/
theorem C14_norm_go (h : Bytes) : normHost h = toLower (stripBracketsGo (stripPortGo h)) := rfl

/-- `normHost` equals the specification: lower-case (strip one pair of brackets (strip a valid port)), where
`stripPort` cuts at the LAST `:` iff only ASCII digits (possibly none) follow it (`C14_stripPort_*`) and
`stripBrackets` removes a leading `[` and a trailing `]` iff both are present (`C14_stripBrackets_*`). -/
theorem C14_norm (h : Bytes) : normHost h = toLower (stripBrackets (stripPort h)) := normHost_spec h

/-- `validOptionalPort`: empty, or `:` followed by ASCII digits only (possibly none). -/
theorem C14_validOptionalPort (p : Bytes) :
    validOptionalPort p = true ↔ p = [] ∨ ∃ ds, p = 58 :: ds ∧ ∀ d ∈ ds, 48 ≤ d ∧ d ≤ 57 :=
  validOptionalPort_iff p

/-- `strings.LastIndexByte`: position `i` holds `b` and no later position does. -/
theorem C14_lastIndexByte_some (b : UInt8) (s : Bytes) (i : Nat) :
    lastIndexByte b s = some i ↔ s[i]? = some b ∧ ∀ j, i < j → s[j]? ≠ some b :=
  lastIndexByte_eq_some_iff

theorem C14_lastIndexByte_none (b : UInt8) (s : Bytes) : lastIndexByte b s = none ↔ b ∉ s :=
  lastIndexByte_eq_none_iff

/-- `splitLastColon` (used by `stripPort`) is the split at the last colon. -/
theorem C14_splitLastColon (s host tl : Bytes) :
    splitLastColon s = some (host, tl) ↔ s = host ++ 58 :: tl ∧ 58 ∉ tl :=
  splitLastColon_eq_some_iff

theorem C14_stripPort_no_colon (h : Bytes) (hn : 58 ∉ h) : stripPort h = h := stripPort_no_colon hn

/-- `host:digits` — the port goes (the digits cannot contain a `:`; `host` may, as in `::1`). -/
theorem C14_stripPort_valid (host ds : Bytes) (hd : ∀ d ∈ ds, 48 ≤ d ∧ d ≤ 57) :
    stripPort (host ++ 58 :: ds) = host := by
  rw [stripPort_append host (not_mem_of_all_digits hd), if_pos ((all_isDigit_iff ds).2 hd)]

/-- A non-digit after the last `:` (`:x`, `:8o`) — the host is left as it is. -/
theorem C14_stripPort_invalid (host tl : Bytes) (hn : 58 ∉ tl) (x : UInt8) (hx : x ∈ tl)
    (hd : ¬ (48 ≤ x ∧ x ≤ 57)) : stripPort (host ++ 58 :: tl) = host ++ 58 :: tl := by
  rw [stripPort_append host hn, if_neg fun h => hd ((all_isDigit_iff tl).1 h x hx)]

/-- The three cases are exhaustive. -/
theorem C14_stripPort_cases (h : Bytes) :
    (58 ∉ h ∧ stripPort h = h) ∨
    (∃ host ds, h = host ++ 58 :: ds ∧ (∀ d ∈ ds, 48 ≤ d ∧ d ≤ 57) ∧ stripPort h = host) ∨
    (∃ host tl x, h = host ++ 58 :: tl ∧ 58 ∉ tl ∧ x ∈ tl ∧ ¬ (48 ≤ x ∧ x ≤ 57) ∧ stripPort h = h) := by
  by_cases hm : (58 : UInt8) ∈ h
  · obtain ⟨pre, tl, rfl, hn⟩ := exists_last_split hm
    cases hall : tl.all isDigit with
    | true =>
      have hd := (all_isDigit_iff tl).1 hall
      exact .inr (.inl ⟨pre, tl, rfl, hd, C14_stripPort_valid pre tl hd⟩)
    | false =>
      obtain ⟨x, hx, hxd⟩ := List.all_eq_false.1 hall
      rw [isDigit_iff] at hxd
      exact .inr (.inr ⟨pre, tl, x, rfl, hn, hx, hxd, C14_stripPort_invalid pre tl hn x hx hxd⟩)
  · exact .inl ⟨hm, stripPort_no_colon hm⟩

theorem C14_stripBrackets_brackets (mid : Bytes) : stripBrackets (91 :: (mid ++ [93])) = mid :=
  stripBrackets_brackets mid

theorem C14_stripBrackets_other (h : Bytes) (hn : ¬ ∃ mid, h = 91 :: (mid ++ [93])) : stripBrackets h = h :=
  stripBrackets_other h hn

/-- `toLower` is idempotent. -/
theorem C14_toLower_idem (s : Bytes) : toLower (toLower s) = toLower s := toLower_idem s

/-- `toLower` keeps the length and works byte by byte: bytes `A`..`Z` (65–90) move by 32 into `a`..`z`, every other
byte (non-ASCII included) stays. -/
theorem C14_toLower_bytes (s : Bytes) :
    (toLower s).length = s.length ∧
    ∀ (i : Nat) (b : UInt8), s[i]? = some b →
      (¬ (65 ≤ b ∧ b ≤ 90) → (toLower s)[i]? = some b) ∧
      ((65 ≤ b ∧ b ≤ 90) → (toLower s)[i]? = some (b + 32) ∧ 97 ≤ b + 32 ∧ b + 32 ≤ 122) :=
  ⟨toLower_length s, fun i b h => by
    rw [toLower_getElem?, h, Option.map_some]
    exact ⟨fun hn => by rw [lowerByte_of_not_upper hn], fun hu => lowerByte_of_upper hu ▸ ⟨rfl, lowerByte_upper_range hu⟩⟩⟩

theorem C14_toLower_fix (s : Bytes) : toLower s = s ↔ ∀ b ∈ s, ¬ (65 ≤ b ∧ b ≤ 90) := toLower_eq_self_iff s

/-- The normalised host contains no upper-case ASCII letter. -/
theorem C14_norm_lower (h : Bytes) : ∀ b ∈ normHost h, ¬ (65 ≤ b ∧ b ≤ 90) := by
  rw [C14_norm]; exact toLower_no_upper _

/-- A lower-case host without `:` and brackets is its own normal form. -/
theorem C14_norm_plain (h : Bytes) (hc : 58 ∉ h) (hb : h.head? ≠ some 91) (hl : ∀ b ∈ h, ¬ (65 ≤ b ∧ b ≤ 90)) :
    normHost h = h := by
  rw [C14_norm, stripPort_no_colon hc, stripBrackets_other, (toLower_eq_self_iff h).2 hl]
  rintro ⟨mid, rfl⟩
  exact hb rfl

/-! Concrete hosts. `API.Example.com:8080` ↦ `api.example.com`; `[::1]:80` ↦ `::1`; `example.com:x` stays;
`example.com:80:` loses only the final `:` (the text after the LAST colon is the empty digit string — exactly
what `validOptionalPort(":")` accepts in Go), so it does NOT normalise to `example.com`. -/
example : normHost [65,80,73,46,69,120,97,109,112,108,101,46,99,111,109,58,56,48,56,48] = hApi := by decide +kernel
example : normHost [91,58,58,49,93,58,56,48] = [58,58,49] := by decide +kernel
example : normHost [101,120,97,109,112,108,101,46,99,111,109,58,120] = [101,120,97,109,112,108,101,46,99,111,109,58,120] := by
  decide +kernel
example : normHost [101,120,97,109,112,108,101,46,99,111,109,58,56,48,58] = [101,120,97,109,112,108,101,46,99,111,109,58,56,48] := by
  decide +kernel
example : normHost [58,58,49] = [58] := by decide +kernel          -- a bare `::1` loses `:1` (as in Go)
example : normHost [91,93,58,56,48,56,48] = [] ∧ normHost [58,56,48] = [] ∧ normHost [91,42,93] = [42] := by decide +kernel
example : stripPort [97,58,98,58,56,48] = [97,58,98] ∧ stripBrackets [91,97] = [91,97] ∧ stripBrackets [91,93] = [] := by
  decide +kernel

/-- For an ASCII host the outcome of `Hosts.Match` is determined by one `Tree.handler` call for `GET` on the
normalised host: accept iff it answers with `ok`, reject otherwise; the parameters are those of the answer, the
request path is never rewritten; faults and `.unsupported` are passed on. -/
theorem C14_match (env : Env) (hs : Hosts) (host path : Bytes) (ps : Params) (ha : isAscii host = true) :
    (∀ p q, hs.match env host path ps = .accept p q ↔
      p = path ∧ ∃ f, hs.tree.handler env (normHost host) ps mGET = .res f ∧ f.ok = true ∧ q = f.params) ∧
    (∀ p q, hs.match env host path ps = .reject p q ↔
      p = path ∧ ∃ f, hs.tree.handler env (normHost host) ps mGET = .res f ∧ f.ok = false ∧ q = f.params) ∧
    (hs.match env host path ps = .unsupported ↔ hs.tree.handler env (normHost host) ps mGET = .unsupported) ∧
    (∀ s, hs.match env host path ps = .fault s ↔ hs.tree.handler env (normHost host) ps mGET = .fault s) := by
  rw [Hosts.match_eq env hs host path ps ha]
  cases hs.tree.handler env (normHost host) ps mGET with
  | fault s => simp
  | unsupported => simp
  | res f =>
    have comm : ∀ (p : Bytes) (q : Params), path = p ∧ f.params = q ↔ p = path ∧ q = f.params :=
      fun p q => and_congr eq_comm eq_comm
    cases hok : f.ok <;> simpa [hok] using comm

theorem C14_match_res (env : Env) (hs : Hosts) (host path : Bytes) (ps : Params) (f : Found)
    (ha : isAscii host = true) (h : hs.tree.handler env (normHost host) ps mGET = .res f) :
    hs.match env host path ps = if f.ok then .accept path f.params else .reject path f.params :=
  Hosts.match_res env hs host path ps f ha h

/-- Non-ASCII hosts are outside the model. -/
theorem C14_match_nonAscii (env : Env) (hs : Hosts) (host path : Bytes) (ps : Params) (h : isAscii host = false) :
    hs.match env host path ps = .unsupported :=
  Hosts.match_nonAscii env hs host path ps h

/-- `C01_found` for the private tree: when `Hosts.Match` accepts with no incoming parameters, the normalised
host is the instantiation of a non-empty chain from the root to a node with a `GET` entry (a registered
domain), every captured value satisfies its constraint, and the reported parameters are exactly the captures of
that domain pattern.  (`NamesOkL`/`IdxLit` are the C01 hypotheses on the tree; `TreeInv` holds of every
reachable matcher — `C14_reach_inv`.) -/
theorem C14_match_found (env : Env) (hs : Hosts) (hinv : TreeInv hs.tree)
    (hN : NamesOkL [] hs.tree.root.children) (hI : Node.All IdxLit hs.tree.root)
    (host path : Bytes) (ha : isAscii host = true) (p : Bytes) (q : Params)
    (h : hs.match env host path [] = .accept p q) :
    p = path ∧ ∃ (n : Node) (chain : List (Seg × Bytes)),
      chain ≠ [] ∧ Chain hs.tree.root (chain.map (·.1)) n ∧ normHost host = instChain chain ∧
      (∀ sv ∈ chain, sv.1.Satisfies env hs.tree.ic sv.2) ∧ q = captures chain ∧
      (n.handlers.get? mGET).isSome = true :=
  Hosts.match_accept_chain env hinv host path [] hN hI p q h

/-- `C01_found_from`: with incoming parameters `ps` (a `Hosts` matcher behind another matcher in an `And`) they
stay in front of the captures. -/
theorem C14_match_found_from (env : Env) (hs : Hosts) (hinv : TreeInv hs.tree) (ps : Params)
    (hN : NamesOkL ps.keys hs.tree.root.children) (hI : Node.All IdxLit hs.tree.root)
    (host path : Bytes) (ha : isAscii host = true) (p : Bytes) (q : Params)
    (h : hs.match env host path ps = .accept p q) :
    p = path ∧ ∃ (n : Node) (chain : List (Seg × Bytes)),
      chain ≠ [] ∧ Chain hs.tree.root (chain.map (·.1)) n ∧ normHost host = instChain chain ∧
      (∀ sv ∈ chain, sv.1.Satisfies env hs.tree.ic sv.2) ∧ q = ps ++ captures chain ∧
      (n.handlers.get? mGET).isSome = true :=
  Hosts.match_accept_chain env hinv host path ps hN hI p q h

/-- `C01_404_from` and the 405 case: a rejecting `Hosts.Match` either leaves the parameters as they came (no
domain matched, or `""`/`*`), or it matched a node of the tree that has handlers but no `GET` entry and leaves
that chain's captures behind (`Group` resets them; `And` restores them — C13). -/
theorem C14_match_reject (env : Env) (hs : Hosts) (ps : Params)
    (hN : NamesOkL ps.keys hs.tree.root.children) (hI : Node.All IdxLit hs.tree.root)
    (host path : Bytes) (ha : isAscii host = true) (p : Bytes) (q : Params)
    (h : hs.match env host path ps = .reject p q) :
    p = path ∧ (q = ps ∨ ∃ (n : Node) (chain : List (Seg × Bytes)),
      chain ≠ [] ∧ Chain hs.tree.root (chain.map (·.1)) n ∧ normHost host = instChain chain ∧
      q = ps ++ captures chain ∧ n.handlers ≠ [] ∧ n.handlers.get? mGET = none) :=
  Hosts.match_reject_chain env host path ps hN hI p q h

/-- For EVERY tree: `Tree.handler … GET` answers `ok` iff the matcher hit a node and that node has a `GET`
entry; then that node and the parameters of the hit are reported. -/
theorem C14_ok_iff_get (env : Env) (t : Tree) (path : Bytes) (ps : Params) (f : Found)
    (h : t.handler env path ps mGET = .res f) :
    f.ok = true ↔ ∃ n ps', t.matched env path ps = .hit n ps' ∧ (n.handlers.get? mGET).isSome = true ∧
      f.node = some n ∧ f.params = ps' := by
  rw [Tree.handler_get] at h
  cases hm : t.matched env path ps with
  | fault s => rw [hm] at h; cases h
  | unsupported => rw [hm] at h; cases h
  | miss ps' =>
    rw [hm] at h
    cases h
    exact ⟨nofun, fun ⟨_, _, e, _⟩ => nomatch e⟩
  | hit n ps' =>
    obtain ⟨f', hf, hp, hok, hnode⟩ := Tree.answer_get_hit t n ps'
    rw [hm, hf] at h
    cases h
    exact ⟨fun h => ⟨n, ps', rfl, hok ▸ h, hnode h, hp⟩, fun ⟨_, _, e, hg, _⟩ => by cases e; rw [hok]; exact hg⟩

/-- On a tree satisfying the invariant the accepted node is a node of the tree. -/
theorem C14_ok_node (env : Env) (hs : Hosts) (hinv : TreeInv hs.tree) (path : Bytes) (ps : Params) (f : Found)
    (h : hs.tree.handler env path ps mGET = .res f) (hok : f.ok = true) :
    ∃ n, f.node = some n ∧ n ∈ hs.tree.root.nodes ∧ (n.handlers.get? mGET).isSome = true := by
  obtain ⟨n, ps', hm, hg, hn, _⟩ := (C14_ok_iff_get env hs.tree path ps f h).1 hok
  exact ⟨n, hn, (hinv.matched_ok env path ps).2 n ps' hm, hg⟩

/-- The handlers stored in the private tree are never called and never observed: two matchers whose trees
answer with the same `ok` and parameters (whatever the handlers and nodes) give the same outcome. -/
theorem C14_handlers_unused (env : Env) (hs hs' : Hosts) (host path : Bytes) (ps : Params) (f f' : Found)
    (h : hs.tree.handler env (normHost host) ps mGET = .res f)
    (h' : hs'.tree.handler env (normHost host) ps mGET = .res f')
    (hok : f.ok = f'.ok) (hps : f.params = f'.params) :
    hs.match env host path ps = hs'.match env host path ps := by
  cases ha : isAscii host with
  | false => rw [Hosts.match_nonAscii env hs host path ps ha, Hosts.match_nonAscii env hs' host path ps ha]
  | true => rw [Hosts.match_res env hs host path ps f ha h, Hosts.match_res env hs' host path ps f' ha h', hok, hps]

/-- Every matcher made by `NewHosts` and any history of `Add`/`Delete`/`RegisterInterceptor` satisfies the
tree invariant. -/
theorem C14_reach_inv (hs : Hosts) (h : HostsReach hs) : TreeInv hs.tree := h.inv

/-- `Hosts.Match` of a reachable matcher never faults, for every host string (`C05_hosts_match`: it never faults on a tree
satisfying `TreeInv`). -/
theorem C14_no_fault (env : Env) (hs : Hosts) (h : HostsReach hs) (host path : Bytes) (ps : Params) (s : Nat) :
    hs.match env host path ps ≠ .fault s :=
  P12.Hosts.match_no_fault h.inv env host path ps s

/-- `Add` registers `GET` only and `Delete` removes every method: after any history each node below the root
has no handlers at all or a `GET` entry. -/
theorem C14_reach_get (hs : Hosts) (h : HostsReach hs) : HostsGet hs := h.get

/-- Hence a rejecting `Hosts.Match` leaves the parameters exactly as they came (and the path, always). -/
theorem C14_reject_clean (env : Env) (hs : Hosts) (hg : HostsGet hs) (ps : Params)
    (hN : NamesOkL ps.keys hs.tree.root.children) (hI : Node.All IdxLit hs.tree.root)
    (host path : Bytes) (ha : isAscii host = true) (p : Bytes) (q : Params)
    (h : hs.match env host path ps = .reject p q) : p = path ∧ q = ps :=
  Hosts.match_reject_clean env hg host path ps hN hI p q h

example : HostsGet exHosts := exHosts_get
example : HostsGet (hostsRun Hosts.empty [.add hApi, .add hSub, .delete hApi]) := HostsReach.get ⟨_, rfl⟩

theorem C14_add_del (hs : Hosts) (d : Bytes) :
    hs.add d = (hs.tree.add (toLower d) { base := .hostEmpty, wraps := [] } [] [mGET]).map
      (fun t => { hs with tree := t }) ∧
    hs.delete d = (hs.tree.remove (toLower d) []).map (fun t => { hs with tree := t }) :=
  ⟨Hosts.add_eq hs d, Hosts.delete_eq hs d⟩

/-- Domain names are case-insensitive for `Add` and `Delete` (D13 repaired: Go's `Delete` used the name verbatim). -/
theorem C14_case_insensitive (hs : Hosts) (d d' : Bytes) (h : toLower d = toLower d') :
    hs.add d = hs.add d' ∧ hs.delete d = hs.delete d' :=
  ⟨Hosts.add_congr hs h, Hosts.delete_congr hs h⟩

/-- `Delete` of a domain that is not in the tree is the identity. -/
theorem C14_delete_absent (hs : Hosts) (d : Bytes) (h : hs.tree.root.findPath (toLower d) = none) :
    hs.delete d = .ok hs :=
  Hosts.delete_absent hs d h

/-- `RegisterInterceptor` panics (`none`) iff the rule exists; otherwise it only appends the rule to the
interceptor table — root, counters and every existing segment (with its kind) are unchanged. -/
theorem C14_registerInterceptor (hs : Hosts) (id : IcptId) (rule : Bytes) :
    (hs.registerInterceptor id rule = none ↔ (hs.tree.ic.find rule).isSome = true) ∧
    ∀ hs', hs.registerInterceptor id rule = some hs' →
      hs'.tree = { hs.tree with ic := hs.tree.ic ++ [(rule, id)] } ∧ hs'.tree.root = hs.tree.root := by
  refine ⟨Hosts.registerInterceptor_none, fun hs' h => ?_⟩
  have := (Hosts.registerInterceptor_some h).2
  exact ⟨this, by rw [this]⟩

/-- A host that normalises to `""` or `*` selects the root of the private tree, whose keys are
`[OPTIONS, ""]` forever: rejected, parameters untouched. -/
theorem C14_empty_star (env : Env) (hs : Hosts) (hinv : TreeInv hs.tree) (host path : Bytes) (ps : Params)
    (ha : isAscii host = true) (hn : normHost host = [] ∨ normHost host = [42]) :
    hs.match env host path ps = .reject path ps :=
  Hosts.match_root env hinv host path ps ha hn

/-- For every reachable matcher, whatever the host: one that is accepted normalises neither to `""` nor to `*`. -/
theorem C14_empty_star_reach (env : Env) (hs : Hosts) (h : HostsReach hs) (host path : Bytes) (ps : Params)
    (p : Bytes) (q : Params) (hacc : hs.match env host path ps = .accept p q) :
    normHost host ≠ [] ∧ normHost host ≠ [42] :=
  not_or.1 (Hosts.accept_not_root env h.inv hacc)

/-! ## Non-vacuity: `NewHosts(false, "api.example.com", "{sub}.example.com")` -/

/-- The hypotheses of the theorems above hold of the example matcher. -/
example : TreeInv exHosts.tree := exHosts_inv
example : NamesOkL [] exHosts.tree.root.children := exHosts_names
example : Node.All IdxLit exHosts.tree.root := exHosts_idx
example : HostsReach (hostsRun Hosts.empty [.add hApi, .registerInterceptor 0 [100], .add hSub, .delete [65,80,73]]) :=
  ⟨_, rfl⟩
example : TreeInv (hostsRun Hosts.empty [.add hApi, .add hSub, .delete hApi]).tree := (HostsReach.inv ⟨_, rfl⟩)

/-- `API.Example.com:8080` is accepted by the literal domain, no parameters. -/
example : outOf (exHosts.match exEnv [65,80,73,46,69,120,97,109,112,108,101,46,99,111,109,58,56,48,56,48] [47] []) =
    some (true, [47], []) := by decide +kernel
/-- `WWW.Example.COM:443` is accepted by `{sub}.example.com` with `sub = www` (lower-cased). -/
example : outOf (exHosts.match exEnv [87,87,87,46,69,120,97,109,112,108,101,46,67,79,77,58,52,52,51] [47] []) =
    some (true, [47], [([115,117,98], [119,119,119])]) := by decide +kernel
/-- `[::1]:80` ↦ `::1`, `example.com:x`, `example.com`, `""`, `*`, `*:80`, `[]:8080` are rejected, path and
parameters untouched. -/
example : outOf (exHosts.match exEnv [91,58,58,49,93,58,56,48] [47] []) = some (false, [47], []) := by decide +kernel
example : outOf (exHosts.match exEnv [101,120,97,109,112,108,101,46,99,111,109,58,120] [47] []) = some (false, [47], []) := by
  decide +kernel
example : outOf (exHosts.match exEnv [101,120,97,109,112,108,101,46,99,111,109] [47] []) = some (false, [47], []) := by decide +kernel
example : outOf (exHosts.match exEnv [] [47] []) = some (false, [47], []) := by decide +kernel
example : outOf (exHosts.match exEnv [42] [47] []) = some (false, [47], []) := by decide +kernel
example : outOf (exHosts.match exEnv [42,58,56,48] [47] [([97], [98])]) = some (false, [47], [([97], [98])]) := by decide +kernel
example : outOf (exHosts.match exEnv [91,93,58,56,48,56,48] [47] []) = some (false, [47], []) := by decide +kernel
/-- `api.example.com:80:` keeps `:80` after normalisation; `{sub}` then captures `api` and the suffix
`.example.com` is found, but the rest `:80` matches nothing: rejected. -/
example : outOf (exHosts.match exEnv (hApi ++ [58,56,48,58]) [47] []) = some (false, [47], []) := by decide +kernel
/-- A non-ASCII host is outside the model. -/
example : outOf (exHosts.match exEnv [195,169] [47] []) = none := by decide +kernel
/-- `C14_empty_star` applies to `[]:8080`. -/
example : exHosts.match exEnv [91,93,58,56,48,56,48] [47] [] = .reject [47] [] :=
  C14_empty_star exEnv exHosts exHosts_inv _ _ _ (by decide +kernel) (by decide +kernel)
/-- `C14_case_insensitive` / `C14_delete_absent` hypotheses. -/
example : toLower [65,80,73] = toLower [97,112,105] := by decide +kernel
example : exHosts.tree.root.findPath (toLower [88]) = none := by decide +kernel

end Mux.C14
