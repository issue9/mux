/-
  C03 — frame, the METHOD clause: "removing routes never changes the handling of a request that was
  previously dispatched to a different route OR METHOD".

  The frame theorems of `Mux/Properties/C03frame.lean` all require that the answering node has a pattern
  different from the removed one.  Here the removed pattern `p` may be the very pattern that answers:
  `Remove(p, methods…)` with a non-empty method list that leaves `p` at least one hand-registered method
  does not change the answer to ANY request whose method is not in the list (HEAD counts as listed when
  GET is, because the HEAD entry is derived from GET's) — same handler, same `ok`, same parameters, a
  node with the same pattern; 404s stay 404s.
-/
import Mux.Proofs.Frame
import Mux.Proofs.WitnessVals
import Mux.Properties.C03witness
import Mux.Properties.C01d
import Mux.Properties.C01router
import Mux.Proofs.FrameExamples
import Mux.Properties.C03frame
namespace Mux.C03
open Mux Mux.P11 Mux.P14 Mux.P17 Mux.P26

/-- `SameServed f f'` (`Mux/Proofs/Frame.lean`): the two answers of `Tree.handler` have the same handler, the
same `ok` flag, the same parameters; if the first reports a node, the second reports a node with the same pattern;
if the first is a 404 (no node), so is the second. -/
abbrev SameServed := Mux.P26.SameServed

/-- The node-level hypothesis of `keep_remove` from the table-level one: in a tree satisfying the invariants, a
live pair `(p, k)` of the table read off the tree is an entry `k` of THE node with pattern `p`. -/
theorem live_pair_node {t : Tree} (hinv : AllInv t) {p k : Bytes} (h : (tableOf t).has p k)
    {x : Node} (hx : x ∈ nodesL t.root.children) (hxp : x.pattern = p) : k ∈ regKeys x.handlers := by
  rw [← at_node hinv.ti hx, hxp]
  exact (has_at hinv.ti p k).1 h

/-- **Frame, method clause, for `Remove`.**  On the tree of any well-formed history: let the method list
of `Remove(p, methods…)` be non-empty, and let `p` keep a hand-registered method afterwards (`k` is a live method
of `p` in the route table and is not in the list).  Then EVERY request whose method is not in the list — and is
not HEAD while GET is in the list — is answered after the `Remove` exactly as before: same handler, same `ok`
flag (so a 405/OPTIONS answer stays what it was), same parameters, a node with the same pattern, and a 404 stays
a 404.  In particular a request that was answered by `p` itself with another method. -/
theorem C03_frame_remove_method (t t' : Tree) (hr : ReachAll t) (p : Bytes) (methods : List Bytes)
    (he : t.remove p methods = .ok t') (hne : methods ≠ [])
    (k : Bytes) (hk : (tableOf t).has p k) (hkm : k ∉ methods)
    (env : Env) (path method : Bytes) (hm : method ∉ methods) (hhead : method = mHEAD → mGET ∉ methods)
    (f : Found) (hres : t.handler env path [] method = .res f) :
    ∃ f', t'.handler env path [] method = .res f' ∧ SameServed f f' :=
  keep_remove hr.inv he hne (fun _ hx hxp => ⟨k, live_pair_node hr.inv hk hx hxp, hkm⟩) hm hhead hres

/-- The same as one step of a history (`Remove` cannot fail on such a tree, so the step IS the operation). -/
theorem C03_frame_remove_method_step (t : Tree) (hr : ReachAll t) (p : Bytes) (methods : List Bytes)
    (hne : methods ≠ []) (k : Bytes) (hk : (tableOf t).has p k) (hkm : k ∉ methods)
    (env : Env) (path method : Bytes) (hm : method ∉ methods) (hhead : method = mHEAD → mGET ∉ methods)
    (f : Found) (hres : t.handler env path [] method = .res f) :
    ∃ f', (t.step (.remove p methods)).handler env path [] method = .res f' ∧ SameServed f f' :=
  C03_frame_remove_method t _ hr p methods (remove_step hr.inv.ti p methods) hne k hk hkm env path method hm hhead
    f hres

/-- **The clause as worded**: a request that WAS DISPATCHED to pattern `p` with method `method` (`ok = true`:
a registered handler answered, not the 405; `method` is not OPTIONS, whose handler is automatic) keeps its
handler, parameters and pattern when other methods of `p` are removed.  No hypothesis on the table is needed:
the method that served the request (GET for a HEAD request) is itself the method `p` keeps. -/
theorem C03_frame_remove_method_served (t t' : Tree) (hr : ReachAll t) (p : Bytes) (methods : List Bytes)
    (he : t.remove p methods = .ok t') (hne : methods ≠ [])
    (env : Env) (path method : Bytes) (hm : method ∉ methods) (hhead : method = mHEAD → mGET ∉ methods)
    (hopt : method ≠ mOPTIONS)
    (f : Found) (q : Node) (hres : t.handler env path [] method = .res f) (hq : f.node = some q)
    (hroot : q ≠ t.root) (hqp : q.pattern = p) (hok : f.ok = true) :
    ∃ f' q', t'.handler env path [] method = .res f' ∧ f'.node = some q' ∧ q'.pattern = p ∧
      f'.handler = f.handler ∧ f'.ok = true ∧ f'.params = f.params := by
  obtain ⟨tb, hsim⟩ := hr.sim
  have hlive := (served_live hsim hres hok hq hroot).2 hopt
  rw [hqp] at hlive
  have hlive' := (hsim.has _ _).2 hlive
  have hkm : (if method = mHEAD then mGET else method) ∉ methods := by
    by_cases hh : method = mHEAD
    · simp only [hh, if_true]; exact hhead hh
    · simp only [hh, if_false]; exact hm
  obtain ⟨f', h1, h2, h3, h4, h5, _⟩ :=
    C03_frame_remove_method t t' hr p methods he hne _ hlive' hkm env path method hm hhead f hres
  obtain ⟨q', hq', hp'⟩ := h5 q hq
  exact ⟨f', q', h1, hq', hp'.trans hqp, h2, h3.trans hok, h4⟩

/-- History form: from a fresh tree, for every history of well-formed registrations, with the live pair taken
from the ABSTRACT table of the history (`C03_table`). -/
theorem C03_frame_remove_method_history (name : Bytes) (ic : Interceptors) (nf : Handler) (tr : Option Handler)
    (ob nb : Base) (ops : List TOp) (hw : WfOps ops) (p : Bytes) (methods : List Bytes) (hne : methods ≠ [])
    (k : Bytes) (env : Env) (path method : Bytes) (f : Found) :
    let t := (Tree.new name ic nf tr ob nb).run ops
    let tb := specRun (Tree.new name ic nf tr ob nb) ops
    tb.has p k → k ∉ methods → method ∉ methods → (method = mHEAD → mGET ∉ methods) →
    t.handler env path [] method = .res f →
    ∃ f', (t.run [.remove p methods]).handler env path [] method = .res f' ∧ SameServed f f' := by
  intro t tb hk hkm hm hhead hres
  have hr := C03_reachAll_history name ic nf tr ob nb ops hw
  have hsim := sim_history name ic nf tr ob nb ops hw
  exact C03_frame_remove_method_step t hr p methods hne k ((hsim.has p k).2 hk) hkm env path method hm hhead f hres

/-- **Router form, whole histories.**  `NewRouter(cfg)`; any history `ops` of `Handle/Remove/Clean/Use` with
well-formed registered patterns; then `Remove(p, methods…)` with a non-empty list that leaves `p` a method `k` of the
route table of the history (`C01.routerTable`).  Every request whose method is not in the list (nor HEAD while GET
is) is handed to `CallFunc` after the `Remove` with the same handler, the same `ok`, the same parameters and a node
with the same pattern (a 404 stays a 404).  (The `Allow` / CORS headers of `p` legitimately change: they list `p`'s
methods.) -/
theorem C03_frame_remove_method_router {cfg : RouterCfg} {r0 : Router} (hnew : Router.new cfg = some r0)
    (ops : List ROp) (hops : ∀ op ∈ ops, C01.ROp.wf op = true) (p : Bytes) (methods : List Bytes)
    (hne : methods ≠ []) (k : Bytes) (hk : (C01.routerTable r0 ops).has p k) (hkm : k ∉ methods)
    (env : Env) (req : Req) (hm : req.method ∉ methods) (hhead : req.method = mHEAD → mGET ∉ methods)
    (c : Call) (hc : (r0.run ops).serveContext env req [] = .call c) :
    ∃ c', (r0.run (ops ++ [.remove p methods])).serveContext env req [] = .call c' ∧
      c'.handler = c.handler ∧ c'.ok = c.ok ∧ c'.params = c.params ∧
      (∀ n, c.node = some n → ∃ n', c'.node = some n' ∧ n'.pattern = n.pattern) ∧
      (c.node = none → c'.node = none) := by
  obtain ⟨_, hhas, _, _⟩ := C01.C01_router_table hnew ops hops
  obtain ⟨hf, _⟩ := P18.serveContext_call_found env (r0.run ops) req [] c hc
  obtain ⟨f', hf', h1, h2, h3, h4, h5⟩ := C03_frame_remove_method_step (r0.run ops).tree
    (C01.C01_router_reach hnew hops).1 p methods hne k ((hhas p k).2 hk) hkm env req.path req.method hm hhead _ hf
  have hrun := Router.run_snoc r0 ops (.remove p methods)
  have htree : ((r0.run ops).step (.remove p methods)).tree = (r0.run ops).tree.step (.remove p methods) :=
    P18.step_tree_eq _ _
  rw [hrun]
  exact ⟨_, Router.serveContext_res (htree ▸ hf'), h1, h2, h3, h4, h5⟩

/-! ### Non-vacuity -/

/-- `/u` -/
def exMP : Bytes := [47, 117]
/-- The history `Handle("/u", h1, GET, POST)`. -/
def exMOps : List TOp := [.add exMP { base := .user 1 } [] [mGET, mPOST]]
def exMT : Tree := exT0.run exMOps

theorem exMOps_wf : WfOps exMOps := by unfold WfOps; decide
theorem exMT_reach : ReachAll exMT := ⟨_, _, _, _, _, _, exMOps, exMOps_wf, rfl⟩

/-- The reached tree, evaluated: the root, and below it the node of `/u` with GET, its HEAD, POST and the two
automatic entries. -/
private theorem exMT_eq : exMT =
    { root := .mk { value := [] } [] 259 [(mOPTIONS, { base := .options }), (mNotAllowed, { base := .notAllowed })] []
        [.mk { value := exMP } exMP 387
          [(mHEAD, { base := .user 1 }), (mGET, { base := .user 1 }), (mPOST, { base := .user 1 }),
            (mOPTIONS, { base := .options }), (mNotAllowed, { base := .notAllowed })] [] []],
      counts := [(mGET, 1), (mPOST, 1)], ic := [], name := [114], notFound := { base := .notFound }, trace := none } := by
  rw [exMT, Tree.run_eq_F]; decide +kernel

/-- `(/u, GET)` is a live pair of the table of the reached tree `exMT`, and `GET /u` and `HEAD /u` are dispatched to
`/u` with GET's handler (`ok = true`). -/
example : (tableOf exMT).has exMP mGET := ⟨[mGET, mPOST], by rw [exMT_eq]; decide +kernel, by decide⟩
theorem exMT_answer (m : Bytes) (hm : m = mGET ∨ m = mHEAD) :
    ∃ f q, exMT.handler exEnv exMP [] m = .res f ∧ f.node = some q ∧ q.pattern = exMP ∧
    f.handler = { base := .user 1, wraps := [] } ∧ f.ok = true ∧ f.params = [] := by
  rw [exMT_eq]
  rcases hm with rfl | rfl <;> exact view_spec (by decide +kernel)

/-- `Remove("/u", POST)` succeeds, and — by the theorem — `GET /u` and `HEAD /u` are answered by `/u` with the same
handler afterwards; the hypotheses of `C03_frame_remove_method_served` are all met. -/
example (m : Bytes) (hm : m = mGET ∨ m = mHEAD) :
    ∃ t', exMT.remove exMP [mPOST] = .ok t' ∧ ∃ f' q', t'.handler exEnv exMP [] m = .res f' ∧
      f'.node = some q' ∧ q'.pattern = exMP ∧ f'.handler = { base := .user 1, wraps := [] } ∧ f'.ok = true := by
  obtain ⟨f, q, hres, hq, hqp, hh, hok, _⟩ := exMT_answer m hm
  have he := remove_step exMT_reach.inv.ti exMP [mPOST]
  have hroot : q ≠ exMT.root := by
    intro e
    rw [e, exMT_reach.inv.rootPat] at hqp
    cases hqp
  obtain ⟨f', q', h1, h2, h3, h4, h5, _⟩ := C03_frame_remove_method_served exMT _ exMT_reach exMP [mPOST] he
    (by simp) exEnv exMP m (by rcases hm with rfl | rfl <;> decide) (fun _ => by decide)
    (by rcases hm with rfl | rfl <;> decide) f q hres hq hroot hqp hok
  exact ⟨_, he, f', q', h1, h2, h3, h4.trans hh, h5⟩

/-- The hypothesis "`p` keeps a method" cannot be dropped: after `Remove("/u", GET, POST)`… the pattern is gone
and an OPTIONS request, which was answered by `/u`'s automatic handler, is a 404 (no node). -/
example : patOf (exMT.handler exEnv exMP [] mOPTIONS) = some exMP ∧
    patOf ((exMT.step (.remove exMP [mGET, mPOST])).handler exEnv exMP [] mOPTIONS) = none := by
  rw [exMT_eq]; decide +kernel

/-! ## Witness reachability, exact form: WHAT the route's own node answers

The witness theorems of `Mux/Properties/C03frame.lean` / `C03witness.lean` conclude "some node with handlers answers,
and it `Diverges` from the route's node".  Here: when the answering node IS the route's own node `x`, the reported
parameters are exactly the witness values and the handler is `x`'s entry for the method. -/

/-- On the tree of a well-formed history let `x` be the node reached from the root by
`chain.map (·.1)`, and let every segment of the chain consume exactly its own text on the witness path
(`MatchChain`, the weakest hypothesis of the witness theorems; implied by simple / good values, see the corollaries).
If the witness request `instChain chain` (an ordinary request: not `""`, `*`, nor TRACE on a tracing tree) is
answered by `x` itself, then the reported parameters are exactly the capturing parameters of the chain with the
WITNESS VALUES, in order, and the handler is the entry of `x` for the method (its 405 entry when it has none). -/
theorem C03_witness_exact (t : Tree) (hr : ReachAll t) (env : Env) (chain : List (Seg × Bytes)) (x : Node)
    (hch : Chain t.root (chain.map (·.1)) x) (hm : MatchChain env t.ic chain)
    (method : Bytes) (f : Found) (hp : instChain chain ≠ []) (hstar : instChain chain ≠ [42])
    (htr : t.trace = none ∨ method ≠ mTRACE)
    (hres : t.handler env (instChain chain) [] method = .res f) (hq : f.node = some x) :
    f.params = captures chain ∧ HandlerAgrees x method f := by
  refine ⟨witness_exact_tree hr.inv (P13.reach_uniqHyp hr.reachWf) env chain x hch hm method f hp hstar htr hres hq, ?_⟩
  obtain ⟨_, _, _, _, _, _, _, h7, _⟩ :=
    C01.C01_dispatch_sound env t hr.reachWf (instChain chain) method f x hp hstar htr hres hq
  exact h7

/-- Spelled out for a method the node has an entry for: the answer is that entry, with `ok = true`. -/
theorem C03_witness_exact_entry (t : Tree) (hr : ReachAll t) (env : Env) (chain : List (Seg × Bytes)) (x : Node)
    (hch : Chain t.root (chain.map (·.1)) x) (hm : MatchChain env t.ic chain)
    (method : Bytes) (h : Handler) (hne : method ≠ mNotAllowed) (hent : x.handlers.get? method = some h)
    (f : Found) (hp : instChain chain ≠ []) (hstar : instChain chain ≠ [42])
    (htr : t.trace = none ∨ method ≠ mTRACE)
    (hres : t.handler env (instChain chain) [] method = .res f) (hq : f.node = some x) :
    f.params = captures chain ∧ f.ok = true ∧ f.handler = h := by
  obtain ⟨h1, h2⟩ := C03_witness_exact t hr env chain x hch hm method f hp hstar htr hres hq
  refine ⟨h1, ?_⟩
  cases hok : f.ok with
  | true =>
    have := (h2.1 hok).2
    rw [hent] at this
    exact ⟨rfl, (Option.some.inj this).symm⟩
  | false =>
    rcases (h2.2 hok).1 with e | e
    · exact absurd e hne
    · rw [hent] at e; cases e

/-- With the hypothesis on the values alone (`GoodVal`: simple values, and for a regexp parameter a value in the
language of the rule whose rule cannot consume the first byte of the following literal — the hypothesis of
`C03_witness_rx`). -/
theorem C03_witness_exact_rx (t : Tree) (hr : ReachAll t) (env : Env) (chain : List (Seg × Bytes)) (x : Node)
    (hch : Chain t.root (chain.map (·.1)) x) (hg : ∀ sv ∈ chain, GoodVal env t.ic sv.1 sv.2)
    (hasc : isAscii (instChain chain) = true ∨ ∀ sv ∈ chain, sv.1.kind = .rx → sv.1.re.wide = false)
    (method : Bytes) (f : Found) (hp : instChain chain ≠ []) (hstar : instChain chain ≠ [42])
    (htr : t.trace = none ∨ method ≠ mTRACE)
    (hres : t.handler env (instChain chain) [] method = .res f) (hq : f.node = some x) :
    f.params = captures chain ∧ HandlerAgrees x method f :=
  C03_witness_exact t hr env chain x hch
    (C03_matchChain_of_good t hr env chain x hch (C03_goodChain_of_vals t hr env chain x hch hg hasc))
    method f hp hstar htr hres hq

/-- With simple values (chains without regexp segments, the hypothesis of `C03_witness_partial`). -/
theorem C03_witness_exact_simple (t : Tree) (hr : ReachAll t) (env : Env) (chain : List (Seg × Bytes)) (x : Node)
    (hch : Chain t.root (chain.map (·.1)) x) (hsimple : ∀ sv ∈ chain, SimpleVal env t.ic sv.1 sv.2)
    (method : Bytes) (f : Found) (hp : instChain chain ≠ []) (hstar : instChain chain ≠ [42])
    (htr : t.trace = none ∨ method ≠ mTRACE)
    (hres : t.handler env (instChain chain) [] method = .res f) (hq : f.node = some x) :
    f.params = captures chain ∧ HandlerAgrees x method f :=
  C03_witness_exact_rx t hr env chain x hch (fun sv hsv => .inl (hsimple sv hsv))
    (.inr (fun sv hsv hk => absurd hk (hsimple sv hsv).1)) method f hp hstar htr hres hq

/-- **Table form.**  For every live pair `(p, m)` of the table read off the tree there are THE node `x` of `p` and
its chain `segs` such that for all good values `vs`: if the witness request with method `m` is answered by `x`
itself, it is answered by `x`'s entry for `m` (`ok = true`: served, not a 405) and reports exactly the values `vs`
of the capturing parameters. -/
theorem C03_witness_exact_table (t : Tree) (hr : ReachAll t) (env : Env) (p m : Bytes) (h : (tableOf t).has p m) :
    ∃ (x : Node) (segs : List Seg), Chain t.root segs x ∧ segs ≠ [] ∧ x.pattern = p ∧
      p = (segs.map (·.value)).flatten ∧ (∃ h0, x.handlers.get? m = some h0) ∧
      ∀ vs : List Bytes, vs.length = segs.length → (∀ sv ∈ segs.zip vs, GoodVal env t.ic sv.1 sv.2) →
        (isAscii (instChain (segs.zip vs)) = true ∨ ∀ s ∈ segs, s.kind = .rx → s.re.wide = false) →
        instChain (segs.zip vs) ≠ [] → instChain (segs.zip vs) ≠ [42] → (t.trace = none ∨ m ≠ mTRACE) →
        ∀ f, t.handler env (instChain (segs.zip vs)) [] m = .res f → f.node = some x →
          f.params = captures (segs.zip vs) ∧ f.ok = true ∧ x.handlers.get? m = some f.handler := by
  obtain ⟨x, segs, hch, hne, hp, hflat, hm⟩ := C03_live_chain t hr p m h
  obtain ⟨h0, hh0⟩ := AMap.exists_get?_of_mem ((AMap.contains_iff _ _).1 hm)
  have hmne : m ≠ mNotAllowed := by
    obtain ⟨e, he, _, hk⟩ := (has_tableOf t p m).1 h
    exact (mem_regKeys.1 hk).2.2.2
  refine ⟨x, segs, hch, hne, hp, hflat, ⟨h0, hh0⟩, fun vs hlen hgood hasc hp1 hp2 htr f hres hq => ?_⟩
  have hmap : (segs.zip vs).map (·.1) = segs := by rw [List.map_fst_zip]; omega
  rw [← hmap] at hch
  have hmc := C03_matchChain_of_good t hr env _ x hch (C03_goodChain_of_vals t hr env _ x hch hgood
    (hasc.imp_right fun h' sv hsv => h' sv.1 (List.of_mem_zip hsv).1))
  obtain ⟨h1, h2, h3⟩ := C03_witness_exact_entry t hr env _ x hch hmc m h0 hmne hh0 f hp1 hp2 htr hres hq
  exact ⟨h1, h2, h3 ▸ hh0⟩

/-! ### Non-vacuity of the exact witness theorems -/

/-- In the reached tree `exR` (`Handle("/u/", h2, GET); Handle("/u/{id:\d+}/x", h1, GET)`) the witness request
`GET /u/42/x` of the chain `"/u/"`, `{id:\d+}/x ↦ 42` IS answered by the chain's own node, so the theorem applies and
gives `id = 42` and the node's GET entry. -/
example : ∃ f x, Chain exR.root (exRChain.map (·.1)) x ∧ MatchChain P14.exEnv exR.ic exRChain ∧
    exR.handler P14.exEnv (instChain exRChain) [] mGET = .res f ∧ f.node = some x ∧
    f.params = [([105, 100], [52, 50])] ∧ captures exRChain = [([105, 100], [52, 50])] ∧
    HandlerAgrees x mGET f := by
  obtain ⟨x, hch, hlive⟩ := exR_chain
  obtain ⟨f, q, hres, hq, hp, _, _, hps⟩ := exR_answer
  rw [← exRChain_inst] at hres
  -- the answering node has the pattern of `x`, hence is `x`
  have hxq : q = x := by
    have hreach := exR_reach
    have hxmem : x ∈ nodesL exR.root.children := chain_mem_below hch (by decide)
    obtain ⟨chain', c1, c2, _⟩ := C01.C01_dispatch_sound P14.exEnv exR hreach.reachWf _ mGET f q (by decide) (by decide)
      (.inr (by decide)) hres hq
    have hqmem : q ∈ nodesL exR.root.children := chain_mem_below c2 (by simpa using c1)
    refine node_unique hreach.inv.ti.sh hqmem hxmem ?_
    rw [hp, P13.reach_chain_pattern hreach.reachWf hch]
    decide
  subst hxq
  obtain ⟨h1, h2⟩ := C03_witness_exact exR exR_reach P14.exEnv exRChain q hch exRChain_match mGET f (by decide)
    (by decide) (.inr (by decide)) hres hq
  exact ⟨f, q, hch, exRChain_match, hres, hq, hps, by decide, h2⟩

/-- The router form: the router history `NewRouter("r"); Handle("/u", h1, GET, POST)` has the table
`[("/u", [GET, POST])]`; `GET /u` is handed to `/u`; `Remove("/u", POST)` keeps GET: the hypotheses of
`C03_frame_remove_method_router` are met. -/
def exMROps : List ROp := [.handle exMP 1 [] [mGET, mPOST]]
example : Router.new C01.exCfg = some C01.exR0 ∧ (∀ op ∈ exMROps, C01.ROp.wf op = true) ∧
    (C01.routerTable C01.exR0 exMROps).has exMP mGET ∧ mGET ∉ [mPOST] ∧
    C01.callView ((C01.exR0.run exMROps).serveContext exEnv { method := mGET, path := exMP } []) =
      some (some exMP, true, []) := by
  refine ⟨rfl, ?_, ⟨[mGET, mPOST], ?_, by decide⟩, by decide, ?_⟩
  · decide +kernel
  · have : C01.routerTable C01.exR0 exMROps = [(exMP, [mGET, mPOST])] := by
      unfold C01.routerTable
      simp only [exMROps, C01.routerTableFrom, Spec.stepWith, P18.topOf, Tree.add_eq_F]
      decide +kernel
    rw [this]
    exact List.mem_singleton.2 rfl
  · rw [Router.run_eq_F]; decide +kernel

/-- The HEAD proviso of `C03_frame_remove_method` cannot be dropped: `HEAD /u` is served through GET's registration, so
after `Remove("/u", GET)` — HEAD itself is not in the list, and `/u` keeps POST — it is a 405 (`ok = false`). -/
example : okOf (exMT.handler exEnv exMP [] mHEAD) = some true ∧
    okOf ((exMT.step (.remove exMP [mGET])).handler exEnv exMP [] mHEAD) = some false ∧
    patOf ((exMT.step (.remove exMP [mGET])).handler exEnv exMP [] mHEAD) = some exMP := by
  rw [exMT_eq]; decide +kernel

end Mux.C03
