/-
  C02 — resolution follows the documented left-to-right kind priority: the parts that hold of every
  tree reachable by ANY history (B1 priority, index = scan, B2 shortest capture / no widening).

  * `StructInv` (`Mux/Proofs/Structure.lean`) is the structural invariant (I-sort, I-index, pattern
    and segment part of I-seg); `struct_reach` proves it for every reachable tree.
  * The parameter-tracking hypothesis `NamesOkL used n.children` (names along a chain differ from the
    live keys) is kept explicit: it holds on trees of well-formed histories (`C01.C01_namesOk`, C01c.lean).
  * `DistinctFirstBytes n` (literal children of `n` start with pairwise different bytes) is a
    HYPOTHESIS of `C02_index_is_scan`: it does not follow from reachability alone — see the
    counterexample at the end of this file.  It IS proved (`C02_distinct_first_bytes`) for trees
    reached by histories that register TIDY patterns only (`TidyPattern`: every piece of the pattern
    is brace-free text or one `{token}` followed by brace-free text — DESIGN §4.4 "literal text
    contains no braces"), and `C02_index_is_scan_tidy` has no such hypothesis.
-/
import Mux.Proofs.StructExamples
namespace Mux.C02
open Mux Mux.P8

/-! ## B1: children are kept in kind order -/

/-- In every tree reachable by a history, the children of every node are ordered by kind:
literal (rank 0) before interceptor (1) before regexp (2) before named (3). -/
theorem C02_sorted (t : Tree) (ht : t.Reach) (n : Node) (hn : n ∈ t.root.nodes) :
    n.children.Pairwise (fun a b => a.seg.kind.rank ≤ b.seg.kind.rank) :=
  ((All_iff_nodes _).1 _).1 (struct_reach ht).all n hn |>.sorted

/-- Positional form: an earlier child never has a later kind. -/
theorem C02_sorted_pos (t : Tree) (ht : t.Reach) (n : Node) (hn : n ∈ t.root.nodes) (i j : Nat) (a b : Node)
    (hij : i ≤ j) (ha : n.children[i]? = some a) (hb : n.children[j]? = some b) :
    a.seg.kind.rank ≤ b.seg.kind.rank :=
  RankSorted.getElem_le (C02_sorted t ht n hn) hij ha hb

/-- The children of a node are its literal children followed by children none of which is literal. -/
theorem C02_literals_first (t : Tree) (ht : t.Reach) (n : Node) (hn : n ∈ t.root.nodes) :
    ∃ lits others, n.children = lits ++ others ∧ (∀ c ∈ lits, c.seg.kind = .str) ∧ (∀ c ∈ others, c.seg.kind ≠ .str) :=
  RankSorted.split_lits (C02_sorted t ht n hn)

example : Kind.str.rank < Kind.icpt.rank ∧ Kind.icpt.rank < Kind.rx.rank ∧ Kind.rx.rank < Kind.named.rank := by decide

/-! ## B1: the first child that hits wins -/

/-- What trying one child means: its own segment matches the front of the path and its subtree hits
on the rest (with the capture recorded). -/
theorem C02_tryChild (env : Env) (ic : Interceptors) (c : Node) (path : Bytes) (ps : Params) (m : Node) (ps' : Params) :
    tryChild env ic c path ps = .hit m ps' ↔
      ∃ cap rest, c.seg.match env ic path = .yes cap rest ∧
        c.matchChildren env ic rest (c.seg.record cap ps) = .hit m ps' :=
  tryChild_hit_iff env ic c path ps m ps'

/-- General form of `C02_priority` (any tree satisfying the structural invariant). -/
theorem C02_priority_inv (env : Env) (ic : Interceptors) (t : Tree) (hs : StructInv t) (n : Node) (hn : n ∈ t.root.nodes)
    (hidx : n.indexes = []) (path : Bytes) (ps : Params) (used : List Bytes)
    (hN : NamesOkL used n.children) (hk : ∀ k ∈ ps.keys, k ∈ used) :
    (∀ m ps', n.matchChildren env ic path ps = .hit m ps' ↔
      (∃ (i : Nat) (c : Node), n.children[i]? = some c ∧ tryChild env ic c path ps = .hit m ps' ∧
          ∀ j < i, ∀ c' : Node, n.children[j]? = some c' → tryChild env ic c' path ps = .miss ps) ∨
      ((∀ c ∈ n.children, tryChild env ic c path ps = .miss ps) ∧ path = [] ∧ n.handlers ≠ [] ∧ m = n ∧ ps' = ps)) ∧
    (∀ ps', n.matchChildren env ic path ps = .miss ps' ↔
      ps' = ps ∧ (∀ c ∈ n.children, tryChild env ic c path ps = .miss ps) ∧ ¬ (path = [] ∧ n.handlers ≠ [])) :=
  first_hit_wins env ic (All_sub _ hs.all n hn) (fun h => absurd hidx h) hN hk

/-- **Priority** (B1). On a tree reachable by a history, for a node without first-byte index:
`matchChildren` returns the hit of the FIRST child — in list order, which is the kind order
literal < interceptor < regexp < named (`C02_sorted`) — whose own segment matches and whose subtree
hits, every earlier child having missed; when every child misses, the node itself is the result iff
the path is used up and the node has handlers; and it misses (parameters unchanged) exactly when
every child misses and the node itself does not end the path. -/
theorem C02_priority (env : Env) (ic : Interceptors) (t : Tree) (ht : t.Reach) (n : Node) (hn : n ∈ t.root.nodes)
    (hidx : n.indexes = []) (path : Bytes) (ps : Params) (used : List Bytes)
    (hN : NamesOkL used n.children) (hk : ∀ k ∈ ps.keys, k ∈ used) :
    (∀ m ps', n.matchChildren env ic path ps = .hit m ps' ↔
      (∃ (i : Nat) (c : Node), n.children[i]? = some c ∧ tryChild env ic c path ps = .hit m ps' ∧
          ∀ j < i, ∀ c' : Node, n.children[j]? = some c' → tryChild env ic c' path ps = .miss ps) ∨
      ((∀ c ∈ n.children, tryChild env ic c path ps = .miss ps) ∧ path = [] ∧ n.handlers ≠ [] ∧ m = n ∧ ps' = ps)) ∧
    (∀ ps', n.matchChildren env ic path ps = .miss ps' ↔
      ps' = ps ∧ (∀ c ∈ n.children, tryChild env ic c path ps = .miss ps) ∧ ¬ (path = [] ∧ n.handlers ≠ [])) :=
  C02_priority_inv env ic t (struct_reach ht) n hn hidx path ps used hN hk

/-! ## B1: the first-byte index is an optimisation of the linear scan -/

/-- General form of `C02_index_is_scan`. -/
theorem C02_index_is_scan_inv (env : Env) (ic : Interceptors) (t : Tree) (hs : StructInv t) (n : Node) (hn : n ∈ t.root.nodes)
    (hd : DistinctFirstBytes n) (path : Bytes) (ps : Params) (used : List Bytes)
    (hN : NamesOkL used n.children) (hk : ∀ k ∈ ps.keys, k ∈ used) :
    n.matchChildren env ic path ps =
      match n.children.foldl (stepMR env ic path) (.miss ps) with
      | .miss ps2 => if path.isEmpty ∧ n.handlers.length > 0 then .hit n ps2 else .miss ps2
      | r => r := by
  have hS := All_sub _ hs.all n hn
  rw [matchChildren_eq_scan_of env ic hS (fun _ => hd) trackNames ⟨used, hN, AllL_idxLit_of_SOk _ hS.tail, hk⟩,
    matchFrom_eq_foldl]
  unfold selfStep
  cases List.foldl (stepMR env ic path) (.miss ps) n.children <;> rfl

/-- **Index = scan.** On a reachable tree, for every node whose literal children start with
pairwise different bytes, `matchChildren` — index fast path included — returns exactly what the
linear scan over all children in list order returns (followed by the self-match). -/
theorem C02_index_is_scan (env : Env) (ic : Interceptors) (t : Tree) (ht : t.Reach) (n : Node) (hn : n ∈ t.root.nodes)
    (hd : DistinctFirstBytes n) (path : Bytes) (ps : Params) (used : List Bytes)
    (hN : NamesOkL used n.children) (hk : ∀ k ∈ ps.keys, k ∈ used) :
    n.matchChildren env ic path ps =
      match n.children.foldl (stepMR env ic path) (.miss ps) with
      | .miss ps2 => if path.isEmpty ∧ n.handlers.length > 0 then .hit n ps2 else .miss ps2
      | r => r :=
  C02_index_is_scan_inv env ic t (struct_reach ht) n hn hd path ps used hN hk

/-- The "first hit wins" reading of `C02_priority` for indexed nodes too, when their literal children start with
pairwise different bytes. -/
theorem C02_priority_indexed (env : Env) (ic : Interceptors) (t : Tree) (ht : t.Reach) (n : Node) (hn : n ∈ t.root.nodes)
    (hd : DistinctFirstBytes n) (path : Bytes) (ps : Params) (used : List Bytes)
    (hN : NamesOkL used n.children) (hk : ∀ k ∈ ps.keys, k ∈ used) :
    (∀ m ps', n.matchChildren env ic path ps = .hit m ps' ↔
      (∃ (i : Nat) (c : Node), n.children[i]? = some c ∧ tryChild env ic c path ps = .hit m ps' ∧
          ∀ j < i, ∀ c' : Node, n.children[j]? = some c' → tryChild env ic c' path ps = .miss ps) ∨
      ((∀ c ∈ n.children, tryChild env ic c path ps = .miss ps) ∧ path = [] ∧ n.handlers ≠ [] ∧ m = n ∧ ps' = ps)) ∧
    (∀ ps', n.matchChildren env ic path ps = .miss ps' ↔
      ps' = ps ∧ (∀ c ∈ n.children, tryChild env ic c path ps = .miss ps) ∧ ¬ (path = [] ∧ n.handlers ≠ [])) :=
  first_hit_wins env ic (All_sub _ (struct_reach ht).all n hn) (fun _ => hd) hN hk

/-- **Literal siblings start with distinct bytes** (second half of I-sort) in every node of a tree
reached by a history that registers tidy patterns only (any `remove`/`clean`/`use` in between). -/
theorem C02_distinct_first_bytes (t : Tree) (ht : ReachTidy t) (n : Node) (hn : n ∈ t.root.nodes) :
    n.children.Pairwise (fun a b => a.seg.kind = .str → b.seg.kind = .str → a.seg.value.head? ≠ b.seg.value.head?) :=
  distinct_of_reachTidy ht hn

/-- **Index = scan, tidy histories**: no hypothesis on the index or on first bytes is left. -/
theorem C02_index_is_scan_tidy (env : Env) (ic : Interceptors) (t : Tree) (ht : ReachTidy t) (n : Node) (hn : n ∈ t.root.nodes)
    (path : Bytes) (ps : Params) (used : List Bytes)
    (hN : NamesOkL used n.children) (hk : ∀ k ∈ ps.keys, k ∈ used) :
    n.matchChildren env ic path ps =
      match n.children.foldl (stepMR env ic path) (.miss ps) with
      | .miss ps2 => if path.isEmpty ∧ n.handlers.length > 0 then .hit n ps2 else .miss ps2
      | r => r :=
  C02_index_is_scan env ic t ht.reach n hn (distinct_of_reachTidy ht hn) path ps used hN hk

/-- **Priority, tidy histories**: for EVERY node (indexed or not) the first child, in kind order,
whose subtree hits wins; a miss iff no child hits and the node itself does not end the path. -/
theorem C02_priority_tidy (env : Env) (ic : Interceptors) (t : Tree) (ht : ReachTidy t) (n : Node) (hn : n ∈ t.root.nodes)
    (path : Bytes) (ps : Params) (used : List Bytes)
    (hN : NamesOkL used n.children) (hk : ∀ k ∈ ps.keys, k ∈ used) :
    (∀ m ps', n.matchChildren env ic path ps = .hit m ps' ↔
      (∃ (i : Nat) (c : Node), n.children[i]? = some c ∧ tryChild env ic c path ps = .hit m ps' ∧
          ∀ j < i, ∀ c' : Node, n.children[j]? = some c' → tryChild env ic c' path ps = .miss ps) ∨
      ((∀ c ∈ n.children, tryChild env ic c path ps = .miss ps) ∧ path = [] ∧ n.handlers ≠ [] ∧ m = n ∧ ps' = ps)) ∧
    (∀ ps', n.matchChildren env ic path ps = .miss ps' ↔
      ps' = ps ∧ (∀ c ∈ n.children, tryChild env ic c path ps = .miss ps) ∧ ¬ (path = [] ∧ n.handlers ≠ [])) :=
  C02_priority_indexed env ic t ht.reach n hn (distinct_of_reachTidy ht hn) path ps used hN hk

/-- The index of a node of a reachable tree is exactly what `buildIndexes` computes from its current
children: no index below `indexesSize` children; otherwise every entry points to a literal child
starting with that byte, and every literal child's first byte has an entry. -/
theorem C02_index_exact (t : Tree) (ht : t.Reach) (n : Node) (hn : n ∈ t.root.nodes) :
    (n.children.length < indexesSize ∧ n.indexes = []) ∨
    (indexesSize ≤ n.children.length ∧
      (∀ e ∈ n.indexes, ∃ c, n.children[e.2]? = some c ∧ c.seg.kind = .str ∧ c.seg.value.head? = some e.1) ∧
      (∀ c ∈ n.children, c.seg.kind = .str → ∃ b, c.seg.value.head? = some b ∧ b ∈ n.indexes.map (·.1))) :=
  IndexExact.spec (((All_iff_nodes _).1 _).1 (struct_reach ht).all n hn).indexExact

/-! ## B2: shortest capture, no widening -/

/-- **Shortest capture.** A named or interceptor parameter that is followed by literal text (its
suffix) captures `cap` iff the path is `cap ++ suffix ++ rest`, the constraint accepts `cap`, and at
no earlier position of the path does the suffix occur with the constraint accepting the text before
it. -/
theorem C02_shortest (env : Env) (ic : Interceptors) (s : Seg) (path cap rest : Bytes)
    (hk : s.kind = .icpt ∨ s.kind = .named) (he : s.endpoint = false) :
    s.match env ic path = .yes cap rest ↔
      path = cap ++ s.suffix ++ rest ∧ s.accepts env ic cap = true ∧
        ∀ i, i < cap.length → ¬ (s.suffix <+: path.drop i ∧ s.accepts env ic (path.take i) = true) :=
  Seg.match_scan_yes_iff env ic s path cap rest hk he

/-- The same with proper prefixes of the capture: none of them is an admissible capture. -/
theorem C02_shortest_prefix (env : Env) (ic : Interceptors) (s : Seg) (path cap rest : Bytes)
    (hk : s.kind = .icpt ∨ s.kind = .named) (he : s.endpoint = false) (h : s.match env ic path = .yes cap rest) :
    ∀ pre', pre' <+: cap → pre' ≠ cap →
      ¬ (s.suffix <+: path.drop pre'.length ∧ s.accepts env ic pre' = true) := by
  obtain ⟨hp, _, hmin⟩ := (Seg.match_scan_yes_iff env ic s path cap rest hk he).1 h
  rintro pre' ⟨t, rfl⟩ hne
  have hlt : pre'.length < (pre' ++ t).length := by
    cases t with
    | nil => simp at hne
    | cons c t => simp
  have := hmin pre'.length hlt
  rw [hp] at this ⊢
  simpa [List.append_assoc, List.take_left'] using this

/-- A parameter that ends the pattern takes the whole rest of the path (if its constraint accepts). -/
theorem C02_shortest_endpoint (env : Env) (ic : Interceptors) (s : Seg) (path : Bytes)
    (hk : s.kind = .icpt ∨ s.kind = .named) (he : s.endpoint = true) :
    s.match env ic path = if s.accepts env ic path then .yes path [] else .no :=
  Seg.match_endpoint_eq env ic s path hk he

/-- A named parameter (no constraint) captures up to the FIRST occurrence of its suffix. -/
theorem C02_named_first_occurrence (env : Env) (ic : Interceptors) (s : Seg) (path cap rest : Bytes)
    (hk : s.kind = .named) (he : s.endpoint = false) (h : s.match env ic path = .yes cap rest) :
    path = cap ++ s.suffix ++ rest ∧ ∀ i, i < cap.length → ¬ s.suffix <+: path.drop i :=
  Seg.match_named_first_occurrence env ic s path cap rest hk he h

/-- **No widening.** When a child's own segment matched with capture `cap` and the child's subtree
missed, the search goes on with the NEXT sibling (the parameter of the child's name put back to what it was before the
child was tried, `restoreParam`, D30 repair); the child is not tried again with a longer capture. -/
theorem C02_no_widening (env : Env) (ic : Interceptors) (c : Node) (cs : List Node) (path : Bytes) (ps : Params)
    (cap rest : Bytes) (ps2 : Params) (hm : c.seg.match env ic path = .yes cap rest)
    (hsub : c.matchChildren env ic rest (c.seg.record cap ps) = .miss ps2) :
    matchFrom env ic (c :: cs) 0 path ps = matchFrom env ic cs 0 path (restoreParam ps ps2 c.seg.name) := by
  rw [matchFrom_zero, tryChild_eq, hm]
  simp only
  rw [hsub]
  rfl

/-- The loop is a left fold of "try this child" (`stepMR`) over the children, a result other than a miss
being final: no child is tried a second time in one visit. -/
theorem C02_once (env : Env) (ic : Interceptors) (cs : List Node) (path : Bytes) (ps : Params) :
    matchFrom env ic cs 0 path ps = cs.foldl (stepMR env ic path) (.miss ps) :=
  matchFrom_eq_foldl env ic cs path ps

/-! ## Non-vacuity -/

/-- A tree REACHED by a history (`Handle("/{id}", h, GET)`) with the hypotheses of `C02_priority`. -/
example : exR.Reach ∧ exR.root ∈ exR.root.nodes ∧ exR.root.indexes = [] ∧ NamesOkL [] exR.root.children :=
  ⟨exR_reach, by rw [Node.nodes_eq]; exact List.mem_cons_self, by rw [exR_eq]; decide, exR_names⟩

/-- The same tree is reached by a tidy history (`/{id}` has the pieces `/` and `{id}`). -/
example : ReachTidy exR ∧ NamesOkL [] exR.root.children := ⟨exR_reachTidy, exR_names⟩

/-- It has the shape `"" → "/" → "{id}"`, the leaf carrying the pattern `/{id}` and the handlers. -/
example : exR.root.children.map (fun c => (c.seg.value, c.children.map (fun d => (d.seg.value, d.pattern, d.handlers.keys)))) =
    [([47], [([123, 105, 100, 125], exPat, [mHEAD, mGET, mOPTIONS, mNotAllowed])])] := exR_shape

/-- The hypotheses of `C02_index_is_scan_inv` on a node with five literal children (index in use)
and a named sibling: `/a /b /c /d /e /{id}`. -/
example : StructInv exS ∧ exSlashS ∈ exS.root.nodes ∧ DistinctFirstBytes exSlashS ∧ exSlashS.indexes ≠ [] ∧
    NamesOkL [] exSlashS.children :=
  ⟨exS_struct, exSlashS_mem, exS_distinct _ exSlashS_mem, by decide, by decide⟩

def isHit : MR → Option Bytes
  | .hit m _ => some m.pattern
  | _ => none

def envAll : Env := { icpt := fun _ _ => true }

/-- On that node `e` is found through the index and `x` falls through to `{id}`. -/
example : isHit (exSlashS.matchChildren envAll [] [101] []) = some [47, 101] ∧
    isHit (exSlashS.matchChildren envAll [] [120] []) = some exPat := by decide +kernel

/-- Hypotheses of `C02_shortest`: `{n}-` on `a-b-c` captures `a`. -/
example : ({ value := [123, 110, 125, 45], kind := .named, name := [110], suffix := [45] } : Seg).match envAll []
    [97, 45, 98, 45, 99] = .yes [97] [98, 45, 99] := by rfl

/-! ## Why `DistinctFirstBytes` is a hypothesis

A literal piece may begin with a brace (`{abc`: no closing brace, so `newSegment` makes it a string
segment).  `longestPrefix` refuses to cut right after an opening brace, so `Handle("{abc")`,
`Handle("{abd")` produce two literal siblings with the same first byte (`cexRoot` below has the
children and the index that `Tree.run` gives on the history `{abc, {abd, x, y, z`).  With five children the index maps `{` to the LATER sibling only and the loop starts after
the four indexed positions: `{abc` is not found although the linear scan finds it. -/

def cexLit (v : Bytes) : Node := .mk { value := v } v 1 [([71, 69, 84], { base := .user 1 })] [] []
def cexRoot : Node :=
  .mk { value := [] } [] 0 [] [(123, 1), (120, 2), (121, 3), (122, 4)]
    [cexLit [123, 97, 98, 99], cexLit [123, 97, 98, 100], cexLit [120], cexLit [121], cexLit [122]]

/-- The node satisfies the structural invariant (its index IS `buildIndexes` of its children) … -/
example : Node.All (SOk []) cexRoot := by
  simp only [cexRoot, cexLit, Node.All, AllL, and_true]
  decide +kernel
/-- … but not `DistinctFirstBytes`, and the index fast path loses the route `{abc`. -/
example : ¬ DistinctFirstBytes cexRoot := by decide +kernel
example : isHit (cexRoot.matchChildren envAll [] [123, 97, 98, 99] []) = none ∧
    isHit (selfStep cexRoot [123, 97, 98, 99] (matchFrom envAll [] cexRoot.children 0 [123, 97, 98, 99] [])) =
      some [123, 97, 98, 99] := by decide +kernel

end Mux.C02
