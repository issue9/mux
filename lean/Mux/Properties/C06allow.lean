/-
  C06 (the `Allow` header of a 405/OPTIONS response) — clause "every response is one the router could
  have produced sequentially at some instant between the request's start and end", read honestly.

  In Go a request that ends in the 405 (or automatic OPTIONS) handler is TWO critical sections of the
  router's RW lock: `Tree.Handler` (the tree walk that picks node and handler), and later — from inside
  the handler — `node.AllowHeader()` → `node.methodIndexEntity` (regenerated lock shape
  `[acqR, read node.methodIndex]`, one of `Ties.lockedApi`).  A writer may run in between.

  This file extends the system `Conc.treeSys` by that second reader (`AOp.allow`, in a system of its own,
  `treeSysA`), models the request as the one-thread program
  `[Handler(path, method), Allow(pattern)]`, and proves

  * `C06_allow_two_point` — the TWO-point statement that is true for every schedule: handler and
    parameters are those of ONE sequential state `l₁`, the `Allow` text that of ONE sequential state
    `l₂`, with `start ≤ l₁ ≤ l₂ ≤ end` inside the request's window;
  * `C06_allow_one_state` — sequentially (any single state of any well-formed history) a 405 answer of
    a node other than the `*` root never lists the refused method in that node's `Allow` text;
  * `C06_allow_one_point_false` — a kernel-checked schedule in which the request `PUT /a` is answered
    `405` with `Allow: GET, HEAD, OPTIONS, PUT`: by the previous item NO single sequential state
    produces this response, so the one-point reading of the clause is false for the `Allow` header.
-/
import Mux.Proofs.Conc
import Mux.Proofs.RWLockAtomic
import Mux.Properties.C04
import Mux.Proofs.ConcProg
import Mux.Proofs.UrlTree
import Mux.Proofs.DecEq
import Mux.Proofs.RunFuel
namespace Mux.C06
open Mux Mux.RWLock Mux.Conc Mux.P14

/-! ## The system with the second critical section -/

/-- The calls of `Conc.Op`, plus `node.AllowHeader()` for the node registered under `pattern` (the Go
handler holds a pointer to the node the tree walk found; the model addresses it by its pattern, which
identifies a node of the tree — `P11.node_unique`). -/
inductive AOp where
  | base (op : Op)
  | allow (pattern : Bytes)

inductive AResp where
  | base (r : Resp)
  /-- `none`: no node with this pattern is in the tree any more -/
  | allow (text : Option Bytes)

/-- `AllowHeader()` of the node with this pattern in the current tree. -/
def allowOf (t : Tree) (pattern : Bytes) : Option Bytes :=
  ((t.root.findPath pattern).bind t.root.getAt).map Node.allow

def AOp.isWriter : AOp → Bool
  | .base op => op.isWriter
  | .allow _ => false

def AOp.api : AOp → String
  | .base op => op.api
  | .allow _ => "node.methodIndexEntity"

def asem (env : Env) : AOp → Tree → Tree × AResp
  | .base op, t => ((sem env op t).1, .base (sem env op t).2)
  | .allow p, t => (t, .allow (allowOf t p))

def AOp.toTOp? : AOp → Option TOp
  | .base op => op.toTOp?
  | .allow _ => none

theorem allow_accs_facts : ∀ a ∈ accsOf "node.methodIndexEntity", a.2 = false := by decide +kernel

/-- The locked helper is one read-mode critical section (regenerated fact), and it is one of the
methods whose discipline `C06_discipline` checks. -/
theorem C06_allow_mode_tie : (Ties.shapeOf "node.methodIndexEntity").bind Ties.firstAcq = some false ∧
    "node.methodIndexEntity" ∈ Ties.lockedApi :=
  ⟨by decide +kernel, .tail _ (.tail _ (.tail _ (.tail _ (.tail _ (.tail _ (.head _))))))⟩

@[reducible] def treeSysA (env : Env) : Sys where
  σ := Tree
  Op := AOp
  Resp := AResp
  Loc := String
  mode := AOp.isWriter
  sem := asem env
  accs := fun op => accsOf op.api
  reader_pure := by
    intro op s h
    cases op with
    | base op => exact (treeSys env).reader_pure op s h
    | allow p => rfl
  reader_accs := by
    intro op h
    cases op with
    | base op => exact (treeSys env).reader_accs op h
    | allow p => exact allow_accs_facts

theorem runA_eq (env : Env) (t : Tree) (ops : List AOp) :
    run (treeSysA env) t ops = t.run (ops.filterMap AOp.toTOp?) :=
  List.foldl_filterMap_of_step id (fun _ op => by
    cases op with
    | base op => cases op <;> rfl
    | allow p => rfl) ops t

/-! ## The two-point theorem -/

/-- **C06 for the `Allow` header: two linearization points.**  On a tree used under `WithLock(true)` by
any number of goroutines running any programs (writers included), under any schedule: let thread `i`
be a request, i.e. its program is `[Handler(path, [], method), Allow(pat)]`, and let both calls have
completed (records `A`, `B`).  Then there are indices `l₁ ≤ l₂` into the writer order `c.wlog` with
`A.start ≤ l₁` (`A.start` = number of writer effects when the request started) and `l₂ ≤ B.fin ≤ |wlog|`
(`B.fin` = number of writer effects when the request ended), such that

* the handler answer (node, handler, `ok`, parameters) is `Tree.handler` of the sequentially reachable
  tree after the first `l₁` writers, and
* the `Allow` text is that of the sequentially reachable tree after the first `l₂` writers.

No hypothesis beyond reachability.  That `l₁ = l₂` can NOT be had is `C06_allow_one_point_false`. -/
theorem C06_allow_two_point (env : Env) (t0 : Tree) (progs : Nat → List AOp) (c : Config (treeSysA env))
    (h : Reachable (S := treeSysA env) t0 progs c) (i : Nat) (path method pat : Bytes)
    (hp : progs i = [.base (.handler path [] method), .allow pat])
    (A B : RWLock.Rec (treeSysA env)) (hA : A ∈ c.done) (hB : B ∈ c.done) (hAi : A.tid = i) (hBi : B.tid = i)
    (hAo : A.call.op = .base (.handler path [] method)) (hBo : B.call.op = .allow pat) :
    ∃ l1 l2, A.call.start ≤ l1 ∧ l1 ≤ l2 ∧ l2 ≤ B.fin ∧ B.fin ≤ c.wlog.length ∧
      A.resp = .base (.handler ((t0.run ((c.wlog.take l1).filterMap AOp.toTOp?)).handler env path [] method)) ∧
      B.resp = .allow (allowOf (t0.run ((c.wlog.take l2).filterMap AOp.toTOp?)) pat) := by
  have hI := atomic_reachable h
  have hord := two_ops_ordered h hp (by simp) hA hB hAi hBi hAo hBo
  have hrt := (hI.realtime hA hB hord).1
  have ha := hI.recs A hA
  have hb := hI.recs B hB
  refine ⟨A.lin, B.lin, ha.start_le, hrt, hb.lin_le, hb.fin_le, ?_, ?_⟩
  · rw [ha.resp_eq, runA_eq, hAo]; rfl
  · rw [hb.resp_eq, runA_eq, hBo]; rfl

/-! ## One sequential state never lists the refused method -/

/-- **Sequentially.**  In the tree of any history with well-formed registered patterns: if the request
`(path, method)` is refused (`ok = false`) with the node `q` and `q` is not the root (the node of `*`,
whose `Allow` lists the methods of ALL routes), then the `Allow` text of `q` in the SAME tree is the
`", "`-join of `q.Methods()`, and `method` is not among them. -/
theorem C06_allow_one_state (t : Tree) (hr : ReachAll t) (env : Env) (path method : Bytes) (f : Found) (q : Node)
    (hres : t.handler env path [] method = .res f) (hok : f.ok = false) (hq : f.node = some q)
    (hroot : q.pattern ≠ []) :
    allowOf t q.pattern = some (joinWith [44, 32] q.methods) ∧ method ∉ q.methods := by
  have hspec := handler_foundSpec hr.inv.treeInv hres
  obtain ⟨_, hne, hnone, _⟩ := hspec.of_refused hok hq
  have hbelow := (hspec.entry_below hq fun e => hroot (e ▸ hr.inv.rootPat)).1
  refine ⟨?_, fun hm => ?_⟩
  · obtain ⟨p, hf, hget⟩ := (P11.findPath_iff (P13.reach_tinv hr.reachWf)).2 ⟨hbelow, rfl⟩
    show allowOf t q.pattern = some q.allow
    simp [allowOf, hf, hget]
  rcases ((C04.C04_node_inv hr.inv.treeInv hbelow hne).2.2.2.1 method).1 hm with ⟨hk, hna⟩ | ⟨ht, hmt⟩
  · exact hnone.elim hna fun h => (AMap.get?_eq_none_iff _ _).1 h hk
  · rcases Tree.handler_not_ok hres hok with h0 | h0
    · simp [Tree.hasTrace, h0] at ht
    · exact h0 hmt

/-! ## The one-point reading is false -/

/-- `/a` -/
def exA : Bytes := [47, 97]
/-- `GET, HEAD, OPTIONS, PUT` -/
def exAllowText : Bytes := [71, 69, 84, 44, 32, 72, 69, 65, 68, 44, 32, 79, 80, 84, 73, 79, 78, 83, 44, 32, 80, 85, 84]
/-- Set-up: `GET /a`. -/
def exTa : Tree := exT0.run [.add exA { base := .user 1 } [] [mGET]]
/-- Thread 0 is the request `PUT /a` (tree walk, then the `Allow` header of the node found); thread 1
registers `PUT /a`. -/
def exProgsA : Nat → List AOp := fun i =>
  if i = 0 then [.base (.handler exA [] mPUT), .allow exA]
  else if i = 1 then [.base (.add exA { base := .user 3 } [] [mPUT])] else []

theorem exTa_reach : ReachAll exTa := ⟨_, _, _, _, _, _, _, by decide, rfl⟩

/-- The history is evaluated once: the four views of the answer to `PUT /a`, and the `Allow` text after the
registration. -/
private theorem exTa_eval :
    (patOf (exTa.handler exEnv exA [] mPUT) = some exA ∧
      handlerOf (exTa.handler exEnv exA [] mPUT) = some { base := .notAllowed, wraps := [] } ∧
      okOf (exTa.handler exEnv exA [] mPUT) = some false ∧ paramsOf (exTa.handler exEnv exA [] mPUT) = some []) ∧
    allowOf (exTa.step (.add exA { base := .user 3 } [] [mPUT])) exA = some exAllowText := by
  rw [exTa, Tree.run_eq_F, Tree.step_eq_F]
  decide +kernel

/-- Before the registration, `PUT /a` is refused by the node of `/a`. -/
theorem exTa_refused : ∃ f q, exTa.handler exEnv exA [] mPUT = .res f ∧ f.node = some q ∧ q.pattern = exA ∧
    f.handler = { base := .notAllowed, wraps := [] } ∧ f.ok = false ∧ f.params = [] :=
  view_spec exTa_eval.1

/-- After it, the `Allow` text of that node lists PUT. -/
theorem exTa_allow_after :
    allowOf (exTa.step (.add exA { base := .user 3 } [] [mPUT])) exA = some exAllowText :=
  exTa_eval.2

/-- Non-vacuity of `C06_allow_one_state`: its hypotheses hold of the reached tree `exTa` (`GET /a`) and the
request `PUT /a`, which is refused by the node of `/a`; so that node's `Allow` text does not list PUT. -/
example : ∃ f q, exTa.handler exEnv exA [] mPUT = .res f ∧ f.ok = false ∧ f.node = some q ∧ q.pattern ≠ [] ∧
    allowOf exTa q.pattern = some (joinWith [44, 32] q.methods) ∧ mPUT ∉ q.methods := by
  obtain ⟨f, q, hres, hq, hp, _, hok, _⟩ := exTa_refused
  have hne : q.pattern ≠ [] := by rw [hp]; decide
  exact ⟨f, q, hres, hok, hq, hne, C06_allow_one_state exTa exTa_reach exEnv exA mPUT f q hres hok hq hne⟩

theorem mem_joinWith (sep : Bytes) (b : UInt8) : ∀ ms : List Bytes, b ∈ joinWith sep ms → b ∈ sep ∨ ∃ m ∈ ms, b ∈ m
  | [], h => by simp [joinWith] at h
  | [x], h => .inr ⟨x, by simp, by simpa [joinWith] using h⟩
  | x :: y :: ms, h => by
    simp only [joinWith, List.mem_append] at h
    rcases h with (h | h) | h
    · exact .inr ⟨x, by simp, h⟩
    · exact .inl h
    · rcases mem_joinWith sep b (y :: ms) h with h | ⟨m, hm, hb⟩
      · exact .inl h
      · exact .inr ⟨m, List.mem_cons_of_mem _ hm, hb⟩

/-- A rendering of `Methods()` whose `", "`-join is `GET, HEAD, OPTIONS, PUT` contains PUT (the text has
a `U`, and PUT is the only method name with a `U`). -/
theorem lists_put (i : Nat) (h : joinWith [44, 32] (renderMethods i) = exAllowText) : mPUT ∈ renderMethods i := by
  have hb : (85 : UInt8) ∈ joinWith [44, 32] (renderMethods i) := by rw [h]; decide +kernel
  rcases mem_joinWith _ _ _ hb with h | ⟨m, hm, hbm⟩
  · exact absurd h (by decide +kernel)
  · have hmt := (C04.C04_render_all i).2.2.1 m hm
    have : ∀ m ∈ methodsTable, (85 : UInt8) ∈ m → m = mPUT := by decide +kernel
    exact this m hmt hbm ▸ hm

/-- **The one-point reading of the clause is false for the `Allow` header.**  A schedule of the
two-thread program `exProgsA` on the router with `GET /a` — the tree walk of the request `PUT /a`, then
the whole `Handle(PUT /a)` of the other goroutine, then the `AllowHeader()` call of the request — in
which the request is answered

    405 (the `""` entry of the node of `/a`, `ok = false`)  with  `Allow: GET, HEAD, OPTIONS, PUT`,

while in NO tree of ANY history with well-formed registered patterns (so in no sequential state
whatsoever, inside or outside the request's window) a `PUT /a` refused by the node of `/a` has an
`Allow` text that lists PUT (`C06_allow_one_state`).  The two-point theorem applies to this run with
`l₁ = 0 < l₂ = 1`. -/
theorem C06_allow_one_point_false :
    ∃ (c : Config (treeSysA exEnv)) (A B : RWLock.Rec (treeSysA exEnv)) (f : Found) (q : Node),
      Reachable (S := treeSysA exEnv) exTa exProgsA c ∧ A ∈ c.done ∧ B ∈ c.done ∧ A.tid = 0 ∧ B.tid = 0 ∧
      A.call.op = .base (.handler exA [] mPUT) ∧ B.call.op = .allow exA ∧ A.lin = 0 ∧ B.lin = 1 ∧
      A.resp = .base (.handler (.res f)) ∧ f.ok = false ∧ f.node = some q ∧ q.pattern = exA ∧
      B.resp = .allow (some exAllowText) ∧
      ∀ t, ReachAll t → ∀ f' q', t.handler exEnv exA [] mPUT = .res f' → f'.ok = false → f'.node = some q' →
        q'.pattern = exA → allowOf t exA ≠ some exAllowText := by
  obtain ⟨f, q, hres, hq, hp, _, hok, _⟩ := exTa_refused
  have h0 : Reachable (S := treeSysA exEnv) exTa exProgsA (Config.init _ exProgsA) := .init
  have h1 := solo h0 (i := 0) (op := AOp.base (.handler exA [] mPUT)) (rest := [.allow exA]) rfl rfl
  have h2 := solo h1 (i := 1) (op := AOp.base (.add exA { base := .user 3 } [] [mPUT])) (rest := []) rfl rfl
  have h3 := solo h2 (i := 0) (op := AOp.allow exA) (rest := []) rfl rfl
  refine ⟨_, _, _, f, q, h3, .head _, .tail _ (.tail _ (.head _)), rfl, rfl, rfl, rfl, rfl, rfl,
    congrArg (fun r => AResp.base (Resp.handler r)) hres, hok, hq, hp, congrArg AResp.allow exTa_allow_after, ?_⟩
  intro t hr f' q' hres' hok' hq' hp' hall
  have hne : q'.pattern ≠ [] := by rw [hp']; decide
  obtain ⟨e1, e2⟩ := C06_allow_one_state t hr exEnv exA mPUT f' q' hres' hok' hq' hne
  rw [hp', hall] at e1
  injection e1 with e1
  exact e2 (lists_put _ e1.symm)

/-- Non-vacuity of `C06_allow_two_point`: it applies to that run, and there `l₁ < l₂` is forced. -/
example : ∃ (c : Config (treeSysA exEnv)) (A B : RWLock.Rec (treeSysA exEnv)),
    Reachable (S := treeSysA exEnv) exTa exProgsA c ∧ A ∈ c.done ∧ B ∈ c.done ∧ A.tid = 0 ∧ B.tid = 0 ∧
    A.call.op = .base (.handler exA [] mPUT) ∧ B.call.op = .allow exA ∧ exProgsA 0 = [.base (.handler exA [] mPUT), .allow exA] ∧
    A.lin < B.lin := by
  obtain ⟨c, A, B, _, _, h, hA, hB, a1, b1, a2, b2, a5, b5, _⟩ := C06_allow_one_point_false
  exact ⟨c, A, B, h, hA, hB, a1, b1, a2, b2, rfl, by omega⟩

end Mux.C06
