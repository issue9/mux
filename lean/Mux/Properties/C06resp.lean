/-
  C06 (responses) — what a caller of a `WithLock(true)` router can observe, for ANY number of
  goroutines and ANY schedule (the RW-lock system `Conc.treeSys` of `Mux/Proofs/Conc.lean`).

  * `C06_resp_no_fault` — clause "without runtime faults": no completed `Handler` call (the tree
    walk of `ServeHTTP`) and no completed strict `URL` call answers with a fault; and no completed
    `Handle`/`Remove`/`Clean` call faults when the patterns the programs REGISTER are well-formed.
    It composes `C06_no_fault` (every response is the sequential answer in a sequentially reachable
    tree) with the sequential theorems of C05.

  * `C06_untouched_partial` — clause "routes that are never touched keep being served with their own
    handler and parameters": a request answered by the node of pattern `q` before the concurrent
    phase gets the SAME answer (`C03.SameAnswer`: handler, `ok`, parameters, node pattern, handler
    map) from every completed `Handler` call, whatever the schedule, provided no thread's program
    touches `q`.  PARTIAL: `Op.touches` counts EVERY `Handle` as touching (see there).
-/
import Mux.Properties.C06
import Mux.Properties.C05handle
import Mux.Properties.C05serve
import Mux.Properties.C03frame
import Mux.Proofs.UrlTree
namespace Mux.C06
open Mux Mux.RWLock Mux.Conc Mux.P14

/-! ## No completed call answers with a fault -/

/-- The patterns the programs register pass the executable brace check `WfPattern` (balanced,
non-nested `{…}`); the arguments of `Remove`, `Clean`, `Handler`, `URL` are arbitrary. -/
def ProgsWf (progs : Nat → List Op) : Prop :=
  ∀ i, ∀ op ∈ progs i, ∀ t, op.toTOp? = some t → t.wf = true

/-- Every state of the linearization order is the tree of a history whose registered patterns are
well-formed, when the initial tree is one and the programs register well-formed patterns only. -/
theorem reachAll_prefix (env : Env) (t0 : Tree) (h0 : ReachAll t0) (progs : Nat → List Op) (hw : ProgsWf progs)
    (c : Config (treeSys env)) (h : Reachable (S := treeSys env) t0 progs c) (k : Nat) :
    ReachAll (t0.run ((c.wlog.take k).filterMap Op.toTOp?)) := by
  refine h0.run fun w hwm => ?_
  obtain ⟨op, hop, hw'⟩ := List.mem_filterMap.1 hwm
  obtain ⟨j, hj⟩ := wlog_subset h op (List.mem_of_mem_take hop)
  exact hw j op hj w hw'

/-- Core form, for any initial tree: readers need `TreeInv t0` only, writers `ReachAll t0` and
well-formed registered patterns. -/
theorem resp_no_fault (env : Env) (t0 : Tree) (progs : Nat → List Op) (c : Config (treeSys env))
    (h : Reachable (S := treeSys env) t0 progs c) (r : RWLock.Rec (treeSys env)) (hr : r ∈ c.done) :
    (TreeInv t0 → ∀ s, r.resp ≠ Resp.handler (.fault s)) ∧
    (∀ k, r.resp ≠ Resp.url (.error (.fault k))) ∧
    (ReachAll t0 → ProgsWf progs → ∀ k, r.resp ≠ Resp.wrote (some (.fault k))) := by
  have hreach := fun h0 hw => (reachAll_prefix env t0 h0 progs hw c h r.lin).reachWf
  rw [(C06_no_fault env t0 progs c h).2.2 r hr]
  cases r.call.op with
  | add p hd ms methods =>
    exact ⟨fun _ _ hs => Resp.noConfusion hs, fun _ hs => Resp.noConfusion hs, fun h0 hw k hs =>
      C05.C05_handle_no_fault _ (hreach h0 hw) p hd ms methods k (errOf_eq_some (Resp.wrote.inj hs))⟩
  | remove p methods =>
    exact ⟨fun _ _ hs => Resp.noConfusion hs, fun _ hs => Resp.noConfusion hs, fun h0 hw k hs =>
      C05.C05_remove_reach _ (hreach h0 hw) p methods k (errOf_eq_some (Resp.wrote.inj hs))⟩
  | clean pre =>
    exact ⟨fun _ _ hs => Resp.noConfusion hs, fun _ hs => Resp.noConfusion hs, fun h0 hw k hs =>
      C05.C05_clean_reach _ (hreach h0 hw) pre k (errOf_eq_some (Resp.wrote.inj hs))⟩
  | handler path ps method =>
    exact ⟨fun hinv s hs => C05.C05_serve_inv (C05.C05_inv_run hinv _) env path ps method s (Resp.handler.inj hs),
      fun _ hs => Resp.noConfusion hs, fun _ _ _ hs => Resp.noConfusion hs⟩
  | routes => exact ⟨fun _ _ hs => Resp.noConfusion hs, fun _ hs => Resp.noConfusion hs, fun _ _ _ hs => Resp.noConfusion hs⟩
  | url pattern ps =>
    exact ⟨fun _ _ hs => Resp.noConfusion hs, fun _ hs => (nomatch P13.Tree.url_errors env _ pattern ps _ (Resp.url.inj hs)),
      fun _ _ _ hs => Resp.noConfusion hs⟩

/-- **C06, clause "without runtime faults".**  On a tree made by `tree.New` and used under
`WithLock(true)` by any number of goroutines running any programs of Add/Remove/Clean/Handler/Routes/URL
calls, under any schedule, for every COMPLETED call `r`:

1. its response is not a faulting `Handler` answer (no hypothesis at all);
2. its response is not a faulting strict-`URL` answer (no hypothesis at all);
3. if the patterns REGISTERED by the programs are well-formed (`ProgsWf`; patterns given to
   Remove/Clean and all request paths are arbitrary), its response is not a faulting writer answer:
   `Handle` registers or answers an error value, `Remove` and `Clean` succeed.

(`Routes` has no fault site.)  Hypothesis 3 is the hypothesis of the sequential theorems
`C05_handle_no_fault`/`C05_remove_reach`/`C05_clean_reach` (`ReachWf`), here discharged for every
state of the linearization order from a condition on the PROGRAMS (`reachAll_prefix`). -/
theorem C06_resp_no_fault (env : Env) (name : Bytes) (ic : Interceptors) (nf : Handler) (tr : Option Handler)
    (progs : Nat → List Op) (c : Config (treeSys env))
    (h : Reachable (S := treeSys env) (Tree.new name ic nf tr) progs c)
    (r : RWLock.Rec (treeSys env)) (hr : r ∈ c.done) :
    (∀ s, r.resp ≠ Resp.handler (.fault s)) ∧
    (∀ k, r.resp ≠ Resp.url (.error (.fault k))) ∧
    ((∀ i, ∀ op ∈ progs i, ∀ t, op.toTOp? = some t → t.wf = true) → ∀ k, r.resp ≠ Resp.wrote (some (.fault k))) := by
  have := resp_no_fault env _ progs c h r hr
  exact ⟨this.1 (C05.C05_inv_new name ic nf tr), this.2.1, this.2.2 (ReachAll.new name ic nf tr _ _)⟩

/-- The same after a sequential set-up phase `pre` (well-formed registered patterns). -/
theorem C06_resp_no_fault_pre (env : Env) (name : Bytes) (ic : Interceptors) (nf : Handler) (tr : Option Handler)
    (pre : List TOp) (hpre : ∀ op ∈ pre, op.wf = true)
    (progs : Nat → List Op) (c : Config (treeSys env))
    (h : Reachable (S := treeSys env) ((Tree.new name ic nf tr).run pre) progs c)
    (r : RWLock.Rec (treeSys env)) (hr : r ∈ c.done) :
    (∀ s, r.resp ≠ Resp.handler (.fault s)) ∧
    (∀ k, r.resp ≠ Resp.url (.error (.fault k))) ∧
    (ProgsWf progs → ∀ k, r.resp ≠ Resp.wrote (some (.fault k))) := by
  have := resp_no_fault env _ progs c h r hr
  have h0 : ReachAll ((Tree.new name ic nf tr).run pre) := (ReachAll.new name ic nf tr _ _).run hpre
  exact ⟨this.1 h0.inv.treeInv, this.2.1, this.2.2 h0⟩

/-! ### Non-vacuity of `C06_resp_no_fault` -/

/-- Thread 0 registers `GET /u/{id}` (well-formed), thread 1 serves `GET /u/5`. -/
def exProgs : Nat → List Op := fun i =>
  if i = 0 then [Op.add exUid { base := .user 2 } [] [mGET]] else if i = 1 then [Op.handler exReq [] mGET] else []

example : ProgsWf exProgs := by
  intro i op hop t ht
  unfold exProgs at hop
  split at hop
  · simp only [List.mem_singleton] at hop; subst hop; simp only [Op.toTOp?, Option.some.injEq] at ht; subst ht; decide
  · split at hop
    · simp only [List.mem_singleton] at hop; subst hop; simp [Op.toTOp?] at ht
    · simp at hop

/-- A schedule in which both calls complete (the writer first): two records in `done`, one a writer
answer, one a `Handler` answer — the theorem speaks about both. -/
example (env : Env) : ∃ (c : Config (treeSys env)) (a b : RWLock.Rec (treeSys env)),
    Reachable (S := treeSys env) exT0 exProgs c ∧ c.done = [a, b] ∧
    a.call.op = Op.add exUid { base := .user 2 } [] [mGET] ∧ b.call.op = Op.handler exReq [] mGET ∧
    b.lin = 1 ∧ c.wlog.length = 1 := by
  have h0 : Reachable (S := treeSys env) exT0 exProgs (Config.init exT0 exProgs) := .init
  have h1 := solo h0 (i := 0) (op := Op.add exUid { base := .user 2 } [] [mGET]) (rest := []) rfl rfl
  have h2 := solo h1 (i := 1) (op := Op.handler exReq [] mGET) (rest := []) rfl rfl
  exact ⟨_, _, _, h2, rfl, rfl, rfl, rfl, rfl⟩

/-! ## Untouched routes keep their answer -/

/-- Which calls count as touching the route with pattern `q`: removing `q`, cleaning a prefix of
`q`, and — because there is no sequential frame theorem for `Handle` (`C03_frame_remove_step` and
`C03_frame_clean_step` are the only ones) — EVERY `Handle`.  The statement the property intends has
`p = q` (or: "`p` does not overlap `q`") in the first line; what is missing for it is a sequential
frame theorem for `add`: registering `p` splits and re-merges nodes on the path of `q`, and a new route may
take precedence over `q` for some paths, so that theorem needs a non-overlap hypothesis and an
induction over `getNode`. -/
def Op.touches (q : Bytes) : Op → Prop
  | .add _ _ _ _ => True
  | .remove p _ => p = q
  | .clean pre => pre <+: q
  | _ => False

theorem sameAnswer_refl (f : Found) : C03.SameAnswer f f :=
  ⟨rfl, rfl, rfl, fun q hq => ⟨q, hq, rfl, rfl⟩⟩

theorem sameAnswer_trans {f g k : Found} (h1 : C03.SameAnswer f g) (h2 : C03.SameAnswer g k) : C03.SameAnswer f k := by
  obtain ⟨a1, a2, a3, a4⟩ := h1
  obtain ⟨b1, b2, b3, b4⟩ := h2
  refine ⟨b1.trans a1, b2.trans a2, b3.trans a3, fun q hq => ?_⟩
  obtain ⟨q', hq', e1, e2⟩ := a4 q hq
  obtain ⟨q'', hq'', e3, e4⟩ := b4 q' hq'
  exact ⟨q'', hq'', e3.trans e1, e4.trans e2⟩

/-- Sequential core: a history of `Remove`s of other patterns and `Clean`s of non-prefixes leaves
the answer of a request dispatched to `q` as it was. -/
theorem frame_run (env : Env) (path method : Bytes) (pat : Bytes) (ws : List TOp)
    (hws : ∀ w ∈ ws, (∃ p ms, w = .remove p ms ∧ p ≠ pat) ∨ (∃ pre, w = .clean pre ∧ ¬ pre <+: pat))
    (t : Tree) (hr : ReachAll t) (f : Found) (q : Node)
    (hres : t.handler env path [] method = .res f) (hq : f.node = some q) (hpat : q.pattern = pat) :
    ∃ f', (t.run ws).handler env path [] method = .res f' ∧ C03.SameAnswer f f' := by
  -- along the history: the tree is reachable and the request is answered alike, by a node with the pattern
  have key : ReachAll (t.run ws) ∧ ∃ f' q', (t.run ws).handler env path [] method = .res f' ∧ C03.SameAnswer f f' ∧
      f'.node = some q' ∧ q'.pattern = pat := by
    refine List.foldl_inv (I := fun t => ReachAll t ∧ ∃ f' q', t.handler env path [] method = .res f' ∧
      C03.SameAnswer f f' ∧ f'.node = some q' ∧ q'.pattern = pat) (fun t w hw ⟨hr, f1, q1, h1, s1, hq1, hp1⟩ => ?_)
      ⟨hr, f, q, hres, sameAnswer_refl f, hq, hpat⟩
    -- one step, by the frame theorem of `Remove` or of `Clean`
    have hstep : w.wf = true ∧ ∃ f2, (t.step w).handler env path [] method = .res f2 ∧ C03.SameAnswer f1 f2 := by
      rcases hws w hw with ⟨p, ms, rfl, hne⟩ | ⟨pre, rfl, hne⟩
      · exact ⟨rfl, C03.C03_frame_remove_step t hr p ms env path method f1 q1 h1 hq1 (by rw [hp1]; exact Ne.symm hne)⟩
      · exact ⟨rfl, C03.C03_frame_clean_step t hr pre env path method f1 q1 h1 hq1 (by rw [hp1]; exact hne)⟩
    obtain ⟨hwf, f2, h2, s2⟩ := hstep
    obtain ⟨q2, hq2, e2, _⟩ := s2.2.2.2 q1 hq1
    exact ⟨hr.step hwf, f2, q2, h2, sameAnswer_trans s1 s2, hq2, e2.trans hp1⟩
  obtain ⟨_, f', _, h1, h2, _⟩ := key
  exact ⟨f', h1, h2⟩

/-- **C06, clause "routes that are never touched keep being served with their own handler and
parameters" — PARTIAL (every `Handle` counts as touching, see `Op.touches`).**

Let the router be set up sequentially by a history `pre` with well-formed registered patterns, and let
the request `(path, method)` be answered there with the node `q` (a registered handler of `q`, or its
405 / automatic OPTIONS answer).  Then let any number of goroutines run any programs under
`WithLock(true)` and any schedule, such that NO call of any program touches `q.pattern`: no `Handle`
at all, no `Remove(q.pattern, …)`, no `Clean` of a prefix of `q.pattern` — arbitrary other `Remove`s and
`Clean`s, `Routes`, `URL` and requests are allowed.  Then EVERY completed `Handler(path, method)` call
answered with the same handler, the same `ok` flag, the same parameters and a node with the same
pattern and the same handler map — in particular never with a nil or foreign handler, never 404.

Hypotheses: `hpre` is the hypothesis of the sequential frame theorems (`ReachAll`); `hunt` is the
property's "never touched", strengthened as said.  Discharged internally: every state of the
linearization order is `ReachAll` (the writer order consists of operations of the programs:
`RWLock.wlog_subset`). -/
theorem C06_untouched_partial (env : Env) (name : Bytes) (ic : Interceptors) (nf : Handler) (tr : Option Handler)
    (pre : List TOp) (hpre : ∀ op ∈ pre, op.wf = true)
    (progs : Nat → List Op) (c : Config (treeSys env))
    (h : Reachable (S := treeSys env) ((Tree.new name ic nf tr).run pre) progs c)
    (path method : Bytes) (f : Found) (q : Node)
    (h0 : ((Tree.new name ic nf tr).run pre).handler env path [] method = .res f) (hq : f.node = some q)
    (hunt : ∀ i, ∀ op ∈ progs i, ¬ Op.touches q.pattern op)
    (r : RWLock.Rec (treeSys env)) (hr : r ∈ c.done) (hop : r.call.op = Op.handler path [] method) :
    ∃ f', r.resp = Resp.handler (.res f') ∧ C03.SameAnswer f f' := by
  have hF := (C06_untouched_frame env _ progs c h r hr).2.2.2.1 path [] method hop
  have hreach : ReachAll ((Tree.new name ic nf tr).run pre) := (ReachAll.new name ic nf tr _ _).run hpre
  obtain ⟨f', h1, h2⟩ := frame_run env path method q.pattern ((c.wlog.take r.lin).filterMap Op.toTOp?) (by
      intro w hw
      obtain ⟨op, hop', hw'⟩ := List.mem_filterMap.1 hw
      obtain ⟨j, hj⟩ := wlog_subset h op (List.mem_of_mem_take hop')
      have hnt := hunt j op hj
      cases op with
      | add p hd ms methods => exact absurd trivial hnt
      | remove p ms => cases hw'; exact .inl ⟨p, ms, rfl, hnt⟩
      | clean pr => cases hw'; exact .inr ⟨pr, rfl, hnt⟩
      | handler _ _ _ => cases hw'
      | routes => cases hw'
      | url _ _ => cases hw')
    _ hreach f q h0 hq rfl
  exact ⟨f', by rw [hF, h1], h2⟩

/-! ### Non-vacuity of `C06_untouched_partial` -/

/-- Set-up: `GET /u/` and `GET /u/{id}` (`P14.exOps`, well-formed). Thread 0 removes `/u/` (the interior
route ABOVE the observed one — its node stays, without handlers), thread 1 cleans `/x`, thread 2 serves `GET /u/5`
twice.  Nothing touches `/u/{id}`. -/
def exProgs2 : Nat → List Op := fun i =>
  if i = 0 then [Op.remove exU []] else if i = 1 then [Op.clean [47, 120]]
  else if i = 2 then [Op.handler exReq [] mGET, Op.handler exReq [] mGET] else []

theorem exProgs2_untouched : ∀ i, ∀ op ∈ exProgs2 i, ¬ Op.touches exUid op := by
  intro i op hop
  unfold exProgs2 at hop
  by_cases h0 : i = 0
  · rw [if_pos h0, List.mem_singleton] at hop
    rw [hop]; exact (by decide : exU ≠ exUid)
  · rw [if_neg h0] at hop
    by_cases h1 : i = 1
    · rw [if_pos h1, List.mem_singleton] at hop
      rw [hop]; exact fun h => absurd (isPrefixOf_iff.2 h) (by decide)
    · rw [if_neg h1] at hop
      by_cases h2 : i = 2
      · rw [if_pos h2] at hop
        rcases List.mem_cons.1 hop with h | h
        · rw [h]; exact id
        · rw [List.mem_singleton.1 h]; exact id
      · rw [if_neg h2] at hop; cases hop

/-- The hypotheses are satisfiable and the theorem applies to a completed request that was linearized
AFTER the removal (`lin = 1`): it got the answer of `/u/{id}` with `id = 5`. -/
example : ∃ (c : Config (treeSys exEnv)) (r : RWLock.Rec (treeSys exEnv)) (f f' : Found) (q : Node),
    Reachable (S := treeSys exEnv) (exT0.run exOps) exProgs2 c ∧ r ∈ c.done ∧ r.lin = 1 ∧
    (exT0.run exOps).handler exEnv exReq [] mGET = .res f ∧ f.node = some q ∧ q.pattern = exUid ∧
    r.resp = Resp.handler (.res f') ∧ C03.SameAnswer f f' ∧ f'.params = [([105, 100], [53])] := by
  obtain ⟨f, q, hres, hq, hp, _, _, hps⟩ := exT_answer
  have h0 : Reachable (S := treeSys exEnv) (exT0.run exOps) exProgs2 (Config.init _ exProgs2) := .init
  have h1 := solo h0 (i := 0) (op := Op.remove exU []) (rest := []) rfl rfl
  have h2 := solo h1 (i := 2) (op := Op.handler exReq [] mGET) (rest := [Op.handler exReq [] mGET]) rfl rfl
  obtain ⟨f', e1, e2⟩ := C06_untouched_partial exEnv [114] [] { base := .notFound } none exOps exOps_wf exProgs2 _ h2
    exReq mGET f q hres hq (by rw [hp]; exact exProgs2_untouched) _ (.tail _ (.head _)) rfl
  exact ⟨_, _, f, f', q, h2, .tail _ (.head _), rfl, hres, hq, hp, e1, e2, by rw [e2.2.2.1, hps]⟩

end Mux.C06
