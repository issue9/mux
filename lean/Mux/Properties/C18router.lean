/-
  C18 (router level, over histories) — TRACE follows the `WithTrace` option: with it, a TRACE request to ANY path is
  answered by the configured handler wrapped in exactly the `Use` middlewares (the COMPLETE handler: base and wraps);
  without it TRACE is an ordinary method: answered by an entry registered by hand on the matched node, the router's 404
  or the node's 405, and registrable like any other method.
-/
import Mux.Proofs.AutoServe
import Mux.Proofs.ReachAll
import Mux.Proofs.RunFuel
import Mux.Proofs.DecEq
import Mux.Properties.C09
import Mux.Properties.C17
import Mux.Properties.C18
namespace Mux.C18
open Mux Mux.P10 Mux.P18

/-- The tree's TRACE handler after a history from `NewRouter` with the option: base `trace`, wrapped in the `Use`
middlewares only. -/
theorem trace_stored {cfg : RouterCfg} {r0 : Router} (hnew : Router.new cfg = some r0) (htr : cfg.trace = true)
    (ops : List ROp) :
    (r0.run ops).tree.trace =
      some { base := .trace, wraps := mkWraps (ops.filterMap useArg).flatten mTRACE [] cfg.name } := by
  rw [Router.run_new hnew, (Tree.run_outer _ _).2, Router.useMs_tops, htr]
  rfl

/-- Clauses "any path" and "wrapped only in the Use middlewares", router level, every history: on a
router made by `NewRouter` WITH the option and after ANY history `ops`, a TRACE request — whatever its path (registered
or not, `*`, empty) and whatever parameters a matcher left in the context — makes `Router.ServeHTTP` call exactly the
handler `{ base := trace, wraps := mkWraps useMs TRACE "" name }`: the configured handler, wrapped by the middlewares
passed to `Use` so far (in order, innermost first, each applied with method TRACE, pattern `""` and the router's name)
and by nothing else — no route or prefix middleware.  The call is `ok`, attached to the root node, keeps the
parameters, is not HEAD-wrapped and sees the request path. -/
theorem C18_trace_router {cfg : RouterCfg} {r0 : Router} (hnew : Router.new cfg = some r0) (htr : cfg.trace = true)
    (ops : List ROp) (env : Env) (req : Req) (hm : req.method = mTRACE) (ps : Params) :
    ∃ c, (r0.run ops).serveContext env req ps = .call c ∧
      c.handler = { base := .trace, wraps := mkWraps (ops.filterMap useArg).flatten mTRACE [] cfg.name } ∧
      c.ok = true ∧ c.node = some (r0.run ops).tree.root ∧ c.params = ps ∧ c.headWrap = false ∧
      c.path = req.path := by
  obtain ⟨c, h1, h2, h3⟩ := C18_any_path_router env (r0.run ops) _ (trace_stored hnew htr ops) req hm ps
  exact ⟨c, h1, h2, h3⟩

/-- The response of that call through `Router.ServeHTTP`: unless one of the `Use` middlewares or the configured
handler itself panics, the call returns normally and the response is what the configured handler writes (in the model
the harness's TRACE handler: `X-Trace: 1` then status 200, so the header is in the snapshot AS SENT; no body), written on
the plain writer (no HEAD wrapper). -/
theorem C18_trace_response {cfg : RouterCfg} {r0 : Router} (hnew : Router.new cfg = some r0) (htr : cfg.trace = true)
    (ops : List ROp) (env : Env) (pc : PanicCfg) (scripts : Scripts) (req : Req) (hm : req.method = mTRACE)
    (ps : Params) :
    ∃ c out, (r0.run ops).serveHTTP env pc scripts req ps = (some c, out) ∧
      c.handler = { base := .trace, wraps := mkWraps (ops.filterMap useArg).flatten mTRACE [] cfg.name } ∧
      (mwPanic pc c.handler = none → lookupNat pc.bases Base.trace.code = none →
        ∃ rec, out = .normal rec ∧ rec.code = some 200 ∧ rec.body = 0 ∧
          rec.snap.map (·.get hXTrace) = some [49]) := by
  obtain ⟨c, h1, h2, _, _, _, h6, _⟩ := C18_trace_router hnew htr ops env req hm ps
  refine ⟨c, _, serveHTTP_call.2 ⟨h1, rfl⟩, h2, fun hmw hb => ?_⟩
  refine ⟨_, withRecover_normal.2 (runCall_ok_iff.2 ⟨hmw, by rw [h2]; exact hb, _, by rw [Handler.script, h2], rfl⟩), ?_⟩
  rw [h6]
  exact ⟨rfl, rfl, by simp [runGet, Rec.writeHeader, informational, Call.rec0, Hdr.get_set_self]⟩

theorem step_notFound_base (t : Tree) (op : TOp) : (t.step op).notFound.base = t.notFound.base := by
  rw [(t.step_outer op).1]
  rfl

theorem run_notFound_base {cfg : RouterCfg} {r0 : Router} (hnew : Router.new cfg = some r0) (ops : List ROp) :
    (r0.run ops).tree.notFound.base = cfg.notFoundBase := by
  rw [Router.run_new hnew, (Tree.run_outer _ _).1]
  rfl

/-- Router level, every history, no hypothesis on patterns: on a router made WITHOUT the option
TRACE is an ordinary method.  For a TRACE request, the call `Router.ServeHTTP` makes is one of:
* `ok`: a node `n` below the root matched the path and TRACE was registered BY HAND on it
  (`TRACE ∈ n.registered`); the handler called is `n`'s TRACE entry;
* 404: no node with handlers matched; the handler is the router's not-found handler (base = the `notFound` argument
  of `NewRouter`);
* 405: a node with handlers matched but has no TRACE entry; the handler is that node's `""` entry, which is the
  automatic 405 handler.
In particular an unregistered TRACE is answered 404 or 405 — never by a TRACE short-circuit. -/
theorem C18_without_served {cfg : RouterCfg} {r0 : Router} (hnew : Router.new cfg = some r0) (htr : cfg.trace = false)
    (ops : List ROp) (env : Env) (req : Req) (hm : req.method = mTRACE) (ps : Params) {c : Call}
    (hc : (r0.run ops).serveContext env req ps = .call c) :
    (c.ok = true ∧ ∃ n ∈ nodesL (r0.run ops).tree.root.children, c.node = some n ∧
        n.handlers.get? mTRACE = some c.handler ∧ mTRACE ∈ n.registered) ∨
    (c.ok = false ∧ c.node = none ∧ c.handler = (r0.run ops).tree.notFound ∧
        c.handler.base = cfg.notFoundBase) ∨
    (c.ok = false ∧ ∃ n ∈ (r0.run ops).tree.root.nodes, c.node = some n ∧ n.handlers.get? mTRACE = none ∧
        n.handlers.get? mNotAllowed = some c.handler ∧ c.handler.base = .notAllowed) := by
  obtain ⟨_, _, _, _, _, _, c7, _, c9, c10⟩ := method_consts_ne
  have hreach := (run_reach hnew ops).tree
  have hinv := hreach.inv
  have hht := (Router.run_treeCfg hnew ops).1.trans htr
  obtain ⟨f, _, hspec, rfl⟩ := Router.serve_spec hinv hc
  simp only [Router.callOf]
  rw [hm] at hspec
  cases hspec with
  | notFound h1 h2 h3 =>
    exact .inr (.inl ⟨h3, h1, h2, by rw [h2]; exact run_notFound_base hnew ops⟩)
  | trace h ht _ _ _ _ =>
    simp [Tree.hasTrace, ht] at hht
  | found n hnode hn hne hmeth hg hok =>
    left
    have hkey : mTRACE ∈ n.handlers.keys := (AMap.get?_isSome_iff _ _).1 (by rw [hg]; rfl)
    rw [Node.nodes_eq] at hn
    rcases List.mem_cons.1 hn with rfl | hbelow
    · exact (hinv.root_key hkey).elim (fun hk => absurd hk.symm c9) fun hk => absurd hk c10
    · exact ⟨hok, n, hbelow, hnode, hg, P11.mem_regKeys.2 ⟨hkey, c7.symm, c9.symm, c10⟩⟩
  | notAllowed n hnode hn hne hmeth hg hok =>
    refine .inr (.inr ⟨hok, n, hn, hnode, hmeth.resolve_left c10, hg, ?_⟩)
    rw [← (Router.run_treeCfg hnew ops).2.2.2.2]; exact (hreach.auto.get hn).notAllowed _ hg

/-- The same at response level: without the option, a TRACE request that is not served by a hand-registered TRACE
entry (`ok = false`) gets status 404 (router made with the default not-found handler) or status 405 with the matched
node's `Allow` header as sent — provided nothing around the automatic handler is configured to panic. -/
theorem C18_without_response {cfg : RouterCfg} {r0 : Router} (hnew : Router.new cfg = some r0)
    (htr : cfg.trace = false) (hnf : cfg.notFoundBase = .notFound)
    (ops : List ROp) (env : Env) (pc : PanicCfg) (scripts : Scripts) (req : Req) (hm : req.method = mTRACE)
    (ps : Params) {c : Call} {out : Outcome}
    (hs : (r0.run ops).serveHTTP env pc scripts req ps = (some c, out)) (hok : c.ok = false) :
    ∀ rec, out = .normal rec →
      (c.node = none ∧ rec.code = some 404 ∧ rec.body = 0) ∨
      (∃ n, c.node = some n ∧ rec.code = some 405 ∧ rec.snap.map (·.get hAllow) = some n.allow ∧ rec.body = 0) := by
  obtain ⟨hc, hout⟩ := serveHTTP_call.1 hs
  intro rec hrec
  have hw : c.headWrap = false := (serveContext_not_ok env _ req ps c hc hok).1
  rcases C18_without_served hnew htr ops env req hm ps hc with ⟨h1, _⟩ | ⟨_, h2, _, h4⟩ | ⟨_, n, _, h3, _, _, h6⟩
  · rw [hok] at h1; cases h1
  · rw [(outcome_base (h4.trans hnf) rfl hw hout).1 rec hrec]
    exact .inl ⟨h2, rfl, rfl⟩
  · have hallow : c.allow = n.allow := by simp [Call.allow, h3]
    rw [(outcome_base h6 rfl hw hout).1 rec hrec, hallow]
    exact .inr ⟨n, h3, rfl, congrArg some (Hdr.get_set_self _ _ _), rfl⟩

/-- Router level: on a router made WITHOUT the option, after any history whose registered patterns
are well-formed (`hwf`, the domain restriction of DESIGN §0.4b), TRACE can be registered like any other method:
`Handle(p, h, TRACE)` SUCCEEDS whenever the pattern itself is acceptable (well-formed braces, the ambiguity check does
not object, `Split` accepts it) and TRACE is not registered on `p` already; afterwards TRACE is a hand-registered method
of the live pattern `p` (an entry of the route table read off the new tree).  With the option the same call is always
refused (`C18_reserved`). -/
theorem C18_registrable {cfg : RouterCfg} {r0 : Router} (hnew : Router.new cfg = some r0) (htr : cfg.trace = false)
    (ops : List ROp) (hwf : ∀ op ∈ ops, ROp.wf op = true) (p : Bytes) (hp : WfPattern p = true) (h : Nat)
    (m : List Nat) {a : Option Bool}
    (hamb : (r0.run ops).tree.root.checkAmb (r0.run ops).tree.ic p false = .ok a) (ha : a ≠ some true)
    {segs : List Seg} (hs : split (r0.run ops).tree.ic p = .ok segs)
    (hfree : (r0.run ops).tree.hasMethodAt p mTRACE = false) :
    ∃ r', (r0.run ops).handle p h m [mTRACE] = .ok r' ∧ (tableOf r'.tree).has p mTRACE ∧
      ∃ n ∈ nodesL r'.tree.root.children, n.handlers ≠ [] ∧ n.pattern = p ∧ mTRACE ∈ n.registered := by
  have hall := reachAll_run hnew hwf
  have hht := (Router.run_treeCfg hnew ops).1.trans htr
  have hcm : (r0.run ops).tree.checkMethods p (effMethods [mTRACE]) [] = .ok () := by
    -- the one method is known, not reserved without the option, and free at `p`
    refine (checkMethods_ok_iff _ p [mTRACE] []).2 ⟨List.nodup_cons.2 ⟨List.not_mem_nil, List.nodup_nil⟩, fun m hm => ?_⟩
    cases List.mem_singleton.1 hm
    refine ⟨not_badMethod_iff.2 ⟨?_, (isKnownMethod_iff _).2 mem_table_consts.2.2.2.1⟩, List.not_mem_nil, hfree⟩
    simp [hht, method_consts_ne.2.2.2.2.2.2.1.symm, method_consts_ne.2.2.2.2.2.2.2.2.1.symm]
  obtain ⟨t', ht', _⟩ := C17.C17_validated_ok (r0.run ops).tree p { base := .user h } (m ++ (r0.run ops).ms) [mTRACE]
    hall.inv.wf ((P11.wfPattern_iff_P9 p).1 hp) hamb ha hs hcm
  refine ⟨{ r0.run ops with tree := t' }, ?_, ?_⟩
  · rw [Router.handle_eq, ht']; rfl
  · obtain ⟨x, x', hfx, _, hat⟩ := P11.at_add hall.inv.ti hp ht'
    have hhas : (tableOf t').has p mTRACE := by
      rw [P11.has_at (hall.inv.ti.add hp ht'), hat, if_pos rfl]
      exact (P11.addMethodsNode_reg hfx mTRACE).1.2 (.inr (by simp [effMethods]))
    refine ⟨hhas, ?_⟩
    obtain ⟨e, he, hep, hem⟩ := (P11.has_tableOf t' p mTRACE).1 hhas
    obtain ⟨n, hn, hne, rfl⟩ := P11.mem_liveL.1 he
    exact ⟨n, hn, hne, hep, hem⟩

def exEnv : Env := ⟨fun _ _ => true⟩
def exCfgT : RouterCfg := { name := [114], trace := true }   -- "r", WithTrace
def exCfgN : RouterCfg := { name := [114] }                  -- "r", no option
def exRT : Router := (Router.new exCfgT).getD default
def exRN : Router := (Router.new exCfgN).getD default
theorem exNewT : Router.new exCfgT = some exRT := rfl
theorem exNewN : Router.new exCfgN = some exRN := rfl
/-- `Use(1)`, `GET /a` with route middleware 2, `Use(3)`, and (accepted only without the option) `TRACE /a/t`. -/
def exOps : List ROp :=
  [.use [1], .handle (bytesOfString "/a") 7 [2] [mGET], .use [3], .handle (bytesOfString "/a/t") 8 [] [mTRACE]]
theorem exOps_wf : ∀ op ∈ exOps, ROp.wf op = true := by decide +kernel

/-- `(ok, node present, handler)` of the call made for a request. -/
def callIs (r : Router) (req : Req) (ok node : Bool) (h : Handler) : Bool :=
  match r.serveContext exEnv req [] with
  | .call c => c.ok == ok && c.node.isSome == node && c.handler == h
  | _ => false

theorem callIs_true {r : Router} {req : Req} {ok node : Bool} {h : Handler} (hh : callIs r req ok node h = true) :
    ∃ c, r.serveContext exEnv req [] = .call c ∧ c.ok = ok := by
  unfold callIs at hh
  split at hh
  · rename_i c hc
    simp only [Bool.and_eq_true, beq_iff_eq] at hh
    exact ⟨c, hc, hh.1.1⟩
  · cases hh

/-- The history is evaluated once on both routers, for the facts below. -/
private theorem exRun :
    (callIs (exRT.run exOps) { method := mTRACE, path := bytesOfString "/a" } true true
        { base := .trace, wraps := mkWraps [1, 3] mTRACE [] [114] } = true ∧
      callIs (exRT.run exOps) { method := mTRACE, path := bytesOfString "/zzz" } true true
        { base := .trace, wraps := mkWraps [1, 3] mTRACE [] [114] } = true) ∧
    callIs (exRN.run exOps) { method := mTRACE, path := bytesOfString "/a/t" } true true
      { base := .user 8, wraps := mkWraps [1, 3] mTRACE (bytesOfString "/a/t") [114] } = true ∧
    callIs (exRN.run exOps) { method := mTRACE, path := bytesOfString "/a" } false true
      { base := .notAllowed, wraps := mkWraps [2, 1, 3] [] (bytesOfString "/a") [114] } = true ∧
    callIs (exRN.run exOps) { method := mTRACE, path := bytesOfString "/zzz" } false false
      { base := .notFound, wraps := mkWraps [1, 3] [] [] [114] } = true := by
  simp only [Router.run_eq_F]; decide +kernel

/-- with the option: `TRACE /a` (a live route with its own middleware 2) and `TRACE /zzz` (no route) are both answered by
the configured handler wrapped in `Use` middlewares 1 and 3 only -/
example : callIs (exRT.run exOps) { method := mTRACE, path := bytesOfString "/a" } true true
    { base := .trace, wraps := mkWraps [1, 3] mTRACE [] [114] } = true := exRun.1.1
example : callIs (exRT.run exOps) { method := mTRACE, path := bytesOfString "/zzz" } true true
    { base := .trace, wraps := mkWraps [1, 3] mTRACE [] [114] } = true := exRun.1.2
example : (exOps.filterMap useArg).flatten = [1, 3] := by decide +kernel
/-- without the option, same history: `TRACE /a/t` is served by the hand-registered handler 8 (wrapped by the `Use`
middlewares 1 and 3 like every route), `TRACE /a` is a 405, `TRACE /zzz` a 404 -/
theorem exServed : callIs (exRN.run exOps) { method := mTRACE, path := bytesOfString "/a/t" } true true
    { base := .user 8, wraps := mkWraps [1, 3] mTRACE (bytesOfString "/a/t") [114] } = true := exRun.2.1
theorem ex405 : callIs (exRN.run exOps) { method := mTRACE, path := bytesOfString "/a" } false true
    { base := .notAllowed, wraps := mkWraps [2, 1, 3] [] (bytesOfString "/a") [114] } = true := exRun.2.2.1
theorem ex404 : callIs (exRN.run exOps) { method := mTRACE, path := bytesOfString "/zzz" } false false
    { base := .notFound, wraps := mkWraps [1, 3] [] [] [114] } = true := exRun.2.2.2
/-- hence the hypothesis `hc` of `C18_without_served` is satisfiable in each of the three cases -/
example : (∃ c, (exRN.run exOps).serveContext exEnv { method := mTRACE, path := bytesOfString "/a/t" } [] = .call c ∧
      c.ok = true) ∧
    (∃ c, (exRN.run exOps).serveContext exEnv { method := mTRACE, path := bytesOfString "/a" } [] = .call c ∧
      c.ok = false) ∧
    (∃ c, (exRN.run exOps).serveContext exEnv { method := mTRACE, path := bytesOfString "/zzz" } [] = .call c ∧
      c.ok = false) :=
  ⟨callIs_true exServed, callIs_true ex405, callIs_true ex404⟩
/-- the hypotheses of `C18_registrable` after `Use(1)`, `GET /a`: pattern `/a/t` is acceptable and has no TRACE yet -/
def exOps2 : List ROp := [.use [1], .handle (bytesOfString "/a") 7 [2] [mGET]]
example : (∀ op ∈ exOps2, ROp.wf op = true) ∧ WfPattern (bytesOfString "/a/t") = true := by decide +kernel
example : ∃ a segs,
    (exRN.run exOps2).tree.root.checkAmb (exRN.run exOps2).tree.ic (bytesOfString "/a/t") false = .ok a ∧ a ≠ some true ∧
    split (exRN.run exOps2).tree.ic (bytesOfString "/a/t") = .ok segs ∧
    (exRN.run exOps2).tree.hasMethodAt (bytesOfString "/a/t") mTRACE = false := by
  have h : (exRN.run exOps2).tree.root.checkAmb (exRN.run exOps2).tree.ic (bytesOfString "/a/t") false = .ok none ∧
      (split (exRN.run exOps2).tree.ic (bytesOfString "/a/t")).isOk = true ∧
      (exRN.run exOps2).tree.hasMethodAt (bytesOfString "/a/t") mTRACE = false := by
    rw [Router.run_eq_F]; decide +kernel
  obtain ⟨segs, hs⟩ := Except.exists_ok h.2.1
  exact ⟨none, segs, h.1, nofun, hs, h.2.2⟩

end Mux.C18
