/-
  C04 (`OPTIONS *`) — `C04_star`, I-count: the tree-wide method counters and the answer to `OPTIONS *`
  against the abstract table of the history (`Mux.Spec.Table`).  Same hypothesis as C03: every
  registered pattern of the history has balanced, non-nested braces (`C03.WfOps`).
-/
import Mux.Properties.C03
namespace Mux.C04
open Mux Mux.P11 Mux.C03

/-- I-count: the tree-wide counter of a method is the number of live patterns that have
it (an absent counter counting as 0), and the root's `Methods()` — the answer to `OPTIONS *` — are
OPTIONS, TRACE iff configured, and exactly the methods registered on at least one live pattern;
on a brand-new tree (`ops = []`), after removals and after `Clean` alike. -/
theorem C04_star (name : Bytes) (ic : Interceptors) (nf : Handler) (tr : Option Handler) (ob nb : Base)
    (ops : List TOp) (hw : WfOps ops) :
    let t := (Tree.new name ic nf tr ob nb).run ops
    let tb := specRun (Tree.new name ic nf tr ob nb) ops
    (∀ m, (t.counts.get? m).getD 0 = Spec.count tb m) ∧
    (∀ m, m ∈ t.root.methods ↔ m = mOPTIONS ∨ (tr.isSome = true ∧ m = mTRACE) ∨ ∃ p, tb.has p m) := by
  intro t tb
  have h := sim_history name ic nf tr ob nb ops hw
  refine ⟨counts_eq h, fun m => ?_⟩
  rw [← hasTrace_history name ic nf tr ob nb ops]
  exact star_methods h m

theorem C04_star_inv {t : Tree} {tb : Spec.Table} (h : Sim t tb) (m : Bytes) :
    (t.counts.get? m).getD 0 = Spec.count tb m ∧
    (m ∈ t.root.methods ↔ m = mOPTIONS ∨ (t.hasTrace = true ∧ m = mTRACE) ∨ ∃ p, tb.has p m) :=
  ⟨counts_eq h m, star_methods h m⟩

/-! ## Non-vacuity -/

example : WfOps [.add (bytesOfString "/a") { base := .user 1 } [] [], .remove (bytesOfString "/a") [mGET],
    .clean (bytesOfString "/")] := by
  unfold WfOps
  simp only [bytesOfString_eq_data]
  decide +kernel
/-- a brand-new tree: every counter is 0 and `OPTIONS *` answers OPTIONS (and TRACE when configured) -/
example (m : Bytes) : (specRun (Tree.new [114] [] { base := .notFound } none) []).has [47] m ↔ False := by
  simp [specRun, specRunFrom, Spec.Table.has]
/-- the hand-built tree and its table (`C03.exTree_sim`): the `GET` counter is the number of patterns
with `GET`, and the root's methods are OPTIONS plus the live method GET -/
example : (exTree.counts.get? mGET).getD 0 = 1 ∧ Spec.count exTable mGET = 1 := by decide +kernel
example : (exTree.counts.get? mGET).getD 0 = Spec.count exTable mGET := (C04_star_inv exTree_sim mGET).1
example : exTree.root.methods = [mGET, mOPTIONS] := by decide +kernel
example : mGET ∈ exTree.root.methods ↔
    mGET = mOPTIONS ∨ (exTree.hasTrace = true ∧ mGET = mTRACE) ∨ ∃ p, exTable.has p mGET :=
  (C04_star_inv exTree_sim mGET).2

end Mux.C04
