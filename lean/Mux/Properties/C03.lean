/-
  C03 — route table lifecycle (refinement of the abstract table `Spec.Table`).  The tree-wide method
  counters of C04 (`C04_star`, I-count) are in `Mux.Properties.C04star`.

  All statements are about `t = (Tree.new …).run ops` and `tb = specRun (Tree.new …) ops` for a history
  `ops` of `add/remove/clean/use` in which every REGISTERED pattern has balanced, non-nested braces
  (`WfOps`; the arguments of `remove`/`clean` are arbitrary).  Nothing is claimed for other patterns: see the
  note at the end.
-/
import Mux.Proofs.Table
import Mux.Proofs.Frame
import Mux.Proofs.DecEq
import Mux.Proofs.RunFuel
namespace Mux.C03
open Mux Mux.P11

/-- Every pattern the history registers has balanced, non-nested braces. -/
def WfOps (ops : List TOp) : Prop := ∀ op ∈ ops, op.wf = true

/-- I-table: the table read off the tree and the abstract table of the history are equal
as finite maps — the same patterns (a permutation of each other), the same method SETS per pattern,
the same live pairs —, both have pairwise
distinct patterns and non-empty method lists; in the tree even ALL nodes below the root (with or
without handlers) have pairwise distinct patterns. -/
theorem C03_table (name : Bytes) (ic : Interceptors) (nf : Handler) (tr : Option Handler) (ob nb : Base)
    (ops : List TOp) (hw : WfOps ops) :
    let t := (Tree.new name ic nf tr ob nb).run ops
    let tb := specRun (Tree.new name ic nf tr ob nb) ops
    (tableOf t).patterns.Perm tb.patterns ∧
    (∀ p ms ms', (p, ms) ∈ tableOf t → (p, ms') ∈ tb → ∀ m, m ∈ ms ↔ m ∈ ms') ∧
    (∀ p m, (tableOf t).has p m ↔ tb.has p m) ∧
    (tableOf t).patterns.Nodup ∧ tb.patterns.Nodup ∧
    (∀ e ∈ tableOf t, e.2 ≠ [] ∧ e.2.Nodup) ∧ (∀ e ∈ tb, e.2 ≠ []) ∧
    ((nodesL t.root.children).map (·.pattern)).Nodup := by
  intro t tb
  have h := sim_history name ic nf tr ob nb ops hw
  have hok := tableOf_ok h.inv
  obtain ⟨h1, h2⟩ := tables_agree hok.1 h.ok h.has
  exact ⟨(List.perm_ext_iff_of_nodup hok.1.nodup h.ok.nodup).2 h1, h2, h.has, hok.1.nodup, h.ok.nodup,
    fun e he => ⟨hok.1.nonempty e he, hok.2 e he⟩, h.ok.nonempty, patterns_nodup _ _ h.inv.sh⟩

/-- The same for any tree/table pair related by the simulation invariant. -/
theorem C03_table_inv {t : Tree} {tb : Spec.Table} (h : Sim t tb) :
    (∀ p, p ∈ (tableOf t).patterns ↔ p ∈ tb.patterns) ∧
    (∀ p ms ms', (p, ms) ∈ tableOf t → (p, ms') ∈ tb → ∀ m, m ∈ ms ↔ m ∈ ms') ∧
    (tableOf t).patterns.Nodup ∧ tb.patterns.Nodup :=
  ⟨h.patterns, (tables_agree (tableOf_ok h.inv).1 h.ok h.has).2,
    (tableOf_ok h.inv).1.nodup, h.ok.nodup⟩

theorem hasTrace_history (name : Bytes) (ic : Interceptors) (nf : Handler) (tr : Option Handler) (ob nb : Base)
    (ops : List TOp) : ((Tree.new name ic nf tr ob nb).run ops).hasTrace = tr.isSome :=
  (sameCfg_run _ ops).1

/-- `Routes()` lists exactly `("*", OPTIONS [+TRACE])` and, for every live pattern of the
abstract table, the pattern with exactly its method set (hand-registered methods, HEAD iff GET,
OPTIONS, TRACE iff configured; sorted); every pattern of the tree is listed once. -/
theorem C03_routes (name : Bytes) (ic : Interceptors) (nf : Handler) (tr : Option Handler) (ob nb : Base)
    (ops : List TOp) (hw : WfOps ops) :
    let t := (Tree.new name ic nf tr ob nb).run ops
    let tb := specRun (Tree.new name ic nf tr ob nb) ops
    (∀ x, x ∈ t.routes ↔ x ∈ Spec.routes tr.isSome tb) ∧
    ((routesL t.root.children).map (·.1)).Nodup ∧ tb.patterns.Nodup := by
  intro t tb
  have h := sim_history name ic nf tr ob nb ops hw
  refine ⟨fun x => ?_, routes_patterns_nodup h.inv, h.ok.nodup⟩
  rw [← hasTrace_history name ic nf tr ob nb ops]
  exact routes_iff h x

theorem C03_routes_inv {t : Tree} {tb : Spec.Table} (h : Sim t tb) (x : Bytes × List Bytes) :
    x ∈ t.routes ↔ x ∈ Spec.routes t.hasTrace tb := routes_iff h x

/-- A request answered by a stored route handler of a node `n` below the root was
dispatched to a LIVE pair of the abstract table: `n.pattern` is live and, unless the method is
OPTIONS (whose handler is derived), `(n.pattern, method')` is live, `method'` being GET for HEAD.
Hence a removed, cleaned or never registered pattern/method pair is not served. -/
theorem C03_removed (name : Bytes) (ic : Interceptors) (nf : Handler) (tr : Option Handler) (ob nb : Base)
    (ops : List TOp) (hw : WfOps ops) (env : Env) (path method : Bytes) (f : Found) (n : Node) :
    let t := (Tree.new name ic nf tr ob nb).run ops
    let tb := specRun (Tree.new name ic nf tr ob nb) ops
    t.handler env path [] method = .res f → f.ok = true → f.node = some n → n ≠ t.root →
    n.pattern ∈ tb.patterns ∧
      (method ≠ mOPTIONS → tb.has n.pattern (if method = mHEAD then mGET else method)) := by
  intro t tb hres hok hn hroot
  exact served_live (sim_history name ic nf tr ob nb ops hw) hres hok hn hroot

theorem C03_removed_inv {t : Tree} {tb : Spec.Table} (h : Sim t tb) {env : Env} {path method : Bytes}
    {f : Found} {n : Node} (hres : t.handler env path [] method = .res f) (hok : f.ok = true)
    (hn : f.node = some n) (hroot : n ≠ t.root) :
    n.pattern ∈ tb.patterns ∧
      (method ≠ mOPTIONS → tb.has n.pattern (if method = mHEAD then mGET else method)) :=
  served_live h hres hok hn hroot

/-- On the tree of such a history `Remove` and `Clean` never fail (no index fault, no
out-of-range path), whatever their arguments. -/
theorem C03_no_error (name : Bytes) (ic : Interceptors) (nf : Handler) (tr : Option Handler) (ob nb : Base)
    (ops : List TOp) (hw : WfOps ops) (p : Bytes) (methods : List Bytes) (e : Err) :
    ((Tree.new name ic nf tr ob nb).run ops).remove p methods ≠ .error e ∧
    ((Tree.new name ic nf tr ob nb).run ops).clean p ≠ .error e := by
  have hinv := (sim_history name ic nf tr ob nb ops hw).inv
  refine ⟨fun he => ?_, fun he => ?_⟩
  · rw [remove_step hinv] at he; cases he
  · rw [clean_step hinv] at he; cases he

/-- `node.find(p)` succeeds exactly when some node below the root
has pattern `p`, and then it returns the path to THE node with that pattern — so `Remove`, the
duplicate check of `Handle` and `URL` act on the right node. -/
theorem C03_findPath (name : Bytes) (ic : Interceptors) (nf : Handler) (tr : Option Handler) (ob nb : Base)
    (ops : List TOp) (hw : WfOps ops) (p : Bytes) :
    let t := (Tree.new name ic nf tr ob nb).run ops
    ((t.root.findPath p).isSome = true ↔ ∃ x ∈ nodesL t.root.children, x.pattern = p) ∧
    (∀ path, t.root.findPath p = some path → ∃ x, t.root.getAt path = some x ∧ x ∈ nodesL t.root.children ∧
      x.pattern = p ∧ ∀ y ∈ nodesL t.root.children, y.pattern = p → y = x) := by
  intro t
  have hinv := (sim_history name ic nf tr ob nb ops hw).inv
  refine ⟨⟨fun hs => ?_, fun ⟨x, hx, hxp⟩ => ?_⟩, fun path hpath => ?_⟩
  · obtain ⟨path, hpath⟩ := Option.isSome_iff_exists.1 hs
    obtain ⟨x, _, hx, hxp⟩ := findPath_node hinv hpath
    exact ⟨x, hx, hxp⟩
  · obtain ⟨path, hpath, _⟩ := (findPath_iff hinv).2 ⟨hx, hxp⟩
    rw [hpath]; rfl
  · obtain ⟨x, hx, hmem, hxp⟩ := findPath_node hinv hpath
    exact ⟨x, hx, hmem, hxp, fun y hy hyp => node_unique hinv.sh hy hmem (hyp.trans hxp.symm)⟩

/-- The tree half of `C19_clean`: `Clean(pre)` deletes exactly the live patterns that
have `pre` as a textual prefix — also when `pre` ends inside a `{…}` token, and for `""` — and keeps
the methods of all others: the table read off the cleaned tree IS `Spec.clean` of the table read off
the tree (equality of lists, order included). -/
theorem C03_clean (name : Bytes) (ic : Interceptors) (nf : Handler) (tr : Option Handler) (ob nb : Base)
    (ops : List TOp) (hw : WfOps ops) (pre : Bytes) (t' : Tree)
    (he : ((Tree.new name ic nf tr ob nb).run ops).clean pre = .ok t') :
    tableOf t' = Spec.clean (tableOf ((Tree.new name ic nf tr ob nb).run ops)) pre :=
  tableOf_clean (sim_history name ic nf tr ob nb ops hw).inv he

/-- `PatternOk` (every node's pattern is its parent's pattern followed by its segment text) holds on
the tree of every such history. -/
theorem C03_patternOk (name : Bytes) (ic : Interceptors) (nf : Handler) (tr : Option Handler) (ob nb : Base)
    (ops : List TOp) (hw : WfOps ops) : Node.PatternOk ((Tree.new name ic nf tr ob nb).run ops).root := by
  have hinv := (sim_history name ic nf tr ob nb ops hw).inv
  exact patternOk_of_sh _ _ hinv.sh

/-! ## The frame property (partial: trees without first-byte indexes)

Full statement of the frame property: for every tree `t` of a history, if `t.handler env path [] m = .res f` with
`f.node = some q` and `q.pattern ≠ p` (resp. `¬ pre <+: q.pattern`), then `t.remove p ms` (resp.
`t.clean pre`) answers the same request with the same handler, the same `ok` flag, the same parameters
and a node with the same pattern and handler map.

Proved below under two extra hypotheses on `t` (`Mux/Properties/C03frame.lean` has the statement without
them, for the trees of all well-formed histories: `C03_frame_remove`, `C03_frame_clean`):
* `Node.All NoIdx t.root` — no node has a first-byte index and every node has fewer than `indexesSize`
  (5) children, so that `matchChildren` is the linear scan before and after the operation;
* `NamesOkL [] t.root.children` — the parameter-tracking hypothesis of C01 (`Mux.Proofs.MatchHyps`).  The proofs
  do not use it: since the D30 repair (`restoreParam`) a subtree that fails hands the parameters back unchanged
  whatever the names, so skipping a deleted subtree changes nothing. -/

/-- The answers agree: same handler, same `ok`, same parameters, node with the same pattern and
handler map. -/
abbrev SameAnswer := Mux.P11.SameAnswer

theorem C03_frame_remove_partial (name : Bytes) (ic : Interceptors) (nf : Handler) (tr : Option Handler)
    (ob nb : Base) (ops : List TOp) (hw : WfOps ops) (p : Bytes) (methods : List Bytes) (t' : Tree)
    (env : Env) (path method : Bytes) (f : Found) (q : Node) :
    let t := (Tree.new name ic nf tr ob nb).run ops
    Node.All NoIdx t.root → NamesOkL [] t.root.children → t.remove p methods = .ok t' →
    t.handler env path [] method = .res f → f.node = some q → q.pattern ≠ p →
    ∃ f', t'.handler env path [] method = .res f' ∧ SameAnswer f f' := by
  intro t hno _ he hres hq hne
  exact frame_remove (sim_history name ic nf tr ob nb ops hw).inv hno he hres hq hne

theorem C03_frame_clean_partial (name : Bytes) (ic : Interceptors) (nf : Handler) (tr : Option Handler)
    (ob nb : Base) (ops : List TOp) (hw : WfOps ops) (pre : Bytes) (t' : Tree)
    (env : Env) (path method : Bytes) (f : Found) (q : Node) :
    let t := (Tree.new name ic nf tr ob nb).run ops
    Node.All NoIdx t.root → NamesOkL [] t.root.children → t.clean pre = .ok t' →
    t.handler env path [] method = .res f → f.node = some q → ¬ pre <+: q.pattern →
    ∃ f', t'.handler env path [] method = .res f' ∧ SameAnswer f f' := by
  intro t hno _ he hres hq hne
  exact frame_clean (sim_history name ic nf tr ob nb ops hw).inv hno he hres hq hne

theorem C03_frame_remove_inv {t t' : Tree} {tb : Spec.Table} (h : Sim t tb) (hno : Node.All NoIdx t.root)
    (hnames : NamesOkL [] t.root.children) {p : Bytes} {methods : List Bytes}
    (he : t.remove p methods = .ok t') {env : Env} {path method : Bytes} {f : Found} {q : Node}
    (hres : t.handler env path [] method = .res f) (hq : f.node = some q) (hne : q.pattern ≠ p) :
    ∃ f', t'.handler env path [] method = .res f' ∧ SameAnswer f f' :=
  frame_remove h.inv hno he hres hq hne

theorem C03_frame_clean_inv {t t' : Tree} {tb : Spec.Table} (h : Sim t tb) (hno : Node.All NoIdx t.root)
    (hnames : NamesOkL [] t.root.children) {pre : Bytes} (he : t.clean pre = .ok t')
    {env : Env} {path method : Bytes} {f : Found} {q : Node}
    (hres : t.handler env path [] method = .res f) (hq : f.node = some q) (hne : ¬ pre <+: q.pattern) :
    ∃ f', t'.handler env path [] method = .res f' ∧ SameAnswer f f' :=
  frame_clean h.inv hno he hres hq hne

/-! ## Non-vacuity -/

/-- a history satisfying `WfOps`, with parameters, a removal of an arbitrary (ill-formed) pattern and a
`Clean` -/
example : WfOps [.add (bytesOfString "/posts/{id}") { base := .user 1 } [] [mGET],
    .add (bytesOfString "/posts/{id:\\d+}/x") { base := .user 2 } [1] [],
    .remove (bytesOfString "/po{sts") [mGET], .clean (bytesOfString "/posts/{i"), .use [2]] := by
  unfold WfOps
  simp only [bytesOfString_eq_data]
  decide +kernel

/-- `WfPattern` rejects a brace inside a token and a stray closing brace -/
example : WfPattern (bytesOfString "{abc{d}/x") = false ∧ WfPattern (bytesOfString "/a}b") = false ∧
    WfPattern (bytesOfString "/{id}/{name:\\w+}.html") = true := by
  simp only [bytesOfString_eq_data]
  decide +kernel

/-- the abstract operations on a small table -/
example : Spec.add [(bytesOfString "/a", [mGET])] (bytesOfString "/a") [mPOST] =
    [(bytesOfString "/a", [mGET, mPOST])] := by decide +kernel
example : Spec.add [(bytesOfString "/a", [mGET])] (bytesOfString "/b") [] =
    [(bytesOfString "/a", [mGET]), (bytesOfString "/b", anyMethods)] := by decide +kernel
example : Spec.remove [(bytesOfString "/a", [mGET, mPOST]), (bytesOfString "/b", [mGET])] (bytesOfString "/a")
    [mGET, mHEAD, mOPTIONS] = [(bytesOfString "/a", [mPOST]), (bytesOfString "/b", [mGET])] := by decide +kernel
example : Spec.remove [(bytesOfString "/a", [mGET, mPOST]), (bytesOfString "/b", [mGET])] (bytesOfString "/a")
    [mGET, mPOST] = [(bytesOfString "/b", [mGET])] := by decide +kernel
example : Spec.remove [(bytesOfString "/a", [mGET, mPOST]), (bytesOfString "/b", [mGET])] (bytesOfString "/b") [] =
    [(bytesOfString "/a", [mGET, mPOST])] := by decide +kernel
example : Spec.clean [(bytesOfString "/a/x", [mGET]), (bytesOfString "/b", [mGET]), (bytesOfString "/a", [mPUT])]
    (bytesOfString "/a") = [(bytesOfString "/b", [mGET])] := by decide +kernel
example : Spec.methodSet true [mPOST, mGET] = [mGET, mHEAD, mOPTIONS, mPOST, mTRACE] ∧
    Spec.methodSet false [mDELETE] = [mDELETE, mOPTIONS] := by decide +kernel
example : Spec.count [(bytesOfString "/a", [mGET, mPOST]), (bytesOfString "/b", [mGET])] mGET = 2 := by
  decide +kernel

/-- The abstract table of the hand-built tree `exTree` of `Mux.Proofs.TreeReach` (route `GET /posts/{id}`); the
two are related by the simulation invariant (`exTree_sim`) … -/
def exTable : Spec.Table := [(bytesOfString "/posts/{id}", [mGET])]

theorem exTree_sim : Sim exTree exTable := by
  -- the tree is that of the history `Handle("/posts/{id}", h1, GET)`
  have h := sim_history (bytesOfString "r") [] { base := .notFound } none .options .notAllowed
    [.add (bytesOfString "/posts/{id}") { base := .user 1 } [] [mGET]] (by decide +kernel)
  rw [exTree_run] at h
  simp only [specRun, specRunFrom, Spec.stepWith, exTree_add] at h
  exact h

/-- … so the `_inv` statements apply to it: its `Routes()` are those of the table, -/
example : ∀ x, x ∈ exTree.routes ↔ x ∈ Spec.routes false exTable := C03_routes_inv exTree_sim
example : Spec.routes false exTable =
    [([42], [mOPTIONS]), (bytesOfString "/posts/{id}", [mGET, mHEAD, mOPTIONS])] := by decide +kernel
/-- and the hypotheses of `C03_removed_inv` hold for `HEAD /posts/5` (served by the `{id}` node, which
is not the root), whose conclusion names the live pair `("/posts/{id}", GET)`. -/
example : ∃ f n, exTree.handler ⟨fun _ _ => true⟩ (bytesOfString "/posts/5") [] mHEAD = .res f ∧ f.ok = true ∧
    f.node = some n ∧ n ≠ exTree.root ∧ exTable.has n.pattern mGET := by
  obtain ⟨f, n, hres, hn, hp, _, hok, _⟩ :
      ∃ f q, exTree.handler ⟨fun _ _ => true⟩ (bytesOfString "/posts/5") [] mHEAD = .res f ∧ f.node = some q ∧
        q.pattern = bytesOfString "/posts/{id}" ∧ f.handler = { base := .user 1 } ∧ f.ok = true ∧
        f.params = [(bytesOfString "id", bytesOfString "5")] := P14.view_spec (by decide +kernel)
  have hroot : n ≠ exTree.root := fun e => absurd (e ▸ hp) (by decide +kernel)
  refine ⟨f, n, hres, hok, hn, hroot, ?_⟩
  simpa using (C03_removed_inv exTree_sim hres hok hn hroot).2 (by decide +kernel)

private theorem exTree_noIdx : Node.All NoIdx exTree.root := by
  simp only [exTree, exMid, exLeaf, Node.All, AllL, and_true, NoIdx]
  decide

/-- the hypotheses of `C03_frame_remove_inv`/`C03_frame_clean_inv` on the hand-built tree: no index,
tracked names, `GET /posts/5` dispatched to the `{id}` node, `Remove("/posts/")` (an interior pattern)
and `Clean("/x")` succeed and leave the answer as it was. -/
example : Node.All NoIdx exTree.root ∧ NamesOkL [] exTree.root.children := ⟨exTree_noIdx, by decide⟩
example : ∃ f q t1 t2, exTree.handler ⟨fun _ _ => true⟩ (bytesOfString "/posts/5") [] mGET = .res f ∧
    f.node = some q ∧ q.pattern ≠ bytesOfString "/posts/" ∧ ¬ bytesOfString "/x" <+: q.pattern ∧
    exTree.remove (bytesOfString "/posts/") [] = .ok t1 ∧ exTree.clean (bytesOfString "/x") = .ok t2 ∧
    (∃ f', t1.handler ⟨fun _ _ => true⟩ (bytesOfString "/posts/5") [] mGET = .res f' ∧ SameAnswer f f') ∧
    (∃ f', t2.handler ⟨fun _ _ => true⟩ (bytesOfString "/posts/5") [] mGET = .res f' ∧ SameAnswer f f') := by
  have hnames : NamesOkL [] exTree.root.children := by decide
  obtain ⟨f, q, hres, hq, hp, _⟩ :
      ∃ f q, exTree.handler ⟨fun _ _ => true⟩ (bytesOfString "/posts/5") [] mGET = .res f ∧ f.node = some q ∧
        q.pattern = bytesOfString "/posts/{id}" ∧ f.handler = { base := .user 1 } ∧ f.ok = true ∧
        f.params = [(bytesOfString "id", bytesOfString "5")] := P14.view_spec (by decide +kernel)
  have hne1 : q.pattern ≠ bytesOfString "/posts/" := by rw [hp]; decide +kernel
  have hne2 : ¬ bytesOfString "/x" <+: q.pattern := by rw [hp, ← hasPrefix_iff]; decide +kernel
  have hr := remove_step exTree_sim.inv (bytesOfString "/posts/") []
  have hc := clean_step exTree_sim.inv (bytesOfString "/x")
  exact ⟨f, q, _, _, hres, hq, hne1, hne2, hr, hc,
    C03_frame_remove_inv exTree_sim exTree_noIdx hnames hr hres hq hne1,
    C03_frame_clean_inv exTree_sim exTree_noIdx hnames hc hres hq hne2⟩

/-! ## Outside `WfOps`

Nothing is claimed for patterns with a brace inside a parameter token or an unbalanced brace.  The shape to look at is
the history
  `add "{abc{d}/x" GET ; add "{abc{ee}/y" GET ; add "{abc{d}/x" POST`
(no interceptors, no TRACE): a `longestPrefix` that cuts INSIDE the parameter token (after `{abc`) makes the split-off
half a literal, the third `add` then compares the named segment `"{abc{d}/x"` only with children of its own kind, and
two nodes carry the pattern `"{abc{d}/x"` — `C03_table`, `C03_routes` and the uniqueness of patterns fail.  The
model's `longestPrefix` returns 0 on these two texts (the D28 repair, `C17.C17_cut_inside_token_repaired`), and on this
history `Routes()` and `specRun` agree. -/

end Mux.C03
