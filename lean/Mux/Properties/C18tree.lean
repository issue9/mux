/-
  C18 (tree part) — TRACE follows the `WithTrace` option: listed in every Allow set, never
  registrable by hand, answered before matching; without the option it is an ordinary method.
  (The `Trace` helper / escaping clauses of C18 live in `Mux/Properties/C18.lean`.)
-/
import Mux.Proofs.TreeHead
import Mux.Proofs.GetNodeFuel
namespace Mux.C18
open Mux

/-- Invariant form of `C18_allow`: with a TRACE handler configured, TRACE is in `Methods()` of every
node below the root that has handlers, and in the root's (`OPTIONS *`). -/
theorem C18_allow_inv {t : Tree} (hinv : TreeInv2 t) (htr : t.hasTrace = true) :
    (∀ n ∈ nodesL t.root.children, n.handlers ≠ [] → mTRACE ∈ n.methods) ∧ mTRACE ∈ t.root.methods := by
  refine ⟨?_, (root_methods hinv mTRACE).2 (.inr (.inl ⟨htr, rfl⟩))⟩
  intro n hn hne
  exact ((good_methods (hinv.toTreeInv.good hn) hne).2 mTRACE).2 (.inr ⟨htr, rfl⟩)

/-- `C18_allow_inv` for every tree a history produces.  (`AllowHeader()` is the `", "`-join of
`Methods()` by definition, and by `C04_views_agree` the OPTIONS and 405 answers use that node.) -/
theorem C18_allow {t : Tree} (hr : t.Reach) (htr : t.hasTrace = true) :
    (∀ n ∈ nodesL t.root.children, n.handlers ≠ [] → mTRACE ∈ n.methods) ∧ mTRACE ∈ t.root.methods :=
  C18_allow_inv hr.inv2 htr

/-- Without the option TRACE is listed exactly where it was registered by hand. -/
theorem C18_allow_without {t : Tree} (hr : t.Reach) (htr : t.hasTrace = false) :
    (∀ n ∈ nodesL t.root.children, n.handlers ≠ [] → (mTRACE ∈ n.methods ↔ mTRACE ∈ n.handlers.keys)) ∧
    (mTRACE ∈ t.root.methods ↔ mTRACE ∈ liveMethods t.counts) := by
  obtain ⟨c1, c2, c3, c4, c5, c6, c7, c8, c9, c10⟩ := method_consts_ne
  constructor
  · intro n hn hne
    rw [(good_methods (hr.inv.good hn) hne).2 mTRACE]
    simp [htr, c10]
  · rw [root_methods hr.inv2 mTRACE]
    have h9 : ¬ mTRACE = mOPTIONS := fun h => c9 h.symm
    simp [htr, h9]

/-- With a TRACE handler configured, a method list containing TRACE — at any
position — is never accepted. -/
theorem C18_reserved (t : Tree) (htr : t.hasTrace = true) (p : Bytes) (h : Handler) (ms : List Nat)
    (methods : List Bytes) (hm : mTRACE ∈ methods) :
    (∀ t', t.add p h ms methods ≠ .ok t') ∧ t.step (.add p h ms methods) = t := by
  obtain ⟨⟨e, he⟩, hs⟩ := add_bad_rejected t p h ms methods ⟨mTRACE, hm, .inr (.inr (.inl ⟨htr, rfl⟩))⟩
  exact ⟨fun t' ht' => absurd (he.symm.trans ht') nofun, hs⟩

/-- Once the pattern is acceptable the error of `C18_reserved` is `reserved` when TRACE is the first refused
entry (here: the only method). -/
theorem C18_reserved_error (t : Tree) (htr : t.hasTrace = true) (p : Bytes) (h : Handler) (ms : List Nat)
    {a : Option Bool} (hamb : t.root.checkAmb t.ic p false = .ok a) (ha : a ≠ some true)
    {segs : List Seg} (hsp : split t.ic p = .ok segs) :
    t.add p h ms [mTRACE] = .error .reserved := by
  rw [Tree.add_of_valid h ms [mTRACE] hamb ha hsp, effMethods_of_ne (List.cons_ne_nil _ _), checkMethods_cons]
  simp [htr]

/-- The TRACE short-circuit of `Tree.Handler`: answered by the configured handler on the root node
for every path, before any matching. -/
theorem C18_trace_shortcut (env : Env) (t : Tree) (path : Bytes) (ps : Params) (h : Handler)
    (htr : t.trace = some h) :
    t.handler env path ps mTRACE = .res { node := some t.root, handler := h, ok := true, params := ps } :=
  Tree.handler_trace env t path ps h htr

example : TreeInv2 exTreeT ∧ exTreeT.hasTrace = true ∧ exLeafT ∈ nodesL exTreeT.root.children ∧
    exLeafT.handlers ≠ [] := ⟨exTreeT_inv2, rfl, exLeafT_mem, by simp [exLeafT]⟩
example : mTRACE ∈ exLeafT.methods ∧ mTRACE ∈ exTreeT.root.methods :=
  ⟨(C18_allow_inv exTreeT_inv2 rfl).1 exLeafT exLeafT_mem (by simp [exLeafT]), (C18_allow_inv exTreeT_inv2 rfl).2⟩
example : exLeafT.allow = bytesOfString "GET, HEAD, OPTIONS, TRACE" ∧
    exTreeT.root.allow = bytesOfString "GET, OPTIONS, TRACE" := by simp only [bytesOfString_eq_data]; decide +kernel
/-- a reachable tree with the option -/
example : ∃ t : Tree, t.Reach ∧ t.hasTrace = true :=
  ⟨(Tree.new [114] [] { base := .notFound } (some { base := .trace })).run
      [.add (bytesOfString "/a") { base := .user 1 } [] [mGET]],
    ⟨_, _, _, _, _, _, _, rfl⟩, (sameCfg_run _ _).1⟩
example : mTRACE ∈ [mGET, mTRACE] := by simp

end Mux.C18
