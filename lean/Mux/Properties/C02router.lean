/-
  C02 at ROUTER level, for "a router whose routes were only ever added": histories of `Handle` (with or
  without per-route middlewares) and `Use` from `NewRouter(cfg)`.

  `C02_resolve` (`C02resolve.lean`) is a statement about TREE histories consisting of `add` only (`AddOnly`
  excludes `Use`), with the residual hypothesis that the dispatch answers `.res`.  Here:

  * `C02_resolve_use` / `C02_resolve_use_404`: the same statement for tree histories of `add` AND `use`
    (`AddUse`): middlewares map handlers and leave segments, patterns and children alone, so the "forked or
    live" invariant `FInv` behind the canonical form survives (`Mux/Proofs/ResolveHistory.lean`).
  * `C02_router_resolve` / `C02_router_resolve_404`: from `Router.new cfg`, any history of `Handle`/`Use`
    whose registered patterns are well-formed, any request with an ASCII path other than `""`/`*` (and not
    the TRACE short-circuit): `Router.serveContext` ALWAYS hands a call to `CallFunc` (no fault, no
    `unsupported`), the reported route and parameters are an outcome `Spec.resolveAll` allows for the set of
    routes the router holds, and the call is the 404 exactly when the reference resolver finds nothing.
  * `C02_router_routes`: when every `Handle` is accepted, that set is the set of registered patterns — it
    does not depend on the `Use` calls, the middleware lists or the registration order
    (`C02_router_order_independent`).
-/
import Mux.Properties.C02resolve
import Mux.Properties.C01router
import Mux.Proofs.ResolveHistory
namespace Mux.C02
open Mux Mux.P8 Mux.P15 Mux.P28 Mux.Spec

/-- Tree form: a tree with the invariants of a well-formed history (`AllInv`) and the "forked or live"
invariant (`FInv`, for some abstract table) refines the reference resolver on its own route set. -/
theorem C02_resolve_finv (env : Env) (t : Tree) (hinv : P14.AllInv t) {tb : Spec.Table} (hf : FInv t tb)
    (rs : List Bytes) (hrs : ∀ p, p ∈ rs ↔ p ∈ (tableOf t).patterns)
    (path : Bytes) (hp : path ≠ []) (hstar : path ≠ [42]) (method : Bytes) (htr : t.trace = none ∨ method ≠ mTRACE)
    (f : Found) (h : t.handler env path [] method = .res f) : Admissible env t.ic rs path (outcome f) :=
  (C02_spec_order_independent env t.ic _ _ hrs path _).2
    (C02_resolve_partial env t _ hinv.s2 (canonical_of_FInv hf) hinv.names path hp hstar method htr f h)

/-- `C02_resolve` for histories of registrations AND `Use` calls (in any order, each
registration accepted or rejected, well-formed patterns): for every list `rs` of exactly the routes the tree
holds, every dispatch of a path other than `""` and `*` answers with a route and parameters that the documented
procedure allows for `rs`, and with 404 only if the procedure finds no route.  Middlewares do not disturb the
resolution. -/
theorem C02_resolve_use (env : Env) (name : Bytes) (ic : Interceptors) (nf : Handler) (tr : Option Handler)
    (ob nb : Base) (ops : List TOp) (ha : AddUse ops) (hw : ∀ op ∈ ops, op.wf = true) (rs : List Bytes)
    (hrs : ∀ p, p ∈ rs ↔ p ∈ (tableOf ((Tree.new name ic nf tr ob nb).run ops)).patterns)
    (path : Bytes) (hp : path ≠ []) (hstar : path ≠ [42]) (method : Bytes) (htr : tr = none ∨ method ≠ mTRACE)
    (f : Found) (h : ((Tree.new name ic nf tr ob nb).run ops).handler env path [] method = .res f) :
    Admissible env ic rs path (outcome f) := by
  have := C02_resolve_finv env _ ((P14.AllInv.new name ic nf tr ob nb).run hw)
    (finv_history_use name ic nf tr ob nb ops ha hw) rs hrs path hp hstar method (run_trace ops htr) f h
  rw [run_ic] at this
  exact this

/-- "404 exactly when the procedure finds no route", for every history of registrations and `Use` calls. -/
theorem C02_resolve_use_404 (env : Env) (name : Bytes) (ic : Interceptors) (nf : Handler) (tr : Option Handler)
    (ob nb : Base) (ops : List TOp) (ha : AddUse ops) (hw : ∀ op ∈ ops, op.wf = true) (rs : List Bytes)
    (hrs : ∀ p, p ∈ rs ↔ p ∈ (tableOf ((Tree.new name ic nf tr ob nb).run ops)).patterns)
    (path : Bytes) (hp : path ≠ []) (hstar : path ≠ [42]) (method : Bytes) (htr : tr = none ∨ method ≠ mTRACE)
    (f : Found) (h : ((Tree.new name ic nf tr ob nb).run ops).handler env path [] method = .res f) :
    f.node = none ↔ resolveAll env ic rs path = [] :=
  admissible_none_iff (C02_resolve_use env name ic nf tr ob nb ops ha hw rs hrs path hp hstar method htr f h)

/-- The tree of such a history is in canonical form for its own route table (`C02_canonical` with `Use`). -/
theorem C02_canonical_use (name : Bytes) (ic : Interceptors) (nf : Handler) (tr : Option Handler) (ob nb : Base)
    (ops : List TOp) (ha : AddUse ops) (hw : ∀ op ∈ ops, op.wf = true) :
    Canonical ((Tree.new name ic nf tr ob nb).run ops) (tableOf ((Tree.new name ic nf tr ob nb).run ops)).patterns :=
  canonical_of_FInv (finv_history_use name ic nf tr ob nb ops ha hw)

/-- What a call reports, in the resolver's terms: `none` for the 404, else route pattern and parameters. -/
def callOutcome (c : Call) : Option (Bytes × Params) := c.node.map fun n => (n.pattern, c.params)

/-- What a call of such a router reports is an outcome the resolver allows. -/
private theorem call_admissible (env : Env) {cfg : RouterCfg} {r0 : Router} (hnew : Router.new cfg = some r0)
    (ops : List ROp) (hadd : HandleUse ops) (hw : ∀ op ∈ ops, P18.ROp.wf op = true) (rs : List Bytes)
    (hrs : ∀ p, p ∈ rs ↔ p ∈ (tableOf (r0.run ops).tree).patterns) (req : Req)
    (hp : req.path ≠ []) (hs : req.path ≠ [42]) (htr : cfg.trace = false ∨ req.method ≠ mTRACE) {c : Call}
    (hc : (r0.run ops).serveContext env req [] = .call c) : Admissible env cfg.ic rs req.path (callOutcome c) := by
  have hinv : P14.AllInv (r0.run ops).tree := (P18.reachAll_run hnew hw).inv
  have hf := finv_routerFrom (finv_router_new hnew) ops hadd hw
  obtain ⟨hic, _, htrace⟩ := C01.router_cfg hnew ops
  obtain ⟨hfound, _⟩ := P18.serveContext_call_found env (r0.run ops) req [] c hc
  have hadm := C02_resolve_finv env _ hinv hf rs hrs req.path hp hs req.method (htr.imp htrace id) _ hfound
  rwa [hic] at hadm

/-- `NewRouter(cfg)`, then any history of `Handle` (with any per-route middlewares and
methods, accepted or rejected) and `Use` calls whose registered patterns are well-formed — a router whose routes
were only ever added —, then any request whose path is ASCII and neither `""` nor `*` (and which is not answered by
the TRACE short-circuit).  Then `Router.serveContext` hands a call `c` to `CallFunc` (it neither faults nor leaves
the modelled regexp dialect), and what `c` reports — route pattern and parameter values, or no route (404) — is an
outcome the documented procedure `Spec.resolveAll` allows for `rs`, any list of exactly the routes the router
holds: a member of `resolveAll env cfg.ic rs req.path`, resp. 404 only if that list is empty. -/
theorem C02_router_resolve (env : Env) {cfg : RouterCfg} {r0 : Router} (hnew : Router.new cfg = some r0)
    (ops : List ROp) (hadd : HandleUse ops) (hw : ∀ op ∈ ops, P18.ROp.wf op = true) (rs : List Bytes)
    (hrs : ∀ p, p ∈ rs ↔ p ∈ (tableOf (r0.run ops).tree).patterns) (req : Req)
    (hasc : isAscii req.path = true) (hp : req.path ≠ []) (hs : req.path ≠ [42])
    (htr : cfg.trace = false ∨ req.method ≠ mTRACE) :
    ∃ c, (r0.run ops).serveContext env req [] = .call c ∧ Admissible env cfg.ic rs req.path (callOutcome c) := by
  have hinv := (P18.reachAll_run hnew hw).inv
  obtain ⟨f, hres⟩ := handler_total hinv.ti.inv2.toTreeInv (SOk2.all_SOk _ hinv.s2.all) env req.path hasc req.method
  exact ⟨_, Router.serveContext_res hres,
    call_admissible env hnew ops hadd hw rs hrs req hp hs htr (Router.serveContext_res hres)⟩

/-- **"404 exactly when the procedure finds no route"** at router level: under the hypotheses of
`C02_router_resolve` the call reports no route iff `Spec.resolveAll` finds nothing for the routes held. -/
theorem C02_router_resolve_404 (env : Env) {cfg : RouterCfg} {r0 : Router} (hnew : Router.new cfg = some r0)
    (ops : List ROp) (hadd : HandleUse ops) (hw : ∀ op ∈ ops, P18.ROp.wf op = true) (rs : List Bytes)
    (hrs : ∀ p, p ∈ rs ↔ p ∈ (tableOf (r0.run ops).tree).patterns) (req : Req)
    (hasc : isAscii req.path = true) (hp : req.path ≠ []) (hs : req.path ≠ [42])
    (htr : cfg.trace = false ∨ req.method ≠ mTRACE) :
    ∃ c, (r0.run ops).serveContext env req [] = .call c ∧
      (c.node = none ↔ resolveAll env cfg.ic rs req.path = []) ∧
      (∀ n, c.node = some n → (n.pattern, c.params) ∈ resolveAll env cfg.ic rs req.path) := by
  obtain ⟨c, hc, hadm⟩ := C02_router_resolve env hnew ops hadd hw rs hrs req hasc hp hs htr
  refine ⟨c, hc, admissible_none_iff hadm, ?_⟩
  · intro n hn
    unfold callOutcome at hadm
    rw [hn] at hadm
    exact hadm

/-- The same for `Router.ServeHTTP`: the call it hands to `CallFunc` is the one of `serveContext`. -/
theorem C02_router_resolve_serveHTTP (env : Env) (pc : PanicCfg) (scripts : Scripts) {cfg : RouterCfg} {r0 : Router}
    (hnew : Router.new cfg = some r0) (ops : List ROp) (hadd : HandleUse ops) (hw : ∀ op ∈ ops, P18.ROp.wf op = true)
    (rs : List Bytes) (hrs : ∀ p, p ∈ rs ↔ p ∈ (tableOf (r0.run ops).tree).patterns) (req : Req)
    (hp : req.path ≠ []) (hs : req.path ≠ [42]) (htr : cfg.trace = false ∨ req.method ≠ mTRACE) (c : Call)
    (h : ((r0.run ops).serveHTTP env pc scripts req []).1 = some c) :
    Admissible env cfg.ic rs req.path (callOutcome c) :=
  call_admissible env hnew ops hadd hw rs hrs req hp hs htr (C01.C01_serveHTTP_call env pc scripts _ req [] c h)

/-! ## The routes held are the registered patterns -/

/-- Every `Handle` of the history is accepted (on the router it is applied to). -/
def RAccepted : Router → List ROp → Prop
  | _, [] => True
  | r, op :: ops =>
    (match op with
     | .handle p h m methods => ∃ r', r.handle p h m methods = .ok r'
     | _ => True) ∧ RAccepted (r.step op) ops

theorem handle_ok_add {r r' : Router} {p : Bytes} {h : Nat} {m : List Nat} {methods : List Bytes}
    (hh : r.handle p h m methods = .ok r') : ∃ t', r.tree.add p { base := .user h } (m ++ r.ms) methods = .ok t' :=
  (map_ok_iff.1 ((Router.handle_eq ..).symm.trans hh)).imp fun _ h => h.1

private theorem accepted_tops : ∀ (ops : List ROp) (r : Router), RAccepted r ops → Accepted r.tree (r.tops ops)
  | [], _, _ => trivial
  | op :: ops, r, ⟨h1, hrest⟩ => by
    refine ⟨?_, P18.step_tree_eq r op ▸ accepted_tops ops (r.step op) hrest⟩
    cases op with
    | handle p h m methods => exact h1.elim fun _ hr' => handle_ok_add hr'
    | _ => trivial

theorem patterns_rTableFrom : ∀ (ops : List ROp) (r : Router) (tb : Spec.Table), HandleUse ops → RAccepted r ops →
    ∀ q, q ∈ (specRunFrom r.tree tb (r.tops ops)).patterns ↔ q ∈ tb.patterns ∨ ∃ h m methods, ROp.handle q h m methods ∈ ops :=
  fun ops r tb ha hacc q => by
    rw [patterns_of_accepted _ _ _ (r.tops_addUse ha) (accepted_tops ops r hacc) q, Router.add_mem_tops]

/-- When every `Handle` of a `Handle`/`Use` history is accepted, the routes the router
holds are exactly the registered patterns — whatever the handlers, methods, middleware lists and `Use` calls. -/
theorem C02_router_routes {cfg : RouterCfg} {r0 : Router} (hnew : Router.new cfg = some r0) (ops : List ROp)
    (hadd : HandleUse ops) (hw : ∀ op ∈ ops, P18.ROp.wf op = true) (hacc : RAccepted r0 ops) (p : Bytes) :
    p ∈ (tableOf (r0.run ops).tree).patterns ↔ ∃ h m methods, ROp.handle p h m methods ∈ ops := by
  have hs := (finv_routerFrom (finv_router_new hnew) ops hadd hw).sim
  rw [hs.patterns p, patterns_rTableFrom ops r0 [] hadd hacc p]
  simp [Spec.Table.patterns]

/-- **Independence of registration order, middlewares and `Use` calls.**  Two `Handle`/`Use` histories on routers
created with the same interceptors, all registrations accepted, that register the same patterns (in any order,
with any handlers, methods and middlewares, `Use` calls anywhere): every ASCII request path other than `""`/`*` is
answered by both with an outcome admissible for the common set of registered patterns `rs`, and it is a 404 for
one exactly when it is a 404 for the other. -/
theorem C02_router_order_independent (env : Env) {cfg1 cfg2 : RouterCfg} {r1 r2 : Router}
    (hnew1 : Router.new cfg1 = some r1) (hnew2 : Router.new cfg2 = some r2) (hic : cfg1.ic = cfg2.ic)
    (ops1 ops2 : List ROp) (ha1 : HandleUse ops1) (ha2 : HandleUse ops2)
    (hw1 : ∀ op ∈ ops1, P18.ROp.wf op = true) (hw2 : ∀ op ∈ ops2, P18.ROp.wf op = true)
    (hacc1 : RAccepted r1 ops1) (hacc2 : RAccepted r2 ops2) (rs : List Bytes)
    (hrs1 : ∀ p, p ∈ rs ↔ ∃ h m methods, ROp.handle p h m methods ∈ ops1)
    (hrs2 : ∀ p, p ∈ rs ↔ ∃ h m methods, ROp.handle p h m methods ∈ ops2)
    (req : Req) (hasc : isAscii req.path = true) (hp : req.path ≠ []) (hs : req.path ≠ [42])
    (htr1 : cfg1.trace = false ∨ req.method ≠ mTRACE) (htr2 : cfg2.trace = false ∨ req.method ≠ mTRACE) :
    ∃ c1 c2, (r1.run ops1).serveContext env req [] = .call c1 ∧ (r2.run ops2).serveContext env req [] = .call c2 ∧
      Admissible env cfg1.ic rs req.path (callOutcome c1) ∧ Admissible env cfg1.ic rs req.path (callOutcome c2) ∧
      (c1.node = none ↔ c2.node = none) := by
  have h1 : ∀ p, p ∈ rs ↔ p ∈ (tableOf (r1.run ops1).tree).patterns := fun p => by
    rw [C02_router_routes hnew1 ops1 ha1 hw1 hacc1 p]; exact hrs1 p
  have h2 : ∀ p, p ∈ rs ↔ p ∈ (tableOf (r2.run ops2).tree).patterns := fun p => by
    rw [C02_router_routes hnew2 ops2 ha2 hw2 hacc2 p]; exact hrs2 p
  obtain ⟨c1, e1, a1⟩ := C02_router_resolve env hnew1 ops1 ha1 hw1 rs h1 req hasc hp hs htr1
  obtain ⟨c2, e2, a2⟩ := C02_router_resolve env hnew2 ops2 ha2 hw2 rs h2 req hasc hp hs htr2
  rw [← hic] at a2
  exact ⟨c1, c2, e1, e2, a1, a2, by rw [admissible_none_iff a1, admissible_none_iff a2]⟩

/-! ## Non-vacuity -/

/-- `Handle("/u/{id}", h7, GET)` with the per-route middleware 1; `Use(2)`; `Handle("/u/{id}/x", h8)` with the
middleware 3; `Use(4, 5)`. -/
def ruOps : List ROp :=
  [.handle (bytesOfString "/u/{id}") 7 [1] [mGET], .use [2],
   .handle (bytesOfString "/u/{id}/x") 8 [3] [], .use [4, 5]]
def ruR : Router := C01.exR0.run ruOps
/-- `GET /u/5/x` -/
def ruReq : Req := { method := mGET, path := bytesOfString "/u/5/x" }

theorem ruOps_wf : ∀ op ∈ ruOps, P18.ROp.wf op = true := by decide +kernel

/-- The hypotheses of `C02_router_resolve` hold of this history and request … -/
example : Router.new C01.exCfg = some C01.exR0 ∧ HandleUse ruOps ∧ (∀ op ∈ ruOps, P18.ROp.wf op = true) ∧
    isAscii ruReq.path = true ∧ ruReq.path ≠ [] ∧ ruReq.path ≠ [42] ∧ C01.exCfg.trace = false :=
  ⟨rfl, by decide, ruOps_wf, by decide +kernel, by decide +kernel, by decide +kernel, rfl⟩

/-- The history is evaluated once, for the facts about `ruR` below (as one Boolean, so that the instances are found
fact by fact). -/
private theorem ruR_eval :
    ((tableOf ruR.tree).patterns == [bytesOfString "/u/{id}/x", bytesOfString "/u/{id}"] &&
     (C01.callHandler (ruR.serveContext C01.exEnvG ruReq [])).map (·.wraps.length) == some 4 &&
     C01.callView (ruR.serveContext C01.exEnvG ruReq []) ==
       some (some (bytesOfString "/u/{id}/x"), true, [(bytesOfString "id", [53])]) &&
     C01.callView (ruR.serveContext C01.exEnvG { method := mGET, path := bytesOfString "/u/5/y" } []) ==
       some (some (bytesOfString "/u/{id}"), true, [(bytesOfString "id", [53, 47, 121])]) &&
     C01.callView (ruR.serveContext C01.exEnvG { method := mGET, path := bytesOfString "/v" } []) ==
       some (none, false, [])) = true := by
  rw [ruR, Router.run_eq_F]
  simp only [ruOps, ruReq, bytesOfString_eq_data]
  decide +kernel

/-- … the router holds the two routes … -/
example : (tableOf ruR.tree).patterns = [bytesOfString "/u/{id}/x", bytesOfString "/u/{id}"] := by
  have h := ruR_eval
  simp only [Bool.and_eq_true, beq_iff_eq] at h
  exact h.1.1.1.1

/-- … the handlers in the tree ARE wrapped by the middlewares (the history is not trivial) … -/
example : (C01.callHandler (ruR.serveContext C01.exEnvG ruReq [])).map (·.wraps.length) = some 4 := by
  have h := ruR_eval
  simp only [Bool.and_eq_true, beq_iff_eq] at h
  exact h.1.1.1.2

/-- … and `GET /u/5/x` is dispatched to `/u/{id}/x` with `id = 5`, one of the two outcomes the resolver allows
(the other one is the pattern-final parameter of `/u/{id}` taking the whole rest `5/x`); `GET /u/5/y` has the single
outcome `/u/{id}` with `id = 5/y`, and `GET /v` is a 404 for both. -/
example : C01.callView (ruR.serveContext C01.exEnvG ruReq []) =
      some (some (bytesOfString "/u/{id}/x"), true, [(bytesOfString "id", [53])]) ∧
    resolveAll C01.exEnvG [] [bytesOfString "/u/{id}/x", bytesOfString "/u/{id}"] ruReq.path =
      [(bytesOfString "/u/{id}/x", [(bytesOfString "id", [53])]),
       (bytesOfString "/u/{id}", [(bytesOfString "id", [53, 47, 120])])] ∧
    C01.callView (ruR.serveContext C01.exEnvG { method := mGET, path := bytesOfString "/u/5/y" } []) =
      some (some (bytesOfString "/u/{id}"), true, [(bytesOfString "id", [53, 47, 121])]) ∧
    resolveAll C01.exEnvG [] [bytesOfString "/u/{id}/x", bytesOfString "/u/{id}"] (bytesOfString "/u/5/y") =
      [(bytesOfString "/u/{id}", [(bytesOfString "id", [53, 47, 121])])] ∧
    C01.callView (ruR.serveContext C01.exEnvG { method := mGET, path := bytesOfString "/v" } []) =
      some (none, false, []) ∧
    resolveAll C01.exEnvG [] [bytesOfString "/u/{id}/x", bytesOfString "/u/{id}"] (bytesOfString "/v") = [] := by
  have h := ruR_eval
  simp only [Bool.and_eq_true, beq_iff_eq] at h
  refine ⟨h.1.1.2, ?_, h.1.2, ?_, h.2, ?_⟩
  all_goals simp only [ruReq, bytesOfString_eq_data]; decide +kernel

/-- A tree history with `use` between the registrations: the hypotheses of `C02_resolve_use` (example below). -/
def tuOps : List TOp :=
  [.add [47, 97] { base := .user 1 } [1] [], .use [2], .add [47, 97, 47, 98] { base := .user 2 } [] []]
example : AddUse tuOps ∧ ¬ AddOnly tuOps ∧ (∀ op ∈ tuOps, op.wf = true) := by
  refine ⟨by decide, ?_, by decide +kernel⟩
  intro h
  obtain ⟨p, hd, ms, methods, e⟩ := h (.use [2]) (by simp [tuOps])
  cases e

end Mux.C02
