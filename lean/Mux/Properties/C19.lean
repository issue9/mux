/-
  C19 — Prefix and Resource are pure shorthand for Router calls.

  A `Prefix`/`Resource` object is a `Facade` (pattern + middleware list).  `FOp`/`runF` (Mux/Proofs/Facade.lean)
  are façade programs and their interpreter (a table of façade objects and one router); `desugar` translates a
  program into plain router calls (`DOp`: a `ROp` or a `Router.URL` query).
-/
import Mux.Proofs.Facade
import Mux.Proofs.Clean
import Mux.Proofs.Onion
import Mux.Proofs.RunFuel
import Mux.Proofs.WOkOps
import Mux.Proofs.DecEq
namespace Mux.C19
open Mux Mux.P10

theorem C19_handle (p : Facade) (r : Router) (pat : Bytes) (h : Nat) (m : List Nat) (methods : List Bytes) :
    p.handle r pat h m methods = r.handle (p.pattern ++ pat) h (m ++ p.ms) methods := rfl

/-- `Resource.Handle` (no pattern argument) registers the resource's own pattern. -/
theorem C19_resourceHandle (p : Facade) (r : Router) (h : Nat) (m : List Nat) (methods : List Bytes) :
    p.handle r [] h m methods = r.handle p.pattern h (m ++ p.ms) methods := by
  simp [Facade.handle]

theorem C19_remove (p : Facade) (r : Router) (pat : Bytes) (methods : List Bytes) :
    p.remove r pat methods = r.remove (p.pattern ++ pat) methods := rfl

theorem C19_url (env : Env) (p : Facade) (r : Router) (strict : Bool) (pat : Bytes) (ps : AMap Bytes) :
    p.url env r strict pat ps = r.url env strict (p.pattern ++ pat) ps := rfl

/-- `Resource.Clean` removes the one pattern with all its methods. -/
theorem C19_resourceClean (p : Facade) (r : Router) : p.resourceClean r = r.remove p.pattern [] := rfl

/-- `Prefix.Clean` is `Router.Clean` (`tree.Clean`) of the prefix. -/
theorem C19_prefixClean (p : Facade) (r : Router) : p.prefixClean r = r.clean p.pattern := rfl

/-- Nested prefixes: patterns concatenate outside-in, middleware lists inside-out (the inner prefix's
middlewares come first = innermost). -/
theorem C19_nested (a b : Bytes) (ma mb : List Nat) :
    (Facade.ofRouter a ma).sub b mb = ⟨a ++ b, mb ++ ma⟩ := rfl

theorem C19_nested_handle (a b : Bytes) (ma mb : List Nat) (r : Router) (pat : Bytes) (h : Nat) (m : List Nat)
    (methods : List Bytes) :
    ((Facade.ofRouter a ma).sub b mb).handle r pat h m methods =
      r.handle (a ++ b ++ pat) h (m ++ (mb ++ ma)) methods := rfl

/-- Any depth: a chain of nested prefixes is one prefix with the concatenated pattern and the reversed
concatenation of the middleware lists (later arguments outermost, outer prefixes outermost). -/
theorem C19_nested_chain (root : Facade) (chain : List (Bytes × List Nat)) :
    chain.foldl (fun f e => f.sub e.1 e.2) root =
      ⟨root.pattern ++ (chain.map (·.1)).flatten, (chain.reverse.map (·.2)).flatten ++ root.ms⟩ := by
  induction chain generalizing root with
  | nil => simp
  | cons e rest ih =>
    simp only [List.foldl_cons]
    rw [ih]
    simp [Facade.sub]

/-- Running a façade program (façade objects as in Go) and running its translation into plain
`Router.Handle/Remove/Clean/Use/URL` calls give the same router — hence the same `Routes()`, dispatch,
parameters, middleware stacks and `Allow` headers — and the same sequence of URL results; from any start state. -/
theorem C19_equiv_state (env : Env) (s : FState) (prog : List FOp) :
    runD env ⟨s.router, s.out⟩ (desugarFrom s.tab prog) = ⟨(runF env s prog).router, (runF env s prog).out⟩ :=
  runF_desugar env prog s

theorem C19_equiv (env : Env) (r0 : Router) (prog : List FOp) :
    (runF env { router := r0 } prog).router = r0.run (plainOps (desugar prog)) ∧
    (runF env { router := r0 } prog).out = (runD env { router := r0 } (desugar prog)).out := by
  refine ⟨runF_router env r0 prog, ?_⟩
  exact (congrArg DState.out (runF_desugar env prog { router := r0 })).symm

/-- From `NewRouter`: the router a façade program builds is the router of a plain history. -/
theorem C19_equiv_new (env : Env) {cfg : RouterCfg} {r0 : Router} (_hnew : Router.new cfg = some r0)
    (prog : List FOp) : (runF env { router := r0 } prog).router = r0.run (plainOps (desugar prog)) :=
  (C19_equiv env r0 prog).1

/-- On a tree whose stored patterns are consistent (`PatternOk`, root pattern `""`;
both hold for every reachable router, `C19_clean_router`), a successful `Tree.Clean(pre)`:
* keeps, below the root, exactly the nodes whose pattern does NOT have `pre` as a textual prefix — with their
  pattern, method index and handlers (`infosL`, in depth-first order), and
* `Routes()` is the old list without the routes whose pattern starts with `pre` (the `*` entry stays).
No hypothesis on sibling segments is needed; `pre` may end anywhere (inside a `{…}` token as well), and for
`pre = ""` everything is removed (`C19_clean_all`). -/
theorem C19_clean {t t' : Tree} {pre : Bytes} (hp : Node.PatternOk t.root) (h0 : t.root.pattern = [])
    (h : t.clean pre = .ok t') :
    infosL t'.root.children = (infosL t.root.children).filter (fun e => !hasPrefix e.1 pre) ∧
    routesL t'.root.children = (routesL t.root.children).filter (fun x => !hasPrefix x.1 pre) ∧
    t'.routes = ([42], mOPTIONS :: (if t.hasTrace then [mTRACE] else [])) ::
      (routesL t.root.children).filter (fun x => !hasPrefix x.1 pre) := by
  obtain ⟨root1, hclean, rfl⟩ := Tree.clean_ok h
  have h5 := clean_infos t.root pre root1 hp hclean
  rw [h0, List.nil_append] at h5
  have hc : (({ t with root := root1 } : Tree).recount).root.children = root1.children := by
    simp [Tree.recount, Node.setHandlers]
  have hr : routesL root1.children = (routesL t.root.children).filter (fun x => !hasPrefix x.1 pre) := by
    rw [routesL_infos, routesL_infos, h5, filterMap_filter_keeps]
  refine ⟨by rw [hc]; exact h5, by rw [hc]; exact hr, ?_⟩
  unfold Tree.routes
  rw [hc, hr]
  rfl

/-- As sets: a route survives iff it was there and does not start with the prefix. -/
theorem C19_clean_mem {t t' : Tree} {pre : Bytes} (hp : Node.PatternOk t.root) (h0 : t.root.pattern = [])
    (h : t.clean pre = .ok t') (x : Bytes × List Bytes) :
    x ∈ routesL t'.root.children ↔ x ∈ routesL t.root.children ∧ ¬ pre <+: x.1 := by
  rw [(C19_clean hp h0 h).2.1, List.mem_filter, ← hasPrefix_iff]
  simp

theorem C19_clean_all {t t' : Tree} (hp : Node.PatternOk t.root) (h0 : t.root.pattern = [])
    (h : t.clean [] = .ok t') : routesL t'.root.children = [] ∧ infosL t'.root.children = [] := by
  obtain ⟨h1, h2, _⟩ := C19_clean hp h0 h
  rw [h1, h2]
  constructor
  · rw [List.filter_eq_nil_iff]; intro x _; simp [hasPrefix]
  · rw [List.filter_eq_nil_iff]; intro x _; simp [hasPrefix]

/-- For every tree a history of `Add/Remove/Clean/Use` produces (`PatternOk` is an invariant, `patInv_run`). -/
theorem C19_clean_reach {t t' : Tree} {pre : Bytes} (hr : t.Reach) (h : t.clean pre = .ok t') :
    infosL t'.root.children = (infosL t.root.children).filter (fun e => !hasPrefix e.1 pre) ∧
    routesL t'.root.children = (routesL t.root.children).filter (fun x => !hasPrefix x.1 pre) ∧
    t'.routes = ([42], mOPTIONS :: (if t.hasTrace then [mTRACE] else [])) ::
      (routesL t.root.children).filter (fun x => !hasPrefix x.1 pre) :=
  C19_clean (Tree.Reach.patternOk hr).1 (Tree.Reach.patternOk hr).2 h

/-- For every router made by `NewRouter` and any history, `Prefix.Clean()` of a façade with pattern `pre`. -/
theorem C19_clean_router {cfg : RouterCfg} {r0 : Router} (hnew : Router.new cfg = some r0) (ops : List ROp)
    (p : Facade) {r' : Router} (h : p.prefixClean (r0.run ops) = .ok r') :
    r'.routes = ([42], mOPTIONS :: (if cfg.trace then [mTRACE] else [])) ::
      (routesL (r0.run ops).tree.root.children).filter (fun x => !hasPrefix x.1 p.pattern) ∧
    infosL r'.tree.root.children =
      (infosL (r0.run ops).tree.root.children).filter (fun e => !hasPrefix e.1 p.pattern) := by
  have hw : WrapInv (r0.run ops) := wrap_run (wrap_new hnew) ops
  obtain ⟨t', ht', rfl⟩ := map_ok_iff.1 ((Router.clean_eq ..).symm.trans h)
  obtain ⟨h1, _, h3⟩ := C19_clean hw.patternOk hw.rootPat ht'
  refine ⟨?_, h1⟩
  unfold Router.routes
  rw [h3, (Router.run_treeCfg hnew ops).1]

/-- `api := r.Prefix("/api", 1); v1 := api.Prefix("/v1", 2); v1.Get("/users", h, 3); res := v1.Resource("/x/{id}", 4);
res.Get(h, 5); v1.Clean()` -/
def exProg : List FOp :=
  [.newPrefix (bytesOfString "/api") [1], .subPrefix 0 (bytesOfString "/v1") [2],
   .handle 1 (bytesOfString "/users") 7 [3] [mGET], .subResource 1 (bytesOfString "/x/{id}") [4],
   .resHandle 2 8 [5] [mGET], .url 2 false [] [], .prefixClean 1]

example : (plainOps (desugar exProg)).map ropCode =
    [ROp.handle (bytesOfString "/api/v1/users") 7 [3, 2, 1] [mGET],
     ROp.handle (bytesOfString "/api/v1/x/{id}") 8 [5, 4, 2, 1] [mGET],
     ROp.clean (bytesOfString "/api/v1")].map ropCode := by
  simp only [exProg, bytesOfString_eq_data]
  decide +kernel

/-- Hypotheses of `C19_clean` on the hand-built tree `GET /posts/{id}` (a split tree: `/posts/` + `{id}`), with a
prefix that ends inside the `{…}` token, a prefix that ends inside the literal node, one that matches nothing,
and the empty prefix. -/
example : Node.PatternOk exTree.root ∧ exTree.root.pattern = [] := by
  simp only [exTree, exMid, exLeaf, Node.PatternOk, PatternOkL, Node.pattern, Node.seg, and_true]
  decide +kernel
example : (match exTree.clean (bytesOfString "/posts/{i") with | .ok t => t.routes | _ => []) = [([42], [mOPTIONS])] := by
  simp only [exTree, exMid, exLeaf, bytesOfString_eq_data]
  decide +kernel
example : (match exTree.clean (bytesOfString "/po") with | .ok t => t.routes | _ => []) = [([42], [mOPTIONS])] := by
  simp only [exTree, exMid, exLeaf, bytesOfString_eq_data]
  decide +kernel
example : (match exTree.clean (bytesOfString "/posts/x") with | .ok t => t.routes | _ => []) = exTree.routes := by
  simp only [exTree, exMid, exLeaf, bytesOfString_eq_data]
  decide +kernel
example : (match exTree.clean [] with | .ok t => t.routes | _ => []) = [([42], [mOPTIONS])] := by
  simp only [exTree, exMid, exLeaf, bytesOfString_eq_data]
  decide +kernel

/-! A real façade program on a real router (evaluated by the kernel through `Router.run_eq_F`):
`r.Use(9); api := r.Prefix("/api", 1); v1 := api.Prefix("/v1", 2); v1.Get("/users", h7, 3);
res := v1.Resource("/users/{id}", 4); res.Get(h8, 5); res.URL(false, {id: 5})`, then
`p := r.Prefix("/api/v1/users/{"); p.Clean()` — a prefix that ends inside the `{id}` token. -/

def exR0 : Router := (Router.new { name := [114] }).getD default
theorem exNew : Router.new { name := [114] } = some exR0 := rfl
def exEnv : Env := ⟨fun _ _ => true⟩
def exProg2 : List FOp :=
  [.router (.use [9]), .newPrefix (bytesOfString "/api") [1], .subPrefix 0 (bytesOfString "/v1") [2],
   .handle 1 (bytesOfString "/users") 7 [3] [mGET], .subResource 1 (bytesOfString "/users/{id}") [4],
   .resHandle 2 8 [5] [mGET], .url 2 false [] [(bytesOfString "id", bytesOfString "5")]]
def exProg3 : List FOp := exProg2 ++ [.newPrefix (bytesOfString "/api/v1/users/{") [], .prefixClean 3]

/-- The interpreter of translated programs with router steps the kernel can run (`Router.stepF`). -/
private theorem runD_eq_F (env : Env) (s : DState) (prog : List DOp) :
    runD env s prog = prog.foldl (fun s op => match op with
      | .op o => { s with router := s.router.stepF o }
      | .url strict p ps => { s with out := s.out ++ [s.router.url env strict p ps] }) s := by
  unfold runD
  congr 1
  funext s op
  cases op with
  | op o => exact congrArg (fun r => { s with router := r }) (Router.step_eq_F s.router o)
  | url strict p ps => rfl

/-- The translation of `exProg3`, the translations of `exProg2` and `exProg3` run on the real router, and the
façade interpreter on `exProg2` (one evaluation: `exProg3` continues `exProg2`). -/
private theorem exProg_eval :
    (plainOps (desugar exProg3)).map ropCode =
      [ROp.use [9], .handle (bytesOfString "/api/v1/users") 7 [3, 2, 1] [mGET],
       .handle (bytesOfString "/api/v1/users/{id}") 8 [5, 4, 2, 1] [mGET],
       .clean (bytesOfString "/api/v1/users/{")].map ropCode ∧
    (exR0.run (plainOps (desugar exProg2))).routes =
      [([42], [mOPTIONS]), (bytesOfString "/api/v1/users", [mGET, mHEAD, mOPTIONS]),
       (bytesOfString "/api/v1/users/{id}", [mGET, mHEAD, mOPTIONS])] ∧
    (exR0.run (plainOps (desugar exProg3))).routes =
      [([42], [mOPTIONS]), (bytesOfString "/api/v1/users", [mGET, mHEAD, mOPTIONS])] ∧
    (runF exEnv { router := exR0 } exProg2).out = [.ok (bytesOfString "/api/v1/users/5")] := by
  simp only [Router.run_eq_F, (C19_equiv exEnv exR0 exProg2).2, runD_eq_F]
  simp only [exProg3, exProg2, bytesOfString_eq_data]
  decide +kernel

example : (plainOps (desugar exProg3)).map ropCode =
    [ROp.use [9], .handle (bytesOfString "/api/v1/users") 7 [3, 2, 1] [mGET],
     .handle (bytesOfString "/api/v1/users/{id}") 8 [5, 4, 2, 1] [mGET],
     .clean (bytesOfString "/api/v1/users/{")].map ropCode :=
  exProg_eval.1
-- the router the façade program builds (= the router of the translation, by `C19_equiv`)
example : (exR0.run (plainOps (desugar exProg2))).routes =
    [([42], [mOPTIONS]), (bytesOfString "/api/v1/users", [mGET, mHEAD, mOPTIONS]),
     (bytesOfString "/api/v1/users/{id}", [mGET, mHEAD, mOPTIONS])] :=
  exProg_eval.2.1
example : (exR0.run (plainOps (desugar exProg3))).routes =
    [([42], [mOPTIONS]), (bytesOfString "/api/v1/users", [mGET, mHEAD, mOPTIONS])] :=
  exProg_eval.2.2.1
/-- the façade interpreter itself, on the real router: the URL built through the `Resource` -/
example : (runF exEnv { router := exR0 } exProg2).out = [.ok (bytesOfString "/api/v1/users/5")] :=
  exProg_eval.2.2.2

/-- hypothesis of `C19_clean_router`: a successful `Prefix.Clean()` on a reachable router -/
example : (match (Facade.ofRouter (bytesOfString "/api/v1/users/{") []).prefixClean
      (exR0.run [.handle (bytesOfString "/api/v1/users") 7 [3, 2, 1] [mGET],
        .handle (bytesOfString "/api/v1/users/{id}") 8 [5, 4, 2, 1] [mGET]]) with
    | .ok r' => r'.routes
    | .error _ => []) = [([42], [mOPTIONS]), (bytesOfString "/api/v1/users", [mGET, mHEAD, mOPTIONS])] := by
  rw [Router.run_eq_F]
  simp only [bytesOfString_eq_data]
  decide +kernel

end Mux.C19
