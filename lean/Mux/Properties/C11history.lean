/-
  C11 (whole histories, observation point) — "CORS never grants more than was configured" as ONE statement
  (`C11_history`; the clauses are the predicate `NeverMore` on a header map) about `Router.serveHTTP` on a router made
  by `Router.new cfg` with a sanitized CORS configuration, after an ARBITRARY history of `Handle/Remove/Clean/Use`, for
  every request: on the map handed to the handler, on the header map AFTER `ServeHTTP` and on the headers as sent.

  The only things the theorems assume besides the property's quantifier: user code — the scripts of USER handlers and
  of the recovery function — does not itself set/add/delete `Access-Control-Allow-Origin` / `-Credentials`
  (`P24.Quiet`).  That cannot be dropped: a handler that writes `Access-Control-Allow-Origin: *` itself is not a grant
  of the router (counterexample `C11_quiet_needed`).  Helper lemmas: `Mux/Proofs/CorsFinal.lean` (namespace `Mux.P24`).
  ASCII caveat of `C11_allowed_iff` (Go's `EqualFold`/`TrimSpace` on non-ASCII input) applies unchanged.
-/
import Mux.Proofs.CorsFinal
import Mux.Proofs.GetNodeFuel
import Mux.Proofs.RunFuel
import Mux.Properties.C11
import Mux.Properties.C16stable
namespace Mux.C11
open Mux Mux.P24

variable {origins allowHeaders exposed : List Bytes} {maxAge : Int} {cred : Bool} {c : Cors}

/-- The clauses of C11 for ONE header map `h` of the answer to `req`, where `ok`/`node` say whether the request was
routed (`ok = false`: 404/405) and to which node:
(a) `Access-Control-Allow-Origin` is absent, or `*` (only if `*` was configured), or the request's own `Origin` (only
    if exactly that origin is listed and `*` is not);
(b) `Access-Control-Allow-Credentials: true` only together with such an echoed, listed origin;
(c–f) if `Access-Control-Allow-Origin` is present at all, then the request was routed (not a 404/405), origins were
    configured, and — if the request is a preflight — the requested method is one the matched node serves and every
    requested header is allowed. -/
def NeverMore (origins : List Bytes) (c : Cors) (req : Req) (ok : Bool) (node : Option Node) (h : Hdr) : Prop :=
  (h.values hACAO = [] ∨ (h.values hACAO = [[42]] ∧ [42] ∈ origins) ∨
    (h.values hACAO = [req.headers.get hOrigin] ∧ req.headers.get hOrigin ∈ origins ∧ [42] ∉ origins)) ∧
  (h.get hACAC = bytesOfString "true" →
    h.values hACAO = [req.headers.get hOrigin] ∧ req.headers.get hOrigin ∈ origins ∧ [42] ∉ origins) ∧
  (h.has hACAO = true →
    ok = true ∧ origins ≠ [] ∧ ∃ n, node = some n ∧
      (Cors.isPreflight req.method req.path req.headers →
        req.headers.get hACRM ∈ n.methods ∧ c.headerIsAllowed req.headers = true))

/-- `NeverMore` only looks at the two grant headers. -/
theorem NeverMore.congr {req : Req} {ok : Bool} {node : Option Node} {h h' : Hdr}
    (hv : h'.values hACAO = h.values hACAO) (hc : h'.values hACAC = h.values hACAC) (hh : h'.has hACAO = h.has hACAO)
    (hn : NeverMore origins c req ok node h) : NeverMore origins c req ok node h' := by
  have hg : h'.get hACAC = h.get hACAC := by rw [Hdr.get_eq_headD, Hdr.get_eq_headD, hc]
  unfold NeverMore at *
  rw [hv, hg, hh]
  exact hn

/-- `serveHTTP` names a call only when `serveContext` produced it. -/
theorem serveHTTP_call {env : Env} {pc : PanicCfg} {scripts : Scripts} {r : Router} {req : Req} {ps : Params}
    {call : Call} {out : Outcome} (h : r.serveHTTP env pc scripts req ps = (some call, out)) :
    r.serveContext env req ps = .call call ∧ (ServeRes.call call).finish pc scripts = (some call, out) := by
  obtain ⟨hsc, rfl⟩ := Mux.serveHTTP_call.1 h
  exact ⟨hsc, rfl⟩

/-- The map handed to the handler, one router state. -/
theorem neverMore_call (hs : Cors.sanitize origins allowHeaders exposed maxAge cred = some c)
    {env : Env} {r : Router} {req : Req} {ps : Params} {call : Call} (hc : r.cors = c)
    (h : r.serveContext env req ps = .call call) :
    NeverMore origins c req call.ok call.node call.respHeaders := by
  obtain ⟨h1, h2⟩ := C11_router hs hc h
  refine ⟨h1, h2, fun hhas => ?_⟩
  cases hok : call.ok with
  | false => rw [C11_not_ok h hok] at hhas; cases hhas
  | true =>
    obtain ⟨n, hn, hresp⟩ := Router.serveContext_ok h hok
    rw [hresp, hc] at hhas
    obtain ⟨a, b, _⟩ := (C11_acao_iff hs n.methods n.allow req.method req.path req.headers).mp hhas
    exact ⟨rfl, a, n, hn, b⟩

/-- **C11 over every history, at the observation point.**  Let `c` be any sanitized CORS configuration, `r0` the
router `NewRouter` makes with it (all other options arbitrary) and `ops` ANY history of `Handle/Remove/Clean/Use`.
For every request that reaches a handler (`serveHTTP` names the call):
the header map the router hands to the handler satisfies all clauses of C11 (`NeverMore`); and if the user handler's
script (when the selected handler is a user handler) and the recovery function do not themselves name the two grant
headers, then so do the header map after `ServeHTTP` and the headers as sent — whether the handler returned normally
or panicked and the recovery function answered; they have the very same grant headers as the map handed over. -/
theorem C11_history (hs : Cors.sanitize origins allowHeaders exposed maxAge cred = some c)
    {cfg : RouterCfg} {r0 : Router} (hcfg : cfg.cors = c) (hnew : Router.new cfg = some r0) (ops : List ROp)
    {env : Env} {pc : PanicCfg} {scripts : Scripts} {req : Req} {ps : Params} {call : Call} {out : Outcome}
    (h : (r0.run ops).serveHTTP env pc scripts req ps = (some call, out)) :
    NeverMore origins c req call.ok call.node call.respHeaders ∧
    ((∀ id, call.handler.base = .user id → Quiet [hACAO, hACAC] (scripts.get id)) →
      Quiet [hACAO, hACAC] cfg.recActs →
      ∀ rec, outRec out = some rec →
        NeverMore origins c req call.ok call.node rec.hdr ∧
        (∀ s, rec.snap = some s → NeverMore origins c req call.ok call.node s) ∧
        rec.hdr.values hACAO = call.respHeaders.values hACAO ∧ rec.hdr.values hACAC = call.respHeaders.values hACAC) := by
  have hc : (r0.run ops).cors = c := by rw [(C16.C16_options_stable cfg r0 ops hnew).2.1, hcfg]
  have hcall := neverMore_call hs hc (serveHTTP_call h).1
  refine ⟨hcall, fun hu hr rec ho => ?_⟩
  have hK := keeps_serveHTTP [hACAO, hACAC] (fun k hk => cors_headers_free k (List.mem_of_mem_take (i := 2) hk)) h hu
    (by rw [C16.C16_recActs_stable cfg r0 ops hnew]; exact hr) ho
  have hO := hK hACAO (by simp)
  have hC := hK hACAC (by simp)
  exact ⟨hcall.congr hO.values hC.values hO.has,
    fun s hsnap => hcall.congr (hO.snap s hsnap).1 (hC.snap s hsnap).1 (hO.snap s hsnap).2, hO.values, hC.values⟩

/-- A request that reaches no handler (a modelled runtime fault inside the dispatch, or an input outside the model's
domain): if it is answered at all — by the recovery function — the header map is empty. -/
theorem C11_history_no_call {env : Env} {pc : PanicCfg} {scripts : Scripts} {r : Router} {req : Req} {ps : Params}
    {out : Outcome} (h : r.serveHTTP env pc scripts req ps = (none, out)) :
    ∀ rec, outRec out = some rec → rec.hdr = [] ∧ rec.snap = some [] := by
  unfold Router.serveHTTP at h
  intro rec ho
  cases hsc : r.serveContext env req ps with
  | fault s rc =>
    rw [hsc] at h
    cases h
    cases rc
    · cases ho
    · cases ho; exact ⟨rfl, rfl⟩
  | unsupported => rw [hsc] at h; cases h; cases ho
  | call c' => rw [hsc] at h; cases h

/-- A router built without `WithCORS` carries the sanitized "no origins" configuration: `C11_history` applies to
it with `origins = []`, so it never sends `Access-Control-Allow-Origin`. -/
theorem C11_default : Cors.sanitize [] [] [] 0 false = some {} := CorsEx.sanitize_cfgDeny

/-- The response headers CORS ever writes. -/
def corsNames : List Bytes := [hACAO, hACAC, hACAM, hACAH, hACEH, hACMA, hVary]

/-- **404 / 405: no CORS header on the final record.**  Any router state, any request that is not routed
(`call.ok = false`: no handler for the path, or none for the method): after `ServeHTTP` — the not-found / not-allowed
handler returned, or it panicked and the recovery function answered — none of the seven CORS response headers is in
the header map, nor in the headers as sent.  User code must not add them itself: the not-found handler's script, if it
is a USER handler (a custom `notFound` argument), and the recovery function's script name none of them. -/
theorem C11_not_ok_final {env : Env} {pc : PanicCfg} {scripts : Scripts} {r : Router} {req : Req} {ps : Params}
    {call : Call} {out : Outcome} {rec : Rec}
    (h : r.serveHTTP env pc scripts req ps = (some call, out)) (hok : call.ok = false)
    (hu : ∀ id, call.handler.base = .user id → Quiet corsNames (scripts.get id))
    (hr : Quiet corsNames r.recActs) (ho : outRec out = some rec) :
    ∀ k ∈ corsNames, rec.hdr.has k = false ∧ rec.hdr.values k = [] ∧
      ∀ s, rec.snap = some s → s.has k = false ∧ s.values k = [] := by
  have he : call.respHeaders = [] := C11_not_ok (serveHTTP_call h).1 hok
  intro k hk
  have hK := keeps_serveHTTP corsNames cors_headers_free h hu hr ho k hk
  rw [he] at hK
  exact ⟨hK.has, hK.values, fun s hsnap => ⟨(hK.snap s hsnap).2, (hK.snap s hsnap).1⟩⟩

/-- mux's own 404/405 handlers (whatever middlewares wrap them), handler returned: no hypothesis on any script; the
status is 404 resp. 405 and the header map holds at most `Allow`. -/
theorem C11_not_ok_builtin {env : Env} {pc : PanicCfg} {scripts : Scripts} {r : Router} {req : Req} {ps : Params}
    {call : Call} {rec : Rec}
    (h : r.serveHTTP env pc scripts req ps = (some call, .normal rec)) (hok : call.ok = false)
    (hb : call.handler.base = .notFound ∨ call.handler.base = .notAllowed ∨ call.handler.base = .groupNotFound) :
    (∀ k ∈ corsNames, rec.hdr.has k = false ∧ ∀ s, rec.snap = some s → s.has k = false) ∧
    rec.code = some (if call.handler.base = .notAllowed then 405 else 404) ∧
    (∀ k, k ≠ hAllow → rec.hdr.has k = false) := by
  obtain ⟨hsc, hout⟩ := Mux.serveHTTP_call.1 h
  have hrun := withRecover_normal.1 hout.symm
  have he : call.respHeaders = [] := C11_not_ok hsc hok
  have hhw : call.headWrap = false := (P18.serveContext_not_ok env r req ps call hsc hok).1
  have hne : ∀ k ∈ corsNames, hAllow ≠ k := fun k hk => (cors_headers_free k hk).1.symm
  obtain ⟨_, _, acts, hscr, rfl⟩ := runCall_ok_iff.1 hrun
  rw [hhw, Call.rec0, he]
  rcases hb with hb | hb | hb <;> rw [Handler.script, hb] at hscr <;> cases hscr <;>
    simp only [Bool.false_eq_true, if_false, runGet, hb, reduceCtorEq]
  · exact ⟨fun k _ => ⟨rfl, fun s hs => by cases hs; rfl⟩, rfl, fun k _ => rfl⟩
  · have hA : ∀ k, hAllow ≠ k → (Hdr.set [] hAllow call.allow).has k = false := fun k hk => by
      rw [Hdr.has_set, Hdr.has_nil, Bool.or_false, decide_eq_false hk.symm]
    exact ⟨fun k hk => ⟨hA k (hne k hk), fun s hs => by cases hs; exact hA k (hne k hk)⟩, rfl,
      fun k hk => hA k (Ne.symm hk)⟩
  · exact ⟨fun k _ => ⟨rfl, fun s hs => by cases hs; rfl⟩, rfl, fun k _ => rfl⟩

/-! ## Non-vacuity

`NewRouter("r", WithCORS(origin a.example, credentials, …), WithRecovery(f))`, then `Handle("/a", h1, GET)` and `Use(3)`. -/

def hCfg : RouterCfg := { name := [114], cors := CorsEx.cfg, recover := true }
def hR0 : Router := (Router.new hCfg).getD default
def hOps : List ROp := [.handle CorsEx.path 1 [] [mGET], .use [3]]
def hReq (path : Bytes) (hdr : Hdr) : Req := { method := mGET, path := path, headers := hdr }
/-- what the examples look at: was the request routed, the grant header handed over, the grant header and the
status of the outcome's record -/
structure View where
  ok : Bool
  handed : List Bytes
  final : Option (List Bytes)
  code : Option Nat
  deriving DecidableEq
def hView (x : Option Call × Outcome) : Option View :=
  x.1.map (fun c => ⟨c.ok, c.respHeaders.values hACAO, (outRec x.2).map (·.hdr.values hACAO),
    (outRec x.2).bind (·.code)⟩)

/-- hypotheses of `C11_history`: a sanitized configuration, a router made with it, quiet scripts -/
example : Cors.sanitize [CorsEx.origin] [hContentType, CorsEx.xId] [CorsEx.xId] 3600 true = some hCfg.cors ∧
    Router.new hCfg = some hR0 ∧ Quiet [hACAO, hACAC] (Scripts.get [(1, [.setHeader hContentType [97], .write 3])] 1) ∧
    Quiet [hACAO, hACAC] hCfg.recActs ∧ Quiet corsNames hR0.recActs := by
  exact ⟨CorsEx.sanitize_cfg, rfl, by decide +kernel, by decide +kernel, by decide +kernel⟩

/-- The history is evaluated once, for the four requests below. -/
private theorem hRun_eval :
    hView ((hR0.run hOps).serveHTTP CorsEx.env {} [(1, [.setHeader hContentType [97], .write 3])]
        (hReq CorsEx.path CorsEx.simple) []) = some ⟨true, [CorsEx.origin], some [CorsEx.origin], some 200⟩ ∧
     hView ((hR0.run hOps).serveHTTP CorsEx.env { handlers := [(1, 9)] } [] (hReq CorsEx.path CorsEx.simple) []) =
       some ⟨true, [CorsEx.origin], some [CorsEx.origin], some 500⟩ ∧
     hView ((hR0.run hOps).serveHTTP CorsEx.env {} [] (hReq (bytesOfString "/nope") CorsEx.simple) []) =
       some ⟨false, [], some [], some 404⟩ ∧
     hView ((hR0.run hOps).serveHTTP CorsEx.env {} [(1, [.setHeader hACAO [42]])] (hReq CorsEx.path CorsEx.simpleEvil) []) =
       some ⟨true, [], some [[42]], none⟩ := by
  rw [Router.run_eq_F]; decide +kernel

/-- the premise of `C11_history`: a GET from the listed origin on the live route is routed, the grant is handed to the handler
and is still there after the handler wrote its response (status 200) -/
example : hView ((hR0.run hOps).serveHTTP CorsEx.env {} [(1, [.setHeader hContentType [97], .write 3])]
      (hReq CorsEx.path CorsEx.simple) []) =
    some ⟨true, [CorsEx.origin], some [CorsEx.origin], some 200⟩ :=
  hRun_eval.1

/-- the same when the handler panics and the recovery function answers (status 500) -/
example : hView ((hR0.run hOps).serveHTTP CorsEx.env { handlers := [(1, 9)] } []
      (hReq CorsEx.path CorsEx.simple) []) =
    some ⟨true, [CorsEx.origin], some [CorsEx.origin], some 500⟩ :=
  hRun_eval.2.1

/-- premise of `C11_not_ok_final` / `C11_not_ok_builtin`: a 404 on that router, answered by mux's own handler -/
example : hView ((hR0.run hOps).serveHTTP CorsEx.env {} [] (hReq (bytesOfString "/nope") CorsEx.simple) []) =
    some ⟨false, [], some [], some 404⟩ :=
  hRun_eval.2.2.1

/-- **The `Quiet` hypothesis cannot be dropped**: a user handler that itself writes `Access-Control-Allow-Origin: *`
makes the final map carry `*` for a foreign origin although `*` was never configured — that header is the
application's, not a grant of the router (the map handed to the handler has none). -/
theorem C11_quiet_needed :
    hView ((hR0.run hOps).serveHTTP CorsEx.env {} [(1, [.setHeader hACAO [42]])] (hReq CorsEx.path CorsEx.simpleEvil) []) =
      some ⟨true, [], some [[42]], none⟩ ∧ [42] ∉ [CorsEx.origin] ∧
    ¬ Quiet [hACAO, hACAC] (Scripts.get [(1, [.setHeader hACAO [42]])] 1) := by
  exact ⟨hRun_eval.2.2.2, by decide +kernel, by decide +kernel⟩

end Mux.C11
