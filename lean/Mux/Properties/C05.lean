/-
  C05 (syntax part) — no pattern string can crash `CheckSyntax`, `URL` or the splitting done by
  `Handle`; `Handle` and `CheckSyntax` agree when no interceptor rule is involved.
-/
import Mux.Proofs.Url
namespace Mux.C05
open Mux

/-! Byte strings in the examples are written as numeric lists, because `String.toUTF8` does not reduce
in the kernel; the text is given in a comment next to each.
  `{`=123 `}`=125 `:`=58 `/`=47 `\\`=92 `d`=100 `+`=43 `*`=42 -/

/-! ### `NewSegment`

  The statement as worded in the property is false, for the model and for the Go function taken in isolation:

      ∀ ic v n, newSegment ic v ≠ .error (.fault n)

  Counterexample `"a:{b}"`: the first `:` precedes the first `{`, Go evaluates `val[3:1]`. -/

/-- `"a:{b}"`.  Site 107 is `seg.Name = val[start+1 : separator]` of a `{name:rule}` piece in `NewSegment`
(internal/syntax/segment.go). -/
theorem C05_syntax_newSegment_counterexample :
    newSegment [] [97, 58, 123, 98, 125] = .error (.fault 107) := by rfl

/-- Exact characterisation of the faulting inputs of `NewSegment`. -/
theorem C05_syntax_newSegment_fault_iff (ic : Interceptors) (v : Bytes) (n : Nat) :
    newSegment ic v = .error (.fault n) ↔
      n = 107 ∧ v.length ≤ maxInt16 ∧ ∃ st en sp, indexByte startByte v = some st ∧
        indexByte endByte v = some en ∧ indexByte separatorByte v = some sp ∧ sp < st ∧ st + 1 < en :=
  newSegment_fault_iff ic v n

/-- Strongest true variant: the bounds guards suffice whenever the first `:` does not precede the
first `{`. -/
theorem C05_syntax_newSegment_partial (ic : Interceptors) (v : Bytes)
    (hsep : ∀ st sp, indexByte startByte v = some st → indexByte separatorByte v = some sp → st ≤ sp)
    (n : Nat) : newSegment ic v ≠ .error (.fault n) :=
  newSegment_no_fault ic v hsep n

/-- The hypothesis of `C05_syntax_newSegment_partial` holds for every piece that `splitString` produces, for any
input string, so no piece faults. -/
theorem C05_syntax_newSegment_piece (ic : Interceptors) (p piece : Bytes) (h : piece ∈ splitString p)
    (n : Nat) : newSegment ic piece ≠ .error (.fault n) :=
  newSegment_piece_no_fault ic piece (splitString_good p piece h) n

-- non-vacuity: the hypothesis of `_partial` on `{id:\\d+}/x` (name, rule and suffix)
example : ∀ st sp, indexByte startByte [123, 105, 100, 58, 92, 100, 43, 125, 47, 120] = some st →
    indexByte separatorByte [123, 105, 100, 58, 92, 100, 43, 125, 47, 120] = some sp → st ≤ sp := by
  intro st sp h1 _
  have h : indexByte startByte [123, 105, 100, 58, 92, 100, 43, 125, 47, 120] = some 0 := by decide +kernel
  rw [h] at h1; cases h1; omega
-- `{id:\\d+}/x` is accepted
example : (newSegment [] [123, 105, 100, 58, 92, 100, 43, 125, 47, 120]).isOk = true := by decide +kernel

theorem C05_syntax_newSegment_value (ic : Interceptors) (v : Bytes) (s : Seg)
    (h : newSegment ic v = .ok s) : s.value = v := newSegment_value ic v s h

theorem C05_syntax_splitString_ne_nil (s : Bytes) : splitString s ≠ [] := splitString_ne_nil s

theorem C05_syntax_splitString_join (s : Bytes) : (splitString s).flatten = s := splitString_join s

theorem C05_syntax_splitString_pieces_nonempty (s : Bytes) (h : s ≠ []) :
    ∀ p ∈ splitString s, p ≠ [] := splitString_pieces_nonempty s h

/-- The empty string is the one input with an empty piece (`Split` rejects it before). -/
theorem C05_syntax_splitString_nil : splitString [] = [[]] := rfl

-- `/posts/{year}/{id}.html` ↦ `/posts/`, `{year}/`, `{id}.html` (the example of the Go doc comment)
example : splitString [47, 112, 111, 115, 116, 115, 47, 123, 121, 101, 97, 114, 125, 47, 123, 105, 100, 125, 46, 104, 116, 109, 108] =
    [[47, 112, 111, 115, 116, 115, 47], [123, 121, 101, 97, 114, 125, 47], [123, 105, 100, 125, 46, 104, 116, 109, 108]] := by decide +kernel

theorem C05_syntax_split (ic : Interceptors) (p : Bytes) (n : Nat) : split ic p ≠ .error (.fault n) :=
  split_no_fault ic p n

theorem C05_syntax_checkSyntax (p : Bytes) (n : Nat) : checkSyntax p ≠ .error (.fault n) := by
  unfold checkSyntax
  simp only [bind, Except.bind, pure, Except.pure]
  split
  · rename_i e he
    intro h
    cases h
    exact split_no_fault [] p n he
  · simp

theorem C05_syntax_url (ic : Interceptors) (p : Bytes) (ps : AMap Bytes) (n : Nat) :
    ic.url p ps ≠ .error (.fault n) := Interceptors.url_no_fault ic p ps n

theorem C05_syntax_urlNonStrict (p : Bytes) (ps : AMap Bytes) (n : Nat) :
    urlNonStrict p ps ≠ .error (.fault n) := Interceptors.url_no_fault [] p ps n

theorem C05_syntax_muxURL (p : Bytes) (ps : AMap Bytes) (n : Nat) : muxURL p ps ≠ .error (.fault n) := by
  unfold muxURL
  split
  · simp
  · exact C05_syntax_urlNonStrict p ps n

/-! ### `Handle` agrees with `CheckSyntax`

  The statement as worded in the property is false:

      (∀ piece ∈ splitString p, ∀ s, newSegment [] piece = .ok s → ic.find s.rule = none) →
        (split ic p).isOk = (split [] p).isOk

  The hypothesis only speaks about pieces that `CheckSyntax` accepts.  With `ic = {"*" ↦ f}` and
  `p = "{a:*}"` the rule `*` is not a regexp (`CheckSyntax` fails) but it is an interceptor key
  (`Handle` succeeds); the hypothesis holds vacuously. -/

theorem C05_syntax_agree_counterexample :
    let ic : Interceptors := [([42], 0)]   -- key `*`
    let p := [123, 97, 58, 42, 125]        -- `{a:*}`
    (∀ piece ∈ splitString p, ∀ s, newSegment [] piece = .ok s → ic.find s.rule = none) ∧
      (split ic p).isOk = true ∧ (split [] p).isOk = false := by
  refine ⟨?_, by decide +kernel, by decide +kernel⟩
  intro piece hp s hs
  have : piece = [123, 97, 58, 42, 125] := by
    have : splitString [123, 97, 58, 42, 125] = [[123, 97, 58, 42, 125]] := by decide +kernel
    rw [this] at hp
    simpa using hp
  subst this
  have : (newSegment [] [123, 97, 58, 42, 125]).isOk = false := by decide +kernel
  rw [hs] at this
  cases this

/-- Strongest version: if splitting with `ic` produces no interceptor segment, `Handle`'s split and
`CheckSyntax`'s split are EQUAL (same segments or the same error). -/
theorem C05_syntax_agree (ic : Interceptors) (p : Bytes)
    (h : ∀ piece ∈ splitString p, ∀ s, newSegment ic piece = .ok s → s.kind ≠ .icpt) :
    split ic p = split [] p := split_agree ic p h

theorem C05_syntax_agree_isOk (ic : Interceptors) (p : Bytes)
    (h : ∀ piece ∈ splitString p, ∀ s, newSegment ic piece = .ok s → s.kind ≠ .icpt) :
    (split ic p).isOk = (split [] p).isOk := by rw [split_agree ic p h]

/-- Purely syntactic hypothesis: no `rule` text occurring in the pattern is a key of `ic`
(`pieceRule` = the text between the first `:` and the first `}` of a `{name:rule}` piece). -/
theorem C05_syntax_agree_rule (ic : Interceptors) (p : Bytes)
    (h : ∀ piece ∈ splitString p, ∀ r, pieceRule piece = some r → ic.find r = none) :
    split ic p = split [] p := split_agree_of_rule ic p h

/-- The hypothesis as worded in the property (no rule of a piece that `CheckSyntax` accepts is a key of `ic`)
suffices on the patterns `CheckSyntax` accepts. -/
theorem C05_syntax_agree_of_ok (ic : Interceptors) (p : Bytes)
    (h : ∀ piece ∈ splitString p, ∀ s, newSegment [] piece = .ok s → ic.find s.rule = none)
    (hok : (split [] p).isOk = true) : split ic p = split [] p := split_agree_of_ok ic p h hok

-- non-vacuity: `/u/{id:\\d+}/x`, interceptors keyed `digit` and `any`
example : ∀ piece ∈ splitString [47, 117, 47, 123, 105, 100, 58, 92, 100, 43, 125, 47, 120], ∀ r, pieceRule piece = some r →
    Interceptors.find [([100, 105, 103, 105, 116], 0), ([97, 110, 121], 1)] r = none := by
  -- evaluated piece by piece: the rule of each piece, if it has one, is no key
  have hall : ∀ piece ∈ splitString [47, 117, 47, 123, 105, 100, 58, 92, 100, 43, 125, 47, 120],
      ((pieceRule piece).map fun r =>
        decide (Interceptors.find [([100, 105, 103, 105, 116], 0), ([97, 110, 121], 1)] r = none)).getD true = true := by
    decide +kernel
  intro piece hp r hr
  have := hall piece hp
  rw [hr] at this
  exact of_decide_eq_true this
example : (split [] [47, 117, 47, 123, 105, 100, 58, 92, 100, 43, 125, 47, 120]).isOk = true := by decide +kernel
-- and the agreement really depends on the hypothesis: `{id:\\d+}` with the key `\\d+` present
example : (split [([92, 100, 43], 0)] [123, 105, 100, 58, 92, 100, 43, 125]).toOption.map (·.map (·.kind)) = some [.icpt] ∧
    (split [] [123, 105, 100, 58, 92, 100, 43, 125]).toOption.map (·.map (·.kind)) = some [.rx] := by decide +kernel

/-! ### Rules that do not compile on their own (repair D35)

Go compiles the rule on its own first (D35) and then the text `(?P<name>` ++ rule ++ `)` ++ quoted suffix, so a rule with
a stray `)` is a syntax error.  (In the combined text alone the stray `)` closes the named group early: `/{n:a)|(b}`
registers, the group takes no part in a match of `b`, and `Segment.Match` evaluates `ctx.Path[:-1]`, a runtime fault at
request time — C05.)  In the model, `parseRule` is `.bad` whenever `parseAlt` leaves input unread, which is
what a stray `)` causes. -/

theorem C05_syntax_stray_paren (rule : Bytes) (r : Re) (b : UInt8) (rest : Bytes)
    (h : parseAlt (rule.length + 2) rule = .ok (r, b :: rest)) : parseRule rule = .bad := by
  simp [parseRule, h]

theorem C05_syntax_stray_paren_compile (name rule : Bytes) (ign : Bool) (r : Re) (b : UInt8) (rest : Bytes)
    (h : parseAlt (rule.length + 2) rule = .ok (r, b :: rest)) : compileRule name ign rule = .error .regexp := by
  simp [compileRule, C05_syntax_stray_paren rule r b rest h]

-- `a)|(b`, `a)(b`, `)(`, and a trailing backslash `a\`
example : (match parseRule [97, 41, 124, 40, 98] with | .bad => true | _ => false) = true := by decide +kernel
example : (match parseRule [97, 41, 40, 98] with | .bad => true | _ => false) = true := by decide +kernel
example : (match parseRule [41, 40] with | .bad => true | _ => false) = true := by decide +kernel
example : (match parseRule [97, 92] with | .bad => true | _ => false) = true := by decide +kernel
-- `/{n:a)|(b}` is rejected as a regexp syntax error
example : (split [] [47, 123, 110, 58, 97, 41, 124, 40, 98, 125]).toOption = none := by decide +kernel
-- the balanced relatives stay accepted: `(a)|(b)`
example : (match parseRule [40, 97, 41, 124, 40, 98, 41] with | .ok _ => true | _ => false) = true := by decide +kernel

theorem C05_syntax_longestPrefix_le (a b : Bytes) :
    longestPrefix a b ≤ ((min a.length b.length : Nat) : Int) := longestPrefix_le a b

theorem C05_syntax_longestPrefix_comm (a b : Bytes) : longestPrefix a b = longestPrefix b a :=
  longestPrefix_comm a b

theorem C05_syntax_longestPrefix_pos_prefix (a b : Bytes) (h : 0 < longestPrefix a b) :
    a.take (longestPrefix a b).toNat = b.take (longestPrefix a b).toNat := longestPrefix_pos_prefix a b h

-- `/posts/{id}/a` vs `/posts/{id}/b`
example : longestPrefix [47, 112, 111, 115, 116, 115, 47, 123, 105, 100, 125, 47, 97] [47, 112, 111, 115, 116, 115, 47, 123, 105, 100, 125, 47, 98] = 12 := by decide +kernel
-- `{id}/a` vs `{idx}/a`: never cut inside the braces
example : longestPrefix [123, 105, 100, 125, 47, 97] [123, 105, 100, 120, 125, 47, 97] = 0 := by decide +kernel
-- `}a` vs `}b`: the Go start value of `startIndex` is visible
example : longestPrefix [125, 97] [125, 98] = -10 := by decide +kernel

end Mux.C05
