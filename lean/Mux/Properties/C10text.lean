/-
  C10, clauses "the result is the URL domain followed by the pattern with each `{name…}` token replaced by
  `params[name]` (a leading `-` ignored), all literal text kept in place" and "fails iff the pattern is malformed or
  a parameter is missing" — against a specification read off the pattern BYTES.

  The `C10_subst*` theorems of `C10.lean` express "the pattern with each token replaced" through
  `split [] p`, i.e. through the model's own parser `splitString`/`newSegment`, and "malformed" as "`split` fails".
  Here:

  * `Spec.substText ps p` (Mux/Spec/UrlText.lean) is one left-to-right scan of the bytes of `p`: bytes outside a token
    are copied, `{body}` (body = the text up to the next `}`) is replaced by `ps[tokName body]`, `tokName body` = the
    body up to its first `:` without one leading `-`.  No `split`, no `Seg`.  `C10_substText_lit`, `C10_substText_tok`,
    `C10_tokName_*` restate it chunk by chunk.
  * `C10_subst_text` (and the forms for `mux.URL`, `Router.URL`, router histories): for EVERY pattern that `Split`
    accepts — no well-formedness hypothesis: nested `{`, a stray `}`, an unclosed `{` included — non-strict URL building
    returns exactly `substText`, and fails with "missing parameter" iff the scan meets a token without value.
  * `C10_malformed_*`: the documented syntax errors as BYTE shapes, each with the error class the model returns: `{}`
    and `{:rule}` (`syntax`), `}{` after an accepted token (`adjacent`), a repeated name (`dupName`), a rule that does
    not compile (`regexp`).  Unbalanced braces are NOT rejected (`C10_unbalanced_literal`): a `{` without a closing
    `}` and a `}` outside a token are literal text — except that `}{` counts as adjacent parameters.
    These lemmas take the bad token after a brace-free literal prefix, in a pattern of at most 32767 bytes per piece
    (`maxInt16`, beyond which Go and the model answer `tooLong` instead).
-/
import Mux.Proofs.UrlMalformed
import Mux.Properties.C10strict
import Mux.Properties.C16stable
namespace Mux.C10
open Mux Mux.Spec Mux.P9 Mux.P13 Mux.P28

/-- A literal chunk (no `{`) is kept in place. -/
theorem C10_substText_lit (ps : AMap Bytes) (x r : Bytes) (hx : startByte ∉ x) :
    substText ps (x ++ r) = (substText ps r).map (x ++ ·) := substFrom_lit ps x r hx

/-- A token `{body}` (`body` without `}`) is replaced by the value of its name; no value, no URL. -/
theorem C10_substText_tok (ps : AMap Bytes) (body r : Bytes) (hb : endByte ∉ body) :
    substText ps (tok body [] ++ r) =
      match ps.get? (tokName body), substText ps r with
      | some v, some u => some (v ++ u)
      | _, _ => none := by
  have := substText_tok ps body [] r hb
  simp only [List.nil_append] at this
  unfold substText
  rw [this]
  cases ps.get? (tokName body) <;> cases substFrom ps none r <;> rfl

theorem C10_substText_nil (ps : AMap Bytes) : substText ps [] = some [] := rfl

/-- `{name}`: the name is the body. -/
theorem C10_tokName_plain (name : Bytes) (hs : separatorByte ∉ name) (hi : name.head? ≠ some ignoreByte) :
    tokName name = name := by
  unfold tokName
  rw [takeWhile_of_not_mem hs]
  cases name with
  | nil => rfl
  | cons b r =>
    have : ¬ b = ignoreByte := fun e => hi (by simp [e])
    simp [this]

/-- `{name:rule}`: the name is the text before the first `:`. -/
theorem C10_tokName_rule (name rule : Bytes) (hs : separatorByte ∉ name) (hi : name.head? ≠ some ignoreByte) :
    tokName (name ++ separatorByte :: rule) = name := by
  have h2 := C10_tokName_plain name hs hi
  unfold tokName at h2 ⊢
  rw [takeWhile_append_sep rule hs]
  rw [takeWhile_of_not_mem hs] at h2
  exact h2

/-- `{-body}`: one leading `-` is ignored. -/
theorem C10_tokName_ignore (body : Bytes) : tokName (ignoreByte :: body) = body.takeWhile (· ≠ separatorByte) := by
  simp [tokName, List.takeWhile, ignoreByte, separatorByte]

/-- `Interceptors.URL` under any interceptor table (`Group`/strict callers) is the byte-level substitution whenever
`Split` accepts the pattern: names and literal text do not depend on the interceptors. -/
theorem C10_subst_text_ic (ic : Interceptors) (p : Bytes) (ps : AMap Bytes) (segs : List Seg)
    (hs : split ic p = .ok segs) :
    ic.url p ps = match substText ps p with
      | some u => .ok u
      | none => .error .missingParam := by
  rw [url_eq_text ic (split_ok_iff.1 hs).1 ps, hs]
  cases substText ps p <;> rfl

/-- For EVERY pattern `p` that `Split` accepts (without interceptors, as `mux.URL` and
non-strict `Router.URL` call it), the non-strict URL is the byte-level substitution `Spec.substText ps p`: literal
text in place, each `{name…}` replaced by `ps[name]`; when the scan meets a token whose name has no value the result
is the error "missing parameter".  No hypothesis on the shape of `p`. -/
theorem C10_subst_text (p : Bytes) (ps : AMap Bytes) (segs : List Seg) (hs : split [] p = .ok segs) :
    urlNonStrict p ps = match substText ps p with
      | some u => .ok u
      | none => .error .missingParam :=
  C10_subst_text_ic [] p ps segs hs

/-- Success, as an equivalence: the non-strict URL of a non-empty pattern is `u` iff the pattern is not malformed
(`Split` accepts it) and substituting the parameters into its text gives `u` (all parameters present). -/
theorem C10_subst_text_ok (p : Bytes) (hp : p ≠ []) (ps : AMap Bytes) (u : Bytes) :
    urlNonStrict p ps = .ok u ↔ (∃ segs, split [] p = .ok segs) ∧ substText ps p = some u := by
  rw [urlNonStrict, url_eq_text [] hp ps]
  cases split [] p with
  | error e => simp
  | ok segs => cases substText ps p <;> simp [optUrl]

/-- Failure, as an equivalence: "fails iff the pattern is malformed or a parameter is missing", with the error. -/
theorem C10_subst_text_error (p : Bytes) (hp : p ≠ []) (ps : AMap Bytes) (e : Err) :
    urlNonStrict p ps = .error e ↔
      split [] p = .error e ∨ ((∃ segs, split [] p = .ok segs) ∧ substText ps p = none ∧ e = .missingParam) := by
  rw [urlNonStrict, url_eq_text [] hp ps]
  cases split [] p with
  | error e' => simp
  | ok segs => cases substText ps p <;> simp [optUrl, eq_comm]

theorem C10_subst_text_muxURL (p : Bytes) (ps : AMap Bytes) (hps : ps ≠ []) (segs : List Seg)
    (hs : split [] p = .ok segs) :
    muxURL p ps = match substText ps p with
      | some u => .ok u
      | none => .error .missingParam := by
  rw [muxURL_eq p ps hps]; exact C10_subst_text p ps segs hs

/-- **Non-strict `Router.URL`**, non-empty params: the router's URL domain followed by the substituted text. -/
theorem C10_subst_text_router (env : Env) (r : Router) (p : Bytes) (ps : AMap Bytes) (hps : ps ≠ [])
    (segs : List Seg) (hs : split [] p = .ok segs) :
    r.url env false p ps = match substText ps p with
      | some u => .ok (r.urlDomain ++ u)
      | none => .error .missingParam := by
  rw [C10_router_nonStrict, C10_subst_text_muxURL p ps hps segs hs]
  cases substText ps p <;> rfl

/-- **Router histories**: `NewRouter(cfg)`, any history; non-strict `URL(pattern, params)` with non-empty params, all
parameters of the pattern present, is the CONFIGURED URL domain (a trailing `/` removed) followed by the pattern text
with each token replaced by its value — and "missing parameter" when a token has no value. -/
theorem C10_subst_text_history (env : Env) {cfg : RouterCfg} {r0 : Router} (hnew : Router.new cfg = some r0)
    (ops : List ROp) (p : Bytes) (ps : AMap Bytes) (hps : ps ≠ []) (segs : List Seg) (hs : split [] p = .ok segs) :
    (r0.run ops).url env false p ps = match substText ps p with
      | some u => .ok (sanitizeDomain cfg.urlDomain ++ u)
      | none => .error .missingParam := by
  rw [C10_subst_text_router env _ p ps hps segs hs, (C16.C16_options_stable cfg r0 ops hnew).2.2]

-- non-vacuity: `/u/{id:\d+}/{-x}.{name}` with id = 5, x = a, name = b  ↦  `/u/5/a.b`
example : split [] (bytesOfString "/u/{id:\\d+}/{-x}.{name}") ≠ .error .syntax ∧
    substText [(bytesOfString "id", [53]), (bytesOfString "x", [97]), (bytesOfString "name", [98])]
      (bytesOfString "/u/{id:\\d+}/{-x}.{name}") = some (bytesOfString "/u/5/a.b") ∧
    muxURL (bytesOfString "/u/{id:\\d+}/{-x}.{name}")
      [(bytesOfString "id", [53]), (bytesOfString "x", [97]), (bytesOfString "name", [98])] =
      .ok (bytesOfString "/u/5/a.b") := by simp only [bytesOfString_eq_data]; decide +kernel
-- a missing parameter
example : substText [(bytesOfString "id", [53])] (bytesOfString "/u/{id}/{x}") = none ∧
    muxURL (bytesOfString "/u/{id}/{x}") [(bytesOfString "id", [53])] = .error .missingParam := by
  simp only [bytesOfString_eq_data]; decide +kernel
-- outside the well-formed patterns: a `{` inside a token, a stray `}`, an unclosed `{` — accepted by `Split`, and the
-- theorem applies: the name of `{a{b}` is `a{b`
example : (∃ segs, split [] (bytesOfString "/{a{b}/c}d/{e") = .ok segs) ∧
    substText [(bytesOfString "a{b", [53])] (bytesOfString "/{a{b}/c}d/{e") = some (bytesOfString "/5/c}d/{e") ∧
    muxURL (bytesOfString "/{a{b}/c}d/{e") [(bytesOfString "a{b", [53])] = .ok (bytesOfString "/5/c}d/{e") := by
  -- `mux.URL` is evaluated once; that `Split` accepts the pattern is read off its success
  have h3 : muxURL (bytesOfString "/{a{b}/c}d/{e") [(bytesOfString "a{b", [53])] = .ok (bytesOfString "/5/c}d/{e") := by
    simp only [bytesOfString_eq_data]; decide +kernel
  refine ⟨?_, by simp only [bytesOfString_eq_data]; decide +kernel, h3⟩
  rcases (C10_subst_muxURL _ _ (List.cons_ne_nil _ _) _).1 h3 with ⟨_, h⟩ | ⟨segs, h, _⟩
  · exact absurd h (by decide +kernel)
  · exact ⟨segs, h⟩

/-- The bound on a pattern `a{body}b` bounds the literal text `a` and the token with the text up to the next `{`:
the two pieces `split` measures. -/
private theorem tok_bounds {a body b : Bytes} (hlen : (a ++ tok body b).length ≤ maxInt16) :
    a.length ≤ maxInt16 ∧ (tok body (b.takeWhile (· ≠ startByte))).length ≤ maxInt16 := by
  have hw := (List.takeWhile_sublist (l := b) (· ≠ startByte)).length_le
  simp only [List.length_append, tok_length] at hlen ⊢
  omega

/-- **Empty name**: `a{}b` (`a` brace-free literal text, `b` arbitrary) is rejected with the class `syntax`. -/
theorem C10_malformed_empty_name (ic : Interceptors) (a b : Bytes) (ha : NoBrace a)
    (hlen : (a ++ tok [] b).length ≤ maxInt16) : split ic (a ++ tok [] b) = .error .syntax :=
  split_first_tok_err a [] b ha (tok_bounds hlen).1 (by simp) (newSegment_empty_name ic _ (tok_bounds hlen).2)

/-- **`{:rule}`** — a token whose name is empty because the body starts with `:` — is rejected with `syntax`. -/
theorem C10_malformed_colon_first (ic : Interceptors) (a rule b : Bytes) (ha : NoBrace a) (hr : endByte ∉ rule)
    (hlen : (a ++ tok (separatorByte :: rule) b).length ≤ maxInt16) :
    split ic (a ++ tok (separatorByte :: rule) b) = .error .syntax := by
  have hr' : endByte ∉ separatorByte :: rule := by
    simp only [List.mem_cons, not_or]
    exact ⟨by decide, hr⟩
  exact split_first_tok_err a _ b ha (tok_bounds hlen).1 hr' (newSegment_colon_first ic rule _ hr (tok_bounds hlen).2)

/-- **Adjacent parameters**: a token `{body}` that is accepted by itself, directly followed by another `{`, is
rejected with the class `adjacent` — whatever follows. -/
theorem C10_malformed_adjacent (ic : Interceptors) (a body b : Bytes) (ha : NoBrace a) (hlen : a.length ≤ maxInt16)
    (hb : endByte ∉ body) (s : Seg) (hs : newSegment ic (tok body []) = .ok s) :
    split ic (a ++ tok body [] ++ startByte :: b) = .error .adjacent :=
  split_adjacent a body b ha hlen hb hs

/-- **Duplicate names**: two tokens, each accepted by itself, separated by non-empty brace-free text, whose names —
read off the bytes: text before the first `:`, a leading `-` dropped — are equal: rejected with `dupName`. -/
theorem C10_malformed_dup_name (ic : Interceptors) (a body1 suf1 body2 b : Bytes) (ha : NoBrace a)
    (hlen : a.length ≤ maxInt16) (hb1 : endByte ∉ body1) (hs1 : NoBrace suf1) (hne : suf1 ≠ [])
    (hb2 : endByte ∉ body2) (s1 s2 : Seg) (h1 : newSegment ic (tok body1 suf1) = .ok s1)
    (h2 : newSegment ic (tok body2 (b.takeWhile (· ≠ startByte))) = .ok s2)
    (hname : tokName body1 = tokName body2) :
    split ic (a ++ tok body1 suf1 ++ tok body2 b) = .error .dupName :=
  split_dup_name a body1 suf1 body2 b ha hlen hb1 hs1 hne hb2 h1 h2 hname

/-- **Uncompilable regexp**: `{name:rule}` where `rule` is not an interceptor and is rejected by the regexp parser
(`parseRule rule = .bad`, i.e. `regexp.Compile` fails), followed by ASCII text: rejected with the class `regexp`. -/
theorem C10_malformed_regexp (ic : Interceptors) (a name rule b : Bytes) (ha : NoBrace a) (hn : name ≠ [])
    (hns : separatorByte ∉ name) (hne : endByte ∉ name) (hr : endByte ∉ rule) (hrn : rule ≠ [])
    (hic : ic.find rule = none) (hbad : parseRule rule = .bad) (hasc : isAscii b = true)
    (hlen : (a ++ tok (name ++ separatorByte :: rule) b).length ≤ maxInt16) :
    split ic (a ++ tok (name ++ separatorByte :: rule) b) = .error .regexp := by
  have hb : endByte ∉ name ++ separatorByte :: rule := by
    simp only [List.mem_append, List.mem_cons, not_or]
    exact ⟨hne, by decide, hr⟩
  have hasc' : isAscii (b.takeWhile (· ≠ startByte)) = true := by
    unfold isAscii at hasc ⊢
    rw [List.all_eq_true] at hasc ⊢
    exact fun x hx => hasc x ((List.takeWhile_sublist _).subset hx)
  exact split_first_tok_err a _ b ha (tok_bounds hlen).1 hb
    (newSegment_bad_rule ic name rule _ hn hns hne hr hrn hic hbad hasc' (tok_bounds hlen).2)

/-- Each of these errors is what non-strict URL building returns (non-empty pattern): "fails iff malformed". -/
theorem C10_malformed_url (p : Bytes) (hp : p ≠ []) (ps : AMap Bytes) (e : Err) (h : split [] p = .error e) :
    urlNonStrict p ps = .error e ∧ (ps ≠ [] → muxURL p ps = .error e) := by
  have h1 : urlNonStrict p ps = .error e := (C10_subst_urlNonStrict_error p ps e).2 (.inl ⟨h, hp⟩)
  exact ⟨h1, fun hps => by rw [muxURL_eq p ps hps]; exact h1⟩

/-- **Unbalanced braces are not rejected.**  In the specification, text without `}` — in particular a `{` that is
never closed — is copied unchanged whatever the parameters; so is text without `{` (a stray `}`). -/
theorem C10_unbalanced_literal (ps : AMap Bytes) (p : Bytes) (h : endByte ∉ p ∨ startByte ∉ p) :
    substText ps p = some p := by
  rcases h with h | h
  · have := substFrom_no_end ps p h none
    simpa [substText] using this
  · exact substFrom_lit_nil ps p h

/-- The model agrees with `C10_unbalanced_literal`: a non-empty pattern without `}` (any number of unclosed `{`) is accepted by `Split` and
non-strict URL building returns it unchanged, whatever the parameters. -/
theorem C10_unbalanced_accepted (p : Bytes) (hne : p ≠ []) (hend : endByte ∉ p) (hlen : p.length ≤ maxInt16)
    (ps : AMap Bytes) : (∃ segs, split [] p = .ok segs) ∧ urlNonStrict p ps = .ok p := by
  obtain ⟨segs, hs⟩ := split_no_end [] p hne hend hlen
  refine ⟨⟨segs, hs⟩, ?_⟩
  rw [C10_subst_text p ps segs hs, C10_unbalanced_literal ps p (.inl hend)]

-- the lemmas instantiated: `/a/{}/b`, `/a/{:\d+}`, `/a/{b`
example : split [] (bytesOfString "/a/" ++ tok [] (bytesOfString "/b")) = .error .syntax :=
  C10_malformed_empty_name [] _ _ (P9.noBrace_of_all (by decide +kernel)) (by decide +kernel)
example : split [] (bytesOfString "/a/" ++ tok (separatorByte :: bytesOfString "\\d+") []) = .error .syntax :=
  C10_malformed_colon_first [] _ _ _ (P9.noBrace_of_all (by decide +kernel)) (by decide +kernel) (by decide +kernel)
example : urlNonStrict (bytesOfString "/a/{b") [([98], [53])] = .ok (bytesOfString "/a/{b") :=
  (C10_unbalanced_accepted _ (by decide +kernel) (by decide +kernel) (by decide +kernel) _).2

-- non-vacuity of the malformed shapes (each evaluated by the kernel on the model):
-- `/a/{}/b`, `/a/{:\d+}`, `/{a}{b}`, `/{a}/{-a:\d+}`, `/{a:*}` and the accepted `/a/{b` and `/a}b`
example : split [] (bytesOfString "/a/{}/b") = .error .syntax := by decide +kernel
example : split [] (bytesOfString "/a/{:\\d+}") = .error .syntax := by
  simp only [bytesOfString_eq_data]; decide +kernel
example : split [] (bytesOfString "/{a}{b}") = .error .adjacent := by decide +kernel
example : split [] (bytesOfString "/{a}/{-a:\\d+}") = .error .dupName := by
  simp only [bytesOfString_eq_data]; decide +kernel
example : split [] (bytesOfString "/{a:*}") = .error .regexp := by decide +kernel
example : muxURL (bytesOfString "/a/{b") [([98], [53])] = .ok (bytesOfString "/a/{b") := by decide +kernel
example : muxURL (bytesOfString "/a}b") [([98], [53])] = .ok (bytesOfString "/a}b") := by decide +kernel
/-- `}{` is "adjacent parameters" even when the `}` closes nothing. -/
example : split [] (bytesOfString "/a}{b}") = .error .adjacent := by decide +kernel
-- hypotheses of the lemmas, instantiated: prefix `/a/`, tokens `{a}`, `{-a:\d+}`, rule `*`
example : NoBrace (bytesOfString "/a/") ∧ (∃ s, newSegment [] (tok [97] []) = .ok s) ∧
    tokName [97] = tokName (bytesOfString "-a:\\d+") ∧ parseRule [42] = .bad ∧
    Interceptors.find [] [42] = none := by
  exact ⟨P9.noBrace_of_all (by decide +kernel), Except.exists_ok (by decide +kernel), by decide +kernel,
    by decide +kernel, rfl⟩

end Mux.C10
