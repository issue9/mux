/-
  C13 — A Group dispatches to the first accepting router and rejections leave no trace.
  Statements and non-vacuity examples; helper lemmas and the definitions of
  `Matcher.hostsFree` / `Matcher.guarded` / `Group.notFoundCall` / `RTab.nameOf` live in Mux/Proofs/Group.lean.

  `Matcher.hostsFree m`  : no `.hosts` constructor anywhere in `m`.
  `Matcher.guarded m`    : every `.hosts` in `m` sits below some `.and` (weaker than `hostsFree`).
-/
import Mux.Proofs.Group
namespace Mux.C13
open Mux

/-- `e` rejects the request as originally received (whatever it leaves behind). -/
def Rejects (env : Env) (tab : Nat → Option Hosts) (req : Req) (e : Nat × Matcher) : Prop :=
  ∃ p ps, e.2.run env tab req req.path [] = .reject p ps

/-- A hosts-free matcher — any nesting of and/or/any/pathVersion/headerVersion — that rejects leaves the request
path and the parameters as they were; the same holds for every `And` whatever its members are (hosts included,
and also when an earlier member had accepted and rewritten the path: the D12 repair). -/
theorem C13_no_trace (env : Env) (tab : Nat → Option Hosts) (req : Req) (path : Bytes) (ps : Params)
    (p' : Bytes) (ps' : Params) :
    (∀ m : Matcher, m.hostsFree = true → m.run env tab req path ps = .reject p' ps' → p' = path ∧ ps' = ps) ∧
    (∀ ms : List Matcher, (Matcher.and ms).run env tab req path ps = .reject p' ps' → p' = path ∧ ps' = ps) :=
  ⟨fun m hm => run_reject_guarded env tab m (m.hostsFree_guarded hm), fun ms => run_reject_guarded env tab (.and ms) rfl⟩

/-- Strongest syntactic form: it suffices that every `Hosts` matcher sits below an `And`. -/
theorem C13_no_trace_guarded (env : Env) (tab : Nat → Option Hosts) (m : Matcher) (hm : m.guarded = true)
    (req : Req) (path : Bytes) (ps : Params) (p' : Bytes) (ps' : Params)
    (h : m.run env tab req path ps = .reject p' ps') : p' = path ∧ ps' = ps :=
  run_reject_guarded env tab m hm h

theorem C13_hostsFree_guarded (m : Matcher) (h : m.hostsFree = true) : m.guarded = true :=
  Matcher.hostsFree_guarded m h

/-- EVERY matcher (a bare `Hosts` and `Or`s of them included) leaves the request PATH alone when it rejects.
Since `Group.serve` resets the parameters after a rejection, this is all the group loop needs: the side condition
of `C13_first`/`C13_notfound` holds for all matchers. (A bare rejecting `Hosts` may leave parameters captured by
its tree; inside an `Or` the next member sees them — that is why `C13_no_trace` excludes unguarded hosts.) -/
theorem C13_reject_path (env : Env) (tab : Nat → Option Hosts) (m : Matcher) (req : Req) (path : Bytes) (ps : Params)
    (p' : Bytes) (ps' : Params) (h : m.run env tab req path ps = .reject p' ps') : p' = path :=
  run_reject_path env tab m h

/-- The first router (in the order of `g.routers`) whose matcher does not reject the request as originally
received serves it: if that matcher accepts with `(p, ps)`, the outcome is exactly that router's own outcome on
the request with path `p` and the captured parameters `ps`. No side condition on the rejecting matchers is
needed (`C13_reject_path`). -/
theorem C13_first (env : Env) (tab : Nat → Option Hosts) (rt : RTab) (g : Group) (req : Req)
    (pre post : List (Nat × Matcher)) (rid : Nat) (m : Matcher) (p : Bytes) (ps : Params) (r : Router)
    (hg : g.routers = pre ++ (rid, m) :: post)
    (hpre : ∀ e ∈ pre, Rejects env tab req e)
    (hm : m.run env tab req req.path [] = .accept p ps)
    (hr : rt.get? rid = some r) :
    g.serve env tab rt req = r.serveContext env { req with path := p } ps := by
  rw [Group.serve_skip hg hpre, Group.serve.go, hm, hr]

/-- General version threading the residual path: the loop over any suffix of the router list, started on ANY
current path, skips rejecting entries and hands the SAME path (and empty parameters) to the entries after them. -/
theorem C13_first_general (env : Env) (tab : Nat → Option Hosts) (rt : RTab) (g : Group) (req : Req)
    (pre rest : List (Nat × Matcher)) (path : Bytes)
    (hpre : ∀ e ∈ pre, ∃ p ps, e.2.run env tab req path [] = .reject p ps) :
    Group.serve.go env tab rt g req (pre ++ rest) path = Group.serve.go env tab rt g req rest path :=
  go_append_reject rest hpre

/-- What happens at the first non-rejecting entry when it does not accept / its router is gone: a fault or an
unsupported input of the matcher ends the dispatch (outside every recover); a missing table entry is fault 320
(the `rt.get? rid = none` branch of `Group.serve`: calling `serveContext` on a router that is not there). -/
theorem C13_first_stop (env : Env) (tab : Nat → Option Hosts) (rt : RTab) (g : Group) (req : Req)
    (pre post : List (Nat × Matcher)) (rid : Nat) (m : Matcher)
    (hg : g.routers = pre ++ (rid, m) :: post) (hpre : ∀ e ∈ pre, Rejects env tab req e) :
    (∀ s, m.run env tab req req.path [] = .fault s → g.serve env tab rt req = .fault s false) ∧
    (m.run env tab req req.path [] = .unsupported → g.serve env tab rt req = .unsupported) ∧
    (∀ p ps, m.run env tab req req.path [] = .accept p ps → rt.get? rid = none →
      g.serve env tab rt req = .fault 320 false) := by
  rw [Group.serve_skip hg hpre, Group.serve.go]
  exact ⟨fun s h => by rw [h], fun h => by rw [h], fun p ps h hr => by rw [h, hr]⟩

/-- If every matcher rejects, the group's not-found handler is called: no node, no parameters, router name `""`,
the path as received, under the group's recover. -/
theorem C13_notfound (env : Env) (tab : Nat → Option Hosts) (rt : RTab) (g : Group) (req : Req)
    (hall : ∀ e ∈ g.routers, Rejects env tab req e) :
    ∃ c, g.serve env tab rt req = .call c ∧ c.handler = g.notFound ∧ c.params = [] ∧ c.routerName = [] ∧
      c.path = req.path ∧ c.recover = g.recover ∧ c.node = none ∧ c.ok = false ∧ c.respHeaders = [] ∧
      c.headWrap = false := by
  exact ⟨_, Group.serve_all_reject hall, rfl, rfl, rfl, rfl, rfl, rfl, rfl, rfl, rfl⟩

/-- `Group.Use(m…)` wraps the group's not-found handler in the new middlewares (applied with empty method,
pattern and router name), outermost last, and remembers them for routers added later; nothing else changes.
Together with `C13_notfound`: the handler called when no router accepts carries exactly the `Use` middlewares. -/
theorem C13_use_notfound (g : Group) (rt : RTab) (m : List Nat) :
    (g.use rt m).1.notFound.wraps = g.notFound.wraps ++ m.map (fun x => ⟨x, [], [], []⟩) ∧
    (g.use rt m).1.notFound.base = g.notFound.base ∧
    (g.use rt m).1.ms = g.ms ++ m ∧
    (g.use rt m).1.routers = g.routers ∧ (g.use rt m).1.recover = g.recover :=
  ⟨rfl, rfl, rfl, rfl, rfl⟩

/-- `UseInv` holds over every history of `Add`/`Use`/`Remove` starting from a new group: the new group has it and
each of the three operations keeps it. -/
theorem C13_use_history (g : Group) (rt : RTab) :
    UseInv {} ∧
    (UseInv g → ∀ m, UseInv (g.use rt m).1) ∧
    (UseInv g → ∀ m rid g' rt', g.add rt m rid = some (g', rt') → UseInv g') ∧
    (UseInv g → ∀ name, UseInv (g.remove rt name)) :=
  ⟨Group.useInv_new, fun h m => Group.useInv_use h rt m, fun h _ _ _ _ ha => Group.useInv_add h ha, fun h _ => h⟩

/-- `Group.add`: error (`none`) when the router is not in the table or its name is already used in the group —
the group is then unchanged since nothing is returned; otherwise exactly `(rid, m)` is appended and the router
receives the group's middlewares. -/
theorem C13_names_add (g : Group) (rt : RTab) (m : Matcher) (rid : Nat) :
    (rt.get? rid = none → g.add rt m rid = none) ∧
    (∀ r, rt.get? rid = some r → r.tree.name ∈ g.names rt → g.add rt m rid = none) ∧
    (∀ r, rt.get? rid = some r → r.tree.name ∉ g.names rt →
      g.add rt m rid = some ({ g with routers := g.routers ++ [(rid, m)] }, rt.set rid (r.use g.ms))) := by
  unfold Group.add
  exact ⟨fun h => by rw [h], fun r h hd => by rw [h]; simp [hd], fun r h hd => by rw [h]; simp [hd]⟩

/-- Names stay unique: if the names of `g` (w.r.t. the table) are pairwise distinct and `add` succeeds, the
names of the new group w.r.t. the new table are the old ones plus the new router's name, and still pairwise
distinct.  No hypothesis on the ids is needed (`RTab.set` replaces every entry with that id and `Router.use`
keeps the name). -/
theorem C13_names_nodup (g : Group) (rt : RTab) (m : Matcher) (rid : Nat) (g' : Group) (rt' : RTab)
    (hnd : (g.names rt).Nodup) (h : g.add rt m rid = some (g', rt')) :
    (∃ r, rt.get? rid = some r ∧ g'.names rt' = g.names rt ++ [r.tree.name]) ∧ (g'.names rt').Nodup := by
  obtain ⟨r, hr, _, hn⟩ := Group.names_add h
  exact ⟨⟨r, hr, hn⟩, Group.names_add_nodup hnd h⟩

/-- `Group.use` keeps the names (and so their uniqueness). -/
theorem C13_names_use (g : Group) (rt : RTab) (m : List Nat) :
    (g.use rt m).1.names (g.use rt m).2 = g.names rt :=
  Group.names_use g rt m

/-- `Group.remove name` deletes exactly the entries whose router (looked up in the table) has that name, keeping
the others in order; in terms of names: exactly `name` disappears. -/
theorem C13_names_remove (g : Group) (rt : RTab) (name : Bytes) :
    (g.remove rt name).routers = g.routers.filter (fun e => decide (rt.nameOf e.1 ≠ some name)) ∧
    (g.remove rt name).names rt = (g.names rt).filter (· ≠ name) ∧
    name ∉ (g.remove rt name).names rt ∧
    ((g.names rt).Nodup → ((g.remove rt name).names rt).Nodup) := by
  have hn := Group.names_remove g rt name
  refine ⟨Group.routers_remove g rt name, hn, ?_, ?_⟩
  · rw [hn]; simp
  · intro h; rw [hn]; exact h.filter _

def exEnv : Env := ⟨fun _ _ => true⟩
def exRouter (name : Bytes) : Router := { tree := Tree.new name [] { base := .notFound } none }
def exRt : RTab := [(0, exRouter [97]), (1, exRouter [98])]
/-- `And(PathVersion("/v1/"), HeaderVersion(…))` then `PathVersion("/v1/")`: the scenario of the property text. -/
def exAnd : Matcher := .and [.pathVersion [] [[47, 118, 49, 47]], .headerVersion [] [118] [[50]]]
def exGroup : Group := { routers := [(0, exAnd), (1, .pathVersion [] [[47, 118, 49, 47]])] }
def exReq : Req := { method := [71], path := [47, 118, 49, 47, 120] }

example : exAnd.hostsFree = true ∧ (Matcher.or [.and [.hosts 0], .any]).guarded = true ∧
    (Matcher.or [.and [.hosts 0], .any]).hostsFree = false := by decide

-- the first member strips "/v1", the second rejects, the And restores the path:
example : exAnd.run exEnv (fun _ => none) exReq exReq.path [] = .reject [47, 118, 49, 47, 120] [] := by rfl
-- … so the second router still sees "/v1/x" and accepts; hypotheses of `C13_first` are satisfiable:
example : exGroup.routers = [(0, exAnd)] ++ (1, .pathVersion [] [[47, 118, 49, 47]]) :: [] ∧
    (∀ e ∈ [(0, exAnd)], Rejects exEnv (fun _ => none) exReq e) ∧
    (Matcher.pathVersion [] [[47, 118, 49, 47]]).run exEnv (fun _ => none) exReq exReq.path [] = .accept [47, 120] [] ∧
    exRt.get? 1 = some (exRouter [98]) := by
  refine ⟨rfl, ?_, rfl, rfl⟩
  intro e he; simp only [List.mem_singleton] at he; subst he
  exact ⟨_, _, rfl⟩
-- hypotheses of `C13_notfound`
example : ∀ e ∈ exGroup.routers, Rejects exEnv (fun _ => none) { exReq with path := [47, 120] } e := by
  intro e he
  simp only [exGroup, List.mem_cons, List.not_mem_nil, or_false] at he
  rcases he with he | he <;> subst he <;> exact ⟨_, _, rfl⟩
-- hypotheses of `C13_names_nodup`
example : (({} : Group).names exRt).Nodup ∧ (({} : Group).add exRt .any 0).isSome = true := by
  refine ⟨List.nodup_nil, ?_⟩
  rw [(C13_names_add {} exRt .any 0).2.2 (exRouter [97]) rfl (by simp [Group.names])]; rfl

end Mux.C13
