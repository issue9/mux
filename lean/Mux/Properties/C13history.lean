/-
  C13 (whole histories) — the clauses of C13 that quantify over "every history of Add/Remove/Use" (and of
  operations on the member routers through their own handles), stated for every state `grun ({}, rt) prog`
  reachable from a new group `{}` over an arbitrary router table `rt`; and `C13_no_trace_reach`: a rejecting matcher
  leaves path and parameters alone for EVERY matcher expression over `Hosts` tables made by `NewHosts` and a history
  (no `hostsFree`/`guarded` restriction).

  Helper lemmas: `Mux/Proofs/GroupHistory.lean` (namespaces `Mux.P10`, `Mux.P24`, `Mux.P25`),
  `Mux/Proofs/RestoreMatcher.lean` (`Mux.P24`).
-/
import Mux.Proofs.GroupHistory
import Mux.Proofs.RestoreMatcher
import Mux.Proofs.HostsLateExamples
import Mux.Properties.C13
namespace Mux.C13
open Mux Mux.P10 Mux.P24

/-- **Names stay unique; members exist.**  In every state reached from a new group by ANY history of
`Add`/`Use`/`Remove` and of `Handle`/`Remove`/`Clean`/`Use` calls on the routers of the table (failed `Add`s leave
the state unchanged): the names of the member routers are pairwise distinct, the member ids are pairwise distinct,
and every member id `e.1` is present in the table — the entry is the router `r0` that the INITIAL table had under
that id, after its own plain router history `effOps ({}, rt) e.1 prog` (the `Use` lists of the group included, in
call order), and it still has `r0`'s name.  No hypothesis: `rt` and `prog` are arbitrary.  This discharges the
hypothesis `hnd` of `C13_names_nodup` and `hr` of `C13_first` for all reachable states. -/
theorem C13_history_inv (rt : RTab) (prog : List GOp) :
    let s := grun ({}, rt) prog
    (s.1.names s.2).Nodup ∧ (Group.ids s.1).Nodup ∧
    (∀ e ∈ s.1.routers, ∃ r0, rt.get? e.1 = some r0 ∧
        s.2.get? e.1 = some (r0.run (effOps ({}, rt) e.1 prog)) ∧
        (r0.run (effOps ({}, rt) e.1 prog)).tree.name = r0.tree.name) := by
  intro s
  have hinv : GInv s := ginv_run prog (ginv_init rt)
  refine ⟨hinv.names, hinv.ids, fun e he => ?_⟩
  obtain ⟨r0, h0, hget⟩ := grun_member prog (ginv_init rt) he
  exact ⟨r0, h0, hget, run_name r0 _⟩

/-- The names of the members are, at every moment, the names the INITIAL table has for the member ids: neither a
group operation nor an operation on a router renames anything. -/
theorem C13_history_names (rt : RTab) (prog : List GOp) :
    let s := grun ({}, rt) prog
    s.1.names s.2 = s.1.routers.filterMap (fun e => rt.nameOf e.1) := by
  intro s
  rw [Group.names_eq]
  exact names_congr _ rt s.2 (fun id => grun_nameOf prog (s := ({}, rt)) List.nodup_nil id)

/-- **Order of addition.**  One more operation changes the member list only by appending the new entry at the END
(a successful `Add`) or by deleting entries while keeping the order of the others (`Remove`); so the members are
always listed in the order in which they were added. -/
theorem C13_history_order (rt : RTab) (prog : List GOp) (op : GOp) :
    let s := grun ({}, rt) prog
    let s' := grun ({}, rt) (prog ++ [op])
    (∃ mt rid, op = .add mt rid ∧ (s.1.add s.2 mt rid).isSome = true ∧ s'.1.routers = s.1.routers ++ [(rid, mt)]) ∨
      s'.1.routers.Sublist s.1.routers := by
  intro s s'
  have : s' = gstep s op := grun_snoc _ prog op
  rw [this]
  rcases gstep_routers s op with h | ⟨mt, rid, _, hop, _, _, ha, h⟩ | ⟨_, _, h⟩
  · exact .inr (h ▸ List.Sublist.refl _)
  · exact .inl ⟨mt, rid, hop, by rw [ha]; rfl, h⟩
  · exact .inr (h ▸ List.filter_sublist)

/-- **First accepting router, end to end.**  In every state reached by a history from a new group: if the entries
before `(rid, m)` reject the request as originally received and `m` accepts it with `(p, ps)`, then router `rid`
IS in the table (fault 320 cannot happen) and the group's answer is exactly the answer that the router the initial
table had under `rid`, after its own plain history `effOps`, gives ALONE to the request with path `p` and the
captured parameters `ps`. -/
theorem C13_first_history (rt : RTab) (prog : List GOp) (env : Env) (tab : Nat → Option Hosts) (req : Req)
    (pre post : List (Nat × Matcher)) (rid : Nat) (m : Matcher) (p : Bytes) (ps : Params) :
    let s := grun ({}, rt) prog
    s.1.routers = pre ++ (rid, m) :: post → (∀ e ∈ pre, Rejects env tab req e) →
    m.run env tab req req.path [] = .accept p ps →
    ∃ r0, rt.get? rid = some r0 ∧
      s.1.serve env tab s.2 req = (r0.run (effOps ({}, rt) rid prog)).serveContext env { req with path := p } ps := by
  intro s hg hpre hm
  obtain ⟨r0, h0, hget, _⟩ := (C13_history_inv rt prog).2.2 (rid, m) (by rw [hg]; simp)
  exact ⟨r0, h0, C13_first env tab s.2 s.1 req pre post rid m p ps _ hg hpre hm hget⟩

/-- Consequence: in a reachable state the dispatch never ends in the "router missing from the table" fault. -/
theorem C13_no_missing_router (rt : RTab) (prog : List GOp)
    (pre post : List (Nat × Matcher)) (rid : Nat) (m : Matcher) :
    let s := grun ({}, rt) prog
    s.1.routers = pre ++ (rid, m) :: post → s.2.get? rid ≠ none := by
  intro s hg h
  obtain ⟨r0, _, hget, _⟩ := (C13_history_inv rt prog).2.2 (rid, m) (by rw [hg]; simp)
  rw [h] at hget; cases hget

/-- **No router accepts, every history.**  In every reachable state, if every matcher rejects the request, the call
is the group's own not-found handler wrapped in exactly the middlewares given to `Group.Use` so far, in call order
(each created with empty method, pattern and router name), with no node, no parameters, router name `""` and the
path as received. -/
theorem C13_notfound_history (rt : RTab) (prog : List GOp) (env : Env) (tab : Nat → Option Hosts) (req : Req) :
    let s := grun ({}, rt) prog
    (∀ e ∈ s.1.routers, Rejects env tab req e) →
    ∃ c, s.1.serve env tab s.2 req = .call c ∧
      c.handler = { base := .groupNotFound, wraps := (useArgs prog).map (fun x => ⟨x, [], [], []⟩) } ∧
      c.node = none ∧ c.ok = false ∧ c.params = [] ∧ c.routerName = [] ∧ c.path = req.path ∧ c.respHeaders = [] := by
  intro s hall
  obtain ⟨c, h1, h2, h3, h4, h5, _, h7, h8, h9, _⟩ := C13_notfound env tab s.2 s.1 req hall
  refine ⟨c, h1, ?_, h7, h8, h3, h4, h5, h9⟩
  rw [h2, show s.1.notFound = _ from congrArg Group.notFound (grun_fields prog ({}, rt))]
  rfl

theorem serveContext_routerName (env : Env) (r : Router) (req : Req) (ps : Params) (c : Call)
    (h : r.serveContext env req ps = .call c) : c.routerName = r.tree.name :=
  (P18.serveContext_call_found env r req ps c h).2.1

/-- The loop of `Group.serve`: a call is the group's own not-found call on the path the loop was entered with, or
the call of a listed router whose matcher accepted the request on that path. -/
theorem go_call_cases (env : Env) (tab : Nat → Option Hosts) (rt : RTab) (g : Group) (req : Req) :
    ∀ (l : List (Nat × Matcher)) (path : Bytes) (c : Call), Group.serve.go env tab rt g req l path = .call c →
      g.notFoundCall path = .call c ∨
      (∃ e ∈ l, ∃ r p ps, rt.get? e.1 = some r ∧ e.2.run env tab req path [] = .accept p ps ∧
        r.serveContext env { req with path := p } ps = .call c) :=
  fun _ _ _ => go_eq_call

/-- **`Remove(name)` takes the router out of dispatch.**  After `Remove(name)` every call the group produces is
either the group's own not-found call (no node, router name `""`), or the call of a member router whose name is NOT
`name` — the call's `routerName` is that other name, and the router's matcher accepted the request as originally
received.  Holds in every state (so in every reachable one, where names identify routers: `C13_history_inv`). -/
theorem C13_remove_dispatch (env : Env) (tab : Nat → Option Hosts) (rt : RTab) (g : Group) (req : Req) (name : Bytes)
    (c : Call) (h : (g.remove rt name).serve env tab rt req = .call c) :
    (c.handler = g.notFound ∧ c.node = none ∧ c.routerName = [] ∧ c.ok = false) ∨
    ∃ e ∈ g.routers, ∃ r p ps, rt.get? e.1 = some r ∧ r.tree.name ≠ name ∧ c.routerName = r.tree.name ∧
      e.2.run env tab req req.path [] = .accept p ps ∧ r.serveContext env { req with path := p } ps = .call c := by
  rcases go_eq_call h with h' | ⟨e, he, r, p, ps, hr, hm, hc⟩
  · left
    cases h'
    exact ⟨rfl, rfl, rfl, rfl⟩
  · right
    rw [Group.routers_remove, List.mem_filter] at he
    refine ⟨e, he.1, r, p, ps, hr, ?_, serveContext_routerName env r _ ps c hc, hm, hc⟩
    simpa [RTab.nameOf, hr] using he.2

/-- **`Remove(name)` leaves the others alone.**  A request whose first accepting router has another name than
`name` is served after `Remove(name)` exactly as before. -/
theorem C13_remove_frame (env : Env) (tab : Nat → Option Hosts) (rt : RTab) (g : Group) (req : Req) (name : Bytes)
    (pre post : List (Nat × Matcher)) (rid : Nat) (m : Matcher) (p : Bytes) (ps : Params) (r : Router)
    (hg : g.routers = pre ++ (rid, m) :: post) (hpre : ∀ e ∈ pre, Rejects env tab req e)
    (hm : m.run env tab req req.path [] = .accept p ps) (hr : rt.get? rid = some r) (hne : r.tree.name ≠ name) :
    (g.remove rt name).serve env tab rt req = g.serve env tab rt req := by
  rw [C13_first env tab rt g req pre post rid m p ps r hg hpre hm hr]
  have hf : decide (rt.nameOf rid ≠ some name) = true := by simp [RTab.nameOf, hr, hne]
  have hg' := Group.routers_remove g rt name
  simp only [hg, List.filter_append, List.filter_cons, hf, if_true] at hg'
  exact C13_first env tab rt (g.remove rt name) req _ _ rid m p ps r hg'
    (fun e he => hpre e (List.mem_filter.mp he).1) hm hr

/-- The same when every matcher rejected before: the group's not-found answer is not affected by `Remove`. -/
theorem C13_remove_frame_notfound (env : Env) (tab : Nat → Option Hosts) (rt : RTab) (g : Group) (req : Req)
    (name : Bytes) (hall : ∀ e ∈ g.routers, Rejects env tab req e) :
    (g.remove rt name).serve env tab rt req = g.serve env tab rt req := by
  rw [Group.serve_all_reject hall, Group.serve_all_reject (fun e he => hall e (List.mem_filter.1 he).1)]
  rfl

/-- **`Remove(name)` over a history.**  Take any reachable state, then `Remove(name)`: `name` is no longer among
the member names, and every call the group produces from then on is its own not-found call or the call of a member
whose name — the one the INITIAL table has for its id, names never change — differs from `name`, computed by that
router after its own plain history. -/
theorem C13_remove_history (rt : RTab) (prog : List GOp) (name : Bytes) (env : Env) (tab : Nat → Option Hosts)
    (req : Req) :
    let s := grun ({}, rt) prog
    let s' := grun ({}, rt) (prog ++ [.remove name])
    name ∉ s'.1.names s'.2 ∧
    ∀ c, s'.1.serve env tab s'.2 req = .call c →
      (c.handler = s.1.notFound ∧ c.node = none ∧ c.routerName = [] ∧ c.ok = false) ∨
      ∃ e ∈ s.1.routers, ∃ r0 p ps, rt.get? e.1 = some r0 ∧ r0.tree.name ≠ name ∧ c.routerName = r0.tree.name ∧
        e.2.run env tab req req.path [] = .accept p ps ∧
        (r0.run (effOps ({}, rt) e.1 prog)).serveContext env { req with path := p } ps = .call c := by
  intro s s'
  have hs' : s' = (s.1.remove s.2 name, s.2) := grun_snoc _ prog (.remove name)
  rw [hs']
  refine ⟨(C13_names_remove s.1 s.2 name).2.2.1, fun c hc => ?_⟩
  rcases C13_remove_dispatch env tab s.2 s.1 req name c hc with h | ⟨e, he, r, p, ps, hr, hne, hn, hm, hcall⟩
  · exact .inl h
  · obtain ⟨r0, h0, hget, hname⟩ := (C13_history_inv rt prog).2.2 e he
    have : r = r0.run (effOps ({}, rt) e.1 prog) := by
      have := hr.symm.trans hget; simpa using this
    subst this
    exact .inr ⟨e, he, r0, p, ps, h0, by rw [← hname]; exact hne, by rw [← hname]; exact hn, hm, hcall⟩

/-- The frame over a history: in any reachable state, a request whose first accepting member is router `rid`
— known to the INITIAL table under another name than `name` — gets the very same answer after `Remove(name)`.
No hypothesis about the table is left (`C13_history_inv` supplies the entry and its name). -/
theorem C13_remove_frame_history (rt : RTab) (prog : List GOp) (name : Bytes) (env : Env) (tab : Nat → Option Hosts)
    (req : Req) (pre post : List (Nat × Matcher)) (rid : Nat) (m : Matcher) (p : Bytes) (ps : Params) :
    let s := grun ({}, rt) prog
    let s' := grun ({}, rt) (prog ++ [.remove name])
    s.1.routers = pre ++ (rid, m) :: post → (∀ e ∈ pre, Rejects env tab req e) →
    m.run env tab req req.path [] = .accept p ps → rt.nameOf rid ≠ some name →
    s'.1.serve env tab s'.2 req = s.1.serve env tab s.2 req := by
  intro s s' hg hpre hm hne
  have hs' : s' = (s.1.remove s.2 name, s.2) := grun_snoc _ prog (.remove name)
  obtain ⟨r0, h0, hget, hname⟩ := (C13_history_inv rt prog).2.2 (rid, m) (by rw [hg]; simp)
  rw [hs']
  refine C13_remove_frame env tab s.2 s.1 req name pre post rid m p ps _ hg hpre hm hget ?_
  rw [hname]
  intro e
  apply hne
  simp [RTab.nameOf, h0, e]

/-- **No trace, in the property's own generality.**  Let every `Hosts` matcher occurring in the expression `m` — at
any depth, bare or inside `Or`/`And` — be a table entry made by `NewHosts` and any history of `Add` (of domains the
model's `Add` supports: balanced, non-nested braces), `Delete` and `RegisterInterceptor` (`HostsLateWf`).  If `m`
rejects, it leaves the request path AND the parameters exactly as it found them, whatever they were — the only
requirement on the incoming parameters is that they are a map (one entry per key), which is what the context holds
at every point of a dispatch (`P19.run_nodup`; `[]` at the group loop).  There is no `hostsFree`/`guarded`
restriction as in `C13_no_trace`/`C13_no_trace_guarded`.  (For `And` the statement is about the model's restore step
itself, see `C13_no_trace`; for `Hosts` it is a fact about the private tree: a host that walks into the tree and
fails has every captured parameter undone, and a node with handlers always has the `GET` entry.) -/
theorem C13_no_trace_reach (env : Env) (tab : Nat → Option Hosts) (m : Matcher)
    (hm : P12.AllHosts (fun id => ∃ hs, tab id = some hs ∧ P17.HostsLateWf hs) m)
    (req : Req) (path : Bytes) (ps : Params) (hnd : ps.keys.Nodup) (p' : Bytes) (ps' : Params)
    (h : m.run env tab req path ps = .reject p' ps') : p' = path ∧ ps' = ps :=
  (run_reject_reach env tab m
    (P12.AllHosts.mono (fun _ ⟨hs, ht, hw⟩ => ⟨hs, ht, hw.reach.get, hw.idxLit⟩) m hm) req path ps hnd).of_reject h

/-- The case the group loop uses: no incoming parameters. -/
theorem C13_no_trace_reach_nil (env : Env) (tab : Nat → Option Hosts) (m : Matcher)
    (hm : P12.AllHosts (fun id => ∃ hs, tab id = some hs ∧ P17.HostsLateWf hs) m)
    (req : Req) (path : Bytes) (p' : Bytes) (ps' : Params)
    (h : m.run env tab req path [] = .reject p' ps') : p' = path ∧ ps' = [] :=
  C13_no_trace_reach env tab m hm req path [] List.nodup_nil p' ps' h

/-- Consequence for `Or`: over such tables an `Or` rejects exactly when EVERY member rejects the request in the state
the `Or` was entered with — no member sees anything an earlier member left behind. -/
theorem C13_or_reject_iff_reach (env : Env) (tab : Nat → Option Hosts) (ms : List Matcher)
    (hm : P12.AllHosts (fun id => ∃ hs, tab id = some hs ∧ P17.HostsLateWf hs) (.or ms))
    (req : Req) (path : Bytes) (ps : Params) (hnd : ps.keys.Nodup) :
    (∃ p' ps', (Matcher.or ms).run env tab req path ps = .reject p' ps') ↔
      ∀ x ∈ ms, x.run env tab req path ps = .reject path ps := by
  have hms : ∀ x ∈ ms, ∀ p' ps', x.run env tab req path ps = .reject p' ps' → p' = path ∧ ps' = ps := by
    rw [P12.AllHosts, P12.AllHostsL_iff] at hm
    exact fun x hx => C13_no_trace_reach env tab x (hm x hx) req path ps hnd
  rw [← runOr_reject_iff env tab ms req path ps hms]
  constructor
  · rintro ⟨p', ps', h⟩
    obtain ⟨rfl, rfl⟩ := C13_no_trace_reach env tab (.or ms) hm req path ps hnd p' ps' h
    rwa [Matcher.run] at h
  · exact fun h => ⟨path, ps, by rwa [Matcher.run]⟩

/-! ## Non-vacuity

A group over the table `exRt` (routers `a` = id 0, `b` = id 1): both are added, the group gets a middleware, router
`b` is modified through its own handle, a second `Add` of router `a` fails (duplicate name). -/

def hProg : List GOp :=
  [.add exAnd 0, .add (.pathVersion [] [[47, 118, 49, 47]]) 1, .use [7], .router 1 (.use [3]), .add .any 0]

/-- the state reached by `hProg`: both members listed in the order of addition, the failing `Add` changed nothing;
router `b`'s own history as `C13_history_inv` computes it -/
example : (grun ({}, exRt) hProg).1.routers = [(0, exAnd), (1, .pathVersion [] [[47, 118, 49, 47]])] ∧
    (grun ({}, exRt) hProg).1.names (grun ({}, exRt) hProg).2 = [[97], [98]] ∧
    effOps ({}, exRt) 1 hProg = [.use [], .use [7], .use [3]] := by
  refine ⟨rfl, by decide +kernel, by rfl⟩

/-- hypotheses of `C13_first_history` on that state: entry 0 rejects `GET /v1/x`, entry 1 accepts it as `/x` -/
example : (grun ({}, exRt) hProg).1.routers = [(0, exAnd)] ++ (1, .pathVersion [] [[47, 118, 49, 47]]) :: [] ∧
    (∀ e ∈ [(0, exAnd)], Rejects exEnv (fun _ => none) exReq e) ∧
    (Matcher.pathVersion [] [[47, 118, 49, 47]]).run exEnv (fun _ => none) exReq exReq.path [] = .accept [47, 120] [] := by
  refine ⟨rfl, ?_, rfl⟩
  intro e he; simp only [List.mem_singleton] at he; subst he
  exact ⟨_, _, rfl⟩

/-- hypotheses of `C13_remove_frame` for `Remove("a")` on that state (the accepting router is `b`), and the premise
of `C13_remove_dispatch` / `C13_remove_history` (the group does produce a call after the removal: router `b`'s) -/
example : exRt.get? 1 = some (exRouter [98]) ∧ (exRouter [98]).tree.name ≠ [97] ∧
    (∃ c, ((grun ({}, exRt) (hProg ++ [.remove [97]])).1.serve exEnv (fun _ => none)
      (grun ({}, exRt) (hProg ++ [.remove [97]])).2 exReq) = .call c ∧ c.routerName = [98]) := by
  refine ⟨rfl, by decide, ?_⟩
  obtain ⟨r0, h0, hs⟩ := C13_first_history exRt (hProg ++ [.remove [97]]) exEnv (fun _ => none) exReq [] []
    1 (.pathVersion [] [[47, 118, 49, 47]]) [47, 120] [] rfl (by simp) rfl
  cases h0
  rw [hs]
  exact ⟨_, rfl, rfl⟩

/-- hypothesis of `C13_notfound_history` on that state: `GET /x` is rejected by both members; the group's
middlewares so far are `[7]` -/
example : (∀ e ∈ (grun ({}, exRt) hProg).1.routers,
      Rejects exEnv (fun _ => none) { exReq with path := [47, 120] } e) ∧ useArgs hProg = [7] := by
  refine ⟨?_, rfl⟩
  intro e he
  rw [show (grun ({}, exRt) hProg).1.routers = [(0, exAnd), (1, .pathVersion [] [[47, 118, 49, 47]])] from rfl] at he
  simp only [List.mem_cons, List.not_mem_nil, or_false] at he
  rcases he with he | he <;> subst he <;> exact ⟨_, _, rfl⟩

/-! hypotheses of `C13_no_trace_reach` for an UNGUARDED `Hosts` inside an `Or` (excluded by `C13_no_trace` and
`C13_no_trace_guarded`): the table entry is the matcher of `C14late` (a domain added after a late
`RegisterInterceptor`), the host `5.foo.x.y` walks two parameter segments deep into its tree and is rejected, the
header-version member rejects as well; the incoming parameters are a map. -/
def nvTab : Nat → Option Hosts := fun id => if id = 0 then some P17.exL else none
def nvOr : Matcher := .or [.hosts 0, .headerVersion [] [118] [[50]]]
example : nvOr.guarded = false ∧
    P12.AllHosts (fun id => ∃ hs, nvTab id = some hs ∧ P17.HostsLateWf hs) nvOr ∧
    (AMap.keys ([([98], [49])] : Params)).Nodup ∧
    nvOr.run P17.exLEnv nvTab { method := [71], path := [47], host := P17.hostL2 } [47] [([98], [49])] =
      .reject [47] [([98], [49])] := by
  refine ⟨by decide, ?_, by decide, ?_⟩
  · simp only [nvOr, P12.AllHosts, P12.AllHostsL, and_true]
    exact ⟨P17.exL, rfl, P17.exL_lateWf⟩
  · have h : P17.exL.match P17.exLEnv P17.hostL2 [47] [([98], [49])] = .reject [47] [([98], [49])] :=
      P12.outOf_reject (by
        rw [P17.exL_eq]
        simp only [P17.dL1, P17.dL2, P17.rDigit, P17.hostL2, P12.hostLeafHandlers, Hosts.empty, bytesOfString_eq_data]
        decide +kernel)
    simp only [nvOr, Matcher.run, runOr, nvTab, if_true, h]
    rfl

end Mux.C13
