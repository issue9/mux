/-
  C10 (strict mode, re-segmentation, inverse) — reverse URL building on reachable trees.

  * `C10_toks_*`, `C10_reseg*` : URL building depends only on the token stream of a segment list, and the chain of
    tree segments of a node spells the same token stream as `Split` of the node's pattern (under any interceptors),
    however the literal text is cut into segments.
  * `C10_strict*` : `Tree.URL` succeeds iff the pattern is a live route and every parameter of the route has a value
    that passes `Segment.Valid` (named / interceptor / regexp alike, also for empty params); the result is the
    substitution; every error is characterised; lifted to `Router.URL` and the façades.
  * `C10_inverse*` : building a dispatched route's pattern from the captured parameters reproduces the request path.

  `ReachWf t`: `t` is the tree of a history of Handle/Remove/Clean/Use whose registered patterns have balanced,
  non-nested `{…}` tokens (the hypothesis of C01/C03/C17).
-/
import Mux.Proofs.UrlTree
import Mux.Proofs.UrlExamples
import Mux.Proofs.MatchCap
import Mux.Properties.C01d
import Mux.Properties.C10
namespace Mux.C10
open Mux Mux.P9 Mux.P13

/-- The non-strict loop is a function of the token stream (`toks`: merged literal text | parameter name
and `-` flag) of the segment list. -/
theorem C10_toks_urlLoop (ps : AMap Bytes) (segs : List Seg) : urlLoop ps segs = urlToks ps (toks segs) :=
  urlLoop_eq_urlToks ps segs

/-- Segment lists with the same token stream build the same URL (or fail alike), for every parameter map. -/
theorem C10_toks_congr (ps : AMap Bytes) (a b : List Seg) (h : SameToks a b) : urlLoop ps a = urlLoop ps b :=
  urlLoop_congr_toks ps h

/-- The strict loop is the non-strict loop guarded by the validity checks on the parameter
segments: it succeeds iff every parameter segment has a value that passes `Segment.Valid`, and then returns
what the non-strict loop returns. -/
theorem C10_toks_strict (env : Env) (ic : Interceptors) (ps : AMap Bytes) (segs : List Seg) (u : Bytes) :
    strictUrlLoop env ic ps segs = .ok u ↔
      (∀ s ∈ segs, s.kind ≠ .str → ∃ v, ps.get? s.name = some v ∧ s.valid env ic v = some true) ∧
      urlLoop ps segs = .ok u :=
  strictUrlLoop_ok_iff env ic ps segs u

/-- **Re-segmentation**, general form: segments that each re-parse from their own well-formed text under
`ic` have the token stream of `Split` (under ANY interceptors `ic'`) of their concatenated text. -/
theorem C10_reseg_segs (ic ic' : Interceptors) (cs segs' : List Seg) (hok : ∀ s ∈ cs, SegOk ic s)
    (h : split ic' (cs.map (·.value)).flatten = .ok segs') : SameToks segs' cs :=
  toks_split_chain hok h

/-- **Re-segmentation on reachable trees**: the chain of tree segments from the root to a node and `Split`
of the node's pattern (with the tree's interceptors, or with none as `mux.URL` does) have the same token stream:
every parameter once, with the same name and flag, the same literal text in between. -/
theorem C10_reseg (t : Tree) (hr : ReachWf t) (n : Node) (segs : List Seg) (hc : Chain t.root segs n)
    (ic' : Interceptors) (segs' : List Seg) (h : split ic' n.pattern = .ok segs') : SameToks segs' segs := by
  rw [reach_chain_pattern hr hc] at h
  exact toks_split_chain (reach_chain_segOk hr hc) h

/-- Hence `Interceptors.URL` of the node's pattern is the loop over the node's chain. -/
theorem C10_reseg_url (t : Tree) (hr : ReachWf t) (n : Node) (segs : List Seg) (hc : Chain t.root segs n)
    (ic' : Interceptors) (segs' : List Seg) (h : split ic' n.pattern = .ok segs') (ps : AMap Bytes) :
    ic'.url n.pattern ps = urlLoop ps segs := by
  rw [reach_chain_pattern hr hc] at h ⊢
  exact url_of_chain (reach_chain_segOk hr hc) h ps

/-- The chain from the root to a node of a reachable tree is unique. -/
theorem C10_chain_unique (t : Tree) (hr : ReachWf t) (n : Node) (a b : List Seg) (ha : Chain t.root a n)
    (hb : Chain t.root b n) : a = b :=
  chain_unique ha hb (reach_uniqHyp hr)

/-- The hypothesis `ReachWf` of this file and the hypothesis of C03 (`WfOps`: every registered pattern has balanced,
non-nested braces) describe the same trees; so the invariants of C01/C17 (`WellFormedTree`) and of C03/C04 (`Sim`) are
available together. -/
theorem C10_reachWf_iff_history (t : Tree) :
    ReachWf t ↔ ∃ name ic nf tr ob nb ops, (∀ op ∈ ops, op.wf = true) ∧ t = (Tree.new name ic nf tr ob nb).run ops :=
  (P14.reachAll_iff_reachWf t).symm

/-- The two formalisations of a well-formed pattern text coincide. -/
theorem C10_wfPattern_iff (p : Bytes) : Mux.WfPattern p = true ↔ Mux.P9.WfPattern p := P11.wfPattern_iff_P9 p

/-- On a reachable tree `Tree.URL(pattern, ps)` succeeds with `u` iff
(a) `pattern` is a live route: some node below the root has this pattern and has handlers,
(b) every parameter segment on that node's chain has a value in `ps` that passes `Segment.Valid`
    (whatever its kind, and whether or not `ps` is empty), and
(c) `u` is what the substitution loop writes for the chain. -/
theorem C10_strict (env : Env) (t : Tree) (hr : ReachWf t) (pattern : Bytes) (ps : AMap Bytes) (u : Bytes) :
    t.url env pattern ps = .ok u ↔
      ∃ n segs, n ∈ nodesL t.root.children ∧ n.pattern = pattern ∧ n.handlers ≠ [] ∧ Chain t.root segs n ∧
        (∀ s ∈ segs, s.kind ≠ .str → ∃ v, ps.get? s.name = some v ∧ s.valid env t.ic v = some true) ∧
        urlLoop ps segs = .ok u :=
  Tree.url_ok_iff_reach hr env pattern ps u

/-- (a) in table form: a successful strict build names an entry of the table read off the tree. -/
theorem C10_strict_live (env : Env) (t : Tree) (hr : ReachWf t) (pattern : Bytes) (ps : AMap Bytes) (u : Bytes)
    (h : t.url env pattern ps = .ok u) : pattern ∈ (tableOf t).patterns := by
  obtain ⟨n, _, hn, hp, hh, _⟩ := (C10_strict env t hr pattern ps u).1 h
  exact mem_tableOf_patterns.2 ⟨n, hn, hp, hh⟩

/-- (a) with `C03_table`: a successful strict build names a live pattern of the abstract table of the history. -/
theorem C10_strict_table (name : Bytes) (ic : Interceptors) (nf : Handler) (tr : Option Handler) (ob nb : Base)
    (ops : List TOp) (hw : ∀ op ∈ ops, op.wf = true) (env : Env) (pattern : Bytes) (ps : AMap Bytes) (u : Bytes) :
    ((Tree.new name ic nf tr ob nb).run ops).url env pattern ps = .ok u →
      pattern ∈ (specRun (Tree.new name ic nf tr ob nb) ops).patterns := by
  intro h
  exact ((Mux.P11.sim_history name ic nf tr ob nb ops hw).patterns pattern).1
    (C10_strict_live env _ (P14.ReachAll.of_history name ic nf tr ob nb ops hw).reachWf pattern ps u h)

/-- (c) in closed form (with `C10_subst`): `u` is the chain's literal texts with every parameter replaced by its
value followed by the parameter's suffix. -/
theorem C10_strict_subst (env : Env) (t : Tree) (hr : ReachWf t) (pattern : Bytes) (ps : AMap Bytes) (u : Bytes)
    (h : t.url env pattern ps = .ok u) :
    ∃ n segs, n.pattern = pattern ∧ Chain t.root segs n ∧ pattern = (segs.map (·.value)).flatten ∧
      u = (segs.map (fun s => if s.kind = .str then s.value else (ps.get? s.name).getD [] ++ s.suffix)).flatten := by
  obtain ⟨n, segs, _, hp, _, hc, _, hu⟩ := (C10_strict env t hr pattern ps u).1 h
  exact ⟨n, segs, hp, hc, hp ▸ reach_chain_pattern hr hc, ((C10_subst ps segs u).1 hu).2⟩

/-- (c) and part 1: a strict build agrees with the non-strict build of the same pattern, whenever the latter's
segmentation exists (under the interceptors `ic'` it is done with; `mux.URL` uses none). -/
theorem C10_strict_eq_url (env : Env) (t : Tree) (hr : ReachWf t) (pattern : Bytes) (ps : AMap Bytes) (u : Bytes)
    (h : t.url env pattern ps = .ok u) (ic' : Interceptors) (segs' : List Seg) (hs : split ic' pattern = .ok segs') :
    ic'.url pattern ps = .ok u := by
  obtain ⟨n, segs, _, hp, _, hc, _, hu⟩ := (C10_strict env t hr pattern ps u).1 h
  subst hp
  rw [C10_reseg_url t hr n segs hc ic' segs' hs ps, hu]

theorem C10_strict_eq_nonStrict (env : Env) (t : Tree) (hr : ReachWf t) (pattern : Bytes) (ps : AMap Bytes) (u : Bytes)
    (h : t.url env pattern ps = .ok u) (segs' : List Seg) (hs : split [] pattern = .ok segs') :
    urlNonStrict pattern ps = .ok u :=
  C10_strict_eq_url env t hr pattern ps u h [] segs' hs

/-- With the tree's own interceptors no hypothesis is needed: a live route's pattern was accepted by `Split` when it
was registered.  So a strict build IS `Interceptors.URL` (of the router's interceptors) on the pattern. -/
theorem C10_strict_eq_icUrl (env : Env) (t : Tree) (hr : ReachWf t) (pattern : Bytes) (ps : AMap Bytes) (u : Bytes)
    (h : t.url env pattern ps = .ok u) : t.ic.url pattern ps = .ok u := by
  obtain ⟨n, _, hn, hp, hh, _⟩ := (C10_strict env t hr pattern ps u).1 h
  obtain ⟨segs', hs⟩ := reach_live_split hr hn hh
  exact C10_strict_eq_url env t hr pattern ps u h t.ic segs' (hp ▸ hs)

/-- In particular on a router without interceptors strict and non-strict building agree on live routes. -/
theorem C10_strict_eq_nonStrict_noIc (env : Env) (t : Tree) (hr : ReachWf t) (hic : t.ic = []) (pattern : Bytes)
    (ps : AMap Bytes) (u : Bytes) (h : t.url env pattern ps = .ok u) : urlNonStrict pattern ps = .ok u := by
  have := C10_strict_eq_icUrl env t hr pattern ps u h
  rwa [hic] at this

/-- (b) per kind: what "passes `Segment.Valid`" means.  Named: nothing.  Interceptor: the interceptor function
accepts the value.  Regexp: the rule denotes the WHOLE value (`C10_valid_rx`), more precisely dispatch would capture
exactly this value in front of the suffix (`C10_valid_rx_iff_match`). -/
theorem C10_strict_values (env : Env) (t : Tree) (hr : ReachWf t) (pattern : Bytes) (ps : AMap Bytes) (u : Bytes)
    (h : t.url env pattern ps = .ok u) :
    ∃ n segs, n.pattern = pattern ∧ Chain t.root segs n ∧
      ∀ s ∈ segs, s.kind ≠ .str → ∃ v, ps.get? s.name = some v ∧
        (s.kind = .icpt → s.accepts env t.ic v = true) ∧
        (s.kind = .rx → Re.Denotes s.re v ∧ s.match env t.ic (v ++ s.suffix) = .yes v []) := by
  obtain ⟨n, segs, _, hp, _, hc, hv, _⟩ := (C10_strict env t hr pattern ps u).1 h
  refine ⟨n, segs, hp, hc, fun s hs hk => ?_⟩
  obtain ⟨v, hg, hval⟩ := hv s hs hk
  refine ⟨v, hg, fun hi => ?_, fun hx => ⟨C10_valid_rx env t.ic s v hx hval, (C10_valid_rx_iff_match env t.ic s v hx).1 hval⟩⟩
  rw [C10_valid_icpt env t.ic s v hi] at hval
  simpa using hval

/-- Also when `ps` is empty: strict mode then succeeds only for live routes without any parameter, and returns
the pattern itself. -/
theorem C10_strict_empty_params (env : Env) (t : Tree) (hr : ReachWf t) (pattern : Bytes) (u : Bytes) :
    t.url env pattern [] = .ok u ↔
      u = pattern ∧ ∃ n segs, n ∈ nodesL t.root.children ∧ n.pattern = pattern ∧ n.handlers ≠ [] ∧
        Chain t.root segs n ∧ ∀ s ∈ segs, s.kind = .str := by
  rw [C10_strict env t hr]
  constructor
  · rintro ⟨n, segs, h1, h2, h3, h4, h5, h6⟩
    have hstr : ∀ s ∈ segs, s.kind = .str := fun s hs => Classical.byContradiction fun hk => by
      obtain ⟨v, hv, _⟩ := h5 s hs hk
      cases hv
    rw [C10_subst_literal [] segs hstr] at h6
    cases h6
    exact ⟨by rw [← h2, reach_chain_pattern hr h4], n, segs, h1, h2, h3, h4, hstr⟩
  · rintro ⟨rfl, n, segs, h1, h2, h3, h4, hstr⟩
    refine ⟨n, segs, h1, h2, h3, h4, fun s hs hk => absurd (hstr s hs) hk, ?_⟩
    rw [C10_subst_literal [] segs hstr, ← h2, reach_chain_pattern hr h4]

/-- **Errors (1).** `notRoute` iff the pattern is not a live route (not an entry of the table read off the tree:
`find` fails, or finds a node without handlers) — whatever the parameters. -/
theorem C10_strict_notRoute (env : Env) (t : Tree) (hr : ReachWf t) (pattern : Bytes) (ps : AMap Bytes) :
    t.url env pattern ps = .error .notRoute ↔ pattern ∉ (tableOf t).patterns :=
  Tree.url_notRoute_iff_reach hr env pattern ps

/-- The same in terms of `find`, on any tree. -/
theorem C10_strict_notRoute_find (env : Env) (t : Tree) (pattern : Bytes) (ps : AMap Bytes) :
    t.url env pattern ps = .error .notRoute ↔
      (t.root.findPath pattern = none ∨
        ∃ p n, t.root.findPath pattern = some p ∧ t.root.getAt p = some n ∧ n.handlers = []) := by
  rcases Tree.url_cases env t pattern ps with ⟨hnone, hu⟩ | ⟨p, n, segs, h1, h2, hu⟩
  · exact ⟨fun _ => .inl hnone, fun _ => hu⟩
  · rw [hu, h1]
    constructor
    · intro h
      refine .inr ⟨p, n, rfl, h2, Classical.byContradiction fun hz => ?_⟩
      rw [if_neg hz] at h
      exact strictUrlLoop_ne_notRoute h
    · rintro (h | ⟨_, n', h, h2', hz⟩)
      · cases h
      · cases h
        rw [h2] at h2'; cases h2'
        rw [if_pos hz]

/-- `notRoute` in terms of the abstract table of the history (`C03_table`). -/
theorem C10_strict_notRoute_table (name : Bytes) (ic : Interceptors) (nf : Handler) (tr : Option Handler) (ob nb : Base)
    (ops : List TOp) (hw : ∀ op ∈ ops, op.wf = true) (env : Env) (pattern : Bytes) (ps : AMap Bytes) :
    ((Tree.new name ic nf tr ob nb).run ops).url env pattern ps = .error .notRoute ↔
      pattern ∉ (specRun (Tree.new name ic nf tr ob nb) ops).patterns := by
  rw [C10_strict_notRoute env _ (P14.ReachAll.of_history name ic nf tr ob nb ops hw).reachWf,
    (Mux.P11.sim_history name ic nf tr ob nb ops hw).patterns]

/-- **Errors (2).** Any other error `e`: the pattern is a live route, and on its chain the FIRST parameter segment
without a valid value is: without a value at all (`e = missingParam`), with a value that `Valid` rejects
(`e = badValue`), or with a value `Valid` cannot judge (`e = unsupported`). -/
theorem C10_strict_error (env : Env) (t : Tree) (hr : ReachWf t) (pattern : Bytes) (ps : AMap Bytes) (e : Err)
    (hne : e ≠ .notRoute) :
    t.url env pattern ps = .error e ↔
      ∃ n segs, n ∈ nodesL t.root.children ∧ n.pattern = pattern ∧ n.handlers ≠ [] ∧ Chain t.root segs n ∧
        ∃ pre s post, segs = pre ++ s :: post ∧
          (∀ x ∈ pre, x.kind ≠ .str → ∃ v, ps.get? x.name = some v ∧ x.valid env t.ic v = some true) ∧
          s.kind ≠ .str ∧
          ((ps.get? s.name = none ∧ e = .missingParam) ∨
           ∃ v, ps.get? s.name = some v ∧
             ((s.valid env t.ic v = some false ∧ e = .badValue) ∨ (s.valid env t.ic v = none ∧ e = .unsupported))) :=
  Tree.url_error_iff_reach hr env pattern ps e hne

/-- **Errors (3).** There is no other error (in particular no fault). -/
theorem C10_strict_errors (env : Env) (t : Tree) (pattern : Bytes) (ps : AMap Bytes) (e : Err)
    (h : t.url env pattern ps = .error e) :
    e = .notRoute ∨ e = .missingParam ∨ e = .badValue ∨ e = .unsupported :=
  Tree.url_errors env t pattern ps e h

/-- **Errors (4).** `unsupported` arises only from a regexp segment whose rule has a wide class (`.` or a negated
class) and a non-ASCII value — the inputs on which Go's rune-wise matching is outside the model. -/
theorem C10_strict_unsupported (env : Env) (t : Tree) (hr : ReachWf t) (pattern : Bytes) (ps : AMap Bytes)
    (h : t.url env pattern ps = .error .unsupported) :
    ∃ n segs s v, n.pattern = pattern ∧ Chain t.root segs n ∧ s ∈ segs ∧ ps.get? s.name = some v ∧
      s.kind = .rx ∧ s.re.wide = true ∧ isAscii v = false := by
  obtain ⟨n, segs, _, hp, _, hc, pre, s, post, hsegs, _, _, hbad⟩ :=
    (C10_strict_error env t hr pattern ps .unsupported (by simp)).1 h
  have hs : s ∈ segs := by rw [hsegs]; simp
  rcases hbad with ⟨_, h⟩ | ⟨v, hv, ⟨_, h⟩ | ⟨hval, _⟩⟩
  · cases h
  · cases h
  · obtain ⟨h1, h2, h3⟩ := (valid_none_iff_segOk (reach_chain_segOk hr hc s hs) v).1 hval
    exact ⟨n, segs, s, v, hp, hc, hs, hv, h1, h2, h3⟩

/-- **`Router.URL` in strict mode**: the URL domain followed by `Tree.URL`; the empty pattern is not looked up
(it yields the bare domain). -/
theorem C10_strict_router (env : Env) (r : Router) (pattern : Bytes) (ps : AMap Bytes) (u : Bytes) :
    r.url env true pattern ps = .ok u ↔
      (pattern = [] ∧ u = r.urlDomain) ∨
      (pattern ≠ [] ∧ ∃ u', r.tree.url env pattern ps = .ok u' ∧ u = r.urlDomain ++ u') :=
  Router.url_strict_ok_iff env r pattern ps u

theorem C10_strict_router_error (env : Env) (r : Router) (pattern : Bytes) (ps : AMap Bytes) (e : Err) :
    r.url env true pattern ps = .error e ↔ pattern ≠ [] ∧ r.tree.url env pattern ps = .error e :=
  Router.url_strict_error_iff env r pattern ps e

/-- `Router.URL(strict)` on a router whose tree is reachable, spelled out. -/
theorem C10_strict_router_reach (env : Env) (r : Router) (hr : ReachWf r.tree) (pattern : Bytes) (hp : pattern ≠ [])
    (ps : AMap Bytes) (u : Bytes) :
    r.url env true pattern ps = .ok u ↔
      ∃ n segs u', n ∈ nodesL r.tree.root.children ∧ n.pattern = pattern ∧ n.handlers ≠ [] ∧
        Chain r.tree.root segs n ∧
        (∀ s ∈ segs, s.kind ≠ .str → ∃ v, ps.get? s.name = some v ∧ s.valid env r.tree.ic v = some true) ∧
        urlLoop ps segs = .ok u' ∧ u = r.urlDomain ++ u' := by
  rw [C10_strict_router]
  simp only [hp, false_and, false_or, ne_eq, not_false_eq_true, true_and]
  constructor
  · rintro ⟨u', h, rfl⟩
    obtain ⟨n, segs, h1, h2, h3, h4, h5, h6⟩ := (C10_strict env r.tree hr pattern ps u').1 h
    exact ⟨n, segs, u', h1, h2, h3, h4, h5, h6, rfl⟩
  · rintro ⟨n, segs, u', h1, h2, h3, h4, h5, h6, rfl⟩
    exact ⟨u', (C10_strict env r.tree hr pattern ps u').2 ⟨n, segs, h1, h2, h3, h4, h5, h6⟩, rfl⟩

/-- Non-strict `Router.URL` is `mux.URL` behind the URL domain (C10_subst* describe `mux.URL`). -/
theorem C10_router_nonStrict (env : Env) (r : Router) (pattern : Bytes) (ps : AMap Bytes) :
    r.url env false pattern ps =
      match muxURL pattern ps with
      | .ok u => .ok (r.urlDomain ++ u)
      | .error e => .error e :=
  Router.url_nonstrict_eq env r pattern ps

/-- `Prefix.URL` / `Resource.URL`: `Router.URL` of the façade's pattern followed by the argument. -/
theorem C10_strict_facade (env : Env) (p : Facade) (r : Router) (strict : Bool) (pattern : Bytes) (ps : AMap Bytes) :
    p.url env r strict pattern ps = r.url env strict (p.pattern ++ pattern) ps := rfl

/-- A request (not `""`, `*`, nor a TRACE short-circuit) dispatched by a reachable tree to a node
`n` whose chain has no ignored (`-`) parameter: the substitution loop over the node's chain, fed with the
parameters dispatch reported, writes exactly the request path. -/
theorem C10_inverse (env : Env) (t : Tree) (hr : ReachWf t) (path method : Bytes) (f : Found) (n : Node)
    (hp : path ≠ []) (hs : path ≠ [42]) (htr : t.trace = none ∨ method ≠ mTRACE)
    (h : t.handler env path [] method = .res f) (hf : f.node = some n)
    (segs : List Seg) (hc : Chain t.root segs n) (hign : ∀ s ∈ segs, s.kind ≠ .str → s.ignoreName = false) :
    urlLoop f.params segs = .ok path := by
  obtain ⟨chain, rfl, c3, _, c5, _⟩ := reach_dispatch_chain hr hp hs htr h hf hc
  rw [c5, c3]
  exact urlLoop_captures chain (reach_chainOk hr hc hign)

/-- Hence the non-strict build of the node's pattern (`Interceptors.URL` under any interceptors that can segment
the pattern; `mux.URL` / non-strict `Router.URL` use none) reproduces the request path. -/
theorem C10_inverse_url (env : Env) (t : Tree) (hr : ReachWf t) (path method : Bytes) (f : Found) (n : Node)
    (hp : path ≠ []) (hs : path ≠ [42]) (htr : t.trace = none ∨ method ≠ mTRACE)
    (h : t.handler env path [] method = .res f) (hf : f.node = some n)
    (segs : List Seg) (hc : Chain t.root segs n) (hign : ∀ s ∈ segs, s.kind ≠ .str → s.ignoreName = false)
    (ic' : Interceptors) (segs' : List Seg) (hsp : split ic' n.pattern = .ok segs') :
    ic'.url n.pattern f.params = .ok path := by
  rw [C10_reseg_url t hr n segs hc ic' segs' hsp]
  exact C10_inverse env t hr path method f n hp hs htr h hf segs hc hign

theorem C10_inverse_nonStrict (env : Env) (t : Tree) (hr : ReachWf t) (path method : Bytes) (f : Found) (n : Node)
    (hp : path ≠ []) (hs : path ≠ [42]) (htr : t.trace = none ∨ method ≠ mTRACE)
    (h : t.handler env path [] method = .res f) (hf : f.node = some n)
    (segs : List Seg) (hc : Chain t.root segs n) (hign : ∀ s ∈ segs, s.kind ≠ .str → s.ignoreName = false)
    (segs' : List Seg) (hsp : split [] n.pattern = .ok segs') :
    urlNonStrict n.pattern f.params = .ok path :=
  C10_inverse_url env t hr path method f n hp hs htr h hf segs hc hign [] segs' hsp

/-- With the tree's own interceptors, unconditionally. -/
theorem C10_inverse_icUrl (env : Env) (t : Tree) (hr : ReachWf t) (path method : Bytes) (f : Found) (n : Node)
    (hp : path ≠ []) (hs : path ≠ [42]) (htr : t.trace = none ∨ method ≠ mTRACE)
    (h : t.handler env path [] method = .res f) (hf : f.node = some n)
    (segs : List Seg) (hc : Chain t.root segs n) (hign : ∀ s ∈ segs, s.kind ≠ .str → s.ignoreName = false) :
    t.ic.url n.pattern f.params = .ok path := by
  obtain ⟨_, _, _, _, _, hne, hh⟩ := reach_dispatch_chain hr hp hs htr h hf hc
  obtain ⟨segs', hsp⟩ := reach_live_split hr (chain_mem_below hc hne) hh
  exact C10_inverse_url env t hr path method f n hp hs htr h hf segs hc hign t.ic segs' hsp

/-- **Dispatch ⇒ `Valid`** (segment level): a value captured by `Segment.Match` — on any path — passes
`Segment.Valid`, for named, interceptor and regexp segments alike.  For regexp segments this is the direction
`Match (v ++ suffix ++ rest) = yes v rest  ⇒  Match (v ++ suffix) = yes v []  ⇔  Valid v`
(`C10_valid_rx_iff_match`): the leftmost-first match is stable under cutting off the rest of the path.
The other reading of "satisfies the constraint" — the rule merely DENOTES the value — does not imply `Valid`
(`C10_valid_rx_converse_counterexample`). -/
theorem C10_valid_of_match (env : Env) (ic : Interceptors) (s : Seg) (path v rest : Bytes)
    (h : s.match env ic path = .yes v rest) : s.valid env ic v = some true :=
  valid_of_capOk ⟨path, rest, h⟩

/-- The regexp core of `C10_valid_of_match`. -/
theorem C10_rxMatch_stable (re : Re) (suffix v rest : Bytes)
    (h : rxMatch re suffix (v ++ suffix ++ rest) = some (v, rest)) : rxMatch re suffix (v ++ suffix) = some (v, []) :=
  rxMatch_stable re suffix v rest h

/-- Dispatch soundness with provenance: the chain of `C01_dispatch_sound`, where moreover every value is one
that `Segment.Match` of its segment captured. -/
theorem C10_dispatch_captured (env : Env) (t : Tree) (hr : ReachWf t) (path method : Bytes) (f : Found) (n : Node)
    (hp : path ≠ []) (hs : path ≠ [42]) (htr : t.trace = none ∨ method ≠ mTRACE)
    (h : t.handler env path [] method = .res f) (hf : f.node = some n) :
    ∃ chain : List (Seg × Bytes),
      chain ≠ [] ∧ Chain t.root (chain.map (·.1)) n ∧ path = instChain chain ∧
      (∀ sv ∈ chain, sv.1.Satisfies env t.ic sv.2 ∧ ∃ p rest, sv.1.match env t.ic p = .yes sv.2 rest) ∧
      f.params = captures chain ∧ n.handlers ≠ [] :=
  let ⟨chain, h0, h1, h2, h3, h4, h5, _⟩ :=
    Tree.handler_found_cap (ps := []) ⟨reach_namesOk hr, C01.C01_idxLit_reach t hr.reach⟩ hp hs htr h hf
  ⟨chain, h0, h1, h2, fun sv hsv => ⟨(h3 sv hsv).satisfies, h3 sv hsv⟩, h4, h5⟩

/-- Every parameter segment of the dispatched node's chain finds its own value in the reported parameters, and
that value passes `Segment.Valid` (whatever the kind of the segment). -/
theorem C10_inverse_values (env : Env) (t : Tree) (hr : ReachWf t) (path method : Bytes) (f : Found) (n : Node)
    (hp : path ≠ []) (hs : path ≠ [42]) (htr : t.trace = none ∨ method ≠ mTRACE)
    (h : t.handler env path [] method = .res f) (hf : f.node = some n)
    (segs : List Seg) (hc : Chain t.root segs n) (hign : ∀ s ∈ segs, s.kind ≠ .str → s.ignoreName = false) :
    ∀ s ∈ segs, s.kind ≠ .str → ∃ v, f.params.get? s.name = some v ∧ s.Satisfies env t.ic v ∧
      s.valid env t.ic v = some true := by
  obtain ⟨chain, rfl, _, c4, c5, _⟩ := reach_dispatch_chain hr hp hs htr h hf hc
  intro s hs' hk
  obtain ⟨sv, hsv, rfl⟩ := List.mem_map.1 hs'
  exact ⟨sv.2, c5 ▸ captures_get? chain (reach_chainOk hr hc hign) sv hsv hk, (c4 sv hsv).satisfies,
    valid_of_capOk (c4 sv hsv)⟩

/-- `C10_inverse` in strict mode: `Tree.URL` of the dispatched node's pattern with the reported parameters
succeeds and reproduces the request path. -/
theorem C10_inverse_strict (env : Env) (t : Tree) (hr : ReachWf t) (path method : Bytes) (f : Found) (n : Node)
    (hp : path ≠ []) (hs : path ≠ [42]) (htr : t.trace = none ∨ method ≠ mTRACE)
    (h : t.handler env path [] method = .res f) (hf : f.node = some n)
    (segs : List Seg) (hc : Chain t.root segs n) (hign : ∀ s ∈ segs, s.kind ≠ .str → s.ignoreName = false) :
    t.url env n.pattern f.params = .ok path := by
  obtain ⟨_, _, _, _, _, hne, hh⟩ := reach_dispatch_chain hr hp hs htr h hf hc
  refine (C10_strict env t hr n.pattern f.params path).2 ⟨n, segs, chain_mem_below hc hne, rfl, hh, hc,
    fun s hs' hk => ?_, C10_inverse env t hr path method f n hp hs htr h hf segs hc hign⟩
  obtain ⟨v, hv, _, hval⟩ := C10_inverse_values env t hr path method f n hp hs htr h hf segs hc hign s hs' hk
  exact ⟨v, hv, hval⟩

/-- Through `Router.URL` (strict): the URL domain followed by the request path. -/
theorem C10_inverse_router (env : Env) (r : Router) (hr : ReachWf r.tree) (path method : Bytes) (f : Found) (n : Node)
    (hp : path ≠ []) (hs : path ≠ [42]) (htr : r.tree.trace = none ∨ method ≠ mTRACE)
    (h : r.tree.handler env path [] method = .res f) (hf : f.node = some n)
    (segs : List Seg) (hc : Chain r.tree.root segs n) (hign : ∀ s ∈ segs, s.kind ≠ .str → s.ignoreName = false) :
    r.url env true n.pattern f.params = .ok (r.urlDomain ++ path) := by
  have hu := C10_inverse_strict env r.tree hr path method f n hp hs htr h hf segs hc hign
  obtain ⟨_, _, _, _, _, hne, _⟩ := reach_dispatch_chain hr hp hs htr h hf hc
  rw [Router.url_strict_eq, if_neg (reach_pattern_ne hr hc hne), hu]

/-- Non-strict `Router.URL` of the dispatched node's pattern (non-empty params) reproduces the path too, whenever
`mux.URL`'s own segmentation of the pattern (no interceptors) exists. -/
theorem C10_inverse_router_nonStrict (env : Env) (r : Router) (hr : ReachWf r.tree) (path method : Bytes) (f : Found)
    (n : Node) (hp : path ≠ []) (hs : path ≠ [42]) (htr : r.tree.trace = none ∨ method ≠ mTRACE)
    (h : r.tree.handler env path [] method = .res f) (hf : f.node = some n)
    (segs : List Seg) (hc : Chain r.tree.root segs n) (hign : ∀ s ∈ segs, s.kind ≠ .str → s.ignoreName = false)
    (segs' : List Seg) (hsp : split [] n.pattern = .ok segs') (hps : f.params ≠ []) :
    r.url env false n.pattern f.params = .ok (r.urlDomain ++ path) := by
  rw [C10_router_nonStrict, muxURL_eq _ _ hps,
    C10_inverse_nonStrict env r.tree hr path method f n hp hs htr h hf segs hc hign segs' hsp]

/-! ## Non-vacuity

(1) Re-segmentation on a hand-written segment list: `/posts/` · `{id}/a` · `uthor` against `Split` of
`/posts/{id}/author`. -/

/-- `/posts/` · `{id}/a` · `uthor` -/
def exCut : List Seg :=
  [{ value := bytesOfString "/posts/" },
   { value := bytesOfString "{id}/a", kind := .named, name := bytesOfString "id", suffix := bytesOfString "/a" },
   { value := bytesOfString "uthor" }]

/-- what `Split` makes of `/posts/{id}/author` -/
def exWhole : List Seg :=
  [{ value := bytesOfString "/posts/" },
   { value := bytesOfString "{id}/author", kind := .named, name := bytesOfString "id",
     suffix := bytesOfString "/author" }]

theorem exCut_segOk : ∀ s ∈ exCut, SegOk [] s := by
  -- brace-freeness of the concrete texts is evaluated; stated for a variable, so that the `Decidable` instance
  -- (a long search) is found once
  have nb : ∀ v : Bytes, decide (startByte ∉ v ∧ endByte ∉ v) = true → NoBrace v := fun _ => of_decide_eq_true
  intro s hs
  simp only [exCut, bytesOfString_eq_data, List.mem_cons, List.not_mem_nil, or_false] at hs
  rcases hs with rfl | rfl | rfl
  · exact SegOk.lit (nb _ (by decide +kernel)) (by decide +kernel) (by decide +kernel)
  · exact ⟨by decide +kernel, .inr ⟨"id".toUTF8.data.toList, "/a".toUTF8.data.toList, by decide +kernel,
      nb _ (by decide +kernel), nb _ (by decide +kernel)⟩, by decide +kernel⟩
  · exact SegOk.lit (nb _ (by decide +kernel)) (by decide +kernel) (by decide +kernel)

example : (exCut.map (·.value)).flatten = bytesOfString "/posts/{id}/author" := by
  simp only [exCut, bytesOfString_eq_data]; decide +kernel
private theorem exCut_split : split [] (exCut.map (·.value)).flatten = .ok exWhole := by
  simp only [exCut, exWhole, bytesOfString_eq_data]; decide +kernel
example : split [] (exCut.map (·.value)).flatten = .ok exWhole := exCut_split
/-- the conclusion of `C10_reseg_segs`, also checked by evaluation: both lists spell
`/posts/` `{id}` `/author` -/
example : SameToks exWhole exCut := C10_reseg_segs [] [] exCut exWhole exCut_segOk exCut_split
example : toks exCut = [.inl (bytesOfString "/posts/"), .inr (bytesOfString "id", false),
    .inl (bytesOfString "/author")] := by simp only [exCut, bytesOfString_eq_data]; decide +kernel
example : toks exWhole = toks exCut := C10_reseg_segs [] [] exCut exWhole exCut_segOk exCut_split

/-! (2) A reached tree (`Mux/Proofs/UrlExamples.lean`): interceptor `digit`, history
`GET /p/{id:digit}/a`, `GET /p/{id:digit}/author/{n:\d+}`.  The second route's chain is
`/p/` · `{id:digit}/a` · `uthor/` · `{n:\d+}`. -/

example : ReachWf xT := xT_reach
example : xT.routes = [([42], [mOPTIONS]), (xPa, [mGET, mHEAD, mOPTIONS]), (xPb, [mGET, mHEAD, mOPTIONS])] := xT_routes
/-- hypotheses of `C10_reseg` / `C10_reseg_url`: a node, its chain, a successful `Split` of its pattern (here without
interceptors, which reads `digit` as a regexp: other kinds, same token stream) -/
example : ∃ n, Chain xT.root xChain n ∧ n.pattern = xPb ∧ (split [] xPb).isOk = true := by
  obtain ⟨n, _, h2, h3⟩ := xT_chain
  exact ⟨n, h2, h3, by rw [xPb_split]; rfl⟩
example : (split [] xPb).toOption.map (fun l => l.map (fun s => (s.value, s.kind))) =
    some [(bytesOfString "/p/", .str), (bytesOfString "{id:digit}/author/", .rx), (bytesOfString "{n:\\d+}", .rx)] := by
  rw [xPb_split]; rfl
example : xChain.map (fun s => (s.value, s.kind)) =
    [(bytesOfString "/p/", .str), (bytesOfString "{id:digit}/a", .icpt), (bytesOfString "uthor/", .str),
     (bytesOfString "{n:\\d+}", .rx)] := rfl

/-- `C10_strict`, left-hand side: a successful strict build (interceptor and regexp parameter) -/
example : xT.url xEnv xPb xPs = .ok xPath := xT_url_ok
/-- what `C10_strict_eq_nonStrict` concludes from `xT_url_ok` -/
example : urlNonStrict xPb xPs = .ok xPath :=
  C10_strict_eq_nonStrict xEnv xT xT_reach xPb xPs xPath xT_url_ok xSplit xPb_split
/-- the error cases of `C10_strict_error` / `C10_strict_notRoute` all occur -/
example : xT.url xEnv xPb [(bytesOfString "id", bytesOfString "x"), (bytesOfString "n", bytesOfString "42")] =
    .error .badValue := xT_url_badIcpt
example : xT.url xEnv xPb [(bytesOfString "id", bytesOfString "5"), (bytesOfString "n", bytesOfString "4a")] =
    .error .badValue := xT_url_badRx
example : xT.url xEnv xPb [(bytesOfString "id", bytesOfString "5")] = .error .missingParam := xT_url_missing
example : xT.url xEnv xPb [] = .error .missingParam := xT_url_empty
example : xT.url xEnv (bytesOfString "/p/{id:digit}/aut") xPs = .error .notRoute := xT_url_notRoute
example : bytesOfString "/p/{id:digit}/aut" ∉ (tableOf xT).patterns :=
  (C10_strict_notRoute xEnv xT xT_reach _ xPs).1 xT_url_notRoute
/-- `unsupported`: a wide class and a non-ASCII value (segment level) -/
example : ({ value := [], kind := .rx, name := [110], re := .plus clsDot } : Seg).valid xEnv [] [200] = none := by
  decide +kernel
/-- `unsupported` on a reached tree (hypothesis of `C10_strict_unsupported`): route `/w/{x:.+}`, value `\xC8` -/
example : ReachWf yT ∧ yT.url xEnv yP [(bytesOfString "x", [200])] = .error .unsupported :=
  ⟨yT_reach, yT_url_unsupported⟩
example : yT.url xEnv yP [(bytesOfString "x", bytesOfString "a/b")] = .ok (bytesOfString "/w/a/b") := yT_url_ok
/-- hypotheses of `C10_strict_table` / `C10_strict_notRoute_table` -/
example : ∀ op ∈ xOps, op.wf = true := xOps_wf
/-- why `C10_inverse` excludes `-` parameters: dispatch does not report them, so building fails -/
def exIgn : Seg :=
  { value := bytesOfString "{-id}", kind := .named, name := bytesOfString "id", ignoreName := true, endpoint := true }
example : (newSegment [] (bytesOfString "{-id}")).toOption = some exIgn := by
  simp only [exIgn, bytesOfString_eq_data]; decide +kernel
example : urlLoop [] [exIgn] = .error .missingParam := by decide +kernel
/-- through `Router.URL` with a URL domain -/
example : ({ tree := xT, urlDomain := bytesOfString "https://x.io" } : Router).url xEnv true xPb xPs =
    .ok (bytesOfString "https://x.io/p/5/author/42") :=
  (C10_strict_router xEnv _ xPb xPs _).2 (.inr ⟨by rw [xPb, bytesOfString_eq_data]; decide +kernel, xPath, xT_url_ok,
    by simp only [xPath, bytesOfString_eq_data]; decide +kernel⟩)

/-- hypotheses of `C10_inverse*`: `GET /p/5/author/42` is dispatched to the second route; its chain has no ignored
parameter -/
theorem xT_inverse_hyps : ∃ f n, xT.handler xEnv xPath [] mGET = .res f ∧ f.node = some n ∧ f.params = xPs ∧
    Chain xT.root xChain n ∧ n.pattern = xPb ∧ xPath ≠ [] ∧ xPath ≠ [42] ∧ (xT.trace = none ∨ mGET ≠ mTRACE) ∧
    (∀ s ∈ xChain, s.kind ≠ .str → s.ignoreName = false) := by
  obtain ⟨f, n, h1, h2, h3, h4⟩ := xT_dispatch
  obtain ⟨n', _, g2, g3⟩ := xT_chain
  have hp : xPath ≠ [] := by rw [xPath, bytesOfString_eq_data]; decide +kernel
  have hs : xPath ≠ [42] := by rw [xPath, bytesOfString_eq_data]; decide +kernel
  have htr : xT.trace = none ∨ mGET ≠ mTRACE := .inr (by decide)
  obtain ⟨chain, c1, c2, _⟩ := C01.C01_dispatch_sound xEnv xT xT_reach xPath mGET f n hp hs htr h1 h2
  have hn : n ∈ nodesL xT.root.children := chain_mem_below c2 (by simpa using c1)
  have hn' : n' ∈ nodesL xT.root.children := chain_mem_below g2 (List.cons_ne_nil _ _)
  have : n = n' := Mux.P11.node_unique (reach_tinv xT_reach).sh hn hn' (h3.trans g3.symm)
  subst this
  exact ⟨f, n, h1, h2, h4, g2, h3, hp, hs, htr, by decide +kernel⟩

example : ∃ f n, xT.handler xEnv xPath [] mGET = .res f ∧ f.node = some n ∧ urlLoop f.params xChain = .ok xPath ∧
    urlNonStrict n.pattern f.params = .ok xPath ∧ xT.url xEnv n.pattern f.params = .ok xPath := by
  obtain ⟨f, n, h1, h2, _, h4, h5, hp, hs, htr, hign⟩ := xT_inverse_hyps
  refine ⟨f, n, h1, h2, C10_inverse xEnv xT xT_reach xPath mGET f n hp hs htr h1 h2 xChain h4 hign, ?_,
    C10_inverse_strict xEnv xT xT_reach xPath mGET f n hp hs htr h1 h2 xChain h4 hign⟩
  exact C10_inverse_nonStrict xEnv xT xT_reach xPath mGET f n hp hs htr h1 h2 xChain h4 hign xSplit (h5 ▸ xPb_split)

end Mux.C10
