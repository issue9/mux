/-
  C07 — instances are isolated; a quiescent router serves concurrently.

  Same partiality as C06 (DESIGN §8 "C07", §10). Proved:
  (a) on the regenerated facts: no package-level variable is mutated after initialisation except
      the `sync.Pool` and what a package-level lock guards (`C07_globals`); nothing reachable from
      `ServeHTTP` writes router/tree/node/… state (`C07_readonly`, `C07_reach`);
  (b) in the interleaving semantics of `Mux.Proofs.RWLock`: threads that only run reader operations —
      with the lock and in the variant without any lock — never conflict, never change the shared
      state, and each computes the sequential function of (shared state, own request) (`C07_ro_drf…`);
  (c) in the model, operations on one instance are functions of that instance only
      (`C07_fresh…`), and whatever the context pool hands out is empty (`C07_pool…`).

  Trusted: `sync.Pool` hands one object to one holder at a time; `sync.RWMutex`; DRF-SC; the extractor.
-/
import Mux.Proofs.Conc
import Mux.Proofs.RWLockDrf
namespace Mux.C07
open Mux Mux.RWLock Mux.Conc

/-! ## (a) The regenerated-fact obligations -/

/-- Every package-level variable is never mutated after initialisation, or is the `sync.Pool`, or is
only touched under a package-level lock. -/
theorem C07_globals : ∀ g ∈ Facts.globals, g.mutatedIn = [] ∨ g.isSyncPool = true ∨ g.guarded = true :=
  Ties.C07_globals

/-- No function statically reachable from `Router.ServeHTTP` / `Group.ServeHTTP` writes to router,
tree, node, segment, CORS, matcher or group state. -/
theorem C07_readonly : Facts.serveWrites = [] := Ties.C07_readonly

/-- The serve path the facts were computed over contains what the model mirrors. -/
theorem C07_reach : ∀ f ∈ ["Router.ServeHTTP", "Router.serveContext", "Tree.Handler", "node.matchChildren", "Segment.Match",
    "cors.handle", "Group.ServeHTTP", "Hosts.Match", "pathVersion.Match", "headerVersion.Match"], f ∈ Facts.serveReach :=
  Ties.C07_reach

/-! ## (b) Concurrent requests on a quiescent router -/

/-- **Generic, with the lock.** If every operation of every thread is a reader then, for any number
of threads and any schedule, in every reachable configuration: the lock is `free` or `readers n`,
the shared state is the initial one, no two threads have conflicting next accesses, and every
published response is the sequential function of (initial state, own request). -/
theorem C07_ro_drf_generic (S : Sys) (s0 : S.σ) (progs : Nat → List S.Op) (hro : ReadOnly progs)
    (c : Config S) (h : Reachable s0 progs c) :
    (c.lock = .free ∨ ∃ n, c.lock = .readers n) ∧ c.st = s0 ∧
    (∀ r ∈ c.done, r.resp = (S.sem r.call.op s0).2) ∧
    (∀ i j a b, i ≠ j → (c.thr i).ph.next? = some a → (c.thr j).ph.next? = some b → ¬ Conflict a b) :=
  ⟨(readonly hro h).1, (readonly hro h).2.1, (readonly hro h).2.2, fun _ _ _ _ hij hi hj => drf h hij hi hj⟩

/-- **Generic, WITHOUT any lock** (`WithLock(false)`): no acquire/release at all. If no operation
writes, the shared state never changes, every response is the sequential function of (initial
state, own request), every pending micro-access is a read, so there is no conflicting pair.
(With a writer the lock-free semantics does reach a conflict: `RWLock.toy_nolock_race`.) -/
theorem C07_ro_drf_nolock_generic (S : Sys) (s0 : S.σ) (progs : Nat → List S.Op) (hro : ReadOnly progs)
    (c : NoLock.NConfig S) (h : NoLock.NReachable s0 progs c) :
    c.st = s0 ∧ (∀ r ∈ c.done, r.resp = (S.sem r.op s0).2) ∧
    (∀ i a, (c.thr i).ph.next? = some a → a.2 = false) ∧
    (∀ i j a b, i ≠ j → (c.thr i).ph.next? = some a → (c.thr j).ph.next? = some b → ¬ Conflict a b) :=
  NoLock.readonly hro h

/-- **A frozen router, with the lock**: any number of goroutines each serving any list of requests.
Every response is `Router.serveContext` of (the router, the goroutine's own request, the empty
parameter list of a fresh context) — each request sees exactly its own parameters. -/
theorem C07_ro_drf (env : Env) (r0 : Router) (progs : Nat → List Req) (c : Config (serveSys env))
    (h : Reachable (S := serveSys env) r0 progs c) :
    (c.lock = .free ∨ ∃ n, c.lock = .readers n) ∧ c.st = r0 ∧
    (∀ r ∈ c.done, r.resp = r0.serveContext env r.call.op []) ∧
    (∀ i j a b, i ≠ j → (c.thr i).ph.next? = some a → (c.thr j).ph.next? = some b →
      ¬ Conflict (S := serveSys env) a b) :=
  C07_ro_drf_generic (serveSys env) r0 progs (serveSys_readOnly env progs) c h

/-- **A frozen router, without the lock.** -/
theorem C07_ro_drf_nolock (env : Env) (r0 : Router) (progs : Nat → List Req) (c : NoLock.NConfig (serveSys env))
    (h : NoLock.NReachable (S := serveSys env) r0 progs c) :
    c.st = r0 ∧ (∀ r ∈ c.done, r.resp = r0.serveContext env r.op []) ∧
    (∀ i j a b, i ≠ j → (c.thr i).ph.next? = some a → (c.thr j).ph.next? = some b →
      ¬ Conflict (S := serveSys env) a b) :=
  have := C07_ro_drf_nolock_generic (serveSys env) r0 progs (serveSys_readOnly env progs) c h
  ⟨this.1, this.2.1, this.2.2.2⟩

/-- The tree API restricted to its readers (`Handler`, `Routes`, `URL`), with the lock: the tree
stays `t0` and every response is the pure function of (`t0`, request). -/
theorem C07_ro_drf_tree (env : Env) (t0 : Tree) (progs : Nat → List Op)
    (hro : ∀ i, ∀ op ∈ progs i, op.isWriter = false) (c : Config (treeSys env))
    (h : Reachable (S := treeSys env) t0 progs c) :
    (c.lock = .free ∨ ∃ n, c.lock = .readers n) ∧ c.st = t0 ∧
    (∀ r ∈ c.done, r.resp = (sem env r.call.op t0).2) :=
  have := C07_ro_drf_generic (treeSys env) t0 progs hro c h
  ⟨this.1, this.2.1, this.2.2.1⟩

/-- The hypothesis of `C07_ro_drf_tree` is satisfiable by non-trivial programs. -/
example : ∀ i, ∀ op ∈ (fun i : Nat => if i < 16 then [Op.handler [47] [] mGET, Op.routes, Op.url [47] []] else []) i,
    op.isWriter = false := by
  intro i op hop
  dsimp only at hop
  split at hop
  · simp at hop; rcases hop with rfl | rfl | rfl <;> rfl
  · simp at hop

/-- Non-vacuity of `C07_ro_drf`: two requests inside at the same time (lock `readers 2`). -/
example (env : Env) (r0 : Router) : ∃ c : Config (serveSys env),
    Reachable (S := serveSys env) r0 (fun i => if i < 2 then [{ method := mGET, path := [47] }] else []) c ∧
    c.lock = .readers 2 ∧ (c.thr 0).ph.held = some false ∧ (c.thr 1).ph.held = some false := by
  exact ⟨_, .step (.step (.step (.step .init (.invoke _ 0 _ [] rfl)) (.invoke _ 1 _ [] rfl))
    (.acquire _ 0 [] ⟨_, 0, 0⟩ rfl rfl)) (.acquire _ 1 [] ⟨_, 0, 1⟩ rfl rfl), rfl, rfl, rfl⟩

/-! ## (c) Instances share no state -/

/-- An operation on the router with handle `id` does not change what any other handle denotes, and
on its own handle it is `Router.step` of that router alone. -/
theorem C07_fresh_frame (rt : RTab) (id id' : Nat) (op : ROp) :
    (id ≠ id' → (stepAt rt id op).get? id' = rt.get? id') ∧
    (stepAt rt id op).get? id = (rt.get? id).map (·.step op) := by
  refine ⟨fun h => ?_, ?_⟩
  · have : ¬ id' = id := fun e => h e.symm
    simp [stepAt_get?, this]
  · simp [stepAt_get?]

/-- **Interleavings.** After ANY interleaved history of operations on any number of routers, each
router is what running its own operations alone (`Router.run`) makes of it. -/
theorem C07_fresh (rt : RTab) (h : List (Nat × ROp)) (id : Nat) :
    (runAt rt h).get? id = (rt.get? id).map (fun r => r.run ((h.filter (·.1 = id)).map (·.2))) :=
  runAt_get? rt h id

/-- The two-instance form of the property: if `h` interleaves the history `ha` of `a` with the history
`hb` of `b ≠ a` (its restrictions to `a` and `b` are `ha` and `hb`), then `a` ends as `ra.run ha`
and `b` as `rb.run hb`. -/
theorem C07_fresh_two (rt : RTab) (a b : Nat) (ra rb : Router) (ha hb : List ROp) (h : List (Nat × ROp))
    (hra : rt.get? a = some ra) (hrb : rt.get? b = some rb)
    (hfa : (h.filter (·.1 = a)).map (·.2) = ha) (hfb : (h.filter (·.1 = b)).map (·.2) = hb) :
    (runAt rt h).get? a = some (ra.run ha) ∧ (runAt rt h).get? b = some (rb.run hb) := by
  simp [runAt_get?, hra, hrb, hfa, hfb]

/-- A concrete interleaving satisfying the hypotheses of `C07_fresh_two`. -/
example : let h : List (Nat × ROp) := [(0, .clean []), (1, .use [7]), (0, .use [3]), (1, .clean [47])]
    (h.filter (·.1 = 0)).map (·.2) = [ROp.clean [], ROp.use [3]] ∧
    (h.filter (·.1 = 1)).map (·.2) = [ROp.use [7], ROp.clean [47]] := by
  exact ⟨rfl, rfl⟩

/-- Including creation: `Router.new cfg` is a closed term of `cfg` (`IOp.own` ignores everything but
the handle's own history), so after any interleaving of creations and operations under any
handles, what a handle denotes is a function of ITS history alone — a fresh router answers
identically whatever other routers did before it. -/
theorem C07_fresh_new (rt : RTab) (h : List (Nat × IOp)) (id : Nat) :
    (runAll rt h).get? id = ((h.filter (·.1 = id)).map (·.2)).foldl IOp.own (rt.get? id) :=
  runAll_get? rt h id

/-- Two tables, two arbitrary histories: if the handle's own history and initial entry agree, the
routers agree, hence so does every response (`serveContext`, `routes`, `url` are functions of the
router). -/
theorem C07_fresh_serve (env : Env) (rt rt' : RTab) (h h' : List (Nat × IOp)) (id : Nat)
    (h0 : rt.get? id = rt'.get? id)
    (hh : (h.filter (·.1 = id)).map (·.2) = (h'.filter (·.1 = id)).map (·.2)) (req : Req) (ps : Params) :
    (runAll rt h).get? id = (runAll rt' h').get? id ∧
    ((runAll rt h).get? id).map (·.serveContext env req ps) = ((runAll rt' h').get? id).map (·.serveContext env req ps) := by
  have : (runAll rt h).get? id = (runAll rt' h').get? id := by rw [runAll_get?, runAll_get?, h0, hh]
  exact ⟨this, by rw [this]⟩

/-- `NewRouter` itself: nothing but `cfg` enters. -/
theorem C07_fresh_closed (cfg : RouterCfg) (rt : RTab) (id : Nat) (r : Router) (h : Router.new cfg = some r) :
    (applyAt rt id (.create cfg)).get? id = some r := by
  simp [applyAt_get?, IOp.own, h]

/-! ## The context pool -/

/-- Whatever (dirty) contexts the pool holds, `NewContext` hands out an empty one: no parameters,
empty path, no node, no router name. -/
theorem C07_pool_new : ∀ pool : Pool, (Pool.newContext pool).1 = {} := Pool.newContext_fst

/-- After any interleaving of `Destroy` (of arbitrary dirty contexts) and `NewContext`, every context
handed out is empty. -/
theorem C07_pool (pool : Pool) (ops : List PoolOp) : ∀ c ∈ (poolRun pool ops).2, c = {} :=
  poolRun_fresh pool ops

/-- So a request served with a pooled context sees exactly the parameters of its own path: the
parameters the dispatch starts from are `[]` whatever the previous holder left behind. -/
theorem C07_pool_serve (env : Env) (r : Router) (req : Req) (pool : Pool) :
    r.serveContext env req (Pool.newContext pool).1.params = r.serveContext env req [] := by
  rw [Pool.newContext_fst]

/-- Non-vacuity: a dirty context goes through the pool and comes back empty. -/
example : (poolRun [] [.destroy { path := [47], params := [([105, 100], [49])], routerName := [97], hasNode := true },
    .get, .get]).2 = [{}, {}] := by decide

end Mux.C07
