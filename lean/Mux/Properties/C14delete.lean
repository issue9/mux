/-
  C14 (clauses e, f: "`Delete` removes exactly the named domain and leaves every other domain matching as before"),
  semantically, and completeness for literal domains.

  Setting: every matcher reached from `NewHosts` by a history of `Add` (balanced, non-nested braces) / `Delete` /
  `RegisterInterceptor` in which no interceptor is registered under a rule text that a stored regexp segment uses
  (`HostsReachWf`, see `C14reach.lean`; in particular "interceptors first", `C14_reach_regsFirst`).  `domains hs`
  (`C14resolve.lean`) is the list of domain patterns currently registered.

  * `C14_delete_table` — `Delete(d)` succeeds, the result is again such a matcher, the domain table loses exactly
    `lower d` (so `Delete` is case-insensitive and removes nothing else), and afterwards NO host is accepted by that
    domain: whenever `Hosts.Match` accepts, the answering node carries a domain that was registered before and is
    different from `lower d`.  This is the precise form of "the host built from `d` is no longer accepted": it is no
    longer accepted BY `d`; it may still be accepted by another registered domain (`www.example.com` after
    `Delete("www.example.com")` while `{sub}.example.com` stays — the example at the end).
  * `C14_delete_no_new` — `Delete` creates no matches: a host rejected before is rejected after, with the same
    (untouched) path and parameters.
  * `C14_delete_frame` (`C14reach.lean`) is the third part: a host answered by ANOTHER domain keeps its answer.
    `C14_delete_exact` puts the three together.
  * `C14_literal_accept_partial` — completeness for literal domains: a registered domain without `{`, other than
    `*`, accepts the host that normalises to it.  Without "other than `*`" the statement is FALSE:
    `C14_literal_accept_star_counterexample` — `Add("*")` is accepted by the private tree (model and Go: `tree.Add`
    has no check for `*`), `*` is then a registered domain, but a host `*` addresses the root of the tree
    (`tree.Handler`: `ctx.Path == "*" || ctx.Path == ""`) and is rejected.

  Helper lemmas: `P11.tableOf_remove`, `P11.tableOf_add` (Table.lean), `P17.literal_found` (WitnessVals.lean),
  `P30.domain_has_get` (HostsDelete.lean), `P17.delete_no_new_late` (HostsLate.lean).
-/
import Mux.Proofs.HostsDelete
import Mux.Proofs.WitnessVals
import Mux.Properties.C14resolve
namespace Mux.C14
open Mux Mux.P12 Mux.P14 Mux.P30

theorem reachWf_delete {hs : Hosts} (hr : HostsReachWf hs) (d : Bytes) : HostsReachWf (hostsStep hs (.delete d)) :=
  hr.step (op := .delete d) trivial

/-- Clause e.  For every such matcher and every name `d` (any letter case): `Delete(d)`
succeeds; the result `hs'` is again such a matcher; the registered domains of `hs'` are exactly those of `hs` other
than `lower d`; and for every host, request path and incoming parameters, when `hs'.Match` accepts, the lookup found
a node whose domain was registered in `hs` and is not `lower d`. -/
theorem C14_delete_table (hs : Hosts) (hr : HostsReachWf hs) (d : Bytes) :
    ∃ hs', hs.delete d = .ok hs' ∧ HostsReachWf hs' ∧
      (∀ p, p ∈ domains hs' ↔ p ∈ domains hs ∧ p ≠ toLower d) ∧
      ∀ (env : Env) (host path : Bytes) (ps : Params) (p : Bytes) (q : Params),
        hs'.match env host path ps = .accept p q →
          ∃ f n, hs'.tree.handler env (normHost host) ps mGET = .res f ∧ f.node = some n ∧ q = f.params ∧
            n.pattern ∈ domains hs ∧ n.pattern ≠ toLower d := by
  obtain ⟨hs', hd, hstep⟩ := C14_delete_ok hs hr d
  have hr' : HostsReachWf hs' := hstep ▸ reachWf_delete hr d
  have htab : ∀ p, p ∈ domains hs' ↔ p ∈ domains hs ∧ p ≠ toLower d := by
    obtain ⟨t', he, rfl⟩ := Hosts.delete_ok hd
    exact P11.tableOf_remove hr.inv.ti he
  refine ⟨hs', hd, hr', htab, fun env host path ps p q hacc => ?_⟩
  obtain ⟨_, f, n, hf, hn, hq, _, hmem⟩ := C14_pattern_in_table env hs' hr'.reach host path ps p q hacc
  exact ⟨f, n, hf, hn, hq, ((htab _).1 hmem).1, ((htab _).1 hmem).2⟩

/-- Deleting a name that is not registered changes nothing in the table (and `C14_delete_no_new`/`C14_delete_frame`
show that no host changes its answer). -/
theorem C14_delete_unregistered (hs : Hosts) (hr : HostsReachWf hs) (d : Bytes) (hd : toLower d ∉ domains hs) :
    ∃ hs', hs.delete d = .ok hs' ∧ ∀ p, p ∈ domains hs' ↔ p ∈ domains hs := by
  obtain ⟨hs', h1, _, h3, _⟩ := C14_delete_table hs hr d
  refine ⟨hs', h1, fun p => ?_⟩
  rw [h3 p]
  exact ⟨fun h => h.1, fun h => ⟨h, fun e => hd (e ▸ h)⟩⟩

/-- `NewHosts()` has no domains. -/
theorem C14_domains_empty : domains Hosts.empty = [] := by decide +kernel

/-- What "the domain patterns currently registered" is in terms of the history.  For such a
matcher and the next operation (with the side conditions of `HostsReachWf`: `hostsOpOk`):
  * `Add(d)` adds `lower d` iff the model's `Add` succeeds (no syntax error, not ambiguous, `GET` not yet registered
    for it), and changes nothing otherwise;
  * `Delete(d)` removes exactly `lower d`;
  * `RegisterInterceptor` leaves the table as it is.
Together with `C14_domains_empty` this determines `domains` after every history. -/
theorem C14_domains_step (hs : Hosts) (hr : HostsReachWf hs) (op : HOp) (hop : hostsOpOk hs op) (p : Bytes) :
    p ∈ domains (hostsStep hs op) ↔
      match op with
      | .add d => p ∈ domains hs ∨ (p = toLower d ∧ ∃ hs', hs.add d = .ok hs')
      | .delete d => p ∈ domains hs ∧ p ≠ toLower d
      | .registerInterceptor _ _ => p ∈ domains hs := by
  cases op with
  | add d =>
    show p ∈ (tableOf (hostsStep hs (.add d)).tree).patterns ↔ _
    rw [hostsStep_tree, P11.tableOf_add hr.inv.ti hop, ← Hosts.add_ok_iff]
    rfl
  | delete d =>
    obtain ⟨hs', hd, _, htab, _⟩ := C14_delete_table hs hr d
    rw [hostsStep_delete hd]
    exact htab p
  | registerInterceptor id rule =>
    -- the table is read off the root, which a registration leaves alone
    show p ∈ (tableOf (hostsStep hs (.registerInterceptor id rule)).tree).patterns ↔ p ∈ (tableOf hs.tree).patterns
    rw [hostsStep_tree]
    dsimp only
    split <;> rfl

/-- Clause f, the direction `C14_delete_frame` does not give: a host that was rejected
before `Delete(d)` is rejected afterwards, with the same path and parameters.  (No incoming parameters, as in
`C14_delete_frame`.) -/
theorem C14_delete_no_new (env : Env) (hs hs' : Hosts) (hr : HostsReachWf hs) (d : Bytes)
    (hd : hs.delete d = .ok hs') (host path : Bytes) (p : Bytes) (q : Params)
    (h : hs.match env host path [] = .reject p q) : hs'.match env host path [] = .reject p q :=
  P17.delete_no_new_late env (P17.HostsLateWf.of_reachWf hr) hd h

/-- Clauses e+f.  Let `hs' = Delete(d)`.  For every ASCII host whose lookup in `hs` answers
with a `Found` `f` (always the case for such hosts, `C14_match_resolve` part 4 / `C14_no_fault`):
  * if `hs` rejected the host, `hs'` rejects it in the same way;
  * if `hs` answered it by a domain other than `lower d`, `hs'.Match` gives exactly the same result;
  * in every case, an accepting `hs'.Match` is answered by a domain of `hs` other than `lower d`. -/
theorem C14_delete_exact (env : Env) (hs : Hosts) (hr : HostsReachWf hs) (d : Bytes) (host path : Bytes)
    (ha : isAscii host = true) :
    ∃ hs', hs.delete d = .ok hs' ∧
      (∀ p q, hs.match env host path [] = .reject p q → hs'.match env host path [] = .reject p q) ∧
      (∀ f n, hs.tree.handler env (normHost host) [] mGET = .res f → f.node = some n → n.pattern ≠ toLower d →
        hs'.match env host path [] = hs.match env host path []) ∧
      (∀ p q, hs'.match env host path [] = .accept p q →
        ∃ f n, hs'.tree.handler env (normHost host) [] mGET = .res f ∧ f.node = some n ∧ q = f.params ∧
          n.pattern ∈ domains hs ∧ n.pattern ≠ toLower d) := by
  obtain ⟨hs', hd, _, _, hacc⟩ := C14_delete_table hs hr d
  exact ⟨hs', hd, fun p q h => C14_delete_no_new env hs hs' hr d hd host path p q h,
    fun f n hf hn hne => C14_delete_frame env hs hs' hr d hd host path ha f n hf hn hne,
    fun p q h => hacc env host path [] p q h⟩

/-- A registered domain without `{` (a literal domain), other than `*`, accepts
every ASCII host that normalises to it — whatever else is registered, after any history of the kind above (in
particular after deleting other domains: the D3 scenario, where a stale first-byte index made a literal sibling
unreachable).  The request path is untouched.  The case `lower d = "*"` is excluded (`hstar`) because the statement is
false there (`C14_literal_accept_star_counterexample`). -/
theorem C14_literal_accept_partial (env : Env) (hs : Hosts) (hr : HostsReachWf hs) (d host path : Bytes)
    (ha : isAscii host = true) (hlit : (123 : UInt8) ∉ toLower d) (hstar : toLower d ≠ [42])
    (hd : toLower d ∈ domains hs) (hn : normHost host = toLower d) :
    ∃ q, hs.match env host path [] = .accept path q := by
  obtain ⟨hne, hfound⟩ := P17.literal_found hr.inv env (domain_has_get hr.reach.get hd) hlit
  rcases (P17.HostsLateWf.of_reachWf hr).match_cases env ha (hn ▸ hne) (hn ▸ hstar) path with ⟨hm, _⟩ | ⟨n, q, _, hacc⟩
  · -- a miss would be answered 404
    have hget := Tree.handler_get env hs.tree (normHost host) []
    rw [Tree.matched_of_ne (hn ▸ hne) (hn ▸ hstar), hm, hn] at hget
    obtain ⟨_, hq, _⟩ := hfound _ hget
    cases hq
  · exact ⟨q, hacc⟩

/-- **Counterexample to `C14_literal_accept_partial` without `hstar`.**  `Add("*")` succeeds, `*` is then the one registered domain,
it is literal, the host `*` normalises to it — and is rejected (as is `*:80`).  Same in Go: `tree.Add("*", …)` has no
check, `tree.Handler` sends the path `*` to the root, and `Hosts.Match` answers `false` for both hosts. -/
theorem C14_literal_accept_star_counterexample :
    let hs := hostsRun Hosts.empty [.add [42]]
    domains hs = [[42]] ∧ normHost [42] = toLower [42] ∧
      outOf (hs.match P12.exEnv [42] [47] []) = some (false, [47], []) ∧
      outOf (hs.match P12.exEnv [42, 58, 56, 48] [47] []) = some (false, [47], []) := by
  refine ⟨C14_match_resolve_star_counterexample.2.1, by decide +kernel, C14_match_resolve_star_counterexample.2.2.2, ?_⟩
  simp only [hostsRun_eq_F]
  decide +kernel

/-! ## Non-vacuity: `RegisterInterceptor(0,"d")`, `Add("a.com")`, `Add("A.com.CN")` (`exHs`) -/

/-- The matcher is one of those the theorems speak about; its domains are `a.com` and `a.com.cn`. -/
example : HostsReachWf exHs := exHs_reachWf
theorem exHs_domains : domains exHs = [dA, toLower dACn] := exHs_eval.1

/-- Hypothesis of `C14_delete_no_new`: `b.com` is rejected by `exHs`. -/
theorem exHs_rejects : exHs.match P12.exEnv [98, 46, 99, 111, 109] [47] [] = .reject [47] [] :=
  outOf_reject exHs_eval.2.1
/-- So after `Delete("A.COM")` (any letter case) `b.com` is still rejected. -/
example : ∃ hs', exHs.delete [65, 46, 67, 79, 77] = .ok hs' ∧
    hs'.match P12.exEnv [98, 46, 99, 111, 109] [47] [] = .reject [47] [] := by
  obtain ⟨hs', hd, _⟩ := C14_delete_ok exHs exHs_reachWf [65, 46, 67, 79, 77]
  exact ⟨hs', hd, C14_delete_no_new _ exHs hs' exHs_reachWf _ hd _ _ _ _ exHs_rejects⟩
/-- `C14_delete_table` on it: after `Delete("A.COM")` the domains are exactly `a.com.cn`. -/
example : ∃ hs', exHs.delete [65, 46, 67, 79, 77] = .ok hs' ∧ ∀ p, p ∈ domains hs' ↔ p = toLower dACn := by
  obtain ⟨hs', hd, _, htab, _⟩ := C14_delete_table exHs exHs_reachWf [65, 46, 67, 79, 77]
  refine ⟨hs', hd, fun p => ?_⟩
  rw [htab p, exHs_domains]
  have e : toLower [65, 46, 67, 79, 77] = dA := by decide +kernel
  rw [e]
  simp only [List.mem_cons, List.not_mem_nil, or_false]
  constructor
  · rintro ⟨h | h, hne⟩
    · exact absurd h hne
    · exact h
  · rintro rfl
    exact ⟨.inr rfl, by decide +kernel⟩
/-- Hypotheses of `C14_domains_step` on `exHs` for each kind of operation (`Add("{x}.org")`, `Delete`, and a
`RegisterInterceptor` whose rule no stored regexp segment uses — the tree stores no regexp segment at all). -/
example : hostsOpOk exHs (.add [123, 120, 125, 46, 111, 114, 103]) ∧ hostsOpOk exHs (.delete [88]) ∧
    hostsOpOk exHs (.registerInterceptor 1 [119]) := by
  refine ⟨by show WfPattern _ = true; decide +kernel, trivial, ?_⟩
  show RuleFree [119] exHs.tree.root.children
  exact ruleFree_of_usesRule exHs_eval.2.2
/-- Hypotheses of `C14_literal_accept_partial` for the domain `A.com.CN` and the host `A.COM.cn:80`; the instance. -/
example : isAscii hostACn = true ∧ (123 : UInt8) ∉ toLower dACn ∧ toLower dACn ≠ [42] ∧ toLower dACn ∈ domains exHs ∧
    normHost hostACn = toLower dACn :=
  ⟨hostACn_facts.1, hostACn_facts.2.1, hostACn_facts.2.2.1, by rw [exHs_domains]; simp, hostACn_facts.2.2.2⟩
example (env : Env) (path : Bytes) : ∃ q, exHs.match env hostACn path [] = .accept path q :=
  C14_literal_accept_partial env exHs exHs_reachWf dACn hostACn path hostACn_facts.1 hostACn_facts.2.1
    hostACn_facts.2.2.1 (by rw [exHs_domains]; simp) hostACn_facts.2.2.2

end Mux.C14
