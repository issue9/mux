/-
  C15 in terms of the arguments the USER passes to the constructors.

  `C15.lean` states the path-version clauses for the list stored in the matcher ("already normalised") and the
  header-version clauses for the key stored in the matcher.  Here the two constructors of /repo/match.go are
  written down as functions — definitions of THIS file, not of the model (`Mux/Model`):

      func NewPathVersion(param string, version ...string) Matcher {
          for i, v := range version {
              if v == ""            { panic("参数 v 不能为空值") }
              if v[0] != '/'        { v = "/" + v }
              if v[len(v)-1] != '/' { v += "/" }
              version[i] = v
          }
          return &pathVersion{paramName: param, versions: version}
      }
      func NewHeaderVersion(param, key string, errlog func(error), version ...string) Matcher {
          if key == "" { key = "version" }
          if errlog == nil { errlog = … }
          return &headerVersion{paramName: param, acceptKey: key, versions: version, errlog: errlog}
      }

  and the C15 statements are proved for ARBITRARY constructor arguments (`C15_path_user*`, `C15_header_user`), the
  stored list being `vs.map slashed` (`C15_ctor_versions`), which satisfies the hypothesis `Normalised` of
  `C15_path_rewrite` (`C15_ctor_normalised`).

  THE EMPTY VERSION.  Go panics at construction for `""`, so a `pathVersion` with an empty version never
  exists.  The model's `pathVersionMatch` does not fault on `ver = ""` (`sliceE 300 [] 0 (0 - 1)` with truncated
  subtraction is in range) where Go's `ver[:len(ver)-1]` would panic with a slice bound of −1: the generality "for
  ALL version lists" of `C15_path_iff` is an artefact for lists containing `""` (`C15_model_empty_version_artefact`).
  `C15_ctor_normalised` shows that such lists are not constructor outputs, so every statement below is about lists Go
  can hold.  An empty LIST of versions is allowed by both constructors (the Go doc comment says "可以为空，表示匹配任意值" —
  may be empty, meaning match anything — but the loop over no versions accepts NOTHING; `C15_path_no_versions`,
  `C15_header_no_versions`).

  Not modelled: `errlog` (a log channel, no influence on the result); Go's `NewPathVersion` overwrites the caller's
  slice in place (visible to the caller, also when it panics half-way) — outside the observation points of C15.
-/
import Mux.Properties.C15
namespace Mux.C15
open Mux

/-- `v` with a `/` prepended iff it does not start with one and a `/` appended iff it does not end with one. -/
def slashed (v : Bytes) : Bytes :=
  (if v.head? = some 47 then [] else [47]) ++ v ++ (if v.getLast? = some 47 then [] else [47])

/-- `NewPathVersion(param, versions...)`; `none` = the constructor panics. -/
def newPathVersion (param : Bytes) (versions : List Bytes) : Option Matcher :=
  (versions.mapM normVersion).map (Matcher.pathVersion param)

/-- `"version"` -/
def versionKey : Bytes := [118, 101, 114, 115, 105, 111, 110]
example : versionKey = bytesOfString "version" := by decide +kernel

/-- `NewHeaderVersion(param, key, errlog, versions...)` (never panics; `errlog` is not modelled). -/
def newHeaderVersion (param key : Bytes) (versions : List Bytes) : Matcher :=
  .headerVersion param (if key = [] then versionKey else key) versions

theorem mapM_normVersion (vs : List Bytes) :
    vs.mapM normVersion = if [] ∈ vs then none else some (vs.map slashed) :=
  mapM_normVersion_eq vs

/-- **The constructor panics iff some version is empty.** -/
theorem C15_ctor_panic_iff (param : Bytes) (vs : List Bytes) : newPathVersion param vs = none ↔ [] ∈ vs := by
  unfold newPathVersion
  rw [mapM_normVersion]
  by_cases hm : [] ∈ vs <;> simp [hm]

/-- **Otherwise it stores the slashed versions, in the user's order.** -/
theorem C15_ctor_versions (param : Bytes) (vs : List Bytes) (h : [] ∉ vs) :
    newPathVersion param vs = some (.pathVersion param (vs.map slashed)) := by
  unfold newPathVersion
  rw [mapM_normVersion, if_neg h]; rfl

/-- Converse form: whatever the constructor returns is `pathVersion param (vs.map slashed)` with no empty version
passed in. -/
theorem C15_ctor_some (param : Bytes) (vs : List Bytes) (m : Matcher) (h : newPathVersion param vs = some m) :
    [] ∉ vs ∧ m = .pathVersion param (vs.map slashed) := by
  by_cases hm : [] ∈ vs
  · rw [(C15_ctor_panic_iff param vs).2 hm] at h; cases h
  · rw [C15_ctor_versions param vs hm] at h
    exact ⟨hm, (Option.some.inj h).symm⟩

theorem slashed_shape (v : Bytes) : (slashed v).head? = some 47 ∧ (slashed v).getLast? = some 47 ∧ slashed v ≠ [] :=
  withSlashes_shape v

/-- **The stored list satisfies the hypothesis of `C15_path_rewrite`** and holds no empty version — for every
argument list, so the `Normalised` hypothesis of C15 is discharged for everything the constructor can return. -/
theorem C15_ctor_normalised (vs : List Bytes) :
    Normalised (vs.map slashed) ∧ [] ∉ vs.map slashed ∧
      ∀ r ∈ vs.map slashed, r.head? = some 47 ∧ r.getLast? = some 47 := by
  have hall : ∀ r ∈ vs.map slashed, r.head? = some 47 ∧ r.getLast? = some 47 ∧ r ≠ [] :=
    List.forall_mem_map.2 fun v _ => slashed_shape v
  exact ⟨fun r hr => ⟨(hall r hr).2.2, (hall r hr).2.1⟩, fun h => (hall [] h).2.2 rfl,
    fun r hr => ⟨(hall r hr).1, (hall r hr).2.1⟩⟩

/-- The same through `C15_norm_normalised`: the constructor's list is a `mapM normVersion`. -/
theorem C15_ctor_normalised' (param : Bytes) (vs : List Bytes) (m : Matcher) (h : newPathVersion param vs = some m) :
    ∃ rs, vs.mapM normVersion = some rs ∧ m = .pathVersion param rs ∧ Normalised rs := by
  unfold newPathVersion at h
  cases hrs : vs.mapM normVersion with
  | none => rw [hrs] at h; cases h
  | some rs =>
    rw [hrs] at h
    exact ⟨rs, rfl, (Option.some.inj h).symm, C15_norm_normalised vs rs hrs⟩

theorem find_map_slashed (vs : List Bytes) (path : Bytes) :
    (vs.map slashed).find? (hasPrefix path) = (vs.find? (fun v => hasPrefix path (slashed v))).map slashed := by
  rw [List.find?_map]; rfl

/-- Clauses a, b, e and "never faults" for arbitrary constructor arguments.  For every
version list without `""` the constructor returns a matcher `m`, and for every request path and parameters: `m`
rejects — path and parameters untouched — when no `slashed v` is a prefix of the path; otherwise it accepts for the
FIRST `v` in the user's order whose slashed form is a prefix, removes `slashed v` minus its final `/` from the front
of the path and records that text under `param` (when `param ≠ ""`). -/
theorem C15_path_user (param : Bytes) (vs : List Bytes) (h : [] ∉ vs) :
    ∃ m, newPathVersion param vs = some m ∧
      ∀ (env : Env) (tab : Nat → Option Hosts) (req : Req) (path : Bytes) (ps : Params),
        m.run env tab req path ps =
          match vs.find? (fun v => hasPrefix path (slashed v)) with
          | none => .reject path ps
          | some v => .accept (path.drop ((slashed v).length - 1))
              (if param ≠ [] then ps.set param (slashed v).dropLast else ps) :=
  ⟨_, C15_ctor_versions param vs h, fun env tab req path ps => run_pathVersion_map env tab param slashed vs req path ps⟩

/-- Accept/reject as an iff over the user's list. -/
theorem C15_path_user_iff (param : Bytes) (vs : List Bytes) (h : [] ∉ vs) (env : Env) (tab : Nat → Option Hosts)
    (req : Req) (path : Bytes) (ps : Params) :
    ((∃ p' ps', (Matcher.pathVersion param (vs.map slashed)).run env tab req path ps = .accept p' ps') ↔
      ∃ v ∈ vs, hasPrefix path (slashed v) = true) ∧
    ((Matcher.pathVersion param (vs.map slashed)).run env tab req path ps = .reject path ps ↔
      ∀ v ∈ vs, ¬ hasPrefix path (slashed v) = true) := by
  rw [run_pathVersion_map]
  cases hf : vs.find? (fun v => hasPrefix path (slashed v)) with
  | none =>
    have := List.find?_eq_none.1 hf
    refine ⟨⟨fun ⟨_, _, e⟩ => (by cases e), fun ⟨v, hv, hp⟩ => absurd hp (by exact this v hv)⟩,
      ⟨fun _ v hv => (by exact this v hv), fun _ => rfl⟩⟩
  | some v =>
    have hv := List.find?_some hf
    have hmem := List.mem_of_find?_eq_some hf
    refine ⟨⟨fun _ => ⟨v, hmem, by exact hv⟩, fun _ => ⟨_, _, rfl⟩⟩,
      ⟨fun e => (by cases e), fun hall => absurd (by exact hv) (hall v hmem)⟩⟩

/-- What is removed and recorded, in terms of the user's text: `slashed v` minus its final `/` is the user's version
with a leading `/` (added iff missing) and WITHOUT a trailing `/`. -/
theorem slashed_dropLast (v : Bytes) (hv : v ≠ []) :
    (slashed v).dropLast = (if v.head? = some 47 then [] else [47]) ++ (if v.getLast? = some 47 then v.dropLast else v) := by
  unfold slashed
  by_cases hl : v.getLast? = some 47
  · simp only [hl, if_true, List.append_nil]
    rw [List.dropLast_append_of_ne_nil hv]
  · simp only [hl, if_false]
    rw [List.dropLast_concat]

/-- Clause c for arbitrary constructor arguments.  When the matcher built from the
user's versions accepts, there are the first matching version `v` (no earlier one matches) and a rest such that the
path was `/<version>` ++ `/rest`, the new path is `/rest` — exactly that version segment removed, once, still
starting with `/` — and `/<version>` is recorded under `param` when a name is configured; nothing else changes. -/
theorem C15_path_user_rewrite (param : Bytes) (vs : List Bytes) (h : [] ∉ vs) (env : Env) (tab : Nat → Option Hosts)
    (req : Req) (path : Bytes) (ps : Params) (p' : Bytes) (ps' : Params)
    (hacc : (Matcher.pathVersion param (vs.map slashed)).run env tab req path ps = .accept p' ps') :
    ∃ pre v post rest, vs = pre ++ v :: post ∧ (∀ u ∈ pre, ¬ hasPrefix path (slashed u) = true) ∧
      path = (slashed v).dropLast ++ 47 :: rest ∧ p' = 47 :: rest ∧
      ps' = (if param ≠ [] then ps.set param (slashed v).dropLast else ps) ∧
      (slashed v).dropLast = (if v.head? = some 47 then [] else [47]) ++ (if v.getLast? = some 47 then v.dropLast else v) := by
  rw [run_pathVersion_map] at hacc
  cases hf : vs.find? (fun v => hasPrefix path (slashed v)) with
  | none => rw [hf] at hacc; cases hacc
  | some v =>
    rw [hf] at hacc
    simp only [MatchOut.accept.injEq] at hacc
    obtain ⟨hp', hps'⟩ := hacc
    obtain ⟨pre, post, hvs, hpre⟩ := List.find?_eq_some_iff_append.1 hf |>.2
    have hv : hasPrefix path (slashed v) = true := by simpa using List.find?_some hf
    have hmem : v ∈ vs := List.mem_of_find?_eq_some hf
    have hne : v ≠ [] := fun e => h (e ▸ hmem)
    obtain ⟨rest, h1, h2⟩ := drop_of_prefix_slash path (slashed v) hv (slashed_shape v).2.1
    refine ⟨pre, v, post, rest, hvs, fun u hu => by simpa using hpre u hu, h1, ?_, hps'.symm, slashed_dropLast v hne⟩
    rw [← hp', h2]

/-- For a version the user wrote WITHOUT slashes (`v1`) the stored version is `/v1/` and the
recorded value `/v1` — the wording of the property. -/
theorem C15_path_plain (v : Bytes) (hv : v ≠ []) (h1 : v.head? ≠ some 47) (h2 : v.getLast? ≠ some 47) :
    slashed v = 47 :: v ++ [47] ∧ (slashed v).dropLast = 47 :: v := by
  refine ⟨by simp [slashed, h1, h2], ?_⟩
  rw [slashed_dropLast v hv]; simp [h1, h2]

/-- The four spellings `v1`, `/v1`, `v1/`, `/v1/` are one version. -/
theorem C15_path_spellings (v : Bytes) (hv : v ≠ []) (h1 : v.head? ≠ some 47) (h2 : v.getLast? ≠ some 47) :
    slashed (47 :: v) = slashed v ∧ slashed (v ++ [47]) = slashed v ∧ slashed (47 :: v ++ [47]) = slashed v := by
  have hl : (47 :: v).getLast? = v.getLast? := by
    cases v with
    | nil => exact absurd rfl hv
    | cons a l => simp [List.getLast?_cons_cons]
  have hh : (v ++ [47]).head? = v.head? := by
    cases v with
    | nil => exact absurd rfl hv
    | cons a l => rfl
  have hll : (47 :: (v ++ [47])).getLast? = some 47 := by
    rw [← List.cons_append, List.getLast?_append]; rfl
  refine ⟨?_, ?_, ?_⟩
  · simp [slashed, h1, h2, hl]
  · simp [slashed, h1, h2, hh]
  · simp [slashed, h1, h2, hll]

/-- An empty version LIST is accepted by the constructor and matches nothing (the Go doc comment says otherwise). -/
theorem C15_path_no_versions (param : Bytes) (env : Env) (tab : Nat → Option Hosts) (req : Req) (path : Bytes)
    (ps : Params) :
    newPathVersion param [] = some (.pathVersion param []) ∧
      (Matcher.pathVersion param []).run env tab req path ps = .reject path ps := by
  refine ⟨rfl, ?_⟩
  rw [C15_path_run]; rfl

/-- Two stored versions that each consist of ONE path segment (`/name/`, no further `/`
inside — e.g. `/v1/` and `/v11/`) and are both a prefix of the same path are equal.  So for such lists at most one
version matches and the order of the list is irrelevant. -/
theorem C15_path_unique (a b p : Bytes) (ha : a.getLast? = some 47) (hb : b.getLast? = some 47)
    (hsa : 47 ∉ a.dropLast.drop 1) (hsb : 47 ∉ b.dropLast.drop 1) (hla : 2 ≤ a.length) (hlb : 2 ≤ b.length)
    (hpa : hasPrefix p a = true) (hpb : hasPrefix p b = true) : a = b := by
  rw [hasPrefix_iff] at hpa hpb
  -- one of the two is a prefix of the other; were it a proper one, its final `/` would lie inside the other's segment
  have key : ∀ (x y : Bytes), x.getLast? = some 47 → 47 ∉ y.dropLast.drop 1 → 2 ≤ x.length → x <+: y → x = y := by
    intro x y hx hsy hlx hxy
    obtain ⟨t, rfl⟩ := hxy
    cases t with
    | nil => exact (List.append_nil x).symm
    | cons c t =>
      obtain ⟨x', rfl⟩ := List.getLast?_eq_some_iff.1 hx
      obtain ⟨d, x'', rfl⟩ := List.exists_cons_of_ne_nil (l := x') (by rintro rfl; simp at hlx)
      refine absurd ?_ hsy
      rw [List.dropLast_append_of_ne_nil (List.cons_ne_nil c t)]
      simp
  rcases List.prefix_or_prefix_of_prefix hpa hpb with h | h
  · exact key a b ha hsb hla h
  · exact (key b a hb hsa hlb h).symm

/-- `NewHeaderVersion(param, "", …)` uses the media-type parameter `version`; any other key is used as given. -/
theorem C15_header_key_default (param : Bytes) (vs : List Bytes) :
    newHeaderVersion param [] vs = .headerVersion param versionKey vs ∧
    ∀ key, key ≠ [] → newHeaderVersion param key vs = .headerVersion param key vs := by
  refine ⟨rfl, fun key hk => ?_⟩
  unfold newHeaderVersion; rw [if_neg hk]

/-- Clauses d, e for arbitrary constructor arguments: with `k` the effective key (`version`
for `""`), the matcher accepts — path unchanged — iff the `Accept` header is non-empty, parses as a media type
(`req.acceptParams`, the oracle for `mime.ParseMediaType`, DESIGN §4) and the value of parameter `k` (`""` when
absent) is one of the user's versions, and then records that value under `param` (when `param ≠ ""`); otherwise it
rejects with path and parameters untouched.  It never faults. -/
theorem C15_header_user (param key : Bytes) (vs : List Bytes) (env : Env) (tab : Nat → Option Hosts) (req : Req)
    (path : Bytes) (ps : Params) :
    let k := if key = [] then versionKey else key
    ((∀ p' ps', (newHeaderVersion param key vs).run env tab req path ps = .accept p' ps' ↔
        p' = path ∧ req.headers.get hAccept ≠ [] ∧ ∃ mp, req.acceptParams = some mp ∧
          ((mp.get? k).getD []) ∈ vs ∧ ps' = (if param ≠ [] then ps.set param ((mp.get? k).getD []) else ps)) ∧
     ((∃ p' ps', (newHeaderVersion param key vs).run env tab req path ps = .accept p' ps') ∨
        (newHeaderVersion param key vs).run env tab req path ps = .reject path ps)) := by
  intro k
  rw [show newHeaderVersion param key vs = .headerVersion param k vs from rfl, C15_header_run]
  refine ⟨fun p' ps' => ?_, ?_⟩
  · -- the condition on the header is `headerVersionMatch … = some ps'`
    rw [← C15_header_iff param k vs req ps ps']
    cases headerVersionMatch param k vs req ps with
    | none => exact ⟨fun e => (nomatch e), fun h => (nomatch h.2)⟩
    | some q =>
      simp only [MatchOut.accept.injEq, Option.some.injEq]
      exact and_congr_left' eq_comm
  · cases headerVersionMatch param k vs req ps with
    | none => exact .inr rfl
    | some q => exact .inl ⟨_, _, rfl⟩

/-- No versions listed: nothing is accepted (again not what the Go doc comment promises). -/
theorem C15_header_no_versions (param key : Bytes) (env : Env) (tab : Nat → Option Hosts) (req : Req) (path : Bytes)
    (ps : Params) : (newHeaderVersion param key []).run env tab req path ps = .reject path ps := by
  obtain ⟨h1, h2⟩ := C15_header_user param key [] env tab req path ps
  rcases h2 with ⟨p', ps', h⟩ | h
  · obtain ⟨_, _, mp, _, hmem, _⟩ := (h1 p' ps').1 h
    cases hmem
  · exact h

/-- The model's `pathVersionMatch` with an EMPTY stored version accepts every path and records `""` (truncated
subtraction in `ver.length - 1`); Go's `ver[:len(ver)-1]` would panic there.  Not reachable: `C15_ctor_normalised`
shows that no constructor output contains `""` (and Go panics in the constructor, `C15_ctor_panic_iff`). -/
theorem C15_model_empty_version_artefact :
    pathVersionMatch [118] [[]] [47, 120] [] = .ok (some ([47, 120], [([118], [])])) ∧
    newPathVersion [118] [[]] = none ∧ newPathVersion [118] [[118, 49], []] = none :=
  ⟨rfl, (C15_ctor_panic_iff _ _).2 (.head _), (C15_ctor_panic_iff _ _).2 (.tail _ (.head _))⟩

/-- `NewPathVersion("v", "v1", "/v11", "v2/", "/v3/")` stores `/v1/`, `/v11/`, `/v2/`, `/v3/`. -/
example : newPathVersion [118] [[118, 49], [47, 118, 49, 49], [118, 50, 47], [47, 118, 51, 47]] =
    some (.pathVersion [118] [[47, 118, 49, 47], [47, 118, 49, 49, 47], [47, 118, 50, 47], [47, 118, 51, 47]]) := by
  rfl
/-- hypothesis `[] ∉ vs` of `C15_path_user`; `/v11/x/v1/y` selects `v11` (not `v1`), removes it once, records `/v11` -/
example : ([] : Bytes) ∉ [[118, 49], [47, 118, 49, 49]] := by decide +kernel
example : (Matcher.pathVersion [118] ([[118, 49], [47, 118, 49, 49]].map slashed)).run ⟨fun _ _ => true⟩ (fun _ => none)
    ⟨[71], [47], [], [], none⟩ [47, 118, 49, 49, 47, 120, 47, 118, 49, 47, 121] [] =
    .accept [47, 120, 47, 118, 49, 47, 121] [([118], [47, 118, 49, 49])] := by
  rw [C15_path_run]; rfl
/-- hypotheses of `C15_path_plain` / `C15_path_spellings` for `v1` -/
example : ([118, 49] : Bytes) ≠ [] ∧ ([118, 49] : Bytes).head? ≠ some 47 ∧ ([118, 49] : Bytes).getLast? ≠ some 47 := by decide +kernel
/-- hypotheses of `C15_path_unique` for `/v1/`, `/v11/` on `/v11/x`: only `/v11/` is a prefix -/
example : (47 : UInt8) ∉ ([47, 118, 49, 47] : Bytes).dropLast.drop 1 ∧ hasPrefix [47, 118, 49, 49, 47, 120] [47, 118, 49, 47] = false ∧
    hasPrefix [47, 118, 49, 49, 47, 120] [47, 118, 49, 49, 47] = true := by decide +kernel
/-- a list with a TWO-segment version shows why the one-segment hypothesis of `C15_path_unique` is needed: `/v1/` and `/v1/beta/` both match. -/
example : hasPrefix [47, 118, 49, 47, 98, 47, 120] (slashed [118, 49]) = true ∧
    hasPrefix [47, 118, 49, 47, 98, 47, 120] (slashed [118, 49, 47, 98]) = true := by decide +kernel
/-- `NewHeaderVersion("v", "", nil, "2")`: `Accept: x; version=2` is accepted and `v = 2` recorded -/
example : (newHeaderVersion [118] [] [[50]]).run ⟨fun _ _ => true⟩ (fun _ => none)
    ⟨[71], [47], [], [(hAccept, [[120]])], some [(versionKey, [50])]⟩ [47] [] = .accept [47] [([118], [50])] := by
  rw [show newHeaderVersion [118] [] [[50]] = .headerVersion [118] versionKey [[50]] from rfl, C15_header_run]; rfl

end Mux.C15
