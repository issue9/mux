/-
  C16 (stability of the recovery script) — `recActs`, what the recovery function writes, is fixed at construction
  like the `recover` flag (`C16_recover_stable`), it is the script the call handed to `CallFunc` carries, and a
  router built with one of the bundled `With*Recovery(status, …)` options therefore answers every panicking request,
  in every state of its life, with exactly the `http.Error` record of `C16_bundled_rec` / `C16_bundled_rec_head`.

  Helper lemmas: `Mux/Proofs/RouterBasic.lean` (namespace `Mux.P18`).
-/
import Mux.Properties.C16
import Mux.Properties.C13
import Mux.Proofs.GroupHistory
namespace Mux.C16
open Mux Mux.P18 Mux.P10

/-- The recovery script is fixed at construction: no `Handle`/`Remove`/`Clean`/`Use` changes it. -/
theorem C16_recActs_stable (cfg : RouterCfg) (r : Router) (ops : List ROp) (h : Router.new cfg = some r) :
    (r.run ops).recActs = cfg.recActs := by
  rw [Router.run_new h]

/-- One step form (for histories that are not given as a list). -/
theorem C16_recActs_step (r : Router) (op : ROp) : (r.step op).recActs = r.recActs ∧ (r.step op).recover = r.recover := by
  rw [step_eq r op]
  exact ⟨rfl, rfl⟩

/-- Neither do the other construction-time options seen by a request: the CORS configuration and the URL domain. -/
theorem C16_options_stable (cfg : RouterCfg) (r : Router) (ops : List ROp) (h : Router.new cfg = some r) :
    (r.run ops).recover = cfg.recover ∧ (r.run ops).cors = cfg.cors ∧
      (r.run ops).urlDomain = sanitizeDomain cfg.urlDomain := by
  rw [Router.run_new h]
  exact ⟨rfl, rfl, rfl⟩

/-- The call produced by `Router.serveContext` carries the router's recovery script and flag; every call produced by
`Group.serve` is either the group's own not-found call — carrying the GROUP's script and flag — or the call of a
member router of the table, carrying that ROUTER's. -/
theorem C16_call_recActs :
    (∀ (env : Env) (r : Router) (req : Req) (ps : Params) (c : Call),
      r.serveContext env req ps = .call c → c.recActs = r.recActs ∧ c.recover = r.recover) ∧
    (∀ (env : Env) (tab : Nat → Option Hosts) (rt : RTab) (g : Group) (req : Req) (c : Call),
      g.serve env tab rt req = .call c →
        (c.handler = g.notFound ∧ c.node = none ∧ c.recActs = g.recActs ∧ c.recover = g.recover) ∨
        (∃ e ∈ g.routers, ∃ r p ps, rt.get? e.1 = some r ∧
          r.serveContext env { req with path := p } ps = .call c ∧ c.recActs = r.recActs ∧ c.recover = r.recover)) :=
  ⟨serveContext_call_recActs, fun env tab rt g req c h =>
    (go_eq_call h).imp (fun h' => by cases h'; exact ⟨rfl, rfl, rfl, rfl⟩)
      (fun ⟨e, he, r, p, ps, hr, _, hc⟩ => ⟨e, he, r, p, ps, hr, hc, serveContext_call_recActs env r _ ps c hc⟩)⟩

/-- The not-found call of a group (every matcher rejects, `C13_notfound`) carries the group's script. -/
theorem C16_group_notFound_recActs (env : Env) (tab : Nat → Option Hosts) (rt : RTab) (g : Group) (req : Req)
    (hall : ∀ e ∈ g.routers, C13.Rejects env tab req e) :
    ∃ c, g.serve env tab rt req = .call c ∧ c.handler = g.notFound ∧ c.recActs = g.recActs ∧
      c.recover = g.recover ∧ c.headWrap = false ∧ c.respHeaders = [] := by
  exact ⟨_, Group.serve_all_reject hall, rfl, rfl, rfl, rfl, rfl⟩

/-- The `http.Error` record of the bundled recovery options on the headers `hs` set so far, without (`false`) and
with (`true`) the `headResponse` wrapper: the right-hand sides of `C16_bundled_rec` / `C16_bundled_rec_head`, for every
configured status (an informational one is not final: `errorStatus`, and nothing sent yet under the wrapper). -/
def bundledRec (code n : Nat) (hw : Bool) (hs : Hdr) : Rec :=
  let h' := ((hs.del hContentLength).set hContentType (bytesOfString "text/plain; charset=utf-8")).set
              (bytesOfString "X-Content-Type-Options") (bytesOfString "nosniff")
  if hw then { hdr := h'.set hContentLength (natToBytes (n + 1)),
               code := if informational code then none else some code,
               snap := if informational code then none else some h', body := 0 }
  else { hdr := h', code := some (errorStatus code), snap := some h', body := n + 1 }

theorem C16_bundledRec_eq (code n : Nat) (hw : Bool) (hs : Hdr) :
    recRec (httpErrorActs code n) hw hs = bundledRec code n hw hs := by
  cases hw
  · exact C16_bundled_rec code n hs
  · exact C16_bundled_rec_head code n hs

/-- A router built with `recover := true` and `recActs := httpErrorActs code n` (one of the bundled
`WithStatusRecovery/WithWriteRecovery/WithLogRecovery/WithSLogRecovery(code, …)` options, `n` the length of
`http.StatusText(code)`) answers, in EVERY reachable state `r0.run ops`, every request whose call panics — a user
panic or mux's own nil-call fault, `runCall … = .error v` — with exactly the `http.Error` record on the CORS headers
`c.respHeaders` set before the handler ran: the record of `C16_bundled_rec` when `c.headWrap = false`, and of
`C16_bundled_rec_head` when `c.headWrap = true`, which is the case iff the request is a HEAD that was routed
(`c.ok`, i.e. served through the GET route's automatic HEAD entry).  `code` is ANY configured status: a final one is
the status of the record; an informational one (1xx except 101) is not final in net/http, the record then carries
`errorStatus code = 200` (GET) resp. nothing sent yet (HEAD; the implicit 200 follows), see `C16_bundled_status`.  The value reaches the recovery function
unchanged and nothing escapes `ServeHTTP`. -/
theorem C16_bundled_contained (cfg : RouterCfg) (r0 : Router) (code n : Nat) (hnew : Router.new cfg = some r0)
    (hrec : cfg.recover = true) (hacts : cfg.recActs = httpErrorActs code n) (ops : List ROp)
    (env : Env) (pc : PanicCfg) (scripts : Scripts) (req : Req) (ps : Params) :
    (∀ v, ((r0.run ops).serveHTTP env pc scripts req ps).2 ≠ .panicked v) ∧
    (∀ c v, (r0.run ops).serveContext env req ps = .call c → runCall pc scripts c = .error v →
      (r0.run ops).serveHTTP env pc scripts req ps =
        (some c, .recovered v (bundledRec code n c.headWrap c.respHeaders)) ∧
      (c.headWrap = true ↔ c.ok = true ∧ req.method = mHEAD) ∧
      (c.headWrap = false → bundledRec code n c.headWrap c.respHeaders =
        (let h' := ((c.respHeaders.del hContentLength).set hContentType (bytesOfString "text/plain; charset=utf-8")).set
                    (bytesOfString "X-Content-Type-Options") (bytesOfString "nosniff")
         { hdr := h', code := some (errorStatus code), snap := some h', body := n + 1 })) ∧
      (c.headWrap = true → bundledRec code n c.headWrap c.respHeaders =
        (let h' := ((c.respHeaders.del hContentLength).set hContentType (bytesOfString "text/plain; charset=utf-8")).set
                    (bytesOfString "X-Content-Type-Options") (bytesOfString "nosniff")
         { hdr := h'.set hContentLength (natToBytes (n + 1)),
           code := if informational code then none else some code,
           snap := if informational code then none else some h', body := 0 }))) := by
  have hr : (r0.run ops).recover = true := by rw [C16_recover_stable cfg r0 ops hnew, hrec]
  have ha : (r0.run ops).recActs = httpErrorActs code n := by rw [C16_recActs_stable cfg r0 ops hnew, hacts]
  obtain ⟨h1, h2⟩ := C16_contained (r0.run ops) hr env pc scripts req ps
  refine ⟨h1, fun c v hc hv => ⟨?_, ?_, ?_, ?_⟩⟩
  · rw [h2 c v hc hv]
    unfold recoveredRec
    rw [(serveContext_call_recActs env _ req ps c hc).1, ha, C16_bundledRec_eq]
  · exact serveContext_headWrap env _ req ps c hc
  · intro h; rw [h]; rfl
  · intro h; rw [h]; rfl

/-- The same for a request that reaches the router through a `Group` (the router is the first whose matcher
accepts; `C16_group_router`): the group's own options play no role. -/
theorem C16_bundled_contained_group (cfg : RouterCfg) (r0 : Router) (code n : Nat) (hnew : Router.new cfg = some r0)
    (hrec : cfg.recover = true) (hacts : cfg.recActs = httpErrorActs code n) (ops : List ROp)
    (env : Env) (tab : Nat → Option Hosts) (pc : PanicCfg) (scripts : Scripts) (rt : RTab) (g : Group) (req : Req)
    (pre post : List (Nat × Matcher)) (rid : Nat) (m : Matcher) (p0 p : Bytes) (ps : Params)
    (hl : g.routers = pre ++ (rid, m) :: post)
    (hrej : rejectPath env tab req pre req.path = some p0)
    (hacc : m.run env tab req p0 [] = .accept p ps) (hr : rt.get? rid = some (r0.run ops))
    (c : Call) (v : PanicVal)
    (hc : (r0.run ops).serveContext env { req with path := p } ps = .call c) (hv : runCall pc scripts c = .error v) :
    g.serveHTTP env tab pc scripts rt req = (some c, .recovered v (bundledRec code n c.headWrap c.respHeaders)) := by
  rw [C16_group_router env tab pc scripts rt g req pre post rid m (r0.run ops) p0 p ps hl hrej hacc hr]
  exact ((C16_bundled_contained cfg r0 code n hnew hrec hacts ops env pc scripts _ ps).2 c v hc hv).1

/-- a router built with `WithStatusRecovery(418)` ("I'm a teapot", 12 bytes), TRACE configured -/
def bundledCfg : RouterCfg := { name := [114], trace := true, recover := true, recActs := httpErrorActs 418 12 }
def bundledR0 : Router := (Router.new bundledCfg).getD default

example : Router.new bundledCfg = some bundledR0 ∧ bundledCfg.recover = true ∧
    bundledCfg.recActs = httpErrorActs 418 12 := ⟨rfl, rfl, rfl⟩

/-- the TRACE handler panics (base code 4): the hypotheses `serveContext = .call c`, `runCall = .error v` hold -/
example : ∃ c, (bundledR0.run [.use [1]]).serveContext env0 demoReq [] = .call c ∧
    runCall { bases := [(4, 44)] } [] c = .error (.user 44) := by
  have h : mTRACE ≠ mHEAD := method_consts_ne.2.2.2.2.2.2.1.symm
  refine ⟨_, by simp [Router.serveContext, Tree.handler, bundledR0, bundledCfg, Router.new, Router.run, Router.step,
    Router.use, Tree.applyMiddleware, Tree.new, demoReq, h]; rfl, ?_⟩
  simp [runCall, lookupNat, wrapWith, Base.code]

example : (bundledRec 418 12 false []).code = some 418 ∧ (bundledRec 418 12 false []).body = 13 ∧
    (bundledRec 418 12 true []).body = 0 ∧ (bundledRec 418 12 true []).code = some 418 := by decide +kernel

/-- a router built with `WithStatusRecovery(103)`: the record has status 200 (GET) / nothing sent yet (HEAD) -/
example : (bundledRec 103 11 false []).code = some 200 ∧ (bundledRec 103 11 false []).body = 12 ∧
    (bundledRec 103 11 true []).code = none ∧ (bundledRec 103 11 true []).status = 200 := by decide +kernel

/-- Along any group history that starts from a group without members (`NewGroup`), the group's
own recover flag and recovery script are unchanged, and if every router of the table had recovery configured, every
router of the table still has (also non-members and members added later). -/
theorem C16_group_history (g0 : Group) (hg0 : g0.routers = []) (rt0 : RTab) (prog : List GOp)
    (h0 : ∀ e ∈ rt0, e.2.recover = true) :
    (grun (g0, rt0) prog).1.recover = g0.recover ∧ (grun (g0, rt0) prog).1.recActs = g0.recActs ∧
    (∀ rid r, (grun (g0, rt0) prog).2.get? rid = some r → r.recover = true) := by
  have hinv : P25.GInv (fun _ => True) (fun r => r.recover = true) (grun (g0, rt0) prog) :=
    P25.GInv.run (fun r op h => ((C16_recActs_step r op).2).trans h) prog (P25.GInv.init g0 hg0 rt0 h0)
      (fun _ _ _ => trivial)
  refine ⟨?_, ?_, hinv.table⟩ <;> rw [grun_fields prog (g0, rt0)]

/-- Clause "a panic never escapes `Group.ServeHTTP`", over whole histories.  The
group was made with recovery (`hg`) and without members; every router of the table was made with recovery (`h0`).
Then in EVERY state of EVERY group history and for every request and every set of panicking user functions: no user
panic escapes `Group.ServeHTTP`, and a panic value raised by the selected call — the group's not-found handler or a
route handler / middleware / 404 / 405 / OPTIONS / TRACE handler of the accepted router — is handed to the recovery
function unchanged. -/
theorem C16_group_history_contained (env : Env) (hostsTab : Nat → Option Hosts) (pc : PanicCfg) (scripts : Scripts)
    (g0 : Group) (hg0 : g0.routers = []) (hg : g0.recover = true) (rt0 : RTab) (h0 : ∀ e ∈ rt0, e.2.recover = true)
    (prog : List GOp) (req : Req) :
    let s := grun (g0, rt0) prog
    (∀ v, (s.1.serveHTTP env hostsTab pc scripts s.2 req).2 ≠ .panicked (.user v)) ∧
    (∀ c v, s.1.serve env hostsTab s.2 req = .call c → runCall pc scripts c = .error v →
      s.1.serveHTTP env hostsTab pc scripts s.2 req = (some c, .recovered v (recoveredRec c))) := by
  intro s
  obtain ⟨h1, _, h3⟩ := C16_group_history g0 hg0 rt0 prog h0
  exact C16_group_contained env hostsTab pc scripts s.2 s.1 req (h1.trans hg) (fun e _ r hr => h3 e.1 r hr)

def exRt : RTab := [(7, demoRouter true), (8, { demoRouter true with tree := { (demoRouter true).tree with name := [2] } })]
def exGProg : List GOp := [.add .any 7, .use [1], .add .any 8, .router 7 (.use [5]), .remove [2]]

example : ∀ e ∈ exRt, e.2.recover = true := by decide +kernel
example : ({ recover := true } : Group).routers = [] ∧ ({ recover := true } : Group).recover = true := ⟨rfl, rfl⟩
-- both routers become members, then the second is removed: the history really changes the group
example : (grun (({ recover := true } : Group), exRt) (exGProg.take 3)).1.routers.map (·.1) = [7, 8] ∧
    (grun (({ recover := true } : Group), exRt) exGProg).1.routers.map (·.1) = [7] := by decide +kernel

end Mux.C16
