/-
  C05 (closing the `.unsupported` alternative on ASCII paths) — the serve-path theorems of C05 have the form
  "answer ∨ `.unsupported`"; `.unsupported` means that the request left the modelled regexp domain (a regexp segment
  with a wide character class met a non-ASCII path).  On ASCII request paths this never happens for routers reached
  by histories of well-formed registrations, so there `Router.ServeHTTP` with quiet user code ALWAYS ends normally.
-/
import Mux.Properties.C05router
import Mux.Proofs.ResolveReach
namespace Mux.C05
open Mux

/-- On a router made by `NewRouter` and a history whose registered patterns pass the brace
check, a request with an ASCII path (any method, host, headers) served from an empty context is never answered
`.unsupported`. -/
theorem C05_serve_supported (cfg : RouterCfg) (r0 : Router) (hnew : Router.new cfg = some r0)
    (ops : List ROp) (hops : ∀ op ∈ ops, P18.ROp.wf op = true)
    (env : Env) (req : Req) (hp : isAscii req.path = true) :
    (r0.run ops).serveContext env req [] ≠ .unsupported := by
  have hinv := (P18.reachAll_run hnew hops).inv
  obtain ⟨f, hres⟩ := P15.handler_total hinv.treeInv (P8.SOk2.all_SOk _ hinv.s2.all) env req.path hp req.method
  rw [Ne, Router.serveContext_unsupported_iff, hres]
  nofun

/-- `Router.ServeHTTP` never panics when user code does not — without the
`.unsupported` alternative: router made by `NewRouter` with a callable not-found handler, ANY history of
`Handle/Remove/Clean/Use` whose registered patterns pass the brace check, ANY request with an ASCII path (`""`, `*`,
arbitrarily long; any method bytes, host, headers), no panicking user code: `ServeHTTP` selects a callable (non-nil)
handler and returns normally with a response record. -/
theorem C05_serveHTTP_quiet_ascii (cfg : RouterCfg) (r0 : Router) (hnew : Router.new cfg = some r0)
    (hnf : cfg.notFoundBase ≠ .nil ∧ cfg.notFoundBase ≠ .hostEmpty) (ops : List ROp)
    (hops : ∀ op ∈ ops, P18.ROp.wf op = true) (env : Env) (scripts : Scripts) (req : Req)
    (hp : isAscii req.path = true) :
    ∃ c rec, (r0.run ops).serveHTTP env {} scripts req [] = (some c, .normal rec) ∧
      (r0.run ops).serveContext env req [] = .call c ∧ Callable c.handler.base := by
  rcases C05_serveHTTP_quiet cfg r0 hnew hnf ops env scripts req [] with h | ⟨_, h⟩
  · exact h
  · exact absurd h (C05_serve_supported cfg r0 hnew ops hops env req hp)

-- non-vacuity: `exHist` (C05router.lean) satisfies `hops`; the paths ``, `*`, `/u/5` are ASCII
example : isAscii ([] : Bytes) = true ∧ isAscii [42] = true ∧ isAscii [47, 117, 47, 53] = true := by decide

end Mux.C05
