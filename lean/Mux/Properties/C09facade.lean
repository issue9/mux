/-
  C09 for façade programs and groups — `C19_equiv` (a façade program is its translation into plain `Router` calls)
  combined with `C09_order`, and the inner part `own` of the stack made explicit.

  `C09_order` says: the handler handed to `CallFunc` for a matched node has the stack `mkWraps (own ++ useMs) …` for
  SOME `own`.  Here `own` is identified and shown to persist: for a route registered through a façade object whose
  ancestry is `ch` (`FChain`: the creating calls `r.Prefix(p₁, m₁…).Prefix(p₂, m₂…)…`, outermost first)

      wraps = mkWraps (m ++ ch.ms ++ useMs) key (ch.pattern ++ pat) routerName

  `m` the middlewares of the registration itself, `ch.ms = mₙ ++ … ++ m₂ ++ m₁` (innermost façade first, outermost
  last), `useMs` ALL `Use` middlewares of the whole program in call order (before or after the registration);
  `wraps` lists applications innermost first, and every element carries `(key, full pattern, router name)`.
  It holds at registration and after every later program that does not re-register / remove / clean that entry.

  The semantics are those of `C19.lean`: `FOp`, `runF`, `desugar`, `plainOps` (`Mux/Proofs/Facade.lean`); for groups
  `GOp`, `grun`, `effOps` (`Mux/Proofs/GroupHistory.lean`).
-/
import Mux.Proofs.OnionEntry
import Mux.Proofs.RunFuel
import Mux.Properties.C09
import Mux.Properties.C19
namespace Mux.C09
open Mux Mux.P10 Mux.P18

/-- All `Use` middlewares of a façade program (`.router (.use m)` operations), in call order. -/
abbrev progUseMs := Mux.P18.progUseMs
/-- Ancestry of a façade object: `(pattern, middlewares)` of the creating calls, outermost first. -/
abbrev FChain := Mux.P18.FChain
/-- The façade table / the ancestry chains a program builds (same indices). -/
abbrev tabOf := Mux.P18.tabOf
abbrev chainsOf := Mux.P18.chainsOf
/-- `Has t p k h0`: the tree has a node with pattern `p` (and handlers) whose entry for the key `k` is `h0`. -/
abbrev Has := Mux.P18.Has
/-- A later operation leaves the entry `(p, k)` alone: a `Handle` of another pattern, or of `p` with methods that
neither contain `k` nor create it (`k` is not HEAD next to a listed GET, not OPTIONS, not the 405 key); a `Remove` of
another pattern; a `Clean` whose prefix is not a prefix of `p`; any `Use`. -/
abbrev Untouched := Mux.P18.Untouched
/-- The registrations of a façade program: `(object, pattern argument, handler, middlewares, methods)`. -/
abbrev regOf := Mux.P18.regOf

instance (p k : Bytes) (op : ROp) : Decidable (Untouched p k op) := by
  cases op <;> unfold Untouched P18.Untouched <;> infer_instance

theorem C09_chain_defs (ch : FChain) :
    ch.pattern = (ch.map (·.1)).flatten ∧ ch.ms = (ch.reverse.map (·.2)).flatten ∧ ch.flat = ⟨ch.pattern, ch.ms⟩ :=
  ⟨rfl, rfl, rfl⟩

/-- Innermost first, outermost last: one more nesting level puts its middlewares IN FRONT. -/
theorem C09_chain_ms_snoc (ch : FChain) (p : Bytes) (m : List Nat) :
    FChain.ms (ch ++ [(p, m)]) = m ++ ch.ms ∧ FChain.pattern (ch ++ [(p, m)]) = ch.pattern ++ p := by
  simp [FChain.ms, FChain.pattern]

/-- The interpreter's table is `tabOf`, and object `i` is the flat form (concatenated pattern, middlewares inside-out)
of its ancestry chain (`C19_nested_chain` for every object of every program). -/
theorem C09_facade_table (env : Env) (r0 : Router) (prog : List FOp) (i : Nat) :
    (runF env { router := r0 } prog).tab = tabOf prog ∧
    (tabOf prog)[i]? = ((chainsOf prog)[i]?).map FChain.flat :=
  ⟨runF_tab env prog { router := r0 }, tabOf_get prog i⟩

/-- How the ancestry chains grow: `r.Prefix/Resource` starts a chain, `p.Prefix/Resource` extends its parent's. -/
theorem C09_facade_chains (prog : List FOp) (op : FOp) :
    chainsOf (prog ++ [op]) =
      match op with
      | .newPrefix p m => chainsOf prog ++ [[(p, m)]]
      | .newResource p m => chainsOf prog ++ [[(p, m)]]
      | .subPrefix i p m => (match (chainsOf prog)[i]? with
        | some ch => chainsOf prog ++ [ch ++ [(p, m)]]
        | none => chainsOf prog)
      | .subResource i p m => (match (chainsOf prog)[i]? with
        | some ch => chainsOf prog ++ [ch ++ [(p, m)]]
        | none => chainsOf prog)
      | _ => chainsOf prog := by
  unfold chainsOf P18.chainsOf
  rw [List.foldl_append, List.foldl_cons, List.foldl_nil]
  cases op <;> rfl

/-! ## `C09_order` for façade programs -/

/-- The `Use` middlewares of the translation are those of the program. -/
theorem C09_facade_useMs (prog : List FOp) :
    ((plainOps (desugar prog)).filterMap useArg).flatten = progUseMs prog := useMs_desugar prog

/-- For every façade program (Prefix / nested Prefix / Resource creation with middlewares,
handle / remove / clean through them, `Use` and plain calls on the router, URL queries) run on a new router, and every
request: the handler handed to `CallFunc` satisfies `OnionSpec` with `useMs` = all `Use` middlewares of the program —
404 / TRACE / `OPTIONS *` carry exactly `useMs`, an entry of a matched node `mkWraps (own ++ useMs) key n.pattern name`. -/
theorem C09_facade_order (envF : Env) {cfg : RouterCfg} {r0 : Router} (hnew : Router.new cfg = some r0) (prog : List FOp)
    (env : Env) (req : Req) (ps : Params) {c : Call}
    (hc : (runF envF { router := r0 } prog).router.serveContext env req ps = .call c) :
    OnionSpec (progUseMs prog) cfg.name (runF envF { router := r0 } prog).router.tree.root cfg.trace req c := by
  rw [(C19.C19_equiv envF r0 prog).1] at hc ⊢
  rw [← C09_facade_useMs]
  exact C09_order hnew _ env req ps hc

/-! ## Plain routers: `own` is the registration's list, and it persists -/

/-- `NewRouter`; any history `pre`; a successful `Handle(p, h, m, methods…)`; any history
`post` that leaves the entry `(p, k)` alone; registered patterns well-formed.  For every listed method `k` (and HEAD
when GET is listed) the entry of the node of `p` is `h` with the stack `mkWraps (m ++ useMs) k p name`, `useMs` all
`Use` middlewares of the whole history. -/
theorem C09_own_persists {cfg : RouterCfg} {r0 : Router} (hnew : Router.new cfg = some r0) (pre post : List ROp)
    (p : Bytes) (h : Nat) (m : List Nat) (methods : List Bytes) (k : Bytes)
    (hwf : ∀ op ∈ pre ++ .handle p h m methods :: post, ROp.wf op = true)
    (hok : ∃ r', (r0.run pre).handle p h m methods = .ok r')
    (hpost : ∀ op ∈ post, Untouched p k op)
    (hk : k ∈ effMethods methods ∨ (k = mHEAD ∧ mGET ∈ effMethods methods)) :
    Has (r0.run (pre ++ .handle p h m methods :: post)).tree p k
      { base := .user h,
        wraps := mkWraps (m ++ ((pre ++ .handle p h m methods :: post).filterMap useArg).flatten) k p cfg.name } := by
  obtain ⟨r', he⟩ := hok
  have hstep : r' = (r0.run pre).step (.handle p h m methods) := by simp [Router.step, he]
  have hwp : WfPattern p = true := hwf (.handle p h m methods) (by simp)
  have hpre := (reachAll_run hnew fun o ho => hwf o (List.mem_append_left _ ho)).inv.ti
  have hrun := own_run (r := r') (by rw [hstep]; exact tinv_step hpre hwp) (fun o ho => hwf o (by simp [ho])) hpost
    (own_registered hpre hwp he hk)
  have hms : ((pre ++ .handle p h m methods :: post).filterMap useArg).flatten =
      (pre.filterMap useArg).flatten ++ (post.filterMap useArg).flatten := by
    simp [useArg, List.filterMap_append, List.filterMap_cons]
  rw [hstep, Router.step_name, (Router.run_treeCfg hnew pre).2.1, run_ms, Router.new_ms hnew, ← hstep, wrapWith_wrapWith] at hrun
  rw [show r0.run (pre ++ .handle p h m methods :: post) = r'.run post from hstep ▸ Router.run_append r0 pre _, hms,
    ← List.append_assoc]
  exact hrun

/-- From the stored entry to the handler handed to `CallFunc`: on a router whose tree is reachable by a well-formed
history, a request answered by the node with pattern `p` under the key `k` (`callKey`: the request method, `""` for a
405) is handed exactly the stored entry. -/
theorem C09_has_dispatch {r : Router} (hr : P14.ReachAll r.tree) {p k : Bytes} {h0 : Handler} (hh : Has r.tree p k h0)
    (env : Env) (req : Req) (ps : Params) {c : Call} {n : Node}
    (hc : r.serveContext env req ps = .call c) (hn : c.node = some n) (hp : n.pattern = p)
    (hkey : callKey req c = k) : c.handler = h0 := by
  obtain ⟨hf, _⟩ := serveContext_call_found env r req ps c hc
  exact (has_dispatch hr.inv hh hf hn hp hkey).1

/-! ## Façade programs: `own = m ++ ch.ms` -/

/-- `NewRouter`; a façade program `pre`; a registration `op` (`p.Handle/Get/…` or
`res.Handle`) through object `i` with ancestry `ch` that succeeds; a façade program `post` whose translation leaves
the entry alone.  The stored entry of `(ch.pattern ++ pat, k)` is `h` with the stack
`mkWraps (m ++ ch.ms ++ progUseMs program) k (ch.pattern ++ pat) name`. -/
theorem C09_facade_stack (envF : Env) {cfg : RouterCfg} {r0 : Router} (hnew : Router.new cfg = some r0)
    (pre post : List FOp) (op : FOp) (i : Nat) (pat : Bytes) (h : Nat) (m : List Nat) (methods : List Bytes)
    (ch : FChain) (k : Bytes)
    (hreg : regOf op = some (i, pat, h, m, methods)) (hch : (chainsOf pre)[i]? = some ch)
    (hwf : ∀ o ∈ plainOps (desugar (pre ++ op :: post)), ROp.wf o = true)
    (hok : ∃ r', (runF envF { router := r0 } pre).router.handle (ch.pattern ++ pat) h (m ++ ch.ms) methods = .ok r')
    (hpost : ∀ o ∈ plainOps (desugarFrom (tabOf pre) post), Untouched (ch.pattern ++ pat) k o)
    (hk : k ∈ effMethods methods ∨ (k = mHEAD ∧ mGET ∈ effMethods methods)) :
    Has (runF envF { router := r0 } (pre ++ op :: post)).router.tree (ch.pattern ++ pat) k
      { base := .user h,
        wraps := mkWraps (m ++ ch.ms ++ progUseMs (pre ++ op :: post)) k (ch.pattern ++ pat) cfg.name } := by
  have hdes := desugar_reg hreg (pre := pre) (f := ch.flat) (by rw [tabOf_get, hch]; rfl) post
  rw [runF_router, hdes, ← C09_facade_useMs, hdes]
  rw [hdes] at hwf
  rw [runF_router] at hok
  exact C09_own_persists hnew _ _ _ h (m ++ ch.ms) methods k hwf hok hpost hk

/-- The success hypothesis in façade terms: it is the success of the façade call itself (`C19_handle`). -/
theorem C09_facade_ok (envF : Env) (r0 : Router) (pre : List FOp) (i : Nat) (ch : FChain) (pat : Bytes) (h : Nat)
    (m : List Nat) (methods : List Bytes) (hch : (chainsOf pre)[i]? = some ch) :
    ∃ f, (runF envF { router := r0 } pre).tab[i]? = some f ∧ f = ch.flat ∧
      f.handle (runF envF { router := r0 } pre).router pat h m methods =
        (runF envF { router := r0 } pre).router.handle (ch.pattern ++ pat) h (m ++ ch.ms) methods := by
  refine ⟨ch.flat, ?_, rfl, rfl⟩
  rw [(C09_facade_table envF r0 pre i).1, (C09_facade_table envF r0 pre i).2, hch]; rfl

/-- Under the hypotheses of `C09_facade_stack`, every request that the final router answers with the node of
`ch.pattern ++ pat` under the key `k` hands `CallFunc` the handler `h` with exactly the stack
`own ++ facadeMs ++ useMs` = `m ++ ch.ms ++ progUseMs program`, innermost first, every element created with
`(k, ch.pattern ++ pat, router name)`. -/
theorem C09_facade_dispatch (envF : Env) {cfg : RouterCfg} {r0 : Router} (hnew : Router.new cfg = some r0)
    (pre post : List FOp) (op : FOp) (i : Nat) (pat : Bytes) (h : Nat) (m : List Nat) (methods : List Bytes)
    (ch : FChain) (k : Bytes)
    (hreg : regOf op = some (i, pat, h, m, methods)) (hch : (chainsOf pre)[i]? = some ch)
    (hwf : ∀ o ∈ plainOps (desugar (pre ++ op :: post)), ROp.wf o = true)
    (hok : ∃ r', (runF envF { router := r0 } pre).router.handle (ch.pattern ++ pat) h (m ++ ch.ms) methods = .ok r')
    (hpost : ∀ o ∈ plainOps (desugarFrom (tabOf pre) post), Untouched (ch.pattern ++ pat) k o)
    (hk : k ∈ effMethods methods ∨ (k = mHEAD ∧ mGET ∈ effMethods methods))
    (env : Env) (req : Req) (ps : Params) {c : Call} {n : Node}
    (hc : (runF envF { router := r0 } (pre ++ op :: post)).router.serveContext env req ps = .call c)
    (hn : c.node = some n) (hp : n.pattern = ch.pattern ++ pat) (hkey : callKey req c = k) :
    c.handler = { base := .user h,
                  wraps := mkWraps (m ++ ch.ms ++ progUseMs (pre ++ op :: post)) k (ch.pattern ++ pat) cfg.name } ∧
    (∀ w ∈ c.handler.wraps, w.method = k ∧ w.pattern = ch.pattern ++ pat ∧ w.router = cfg.name) ∧
    c.handler.wraps.map (·.mw) = m ++ ch.ms ++ progUseMs (pre ++ op :: post) := by
  have hh := C09_facade_stack envF hnew pre post op i pat h m methods ch k hreg hch hwf hok hpost hk
  have hreach : P14.ReachAll (runF envF { router := r0 } (pre ++ op :: post)).router.tree := by
    rw [(C19.C19_equiv envF r0 _).1]
    exact reachAll_run hnew hwf
  rw [C09_has_dispatch hreach hh env req ps hc hn hp hkey]
  refine ⟨rfl, fun w hw => ?_, mkWraps_mws _ _ _ _⟩
  obtain ⟨a, b, c', _⟩ := mem_mkWraps hw
  exact ⟨a, b, c'⟩

/-- A router of the table of a group history (`Group.Add/Use/Remove` and calls on the routers
themselves): its plain history is `effOps` (`C09_group`) — its own calls, `Use(g.ms)` when it is added (the
`Group.Use`s BEFORE the `Add`, in order) and `Use(m)` for every `Group.Use(m)` AFTER it.  For a registration in that
history the stored entry is `h` with `mkWraps (m ++ useMs) k p name`, `useMs` the `Use` middlewares of `effOps` — the
router's own and the group's, interleaved in call order, whether they came before or after the registration. -/
theorem C09_group_stack {cfg : RouterCfg} {r0 : Router} (hnew : Router.new cfg = some r0) (s : GState)
    (hnd : (Group.ids s.1).Nodup) (gprog : List GOp) (rid : Nat) (hr : s.2.get? rid = some r0)
    (pre post : List ROp) (p : Bytes) (h : Nat) (m : List Nat) (methods : List Bytes) (k : Bytes)
    (heff : effOps s rid gprog = pre ++ .handle p h m methods :: post)
    (hwf : ∀ op ∈ effOps s rid gprog, ROp.wf op = true)
    (hok : ∃ r', (r0.run pre).handle p h m methods = .ok r')
    (hpost : ∀ op ∈ post, Untouched p k op)
    (hk : k ∈ effMethods methods ∨ (k = mHEAD ∧ mGET ∈ effMethods methods)) :
    ∃ R, (grun s gprog).2.get? rid = some R ∧ P14.ReachAll R.tree ∧
      Has R.tree p k
        { base := .user h, wraps := mkWraps (m ++ ((effOps s rid gprog).filterMap useArg).flatten) k p cfg.name } := by
  refine ⟨_, by rw [grun_get gprog s hnd rid, hr]; rfl, reachAll_run hnew hwf, ?_⟩
  rw [heff] at hwf ⊢
  exact C09_own_persists hnew pre post p h m methods k hwf hok hpost hk

/-- `C09_group_stack` through a façade: a registration `Handle(ch.pattern ++ pat, h, m ++ ch.ms, …)` made through a façade object
with ancestry `ch` on a router that is (or later becomes) a member of a group has the stack
`m ++ ch.ms ++ useMs`, `useMs` the router's own and the group's `Use` middlewares in call order. -/
theorem C09_group_facade_stack {cfg : RouterCfg} {r0 : Router} (hnew : Router.new cfg = some r0) (s : GState)
    (hnd : (Group.ids s.1).Nodup) (gprog : List GOp) (rid : Nat) (hr : s.2.get? rid = some r0)
    (pre post : List ROp) (ch : FChain) (pat : Bytes) (h : Nat) (m : List Nat) (methods : List Bytes) (k : Bytes)
    (heff : effOps s rid gprog = pre ++ .handle (ch.pattern ++ pat) h (m ++ ch.ms) methods :: post)
    (hwf : ∀ op ∈ effOps s rid gprog, ROp.wf op = true)
    (hok : ∃ r', ch.flat.handle (r0.run pre) pat h m methods = .ok r')
    (hpost : ∀ op ∈ post, Untouched (ch.pattern ++ pat) k op)
    (hk : k ∈ effMethods methods ∨ (k = mHEAD ∧ mGET ∈ effMethods methods)) :
    ∃ R, (grun s gprog).2.get? rid = some R ∧ P14.ReachAll R.tree ∧
      Has R.tree (ch.pattern ++ pat) k
        { base := .user h,
          wraps := mkWraps (m ++ ch.ms ++ ((effOps s rid gprog).filterMap useArg).flatten) k (ch.pattern ++ pat)
            cfg.name } :=
  C09_group_stack hnew s hnd gprog rid hr pre post _ h (m ++ ch.ms) methods k heff hwf hok hpost hk

/-- `C09_has_dispatch` when the request reaches the router through `Group.serve`
(`C13_first`: the group's answer is the accepted router's own answer). -/
theorem C09_group_dispatch (env : Env) (tab : Nat → Option Hosts) (rt : RTab) (g : Group) (req : Req)
    (pre post : List (Nat × Matcher)) (rid : Nat) (mt : Matcher) (p' : Bytes) (ps : Params) (R : Router)
    (hg : g.routers = pre ++ (rid, mt) :: post) (hpre : ∀ e ∈ pre, C13.Rejects env tab req e)
    (hm : mt.run env tab req req.path [] = .accept p' ps) (hrt : rt.get? rid = some R)
    (hreach : P14.ReachAll R.tree) {p k : Bytes} {h0 : Handler} (hh : Has R.tree p k h0)
    {c : Call} {n : Node} (hc : g.serve env tab rt req = .call c) (hn : c.node = some n) (hp : n.pattern = p)
    (hkey : callKey req c = k) : c.handler = h0 := by
  rw [C13.C13_first env tab rt g req pre post rid mt p' ps R hg hpre hm hrt] at hc
  exact C09_has_dispatch hreach hh env { req with path := p' } ps hc hn hp hkey

/-! ## Non-vacuity

`r.Use(9); api := r.Prefix("/api", 1); v1 := api.Prefix("/v1", 2)` — then `v1.Get("/users", h7, 3)` — then
`res := v1.Resource("/users/{id}", 4); res.Get(h8, 5); r.Use(6)`.  A real program on a real router. -/

def fxCfg : RouterCfg := { name := [114] }
def fxR0 : Router := (Router.new fxCfg).getD default
theorem fxNew : Router.new fxCfg = some fxR0 := rfl
def fxEnv : Env := ⟨fun _ _ => true⟩
def fxPre : List FOp :=
  [.router (.use [9]), .newPrefix (bytesOfString "/api") [1], .subPrefix 0 (bytesOfString "/v1") [2]]
def fxOp : FOp := .handle 1 (bytesOfString "/users") 7 [3] [mGET]
def fxPost : List FOp :=
  [.subResource 1 (bytesOfString "/users/{id}") [4], .resHandle 2 8 [5] [mGET], .router (.use [6])]
/-- the ancestry of `v1`: `/api` with `[1]`, then `/v1` with `[2]` -/
def fxCh : FChain := [(bytesOfString "/api", [1]), (bytesOfString "/v1", [2])]

example : regOf fxOp = some (1, bytesOfString "/users", 7, [3], [mGET]) := rfl
example : (chainsOf fxPre)[1]? = some fxCh := by decide +kernel
example : fxCh.pattern = bytesOfString "/api/v1" ∧ fxCh.ms = [2, 1] ∧ progUseMs (fxPre ++ fxOp :: fxPost) = [9, 6] := by
  decide +kernel
-- the translation, and its registered patterns are well-formed
theorem fx_desugar : (plainOps (desugar (fxPre ++ fxOp :: fxPost))).map ropCode =
    [ROp.use [9], .handle (bytesOfString "/api/v1/users") 7 [3, 2, 1] [mGET],
     .handle (bytesOfString "/api/v1/users/{id}") 8 [5, 4, 2, 1] [mGET], .use [6]].map ropCode := by
  simp only [fxPre, fxOp, fxPost, bytesOfString_eq_data]
  decide +kernel
example : ∀ o ∈ plainOps (desugar (fxPre ++ fxOp :: fxPost)), ROp.wf o = true := by
  simp only [fxPre, fxOp, fxPost, bytesOfString_eq_data]
  decide +kernel
-- the registration succeeds
example : ∃ r', (runF fxEnv { router := fxR0 } fxPre).router.handle (fxCh.pattern ++ bytesOfString "/users") 7
    ([3] ++ fxCh.ms) [mGET] = .ok r' := by
  refine Except.exists_ok ?_
  simp only [(C19.C19_equiv fxEnv fxR0 fxPre).1, Router.handle, Tree.add_eq_F, Router.run_eq_F]
  simp only [fxPre, fxCh, bytesOfString_eq_data]
  decide +kernel
-- the later program leaves the entries GET and HEAD of `/api/v1/users` alone
example : ∀ o ∈ plainOps (desugarFrom (tabOf fxPre) fxPost),
    Untouched (fxCh.pattern ++ bytesOfString "/users") mGET o ∧
    Untouched (fxCh.pattern ++ bytesOfString "/users") mHEAD o := by
  simp only [fxPre, fxPost, fxCh, bytesOfString_eq_data]
  decide +kernel
-- and the real router hands `CallFunc` exactly the stack `[3] ++ [2, 1] ++ [9, 6]` for GET
example : wrapsOf (fxR0.run (plainOps (desugar (fxPre ++ fxOp :: fxPost))))
      { method := mGET, path := bytesOfString "/api/v1/users" } =
    some (mkWraps ([3] ++ [2, 1] ++ [9, 6]) mGET (bytesOfString "/api/v1/users") (bytesOfString "r")) := by
  rw [Router.run_eq_F]
  simp only [fxPre, fxOp, fxPost, bytesOfString_eq_data]
  decide +kernel

/-- group variant: `Group.Use(9)`; the router's own `Use(1)`; `Add`; `Group.Use(8)`; a registration; `Group.Use(7)` —
seen from the router: `Use(1), Use(9), Use(8), Handle, Use(7)`. -/
def fxG : List GOp :=
  [.use [9], .router 0 (.use [1]), .add .any 0, .use [8], .router 0 (.handle (bytesOfString "/a") 7 [2] [mGET]), .use [7]]

example : (effOps ({}, [(0, fxR0)]) 0 fxG).map ropCode =
    ([ROp.use [1], .use [9], .use [8]] ++ ROp.handle (bytesOfString "/a") 7 [2] [mGET] :: [.use [7]]).map ropCode ∧
    ((effOps ({}, [(0, fxR0)]) 0 fxG).filterMap useArg).flatten = [1, 9, 8, 7] := by
  decide +kernel

end Mux.C09
