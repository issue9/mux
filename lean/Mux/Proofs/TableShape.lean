/-
  Mux.Proofs.TableShape — the structural invariant of the route tree for well-formed patterns
  (`Sh`: children carry well-formed texts built by `NewSegment`, `pattern = parent.pattern ++ text`,
  sibling keys are pairwise distinct, a text ending with `}` has no children), the multiset of
  `(pattern, handlers)` entries of a forest (`liveL`), and auxiliary list facts.
-/
import Mux.Proofs.TablePieces
import Mux.Proofs.TreeCounts
namespace Mux.P11
open Mux

theorem set_perm {α : Type} {l : List α} {j : Nat} {x : α} (h : l[j]? = some x) :
    ∃ rest, l.Perm (x :: rest) ∧ ∀ y, (l.set j y).Perm (y :: rest) := by
  obtain ⟨l1, l2, rfl, rfl⟩ := List.getElem?_eq_some_iff_append.1 h
  exact ⟨l1 ++ l2, List.perm_middle, fun y => by simp [List.perm_middle]⟩

theorem eq_of_map_nodup {α β} {f : α → β} {l : List α} (h : (l.map f).Nodup) {x y : α}
    (hx : x ∈ l) (hy : y ∈ l) (e : f x = f y) : x = y := by
  have hp : l.Pairwise fun a b => f a ≠ f b := List.pairwise_map.1 h
  exact List.Pairwise.forall_of_forall_of_flip (R := fun a b => f a = f b → a = b) (fun _ _ _ => rfl)
    (hp.imp fun hab e => absurd e hab) (hp.imp fun hab e => absurd e.symm hab) hx hy e

def ent (n : Node) : List (Bytes × AMap Handler) :=
  if n.handlers.isEmpty then [] else [(n.pattern, n.handlers)]

def liveN (n : Node) : List (Bytes × AMap Handler) := ent n ++ liveL n.children

theorem nodesL_cons (c : Node) (cs : List Node) : nodesL (c :: cs) = c :: (nodesL c.children ++ nodesL cs) := by
  cases c; simp [nodesL, Node.nodes]

theorem liveL_nil : liveL [] = [] := by simp [liveL, nodesL]

theorem liveL_cons (c : Node) (cs : List Node) : liveL (c :: cs) = liveN c ++ liveL cs := by
  unfold liveL liveN ent
  rw [nodesL_cons]
  simp only [List.filter_cons, List.filter_append]
  cases h : c.handlers.isEmpty <;> simp [liveL]

theorem liveL_append (as bs : List Node) : liveL (as ++ bs) = liveL as ++ liveL bs := by
  induction as with
  | nil => simp [liveL_nil]
  | cons a as ih => simp [liveL_cons, ih]

theorem liveL_perm {as bs : List Node} (h : as.Perm bs) : (liveL as).Perm (liveL bs) := by
  induction h with
  | nil => exact List.Perm.refl _
  | cons x _ ih => rw [liveL_cons, liveL_cons]; exact List.Perm.append_left _ ih
  | swap x y l =>
    simp only [liveL_cons, ← List.append_assoc]
    exact List.Perm.append_right _ List.perm_append_comm
  | trans _ _ ih1 ih2 => exact ih1.trans ih2

theorem liveL_singleton (c : Node) : liveL [c] = liveN c := by
  rw [liveL_cons, liveL_nil, List.append_nil]

theorem mem_liveL {cs : List Node} {e : Bytes × AMap Handler} :
    e ∈ liveL cs ↔ ∃ n ∈ nodesL cs, n.handlers ≠ [] ∧ e = (n.pattern, n.handlers) := by
  unfold liveL
  simp only [List.mem_map, List.mem_filter, Bool.not_eq_eq_eq_not, Bool.not_true, List.isEmpty_eq_false_iff]
  constructor
  · rintro ⟨n, ⟨h1, h2⟩, rfl⟩; exact ⟨n, h1, h2, rfl⟩
  · rintro ⟨n, h1, h2, rfl⟩; exact ⟨n, ⟨h1, h2⟩, rfl⟩

/-- The key that keeps siblings apart: the first byte of a literal text, `{inner}` and the byte after it of a parameter
text (`vkey`, TablePieces.lean). -/
def ckey (c : Node) : Bytes := vkey c.seg.value

def ChildOk (ic : Interceptors) (pp : Bytes) (c : Node) : Prop :=
  WfVal c.seg.value ∧ newSegment ic c.seg.value = .ok c.seg ∧ c.pattern = pp ++ c.seg.value ∧
    (Closed c.seg.value → c.children = [])

/-- The children of a node with pattern `pp`.  Their keys (`vkey`, TablePieces.lean), not only their texts, are pairwise
distinct: `addSegment` treats two texts with the same key as similar and splits off their common part instead of
making them siblings. -/
def ShL (ic : Interceptors) (pp : Bytes) (cs : List Node) : Prop :=
  (∀ c ∈ cs, ChildOk ic pp c) ∧ (cs.map ckey).Nodup

/-- The invariant of one node (a statement about its children). -/
def Sh (ic : Interceptors) (n : Node) : Prop := ShL ic n.pattern n.children

theorem ShL_perm {ic : Interceptors} {pp : Bytes} {as bs : List Node} (h : as.Perm bs) :
    ShL ic pp as ↔ ShL ic pp bs := by
  unfold ShL
  rw [(h.map ckey).nodup_iff]
  constructor
  · rintro ⟨h1, h2⟩; exact ⟨fun c hc => h1 c (h.mem_iff.2 hc), h2⟩
  · rintro ⟨h1, h2⟩; exact ⟨fun c hc => h1 c (h.mem_iff.1 hc), h2⟩

theorem ShL_cons {ic : Interceptors} {pp : Bytes} {c : Node} {cs : List Node} :
    ShL ic pp (c :: cs) ↔ ChildOk ic pp c ∧ (∀ d ∈ cs, ckey d ≠ ckey c) ∧ ShL ic pp cs := by
  unfold ShL
  simp only [List.mem_cons, forall_eq_or_imp, List.map_cons, List.nodup_cons, List.mem_map, not_exists, not_and]
  constructor
  · rintro ⟨⟨h1, h2⟩, h3, h4⟩; exact ⟨h1, h3, h2, h4⟩
  · rintro ⟨h1, h3, h2, h4⟩; exact ⟨⟨h1, h2⟩, h3, h4⟩

theorem ShL_nil (ic : Interceptors) (pp : Bytes) : ShL ic pp [] := by simp [ShL]

theorem ShL_sublist {ic : Interceptors} {pp : Bytes} {as bs : List Node} (h : as.Sublist bs)
    (hb : ShL ic pp bs) : ShL ic pp as :=
  ⟨fun c hc => hb.1 c (h.subset hc), hb.2.sublist (h.map ckey)⟩

theorem ShL.eq_of_value {ic : Interceptors} {pp : Bytes} {cs : List Node} (h : ShL ic pp cs) {x y : Node}
    (hx : x ∈ cs) (hy : y ∈ cs) (e : x.seg.value = y.seg.value) : x = y :=
  eq_of_map_nodup h.2 hx hy (by unfold ckey; rw [e])

theorem ShL_set {ic : Interceptors} {pp : Bytes} {cs : List Node} {j : Nat} {d d' : Node} (h : ShL ic pp cs)
    (hd : cs[j]? = some d) (hs : d'.seg = d.seg) (hp : d'.pattern = d.pattern)
    (hc : Closed d.seg.value → d.children = [] → d'.children = []) : ShL ic pp (cs.set j d') := by
  obtain ⟨rest, p1, p2⟩ := set_perm hd
  obtain ⟨hco, hkeys, hrest⟩ := ShL_cons.1 ((ShL_perm p1).1 h)
  refine (ShL_perm (p2 d')).2 (ShL_cons.2 ⟨?_, fun x hx => ?_, hrest⟩)
  · unfold ChildOk at hco ⊢
    rw [hs, hp]
    exact ⟨hco.1, hco.2.1, hco.2.2.1, fun hcl => hc hcl (hco.2.2.2 hcl)⟩
  · unfold ckey
    rw [hs]
    exact hkeys x hx

theorem removeNodes_perm (cs : List Node) (v : Bytes) (h : ∃ c ∈ cs, c.seg.value = v) :
    ∃ c ∈ cs, c.seg.value = v ∧ cs.Perm (c :: removeNodes cs v) := by
  fun_induction removeNodes cs v with
  | case1 => obtain ⟨c, hc, _⟩ := h; cases hc
  | case2 a cs => exact ⟨a, List.mem_cons_self, rfl, .refl _⟩
  | case3 a cs v ha ih =>
    obtain ⟨c, hc, hv⟩ := h
    obtain ⟨c1, h1, h2, h3⟩ := ih ⟨c, (List.mem_cons.1 hc).resolve_left fun e => ha (e ▸ hv), hv⟩
    exact ⟨c1, List.mem_cons_of_mem _ h1, h2, (List.Perm.cons a h3).trans (List.Perm.swap c1 a _)⟩

theorem removeNodes_perm_of {ic : Interceptors} {pp : Bytes} {cs others : List Node} {c : Node}
    (hsh : ShL ic pp cs) (hp : cs.Perm (c :: others)) :
    (removeNodes cs c.seg.value).Perm others := by
  have hc : c ∈ cs := hp.mem_iff.2 (by simp)
  obtain ⟨c1, h1, h2, h3⟩ := removeNodes_perm cs c.seg.value ⟨c, hc, rfl⟩
  have : c1 = c := hsh.eq_of_value h1 hc h2
  subst this
  exact (h3.symm.trans hp).cons_inv

theorem key_ne_of_sim_le {ic : Interceptors} {pp : Bytes} {c : Node} {seg : Seg} {v : Bytes}
    (hc : ChildOk ic pp c) (hv : WfVal v) (hseg : newSegment ic v = .ok seg)
    (h1 : c.seg.similarity seg ≠ -1) (h2 : c.seg.similarity seg ≤ 0) : ckey c ≠ vkey v := by
  have hval := newSegment_value ic v seg hseg
  have e : seg.value ≠ c.seg.value := fun e => h1 (Seg.similarity_neg_one_iff.2 e)
  unfold ckey
  by_cases hk : seg.kind = c.seg.kind
  · rw [Seg.similarity_same_kind e hk] at h2
    rw [hval] at h2 e
    exact fun e' => vkey_ne_of_lp_le hv hc.1 e h2 e'.symm
  · intro e'
    exact hk (kind_of_vkey ic hv hc.1 hseg hc.2.1 e'.symm)

theorem lpPos_of_sim {ic : Interceptors} {pp : Bytes} {c : Node} {seg : Seg} {v : Bytes} {l : Int}
    (hc : ChildOk ic pp c) (hv : WfVal v) (hseg : newSegment ic v = .ok seg)
    (h : c.seg.similarity seg = l) (hl : 0 < l) : LpPos c.seg.value v l.toNat := by
  have hlp := (Seg.similarity_pos (h ▸ hl)).2.2
  rw [h, newSegment_value ic v seg hseg, longestPrefix_comm] at hlp
  exact lpPos_of_wf hc.1 hv (by rw [← hlp]; omega) (by omega)

end Mux.P11
