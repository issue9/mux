/-
  Mux.Proofs.ConcOwned — the lock-free semantics (`RWLock.NoLock`) for threads that work on DISJOINT parts of the
  shared state ("one goroutine per instance"): with NO lock, writers included, any number of threads and any
  schedule, no two threads ever have conflicting next micro-accesses (`owned_drf`), and every thread computes
  exactly its own sequential program (`owned_seq`).
-/
import Mux.Proofs.RWLockFree
namespace Mux.RWLock
open NoLock

/-- Every operation and every location has an owner; the micro-accesses of an operation touch locations of its
owner only. -/
structure Owned (S : Sys) where
  owner : S.Op → Nat
  locOwner : S.Loc → Nat
  accs_owned : ∀ op, ∀ a ∈ S.accs op, locOwner a.1 = owner op

variable {S : Sys}

/-- **Race freedom without a lock for disjointly owned state.**  What a thread runs comes from its
program (`nProgInv_reachable`), so it owns its operation, and with it the locations of its pending
micro-accesses. -/
theorem owned_drf (O : Owned S) {s0 : S.σ} {progs : Nat → List S.Op}
    (hown : ∀ i, ∀ op ∈ progs i, O.owner op = i) {c : NConfig S} (h : NReachable s0 progs c)
    {i j : Nat} {a b : S.Loc × Bool} (hij : i ≠ j)
    (ha : (c.thr i).ph.next? = some a) (hb : (c.thr j).ph.next? = some b) : ¬ Conflict a b := by
  have key : ∀ (k : Nat) (x : S.Loc × Bool), (c.thr k).ph.next? = some x → O.locOwner x.1 = k := by
    intro k x hk
    obtain ⟨op, hop, hmem⟩ := (nProgInv_reachable h).next_mem hk
    exact (O.accs_owned op x hmem).trans (hown k op hop)
  intro hc
  have h1 := key i a ha
  rw [hc.1, key j b hb] at h1
  exact hij h1.symm

/-- The state has one component (`view i`) per owner; an operation reads and writes only the component of its
owner. -/
structure Local (S : Sys) (O : Owned S) where
  V : Type
  view : Nat → S.σ → V
  lsem : S.Op → V → V × S.Resp
  sem_own : ∀ op s, view (O.owner op) (S.sem op s).1 = (lsem op (view (O.owner op) s)).1 ∧
    (S.sem op s).2 = (lsem op (view (O.owner op) s)).2
  sem_other : ∀ op s j, j ≠ O.owner op → view j (S.sem op s).1 = view j s

variable {O : Owned S}

/-- Sequential run of a program on ONE component: `run` is the final component, `resps` the list of responses. -/
def Local.run (L : Local S O) (v : L.V) (ops : List S.Op) : L.V := ops.foldl (fun v op => (L.lsem op v).1) v
def Local.resps (L : Local S O) : L.V → List S.Op → List S.Resp
  | _, [] => []
  | v, op :: ops => (L.lsem op v).2 :: L.resps (L.lsem op v).1 ops

theorem Local.run_snoc (L : Local S O) (v : L.V) (ops : List S.Op) (op : S.Op) :
    L.run v (ops ++ [op]) = (L.lsem op (L.run v ops)).1 := by simp [Local.run]

theorem Local.resps_snoc (L : Local S O) (v : L.V) (ops : List S.Op) (op : S.Op) :
    L.resps v (ops ++ [op]) = L.resps v ops ++ [(L.lsem op (L.run v ops)).2] := by
  induction ops generalizing v with
  | nil => rfl
  | cons o ops ih => simp [Local.resps, Local.run, ih]

/-- Thread `t` with number `j`, completed operations `ds` and shared state `st`: the responses are
those of running `ds` alone; the thread's component is the result of running `ds`, and the operation in
flight once it has taken effect. -/
def SeqOwnAt (L : Local S O) (s0 : S.σ) (st : S.σ) (ds : List (NRec S)) (j : Nat) (t : NThread S) : Prop :=
  ds.map (·.resp) = L.resps (L.view j s0) (ds.map (·.op)) ∧
    match t.ph with
    | .running op _ (some r) => L.view j st = L.run (L.view j s0) (ds.map (·.op) ++ [op]) ∧
        r = (L.lsem op (L.run (L.view j s0) (ds.map (·.op)))).2
    | _ => L.view j st = L.run (L.view j s0) (ds.map (·.op))

def SeqOwnInv (L : Local S O) (s0 : S.σ) (c : NConfig S) : Prop :=
  ∀ j, SeqOwnAt L s0 c.st (c.doneOf j) j (c.thr j)

section
variable {s0 : S.σ} {progs : Nat → List S.Op} {c c' : NConfig S}

/-- Another thread's operation taking effect does not disturb thread `j`. -/
theorem SeqOwnAt.of_view {L : Local S O} {st st' : S.σ} {ds : List (NRec S)}
    {j : Nat} {t : NThread S} (h : SeqOwnAt L s0 st ds j t) (hv : L.view j st' = L.view j st) :
    SeqOwnAt L s0 st' ds j t := by
  refine ⟨h.1, ?_⟩
  have h2 := h.2
  match t.ph, h2 with
  | .idle, h2 => exact hv.trans h2
  | .running _ _ none, h2 => exact hv.trans h2
  | .running _ _ (some _), h2 => exact ⟨hv.trans h2.1, h2.2⟩

theorem seqOwnInv_step (L : Local S O)
    (hown : ∀ i, ∀ op ∈ progs i, O.owner op = i) (hP : NProgInv progs c)
    (h : SeqOwnInv L s0 c) (hs : NStep c c') : SeqOwnInv L s0 c' := by
  cases hs with
  | start i op rest hi =>
    have hi1 := h i
    rw [hi] at hi1
    exact forall_upd (P := fun j (t : NThread S) => SeqOwnAt L s0 c.st (c.doneOf j) j t) hi1 h
  | access i p op a todo resp hi =>
    have hi1 := h i
    rw [hi] at hi1
    refine forall_upd (P := fun j (t : NThread S) => SeqOwnAt L s0 c.st (c.doneOf j) j t) ?_ h
    cases resp <;> exact hi1
  | effect i p op todo hi =>
    have hown : O.owner op = i := hown i op (hP.running_mem (congrArg NThread.ph hi))
    obtain ⟨h1, h3⟩ := hi ▸ h i
    have ho := L.sem_own op c.st
    rw [hown] at ho
    exact forall_upd_ne (P := fun j (t : NThread S) => SeqOwnAt L s0 (S.sem op c.st).1 (c.doneOf j) j t)
      ⟨h1, by rw [ho.1, h3, L.run_snoc], by rw [ho.2, h3]⟩
      fun j hj => (h j).of_view (L.sem_other op c.st j (by rw [hown]; exact hj))
  | finish i p op r hi =>
    obtain ⟨h1, h3, h4⟩ := hi ▸ h i
    refine forall_upd_ne (P := fun j (t : NThread S) => SeqOwnAt L s0 c.st
      (List.filter (fun r : NRec S => r.tid = j) (c.done ++ [⟨i, op, r⟩])) j t) ?_ fun j hj => ?_
    · rw [filter_concat_pos (p := fun r : NRec S => r.tid = i) _ (decide_eq_true rfl)]
      show SeqOwnAt L s0 c.st (c.doneOf i ++ [⟨i, op, r⟩]) i ⟨p, .idle⟩
      unfold SeqOwnAt
      simp only [List.map_append, List.map_cons, List.map_nil]
      exact ⟨by rw [L.resps_snoc, h1, h4], h3⟩
    · rw [filter_concat_neg (p := fun r : NRec S => r.tid = j) _ (decide_eq_false (Ne.symm hj))]; exact h j

theorem seqOwnInv_reachable (L : Local S O)
    (hown : ∀ i, ∀ op ∈ progs i, O.owner op = i) (h : NReachable s0 progs c) :
    SeqOwnInv L s0 c := by
  induction h with
  | init => exact fun j => ⟨rfl, rfl⟩
  | step hc hs ih => exact seqOwnInv_step L hown (nProgInv_reachable hc) ih hs

/-- The first and the last clause hold of every run (`nProgInv_reachable`); ownership gives the values. -/
theorem owned_seq (L : Local S O)
    (hown : ∀ i, ∀ op ∈ progs i, O.owner op = i) (h : NReachable s0 progs c) (j : Nat) :
    (c.doneOf j).map (·.op) <+: progs j ∧
    (c.doneOf j).map (·.resp) = L.resps (L.view j s0) ((c.doneOf j).map (·.op)) ∧
    ((c.thr j).ph = .idle → L.view j c.st = L.run (L.view j s0) ((c.doneOf j).map (·.op)) ∧
      (c.doneOf j).map (·.op) ++ (c.thr j).prog = progs j) := by
  obtain ⟨h1, h2⟩ := seqOwnInv_reachable L hown h j
  have hp := (nProgInv_reachable h j).1
  refine ⟨⟨_, by rw [← List.append_assoc]; exact hp⟩, h1, fun hi => ?_⟩
  rw [hi] at h2 hp
  exact ⟨h2, by rw [← hp]; exact (congrArg (· ++ _) (List.append_nil _)).symm⟩

end

end Mux.RWLock
