/-
  Histories of a group and its router table (`GOp`, `gstep`, `grun`).  Closed forms: every router of the table is its initial
  state after its own plain history `effOps` (`gstep_get`, `grun_get`: `Group.Use`/`Group.Add` are `Router.Use` calls on the
  members); of the group's fields only the member list is not a function of the `Group.Use` arguments (`grun_fields`,
  `gstep_routers`).  The invariants are read off these: `P25.GInv M R`, generic in what is asked of added matchers (`M`) and of
  routers (`R`, kept by every router operation: `Router.Reach` for C05, `(·.recover = true)` for C16); `P24.GInv` (C13history):
  member names stay distinct, and no operation changes the name a table entry is known under (`grun_nameOf`).
-/
import Mux.Proofs.FoldRules
import Mux.Proofs.TreeReach
import Mux.Proofs.Group
namespace Mux.P10
open Mux

/-- Operations on a group and on the routers of its table. -/
inductive GOp where
  /-- `g.Add(matcher, router)` -/
  | add (mt : Matcher) (rid : Nat)
  /-- `g.Use(m...)` -/
  | use (m : List Nat)
  /-- `g.Remove(name)` -/
  | remove (name : Bytes)
  /-- a call on router `rid` through its own handle (`Handle/Remove/Clean/Use`) -/
  | router (rid : Nat) (op : ROp)
  deriving Repr

abbrev GState := Group × RTab

/-- `Group.Add` panics on a duplicate name / unknown router: the state is then unchanged. -/
def gstep (s : GState) : GOp → GState
  | .add mt rid => (s.1.add s.2 mt rid).getD s
  | .use m => s.1.use s.2 m
  | .remove name => (s.1.remove s.2 name, s.2)
  | .router rid op => match s.2.get? rid with
    | some r => (s.1, s.2.set rid (r.step op))
    | none => s

def grun (s : GState) (prog : List GOp) : GState := prog.foldl gstep s

theorem grun_snoc (s : GState) (prog : List GOp) (op : GOp) : grun s (prog ++ [op]) = gstep (grun s prog) op :=
  List.foldl_append ..

def Group.ids (g : Group) : List Nat := g.routers.map (·.1)

/-- What one group-level operation means for router `rid`. -/
def effOp (s : GState) (rid : Nat) : GOp → List ROp
  | .add mt rid' => if rid' = rid ∧ (s.1.add s.2 mt rid').isSome then [.use s.1.ms] else []
  | .use m => if rid ∈ Group.ids s.1 then [.use m] else []
  | .remove _ => []
  | .router rid' op => if rid' = rid then [op] else []

/-- The plain history of router `rid` inside a group history, in call order. -/
def effOps (s : GState) (rid : Nat) : List GOp → List ROp
  | [] => []
  | op :: rest => effOp s rid op ++ effOps (gstep s op) rid rest

def useFold (m : List Nat) (routers : List (Nat × Matcher)) (rt : RTab) : RTab :=
  routers.foldl (fun rt e =>
    match rt.get? e.1 with
    | some r => rt.set e.1 (r.use m)
    | none => rt) rt

theorem Group.use_snd (g : Group) (rt : RTab) (m : List Nat) : (g.use rt m).2 = useFold m g.routers rt := rfl

theorem useFold_get (m : List Nat) (routers : List (Nat × Matcher)) (hnd : (routers.map (·.1)).Nodup) (rt : RTab)
    (id : Nat) :
    (useFold m routers rt).get? id =
      if id ∈ routers.map (·.1) then (rt.get? id).map (·.use m) else rt.get? id := by
  induction routers generalizing rt with
  | nil => rfl
  | cons e routers ih =>
    rw [List.map_cons, List.nodup_cons] at hnd
    -- one member: its router, if the table has it, gets `Use m`
    rw [show useFold m (e :: routers) rt = useFold m routers (rt.update e.1 (·.use m)) from rfl, ih hnd.2,
      RTab.get?_update]
    by_cases hid : id = e.1
    · rw [if_pos hid, if_neg (hid ▸ hnd.1), if_pos (hid ▸ List.mem_cons_self), hid]
    · rw [if_neg hid]
      simp only [List.map_cons, List.mem_cons, hid, false_or]

end Mux.P10

namespace Mux.P24
open Mux.P10

/-- The arguments of the `Group.Use` calls of a history, in call order. -/
def useArgs : List GOp → List Nat
  | [] => []
  | .use m :: rest => m ++ useArgs rest
  | _ :: rest => useArgs rest

theorem useArgs_append (a b : List GOp) : useArgs (a ++ b) = useArgs a ++ useArgs b := by
  induction a with
  | nil => rfl
  | cons op a ih => cases op <;> simp [useArgs, ih]

end Mux.P24

namespace Mux.P10
open Mux.P24

theorem gstep_router (s : GState) (rid : Nat) (op : ROp) :
    gstep s (.router rid op) = (s.1, s.2.update rid (·.step op)) := by
  simp only [gstep, RTab.update]
  cases s.2.get? rid <;> rfl

/-- Of the group's fields a step moves the member list and, for `Use`, the middleware list and the not-found
handler. -/
theorem gstep_fields (s : GState) (op : GOp) :
    (gstep s op).1 = { s.1 with routers := (gstep s op).1.routers, ms := s.1.ms ++ useArgs [op],
                                notFound := wrapWith s.1.notFound [] [] [] (useArgs [op]) } := by
  cases op with
  | add mt rid =>
    simp only [gstep, useArgs, List.append_nil, wrapWith_nil]
    cases ha : s.1.add s.2 mt rid with
    | none => rfl
    | some res =>
      obtain ⟨r, _, _, h, _⟩ := Group.add_some_inv s.1 s.2 mt rid res.1 res.2 ha
      show res.1 = { s.1 with routers := res.1.routers }
      rw [h]
  | use m => simp only [gstep, useArgs, List.append_nil]; rfl
  | remove name => simp only [gstep, useArgs, List.append_nil, wrapWith_nil]; rfl
  | router rid op => simp only [gstep_router, useArgs, List.append_nil, wrapWith_nil]

theorem grun_fields (prog : List GOp) (s : GState) :
    (grun s prog).1 = { s.1 with routers := (grun s prog).1.routers, ms := s.1.ms ++ useArgs prog,
                                 notFound := wrapWith s.1.notFound [] [] [] (useArgs prog) } := by
  induction prog generalizing s with
  | nil => simp [grun, useArgs, wrapWith_nil]
  | cons op prog ih =>
    show (grun (gstep s op) prog).1 = _
    rw [ih, gstep_fields s op, show op :: prog = [op] ++ prog from rfl, useArgs_append]
    simp only [wrapWith_wrapWith, List.append_assoc]
    rfl

theorem grun_useInv (prog : List GOp) (s : GState) (h : C13.UseInv s.1) : C13.UseInv (grun s prog).1 := by
  unfold C13.UseInv at *
  rw [grun_fields]
  simp only [wrapWith, h, List.map_append]

theorem gstep_routers (s : GState) (op : GOp) :
    (gstep s op).1.routers = s.1.routers ∨
    (∃ mt rid r, op = .add mt rid ∧ s.2.get? rid = some r ∧ r.tree.name ∉ s.1.names s.2 ∧
      s.1.add s.2 mt rid = some (gstep s op) ∧ (gstep s op).1.routers = s.1.routers ++ [(rid, mt)]) ∨
    (∃ name, op = .remove name ∧ (gstep s op).1.routers = (s.1.remove s.2 name).routers) := by
  cases op with
  | add mt rid =>
    cases ha : s.1.add s.2 mt rid with
    | none => exact .inl (by simp only [gstep, ha]; rfl)
    | some res =>
      obtain ⟨r, hr, hd, h, _⟩ := Group.add_some_inv s.1 s.2 mt rid res.1 res.2 ha
      exact .inr (.inl ⟨mt, rid, r, rfl, hr, hd, by simp only [gstep, ha]; rfl, by simp only [gstep, ha]; exact congrArg Group.routers h⟩)
  | use m => exact .inl rfl
  | remove name => exact .inr (.inr ⟨name, rfl, rfl⟩)
  | router rid op => exact .inl (by rw [gstep_router])

theorem mem_names_of_mem_ids {g : Group} {rt : RTab} {rid : Nat} {r : Router} (h : rid ∈ Group.ids g)
    (hr : rt.get? rid = some r) : r.tree.name ∈ g.names rt := by
  unfold Group.ids at h
  rw [List.mem_map] at h
  obtain ⟨e, he, rfl⟩ := h
  unfold Group.names
  rw [List.mem_filterMap]
  exact ⟨e, he, by simp [hr]⟩

/-- Member ids stay pairwise distinct: `Add` refuses a router whose name a member has. -/
theorem ids_step {s : GState} (hnd : (Group.ids s.1).Nodup) (op : GOp) : (Group.ids (gstep s op).1).Nodup := by
  unfold Group.ids at *
  rcases gstep_routers s op with h | ⟨mt, rid, r, _, hr, hd, _, h⟩ | ⟨name, _, h⟩ <;> rw [h]
  · exact hnd
  · rw [List.map_append]
    exact hnd.snoc fun ha => hd (mem_names_of_mem_ids ha hr)
  · exact (List.Sublist.map _ List.filter_sublist).nodup hnd

theorem gstep_get (s : GState) (hnd : (Group.ids s.1).Nodup) (op : GOp) (rid : Nat) :
    (gstep s op).2.get? rid = (s.2.get? rid).map (·.run (effOp s rid op)) := by
  -- nothing happens to router `rid`
  have same : s.2.get? rid = (s.2.get? rid).map (·.run []) := by cases s.2.get? rid <;> rfl
  cases op with
  | add mt rid' =>
    simp only [gstep, effOp]
    cases ha : s.1.add s.2 mt rid' with
    | none => rw [if_neg (fun e => nomatch e.2)]; exact same
    | some res =>
      obtain ⟨g', rt'⟩ := res
      obtain ⟨r, hr, _, _, rfl⟩ := Group.add_some_inv s.1 s.2 mt rid' g' rt' ha
      rw [Option.getD_some, RTab.get?_set]
      by_cases h : rid = rid'
      · subst h; rw [if_pos rfl, if_pos ⟨rfl, rfl⟩, hr]; rfl
      · rw [if_neg h, if_neg (fun e => h e.1.symm)]; exact same
  | use m =>
    simp only [gstep, effOp, Group.use_snd]
    rw [useFold_get m s.1.routers hnd]
    by_cases h : rid ∈ Group.ids s.1
    · rw [if_pos h, if_pos (show rid ∈ s.1.routers.map (·.1) from h)]; cases s.2.get? rid <;> rfl
    · rw [if_neg h, if_neg (show rid ∉ s.1.routers.map (·.1) from h)]; exact same
  | remove name => exact same
  | router rid' op =>
    rw [gstep_router, RTab.get?_update]
    simp only [effOp]
    by_cases h : rid = rid'
    · subst h; rw [if_pos rfl, if_pos rfl]; rfl
    · rw [if_neg h, if_neg (fun e => h e.symm)]; exact same

theorem grun_get (prog : List GOp) : ∀ (s : GState), (Group.ids s.1).Nodup → ∀ rid,
    (grun s prog).2.get? rid = (s.2.get? rid).map (·.run (effOps s rid prog)) := by
  induction prog with
  | nil => intro s _ rid; simp only [grun, effOps, Router.run, List.foldl_nil]; cases s.2.get? rid <;> rfl
  | cons op rest ih =>
    intro s hnd rid
    have h1 := gstep_get s hnd op rid
    have h2 := ih (gstep s op) (ids_step hnd op) rid
    simp only [grun, List.foldl_cons] at h2 ⊢
    rw [h2, h1, effOps]
    cases s.2.get? rid with
    | none => rfl
    | some r => simp [Router.run_append]

end Mux.P10

namespace Mux.P25
open Mux Mux.P10

structure GInv (M : Matcher → Prop) (R : Router → Prop) (s : GState) : Prop where
  nodup : (Group.ids s.1).Nodup
  members : ∀ e ∈ s.1.routers, M e.2 ∧ ∃ r, s.2.get? e.1 = some r
  table : ∀ rid r, s.2.get? rid = some r → R r

variable {M : Matcher → Prop} {R : Router → Prop}

theorem get?_mem {rt : RTab} {id : Nat} {r : Router} (h : rt.get? id = some r) : (id, r) ∈ rt := by
  unfold RTab.get? at h
  rw [Option.map_eq_some_iff] at h
  obtain ⟨e, he, rfl⟩ := h
  have h1 := List.find?_some he
  have h2 := List.mem_of_find?_eq_some he
  simp only [decide_eq_true_eq] at h1
  subst h1
  exact h2

theorem GInv.init (g : Group) (hg : g.routers = []) (rt : RTab) (h0 : ∀ e ∈ rt, R e.2) : GInv M R (g, rt) :=
  ⟨by simp [Group.ids, hg], by simp [hg], fun _ _ h => h0 _ (get?_mem h)⟩

theorem members_step (s : GState) (op : GOp) (e : Nat × Matcher) (he : e ∈ (gstep s op).1.routers) :
    e ∈ s.1.routers ∨ ∃ mt rid, op = .add mt rid ∧ e = (rid, mt) ∧ ∃ r, s.2.get? rid = some r := by
  rcases gstep_routers s op with h | ⟨mt, rid, r, hop, hr, _, _, h⟩ | ⟨name, _, h⟩ <;> rw [h] at he
  · exact .inl he
  · rcases List.mem_append.1 he with he | he
    · exact .inl he
    · exact .inr ⟨mt, rid, hop, List.mem_singleton.1 he, r, hr⟩
  · exact .inl (List.mem_filter.1 he).1

theorem GInv.step (hR : ∀ r op, R r → R (r.step op)) {s : GState} (h : GInv M R s) (op : GOp)
    (hop : ∀ mt rid, op = .add mt rid → M mt) : GInv M R (gstep s op) := by
  have hget := gstep_get s h.nodup op
  refine ⟨ids_step h.nodup op, ?_, ?_⟩
  · intro e he
    have hsome : ∀ id r, s.2.get? id = some r → ∃ r', (gstep s op).2.get? id = some r' := by
      intro id r hr
      rw [hget id, hr]; exact ⟨_, rfl⟩
    rcases members_step s op e he with he | ⟨mt, rid, rfl, rfl, r, hr⟩
    · obtain ⟨h1, r, hr⟩ := h.members e he
      exact ⟨h1, hsome _ r hr⟩
    · exact ⟨hop mt rid rfl, hsome _ r hr⟩
  · intro rid r' hr'
    rw [hget rid, Option.map_eq_some_iff] at hr'
    obtain ⟨r, hr, rfl⟩ := hr'
    exact List.foldl_inv (fun r op _ => hR r op) (h.table rid r hr)

theorem GInv.run (hR : ∀ r op, R r → R (r.step op)) (prog : List GOp) {s : GState} (h : GInv M R s)
    (hm : ∀ mt rid, GOp.add mt rid ∈ prog → M mt) : GInv M R (grun s prog) :=
  List.foldl_inv (fun _ op hmem h => h.step hR op fun mt rid hop => hm mt rid (hop ▸ hmem)) h

end Mux.P25

namespace Mux.P24
open Mux Mux.P10

theorem run_name (r : Router) (ops : List ROp) : (r.run ops).tree.name = r.tree.name := by
  rw [Router.run_eq]; exact (sameCfg_run r.tree _).2.1

/-- A router keeps its name through its own history, so the closed forms `gstep_get`/`grun_get` of the table keep the
name every id is known under. -/
theorem nameOf_of_get {rt rt' : RTab} {id : Nat} {ops : List ROp} (h : rt'.get? id = (rt.get? id).map (·.run ops)) :
    rt'.nameOf id = rt.nameOf id := by
  unfold RTab.nameOf
  rw [h]
  cases rt.get? id with
  | none => rfl
  | some r => exact congrArg some (run_name r ops)

theorem gstep_nameOf {s : GState} (hnd : (Group.ids s.1).Nodup) (op : GOp) (id : Nat) :
    (gstep s op).2.nameOf id = s.2.nameOf id :=
  nameOf_of_get (gstep_get s hnd op id)

theorem grun_nameOf (prog : List GOp) {s : GState} (hnd : (Group.ids s.1).Nodup) (id : Nat) :
    (grun s prog).2.nameOf id = s.2.nameOf id :=
  nameOf_of_get (grun_get prog s hnd id)

structure GInv (s : GState) : Prop where
  names : (s.1.names s.2).Nodup
  ids : (Group.ids s.1).Nodup
  present : ∀ e ∈ s.1.routers, (s.2.nameOf e.1).isSome = true

theorem ginv_init (rt : RTab) : GInv (({} : Group), rt) :=
  ⟨List.nodup_nil, List.nodup_nil, fun e he => by cases he⟩

theorem nameOf_isSome {rt : RTab} {id : Nat} (h : (rt.nameOf id).isSome = true) : ∃ r, rt.get? id = some r := by
  unfold RTab.nameOf at h
  cases hr : rt.get? id with
  | none => rw [hr] at h; cases h
  | some r => exact ⟨r, rfl⟩

/-- `ids` and `present` are the instance `M := R := True` of the generic invariant `P25.GInv`. -/
theorem ginv_step {s : GState} (h : GInv s) (op : GOp) : GInv (gstep s op) := by
  have h25 : P25.GInv (fun _ => True) (fun _ => True) (gstep s op) :=
    P25.GInv.step (fun _ _ _ => trivial) ⟨h.ids, fun e he => ⟨trivial, nameOf_isSome (h.present e he)⟩,
      fun _ _ _ => trivial⟩ op (fun _ _ _ => trivial)
  refine ⟨?_, h25.nodup, fun e he => ?_⟩
  · -- no operation renames an entry of the table; the member list is the old one, one longer, or filtered
    rw [Group.names_eq, names_congr _ s.2 _ (gstep_nameOf h.ids op)]
    rcases gstep_routers s op with e | ⟨mt, rid, r, _, hr, hd, _, e⟩ | ⟨name, _, e⟩ <;> rw [e]
    · exact h.names
    · have e1 : [(rid, mt)].filterMap (fun e => s.2.nameOf e.1) = [r.tree.name] := by simp [RTab.nameOf, hr]
      rw [List.filterMap_append, e1]
      exact h.names.snoc hd
    · have e1 := Group.names_remove s.1 s.2 name
      rw [Group.names_eq] at e1
      rw [e1]
      exact h.names.filter _
  · obtain ⟨_, r, hr⟩ := h25.members e he
    rw [RTab.nameOf, hr]; rfl

theorem ginv_run (prog : List GOp) {s : GState} (h : GInv s) : GInv (grun s prog) :=
  List.foldl_inv (I := GInv) (fun _ op _ h => ginv_step h op) h

/-- The table entry of a member after a history is the entry the state before had under that id, after its own plain
history: `present` with the closed form `grun_get`. -/
theorem grun_member (prog : List GOp) {s : GState} (h : GInv s) {e : Nat × Matcher} (he : e ∈ (grun s prog).1.routers) :
    ∃ r0, s.2.get? e.1 = some r0 ∧ (grun s prog).2.get? e.1 = some (r0.run (effOps s e.1 prog)) := by
  obtain ⟨r, hr⟩ := nameOf_isSome ((ginv_run prog h).present e he)
  have hget := grun_get prog s h.ids e.1
  rw [hr, eq_comm, Option.map_eq_some_iff] at hget
  obtain ⟨r0, h0, rfl⟩ := hget
  exact ⟨r0, h0, hr⟩

end Mux.P24
