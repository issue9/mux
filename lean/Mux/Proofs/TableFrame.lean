/-
  Mux.Proofs.TableFrame — the frame clause of C03 for `Remove`: removing methods of the node `x` of a pattern (and
  pruning the emptied leaf chain) changes the answer of the matcher only in the handler map of `x`.  The argument is
  about the linear scan: the first success in child order is unchanged when a subtree that did not produce it is
  deleted or a node that was not the result loses handlers; of the parameters it needs only that the miss of a child
  hands them back (`P19.tryChild_miss_restore`).  It applies to every class `P` of trees with `Scanned P`, here `NoIdx`.
  `answer_mrel` turns a correspondence of the matcher's results (`MRel`) into one of the answers (`FoundRel`);
  `handler_mrel` is its form for `Tree.handler`.
-/
import Mux.Proofs.Table
import Mux.Proofs.Priority
import Mux.Proofs.Structure
import Mux.Proofs.ScanSpec
import Mux.Proofs.RestoreMatch
namespace Mux.P11
open Mux

/-- No first-byte index at this node, now and after a child is deleted. -/
def NoIdx (n : Node) : Prop := n.indexes = [] ∧ n.children.length < indexesSize

/-- What the frame property needs of the function applied at the end of the path. -/
structure FrameF (f : Node → Node) : Prop where
  seg : ∀ m, (f m).seg = m.seg
  pat : ∀ m, (f m).pattern = m.pattern
  children : ∀ m, (f m).children = m.children
  indexes : ∀ m, (f m).indexes = m.indexes
  empty : ∀ m, m.handlers = [] → (f m).handlers = []

theorem removeMethods_frameF (ht : Bool) (methods : List Bytes) : FrameF (removeMethods ht methods) := by
  have hfr := removeMethods_shape ht methods
  refine ⟨fun m => (hfr m).1, fun m => (hfr m).2.1, fun m => (hfr m).2.2.2, fun m => (hfr m).2.2.1, fun m h => ?_⟩
  exact List.eq_nil_of_sublist_nil (h ▸ removeMethods_sublist ht methods m)

theorem frameF_keeps {f : Node → Node} (hf : FrameF f) (m : Node) : m.SameShape (f m) :=
  ⟨hf.seg m, hf.pat m, hf.indexes m, hf.children m⟩

theorem removeAt_frameF {f : Node → Node} (hf : FrameF f) {path : List Nat} {n n' : Node}
    (h : n.removeAt f path = .ok n') : Node.Edit (fun _ _ => True) n n' :=
  removeAt_edit (fun m => ⟨trivial, frameF_keeps hf m⟩) h

/-- The two results agree for a request that was not dispatched to a pattern in `E` (the patterns
touched by the operation). -/
def FrameP (E : Bytes → Prop) (r r' : MR) : Prop :=
  match r with
  | .hit q ps1 => ¬ E q.pattern → ∃ q', r' = .hit q' ps1 ∧ q'.pattern = q.pattern ∧ q'.handlers = q.handlers
  | .miss ps1 => r' = .miss ps1
  | _ => True

abbrev FrameMR (xp : Bytes) (r r' : MR) : Prop := FrameP (fun pt => pt = xp) r r'

/-- The result `r'` after an operation against the result `r` before it: a miss stays a miss with the
same parameters; a hit on a node `q` for which the operation answers (`G q`) stays a hit, with the
same parameters, on a node that stands for `q` (`H q q'`). -/
def MRel (G : Node → Prop) (H : Node → Node → Prop) (r r' : MR) : Prop :=
  match r with
  | .hit q ps1 => G q → ∃ q', r' = .hit q' ps1 ∧ H q q'
  | .miss ps1 => r' = .miss ps1
  | _ => True

/-- `MRel` for an operation that touches the nodes with a pattern in `E` only: a hit on a node with another pattern
stays a hit on a node with that pattern and the same handler map.  The frame theorems are proved in this form;
`FrameP` is its written-out reading. -/
abbrev FrameRel (E : Bytes → Prop) : MR → MR → Prop :=
  MRel (fun q => ¬ E q.pattern) (fun q q' => q'.pattern = q.pattern ∧ q'.handlers = q.handlers)

theorem frameP_iff {E : Bytes → Prop} {r r' : MR} : FrameP E r r' ↔ FrameRel E r r' := by
  cases r <;> exact Iff.rfl

section
variable {G : Node → Prop} {H : Node → Node → Prop}

theorem MRel.refl (hH : ∀ q, H q q) (r : MR) : MRel G H r r := by
  cases r with
  | hit q ps1 => exact fun _ => ⟨q, rfl, hH q⟩
  | miss ps1 => exact rfl
  | fault s => trivial
  | unsupported => trivial

theorem MRel.onMiss {r r' : MR} {k k' : Params → MR} (h : MRel G H r r')
    (hk : ∀ ps, r = .miss ps → MRel G H (k ps) (k' ps)) : MRel G H (r.onMiss k) (r'.onMiss k') := by
  cases r with
  | hit q ps1 =>
    intro hg
    obtain ⟨q', e, hq⟩ := h hg
    subst e
    exact ⟨q', rfl, hq⟩
  | miss ps1 =>
    have e : r' = .miss ps1 := h
    subst e
    exact hk ps1 rfl
  | fault s => trivial
  | unsupported => trivial

theorem MRel.trans {G' : Node → Prop} {H' H'' : Node → Node → Prop} {r r' r'' : MR} (h1 : MRel G H r r')
    (h2 : MRel G' H' r' r'') (hG : ∀ q q', G q → H q q' → G' q')
    (hH : ∀ q q' q'', H q q' → H' q' q'' → H'' q q'') : MRel G H'' r r'' := by
  cases r with
  | hit q ps1 =>
    intro hg
    obtain ⟨q', e, hq⟩ := h1 hg
    subst e
    obtain ⟨q'', e', hq'⟩ := h2 (hG q q' hg hq)
    exact ⟨q'', e', hH q q' q'' hq hq'⟩
  | miss ps1 =>
    have e : r' = .miss ps1 := h1
    subst e
    exact h2
  | fault s => trivial
  | unsupported => trivial

theorem MRel.child {env : Env} {ic : Interceptors} {c c' : Node} {rp : Bytes} {ps : Params}
    (hseg : c'.seg = c.seg)
    (hc : ∀ cap rs, MRel G H (c.matchChildren env ic rs (c.seg.record cap ps))
      (c'.matchChildren env ic rs (c.seg.record cap ps))) :
    MRel G H (tryChild env ic c rp ps) (tryChild env ic c' rp ps) := by
  rw [tryChild_eq, tryChild_eq, hseg]
  cases c.seg.match env ic rp with
  | no => exact rfl
  | unsupported => trivial
  | yes cap rs => exact (hc cap rs).onMiss (fun _ _ => rfl)

theorem MRel.scan_cons {env : Env} {ic : Interceptors} {c c' : Node} {cs cs' : List Node} {rp : Bytes} {ps : Params}
    (hq : ∀ ps', tryChild env ic c rp ps = .miss ps' → ps' = ps)
    (hc : MRel G H (tryChild env ic c rp ps) (tryChild env ic c' rp ps))
    (hcs : MRel G H (matchFrom env ic cs 0 rp ps) (matchFrom env ic cs' 0 rp ps)) :
    MRel G H (matchFrom env ic (c :: cs) 0 rp ps) (matchFrom env ic (c' :: cs') 0 rp ps) := by
  rw [matchFrom_zero, matchFrom_zero]
  refine hc.onMiss (fun ps' hm => ?_)
  rw [hq ps' hm]
  exact hcs

/-- The scan when its first child is deleted: a subtree none of whose hits the operation answers for. -/
theorem MRel.scan_drop {env : Env} {ic : Interceptors} {c : Node} {cs cs' : List Node} {rp : Bytes} {ps : Params}
    (hq : ∀ ps', tryChild env ic c rp ps = .miss ps' → ps' = ps)
    (hc : ∀ q ps1, tryChild env ic c rp ps = .hit q ps1 → ¬ G q)
    (hcs : MRel G H (matchFrom env ic cs 0 rp ps) (matchFrom env ic cs' 0 rp ps)) :
    MRel G H (matchFrom env ic (c :: cs) 0 rp ps) (matchFrom env ic cs' 0 rp ps) := by
  rw [matchFrom_zero]
  cases hm : tryChild env ic c rp ps with
  | hit q ps1 => exact fun hg => absurd hg (hc q ps1 hm)
  | miss ps' =>
    rw [hq ps' hm]
    exact hcs
  | fault s => trivial
  | unsupported => trivial

/-- Children that are tried first and stay as they are. -/
theorem MRel.scan_append (hH : ∀ q, H q q) {env : Env} {ic : Interceptors} {l1 cs cs' : List Node} {rp : Bytes}
    {ps : Params} (hq : ∀ c ∈ l1, ∀ ps', tryChild env ic c rp ps = .miss ps' → ps' = ps)
    (hcs : MRel G H (matchFrom env ic cs 0 rp ps) (matchFrom env ic cs' 0 rp ps)) :
    MRel G H (matchFrom env ic (l1 ++ cs) 0 rp ps) (matchFrom env ic (l1 ++ cs') 0 rp ps) := by
  induction l1 with
  | nil => exact hcs
  | cons a l1 ih =>
    exact MRel.scan_cons (hq a List.mem_cons_self) (MRel.refl hH _) (ih fun c hc => hq c (List.mem_cons_of_mem _ hc))

theorem MRel.self {n n' : Node} {rp : Bytes} {r r' : MR} (h : MRel G H r r')
    (hback : n'.handlers ≠ [] → n.handlers ≠ [])
    (hn : n.handlers ≠ [] → G n → n'.handlers ≠ [] ∧ H n n') :
    MRel G H (P8.selfStep n rp r) (P8.selfStep n' rp r') := by
  rw [P8.selfStep_eq, P8.selfStep_eq]
  refine h.onMiss (fun ps2 _ => ?_)
  by_cases hrp : rp.isEmpty = true
  · by_cases hne : n.handlers = []
    · have hne' : n'.handlers = [] := Classical.byContradiction fun h' => hback h' hne
      simp only [hne, hne', List.length_nil, Nat.lt_irrefl, and_false, if_false]
      exact rfl
    · have hpos : n.handlers.length > 0 := List.length_pos_iff.2 hne
      simp only [hrp, hpos, and_self, if_true]
      intro hg
      obtain ⟨hne', hH⟩ := hn hne hg
      have hpos' : n'.handlers.length > 0 := List.length_pos_iff.2 hne'
      simp only [hpos', and_self, if_true]
      exact ⟨n', rfl, hH⟩
  · simp only [hrp]
    exact rfl

end

theorem FrameRel.refl (E : Bytes → Prop) (r : MR) : FrameRel E r r :=
  MRel.refl (fun _ => ⟨rfl, rfl⟩) r

/-- A class of nodes that the tree operations preserve and on whose trees `matchChildren` is the linear
scan followed by the self step, on parameters with one entry per key (on which a miss leaves no trace whatever the
names, `P19.tryChild_miss_restore`). -/
structure Scanned (P : Node → Prop) : Prop where
  closed : P8.Closed P
  idxLit : ∀ {n : Node}, Node.All P n → Node.All IdxLit n
  scan : ∀ (env : Env) (ic : Interceptors) {n : Node} {rp : Bytes} {ps : Params},
    Node.All P n → ps.keys.Nodup →
    n.matchChildren env ic rp ps = P8.selfStep n rp (matchFrom env ic n.children 0 rp ps)

theorem Scanned.quiet {P : Node → Prop} (hP : Scanned P) {env : Env} {ic : Interceptors} {c : Node} (hc : Node.All P c)
    {rp : Bytes} {ps : Params} (hnd : ps.keys.Nodup) (ps' : Params) (h : tryChild env ic c rp ps = .miss ps') : ps' = ps :=
  P19.tryChild_miss_restore (hP.idxLit hc) hnd h

theorem buildIndexes_small {cs : List Node} (h : cs.length < indexesSize) : buildIndexes cs = .ok [] := by
  unfold buildIndexes; simp [h]

theorem scanned_noIdx : Scanned NoIdx where
  closed := {
    congr := fun h _ hi hs => by
      have hlen := congrArg List.length hs
      simp only [List.length_map] at hlen
      exact ⟨hi.trans h.1, hlen ▸ h.2⟩
    sublist := fun h _ hs hi => by
      have hlen : _ ≤ _ := hs.length_le
      simp only [List.length_map] at hlen
      have hsmall := Nat.lt_of_le_of_lt hlen h.2
      rw [buildIndexes_small hsmall] at hi
      exact ⟨(Except.ok.inj hi).symm, hsmall⟩
    empty := fun _ _ _ _ => ⟨rfl, Nat.zero_lt_succ _⟩ }
  idxLit := fun h => (AllL_mono (fun _ hm => IdxLit.of_nil hm.1)).1 _ h
  scan := fun env ic _ _ _ h _ => P8.matchChildren_noIndex env ic _ h.head.1 _ _

/-- The results of the matcher before and after an operation that turns the handler map of the node `x` into
`hs'` — deleting `x` when `hs'` is empty — and touches nothing else: a hit on a node that still exists stays a hit on
a node with the same pattern and, unless that node is `x`, the same handlers. -/
abbrev RemMR (x : Node) (hs' : AMap Handler) : MR → MR → Prop :=
  MRel (fun q => q = x → hs' ≠ [])
    (fun q q' => q'.pattern = q.pattern ∧ (q'.handlers = q.handlers ∨ (q = x ∧ q'.handlers = hs')))

theorem RemMR.refl (x : Node) (hs' : AMap Handler) (r : MR) : RemMR x hs' r r :=
  MRel.refl (fun _ => ⟨rfl, .inl rfl⟩) r

theorem RemMR.frame {x : Node} {hs' : AMap Handler} {r r' : MR} (h : RemMR x hs' r r') :
    FrameRel (fun pt => pt = x.pattern) r r' := by
  cases r with
  | hit q ps1 =>
    intro hne
    obtain ⟨q', e, hp, hh⟩ := h (fun e => absurd (e ▸ rfl) hne)
    refine ⟨q', e, hp, hh.elim id (fun hx => absurd (hx.1 ▸ rfl) hne)⟩
  | miss ps1 => exact h
  | fault s => trivial
  | unsupported => trivial

theorem Scanned.tryChild_emptied {P : Node → Prop} (hP : Scanned P) (env : Env) (ic : Interceptors) {c : Node}
    (hc : Node.All P c) (hs : c.size = 0) (hcs : c.children.isEmpty = true) (rp : Bytes) {ps : Params}
    (hnd : ps.keys.Nodup) (q : Node) (ps1 : Params) : tryChild env ic c rp ps ≠ .hit q ps1 := by
  have hnil : c.children = [] := by simpa using hcs
  have hh : c.handlers.length = 0 := hs
  rw [tryChild_eq]
  cases c.seg.match env ic rp with
  | no => exact fun e => by cases e
  | unsupported => exact fun e => by cases e
  | yes cap rs =>
    simp only
    rw [hP.scan env ic hc (P19.nodup_record _ cap hnd), P8.selfStep_eq, hnil, matchFrom]
    simp [MR.onMiss, hh]

/-- **The frame property of `removeAt`.**  On a tree matched by the scan, removing handlers of the node `x` at the
path — and pruning the chain of leaves this empties — changes the result of the matcher at most in the handler
map of `x`. -/
theorem removeAt_match {P : Node → Prop} (hP : Scanned P) (env : Env) (ic : Interceptors) (f : Node → Node)
    (hf : FrameF f) :
    ∀ (path : List Nat) (n n' x : Node), Node.All P n → n.getAt path = some x →
      n.removeAt f path = .ok n' → ∀ (rp : Bytes) (ps : Params), ps.keys.Nodup →
      RemMR x (f x).handlers (n.matchChildren env ic rp ps) (n'.matchChildren env ic rp ps) := by
  intro path
  induction path with
  | nil =>
    intro n n' x hn hx h rp ps hnd
    cases (Node.getAt_nil n).symm.trans hx
    cases (Node.removeAt_nil f n).symm.trans h
    have hn' : Node.All P (f n) :=
      (Node.Edit.own (H := fun _ _ => True) trivial (frameF_keeps hf n)).closed hP.closed hn
    rw [hP.scan env ic hn hnd, hP.scan env ic hn' hnd, hf.children]
    exact (RemMR.refl _ _ _).self (fun h e => h (hf.empty n e))
      (fun _ hg => ⟨hg rfl, hf.pat n, .inr ⟨rfl, rfl⟩⟩)
  | cons i path ih =>
    intro n n' x hn hx h rp ps hnd
    have hn' : Node.All P n' := (removeAt_frameF hf h).closed hP.closed hn
    rw [hP.scan env ic hn hnd, hP.scan env ic hn' hnd]
    obtain ⟨l1, c, l2, c', hs, hl, hc', hres⟩ := Node.removeAt_cons_ok.1 h
    have hall : AllL P (l1 ++ c :: l2) := hs ▸ hn.tail
    have hcP : Node.All P c := (AllL_iff _ _).1 hall c (by simp)
    have hc'P : Node.All P c' := (removeAt_frameF hf hc').closed hP.closed hcP
    have hl1 : ∀ d ∈ l1, ∀ ps', tryChild env ic d rp ps = .miss ps' → ps' = ps :=
      fun d hd => hP.quiet ((AllL_iff _ _).1 hall d (List.mem_append_left _ hd)) hnd
    rw [hs]
    -- the child the path runs through, before and after
    have hchild : RemMR x (f x).handlers (tryChild env ic c rp ps) (tryChild env ic c' rp ps) :=
      MRel.child (removeAt_frameF hf hc').top.1 fun cap rs =>
        ih c c' x hcP (getAt_split hs hl hx) hc' rs _ (P19.nodup_record _ cap hnd)
    have hscan : RemMR x (f x).handlers (matchFrom env ic (l1 ++ c :: l2) 0 rp ps)
        (matchFrom env ic n'.children 0 rp ps) := by
      split at hres
      · -- the emptied leaf is deleted: it produced no hit that still counts
        rename_i hempty
        obtain ⟨idx', _, rfl⟩ := hres
        refine MRel.scan_append (fun _ => ⟨rfl, .inl rfl⟩) hl1 ?_
        refine MRel.scan_drop (hP.quiet hcP hnd) (fun q ps1 hq hg => ?_) (RemMR.refl _ _ _)
        have := hchild
        rw [hq] at this
        obtain ⟨q', e, _⟩ := this hg
        exact hP.tryChild_emptied env ic hc'P hempty.1 hempty.2 rp hnd q' ps1 e
      · subst hres
        exact MRel.scan_append (fun _ => ⟨rfl, .inl rfl⟩) hl1
          (MRel.scan_cons (hP.quiet hcP hnd) hchild (RemMR.refl _ _ _))
    obtain ⟨_, hpat, _, hhs'⟩ := Node.own_eq_iff.1 (Node.removeAt_cons_own h)
    exact hscan.self (by rw [hhs']; exact id) (fun hne _ => ⟨by rw [hhs']; exact hne, hpat, .inl hhs'⟩)

theorem frame_setMi (env : Env) (ic : Interceptors) (E : Bytes → Prop) (n : Node) (mi : Nat)
    (rp : Bytes) (ps : Params) :
    FrameRel E (n.matchChildren env ic rp ps) ((n.setHandlers n.handlers mi).matchChildren env ic rp ps) := by
  rw [matchChildren_spec, matchChildren_spec]
  exact MRel.onMiss (FrameRel.refl E _) fun ps1 _ => (FrameRel.refl E _).self id fun hne _ => ⟨hne, rfl, rfl⟩

/-- The matcher of the tree after its root was replaced and the method counters were recounted, when the old and
the new root correspond (`H` looking at pattern and handlers only). -/
theorem recount_matched {G : Node → Prop} {H : Node → Node → Prop}
    (hH : ∀ q q' q'', H q q' → q''.pattern = q'.pattern → q''.handlers = q'.handlers → H q q'')
    {t : Tree} {root1 : Node} (env : Env) (rp : Bytes) (hroot : G t.root → H t.root root1)
    (hmc : MRel G H (t.root.matchChildren env t.ic rp []) (root1.matchChildren env t.ic rp [])) :
    MRel G H (t.matched env rp []) ((Tree.recount { t with root := root1 }).matched env rp []) := by
  unfold Tree.matched
  by_cases hsp : rp = [42] ∨ rp = []
  · simp only [hsp, if_true]
    exact fun hg => ⟨_, rfl, hH _ _ _ (hroot hg) rfl rfl⟩
  · simp only [hsp, if_false]
    exact hmc.trans (frame_setMi env t.ic (fun _ => False) root1 _ rp []) (fun _ _ _ _ => not_false)
      (fun q q' q'' h h' => hH q q' q'' h h'.1 h'.2)

/-- Two answers of `Tree.handler` agree in what a caller sees, and the answering nodes correspond (`H`). -/
def FoundRel (H : Node → Node → Prop) (f f' : Found) : Prop :=
  f'.handler = f.handler ∧ f'.ok = f.ok ∧ f'.params = f.params ∧ (f.node = none → f'.node = none) ∧
    ∀ q, f.node = some q → ∃ q', f'.node = some q' ∧ H q q'

/-- What the frame property says about two answers of `Tree.handler`. -/
def SameAnswer (f f' : Found) : Prop :=
  f'.handler = f.handler ∧ f'.ok = f.ok ∧ f'.params = f.params ∧
    ∀ q, f.node = some q → ∃ q', f'.node = some q' ∧ q'.pattern = q.pattern ∧ q'.handlers = q.handlers

theorem SameAnswer.of_foundRel {f f' : Found}
    (h : FoundRel (fun q q' => q'.pattern = q.pattern ∧ q'.handlers = q.handlers) f f') : SameAnswer f f' :=
  ⟨h.1, h.2.1, h.2.2.1, h.2.2.2.2⟩

/-- **From the matcher's result to the answer.**  The answer to a request that hit the node `n` depends on `n` only
through the emptiness of its handler map and its entries for the method and for 405.  So when the results of the
matcher correspond (`MRel G H`; `G` need only hold of the node that was hit, which is the only node that can answer)
and corresponding nodes agree in these, the answers correspond. -/
theorem answer_mrel {G : Node → Prop} {H : Node → Node → Prop} {t t1 : Tree} {method : Bytes} {r r' : MR} {f : Found}
    (hfr : MRel G H r r') (hG : ∀ n ps', r = .hit n ps' → (∀ q, f.node = some q → q = n) → G n)
    (hH : ∀ q q', H q q' → (q'.handlers = [] ↔ q.handlers = []) ∧
      (method ≠ mNotAllowed → q'.handlers.get? method = q.handlers.get? method) ∧
      q'.handlers.get? mNotAllowed = q.handlers.get? mNotAllowed)
    (hnf : f.node = none → t1.notFound = t.notFound) (hres : t.answer method r = .res f) :
    ∃ f', t1.answer method r' = .res f' ∧ FoundRel H f f' := by
  cases r with
  | fault s => cases hres
  | unsupported => cases hres
  | miss ps' =>
    cases (show r' = .miss ps' from hfr)
    cases hres
    exact ⟨_, rfl, hnf rfl, rfl, rfl, fun _ => rfl, nofun⟩
  | hit n ps' =>
    obtain rfl := HR.res.inj hres
    by_cases h0 : n.handlers = []
    · rw [if_pos h0] at hnf hG ⊢
      obtain ⟨q', rfl, hq'⟩ := hfr (hG n ps' rfl nofun)
      rw [Tree.answer, if_pos ((hH n q' hq').1.2 h0)]
      exact ⟨_, rfl, hnf rfl, rfl, rfl, fun _ => rfl, nofun⟩
    · rw [if_neg h0] at hnf hG ⊢
      obtain ⟨q', rfl, hq'⟩ := hfr (hG n ps' rfl fun q hq => by simpa using hq.symm)
      obtain ⟨h1, h2, h3⟩ := hH n q' hq'
      rw [Tree.answer, if_neg (mt h1.1 h0), Node.answer_congr ps' h2 h3]
      exact ⟨_, rfl, rfl, rfl, rfl, fun h => by simp at h,
        fun q hq => ⟨q', rfl, (show q = n by simpa using hq.symm) ▸ hq'⟩⟩

/-- **From the matcher to `Tree.handler`**: `answer_mrel` for two trees with the same TRACE handler whose roots
correspond (the TRACE short-circuit answers with the root). -/
theorem handler_mrel {G : Node → Prop} {H : Node → Node → Prop} {env : Env} {t t1 : Tree} {rp method : Bytes}
    {ps : Params} {f : Found} (htr : t1.trace = t.trace) (hroot : H t.root t1.root)
    (hfr : MRel G H (t.matched env rp ps) (t1.matched env rp ps))
    (hG : ∀ n ps', t.matched env rp ps = .hit n ps' → (∀ q, f.node = some q → q = n) → G n)
    (hH : ∀ q q', H q q' → (q'.handlers = [] ↔ q.handlers = []) ∧
      (method ≠ mNotAllowed → q'.handlers.get? method = q.handlers.get? method) ∧
      q'.handlers.get? mNotAllowed = q.handlers.get? mNotAllowed)
    (hnf : f.node = none → t1.notFound = t.notFound)
    (hres : t.handler env rp ps method = .res f) :
    ∃ f', t1.handler env rp ps method = .res f' ∧ FoundRel H f f' := by
  rcases Tree.handler_cases env t rp ps method with ⟨h, ht, rfl, e⟩ | ⟨hno, e⟩
  · rw [e] at hres
    cases hres
    exact ⟨_, Tree.handler_trace env t1 rp ps h (htr ▸ ht), rfl, rfl, rfl, nofun, fun q hq => ⟨_, rfl, by cases hq; exact hroot⟩⟩
  · rw [e, handlerNoTrace_eq] at hres
    rw [Tree.handler_noTrace (htr ▸ hno), handlerNoTrace_eq]
    exact answer_mrel hfr hG hH hnf hres

theorem handler_frame {env : Env} {t t1 : Tree} {E : Bytes → Prop} {rp method : Bytes} {f : Found} {q : Node}
    (htr : t1.trace = t.trace)
    (hfr : FrameRel E (t.matched env rp []) (t1.matched env rp []))
    (hp : t1.root.pattern = t.root.pattern) (hh : t1.root.handlers = t.root.handlers)
    (hres : t.handler env rp [] method = .res f) (hq : f.node = some q) (hne : ¬ E q.pattern) :
    ∃ f', t1.handler env rp [] method = .res f' ∧ SameAnswer f f' := by
  have hnone : f.node ≠ none := fun h => by rw [hq] at h; cases h
  obtain ⟨f', h1, h2⟩ := handler_mrel htr ⟨hp, hh⟩ hfr (fun n _ _ hself => hself q hq ▸ hne)
    (fun _ _ h => ⟨by rw [h.2], fun _ => by rw [h.2], by rw [h.2]⟩) (absurd · hnone) hres
  exact ⟨f', h1, .of_foundRel h2⟩

/-- `Tree.remove` on the matcher: nothing happens, or the handler map of THE node `x` with the pattern is reduced
and the results correspond up to that. -/
theorem remove_matched {P : Node → Prop} (hP : Scanned P) {t t' : Tree} (hpat : Node.PatternOk t.root)
    (hroot : t.root.pattern = []) (hall : Node.All P t.root) {p : Bytes} {methods : List Bytes}
    (he : t.remove p methods = .ok t') :
    t' = t ∨ ∃ x ∈ nodesL t.root.children, x.pattern = p ∧ ∃ root1, t' = ({ t with root := root1 }).recount ∧
      t'.root.pattern = t.root.pattern ∧ t'.root.handlers = t.root.handlers ∧
      ∀ env rp, RemMR x (removeMethods t.hasTrace methods x).handlers (t.matched env rp []) (t'.matched env rp []) := by
  rcases Tree.remove_inv he with ⟨rfl, _⟩ | ⟨path, root1, hpath, hrem, rfl⟩
  · exact .inl rfl
  · obtain ⟨x, hx, hxp, hpne⟩ := findPath_sound_of_patternOk t.root hpat p path hpath
    rw [hroot, List.nil_append] at hxp
    have hF := removeMethods_frameF t.hasTrace methods
    obtain ⟨i, path, rfl⟩ := List.exists_cons_of_ne_nil hpne
    obtain ⟨_, hpat1, _, hhs1⟩ := Node.own_eq_iff.1 (Node.removeAt_cons_own hrem)
    refine .inr ⟨x, getAt_mem_below hx, hxp, root1, rfl, hpat1, hhs1, fun env rp => ?_⟩
    refine recount_matched (fun _ _ _ h hp hh => ⟨hp.trans h.1, hh ▸ h.2⟩) env rp
      (fun _ => ⟨hpat1, .inl hhs1⟩) ?_
    exact removeAt_match hP env t.ic _ hF _ t.root root1 x hall hx hrem rp [] List.nodup_nil

/-- The frame clause of C03 for `Remove` on a tree matched by the scan. -/
theorem frame_remove_of {P : Node → Prop} (hP : Scanned P) {t t' : Tree} (hpat : Node.PatternOk t.root)
    (hroot : t.root.pattern = []) (hall : Node.All P t.root) {p : Bytes}
    {methods : List Bytes} (he : t.remove p methods = .ok t') {env : Env} {rp method : Bytes} {f : Found} {q : Node}
    (hres : t.handler env rp [] method = .res f) (hq : f.node = some q) (hne : q.pattern ≠ p) :
    ∃ f', t'.handler env rp [] method = .res f' ∧ SameAnswer f f' := by
  rcases remove_matched hP hpat hroot hall he with rfl | ⟨x, _, rfl, root1, rfl, hpat1, hhs1, hm⟩
  · exact ⟨f, hres, rfl, rfl, rfl, fun q0 h0 => ⟨q0, h0, rfl, rfl⟩⟩
  · exact handler_frame (t := t) (E := fun pt => pt = x.pattern) rfl (hm env rp).frame hpat1 hhs1 hres hq hne

theorem frame_remove {t t' : Tree} (hinv : TInv t) (hno : Node.All NoIdx t.root) {p : Bytes} {methods : List Bytes}
    (he : t.remove p methods = .ok t') {env : Env} {rp method : Bytes} {f : Found} {q : Node}
    (hres : t.handler env rp [] method = .res f) (hq : f.node = some q) (hne : q.pattern ≠ p) :
    ∃ f', t'.handler env rp [] method = .res f' ∧ SameAnswer f f' :=
  frame_remove_of scanned_noIdx (patternOk_of_sh _ _ hinv.sh) hinv.rootPat hno he hres hq hne

end Mux.P11
