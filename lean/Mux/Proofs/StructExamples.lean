/-
  Concrete instances for the non-vacuity examples of C01b/C02:
  * `exR`: the tree REACHED by the history `[Handle("/{id}", h, GET)]` from a fresh tree, evaluated
    once through the fuel version of `getNode` (`exR_eq`);
  * `exS`: a hand-built tree with five literal siblings (so that the first-byte index is in use) and
    one named sibling; it satisfies `StructInv` (checked by `decide`).
-/
import Mux.Proofs.ScanSpec
import Mux.Proofs.StructDistinct
import Mux.Proofs.DecEq
import Mux.Proofs.RunFuel
namespace Mux.P8
open Mux

instance (ic : Interceptors) (pp : Bytes) (c : Node) : Decidable (ChildOk ic pp c) := by unfold ChildOk; infer_instance
instance (cs : List Node) : Decidable (RankSorted cs) := by unfold RankSorted; infer_instance
instance (ic : Interceptors) (n : Node) : Decidable (SOk ic n) :=
  decidable_of_iff ((∀ c ∈ n.children, ChildOk ic n.pattern c) ∧ RankSorted n.children ∧ buildIndexes n.children = .ok n.indexes)
    ⟨fun h => ⟨h.1, h.2.1, h.2.2⟩, fun h => ⟨h.child, h.sorted, h.index⟩⟩
instance (n : Node) : Decidable (DistinctFirstBytes n) := by unfold DistinctFirstBytes; infer_instance

def exH : Handler := { base := .user 1 }
def exT0 : Tree := Tree.new [114] [] { base := .notFound } none
/-- `/{id}` -/
def exPat : Bytes := [47, 123, 105, 100, 125]
def exSegId : Seg := { value := [123, 105, 100, 125], kind := .named, name := [105, 100], endpoint := true }
def exR : Tree := exT0.run [.add exPat exH [] [mGET]]

/-- The tree after the history `[Handle("/{id}", h, GET)]`, in explicit form: `"" → "/" → "{id}"`. -/
def exRExplicit : Tree :=
  { exT0 with
    root := .mk { value := [] } [] 257 exT0.root.handlers []
      [.mk { value := [47] } [47] 0 [] [] [.mk exSegId exPat 385 (P10.getHandlers exH) [] []]],
    counts := [(mGET, 1)] }

theorem exR_eq : exR = exRExplicit := by rw [exR, Tree.run_eq_F]; decide +kernel

theorem exR_reach : exR.Reach := ⟨_, _, _, _, _, _, _, rfl⟩

/-- `/{id}` is a tidy pattern: its pieces are `/` and `{id}`. -/
theorem exPat_tidy : TidyPattern exPat := by
  intro v hv
  have hsp : splitString exPat = [[47], [123, 105, 100, 125]] := by decide +kernel
  rw [hsp] at hv
  simp only [List.mem_cons, List.not_mem_nil, or_false] at hv
  rcases hv with rfl | rfl
  · exact .inl (by decide)
  · exact .inr ⟨[105, 100], [], rfl, by decide, by decide⟩

theorem exR_reachTidy : ReachTidy exR :=
  ⟨_, _, _, _, _, _, [.add exPat exH [] [mGET]], by
    intro op hop
    simp only [List.mem_singleton] at hop
    subst hop
    exact exPat_tidy, rfl⟩

theorem exR_names : NamesOkL [] exR.root.children := by rw [exR_eq]; decide +kernel

theorem exR_shape : exR.root.children.map (fun c => (c.seg.value, c.children.map (fun d => (d.seg.value, d.pattern, d.handlers.keys)))) =
    [([47], [([123, 105, 100, 125], exPat, [mHEAD, mGET, mOPTIONS, mNotAllowed])])] := by
  rw [exR_eq]; decide +kernel

def exLit (b : UInt8) : Node := .mk { value := [b] } [47, b] 1 [([71, 69, 84], { base := .user 1 })] [] []
def exPar : Node := .mk exSegId exPat 1 [([71, 69, 84], { base := .user 2 })] [] []
def exSlashS : Node :=
  .mk { value := [47] } [47] 0 [] [(97, 0), (98, 1), (99, 2), (100, 3), (101, 4)]
    [exLit 97, exLit 98, exLit 99, exLit 100, exLit 101, exPar]
def exS : Tree :=
  { root := .mk { value := [] } [] 0 [([], { base := .notAllowed })] [] [exSlashS], name := [114], notFound := { base := .notFound } }

theorem exS_struct : StructInv exS := by
  refine ⟨?_, rfl⟩
  simp only [exS, exSlashS, exLit, exPar, Node.All, AllL, and_true]
  decide +kernel

theorem exS_names : NamesOkL [] exS.root.children := by decide +kernel

theorem exS_distinct : ∀ n ∈ exS.root.nodes, DistinctFirstBytes n := by decide +kernel

theorem exSlashS_mem : exSlashS ∈ exS.root.nodes := by
  simp [exS, Node.nodes, nodesL, exSlashS]

end Mux.P8
