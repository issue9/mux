/-
  `checkMethods` (when the validation succeeds, which error it gives), the tree-wide counters as one fold (`incr` over
  a list of keys: `bumpMethods` over the listed methods, `countMethods` over the hand-registered keys of all nodes),
  and the rendering of the root's method index.
-/
import Mux.Proofs.TreeMethods
namespace Mux

/-- A method that `Handle` refuses: reserved or unknown. -/
def BadMethod (ht : Bool) (m : Bytes) : Prop :=
  m = mOPTIONS ∨ m = mHEAD ∨ (ht = true ∧ m = mTRACE) ∨ m ∉ methodsTable

/-- The pattern already has method `m`. -/
def Tree.hasMethodAt (t : Tree) (pattern m : Bytes) : Bool :=
  match t.root.findPath pattern with
  | some p =>
    match t.root.getAt p with
    | some n => n.handlers.contains m
    | none => false
  | none => false

theorem checkMethods_cons (t : Tree) (pattern m : Bytes) (rest seen : List Bytes) :
    t.checkMethods pattern (m :: rest) seen =
      if m = mOPTIONS ∨ m = mHEAD ∨ (t.hasTrace = true ∧ m = mTRACE) then .error .reserved
      else if isKnownMethod m = false then .error .unknownMethod
      else if seen.contains m = true then .error .dupMethod
      else if t.hasMethodAt pattern m = true then .error .dupMethod
      else t.checkMethods pattern rest (m :: seen) := by
  simp only [Tree.checkMethods, Tree.hasMethodAt, bind, Except.bind, throw, throwThe, MonadExceptOf.throw,
    Bool.not_eq_true]
  -- the first three guards are those of the model; the last is `hasMethodAt` written out
  refine ite_congr rfl (fun _ => rfl) fun _ => ite_congr rfl (fun _ => rfl) fun _ => ite_congr rfl (fun _ => rfl) fun _ => ?_
  split
  · next p hp =>
    split
    · next n hn => simp only [hp, hn]
    · next hn => simp only [hp, hn, Bool.false_eq_true, if_false]
  · next hp => simp only [hp, Bool.false_eq_true, if_false]

theorem not_badMethod_iff {ht : Bool} {m : Bytes} :
    ¬ BadMethod ht m ↔ ¬ (m = mOPTIONS ∨ m = mHEAD ∨ (ht = true ∧ m = mTRACE)) ∧ isKnownMethod m = true := by
  rw [isKnownMethod_iff]
  unfold BadMethod
  constructor
  · exact fun h => ⟨fun h' => h (h'.elim .inl fun h' => .inr (h'.elim .inl fun h' => .inr (.inl h'))),
      Classical.not_not.1 fun h' => h (.inr (.inr (.inr h')))⟩
  · rintro ⟨h1, h2⟩ (h | h | h | h)
    · exact h1 (.inl h)
    · exact h1 (.inr (.inl h))
    · exact h1 (.inr (.inr h))
    · exact h h2

theorem checkMethods_ok_iff (t : Tree) (p : Bytes) : ∀ (methods seen : List Bytes),
    t.checkMethods p methods seen = .ok () ↔
      methods.Nodup ∧ ∀ m ∈ methods, ¬ BadMethod t.hasTrace m ∧ m ∉ seen ∧ t.hasMethodAt p m = false
  | [], _ => by simp [Tree.checkMethods]
  | m :: rest, seen => by
    rw [checkMethods_cons]
    simp only [ite_error_eq_ok, checkMethods_ok_iff t p rest (m :: seen), List.nodup_cons, List.mem_cons,
      forall_eq_or_imp, not_badMethod_iff, not_or, Bool.not_eq_true, Bool.not_eq_false, List.contains_iff_mem]
    constructor
    · rintro ⟨h1, h2, h3, h4, h5, h6⟩
      exact ⟨⟨fun hm => (h6 m hm).2.1.1 rfl, h5⟩, ⟨⟨h1, h2⟩, by simpa using h3, h4⟩,
        fun x hx => ⟨(h6 x hx).1, (h6 x hx).2.1.2, (h6 x hx).2.2⟩⟩
    · rintro ⟨⟨h1, h2⟩, ⟨⟨h3, h4⟩, h5, h6⟩, h7⟩
      exact ⟨h3, h4, by simpa using h5, h6, h2,
        fun x hx => ⟨(h7 x hx).1, ⟨fun e => h1 (e ▸ hx), (h7 x hx).2.1⟩, (h7 x hx).2.2⟩⟩

theorem checkMethods_ok (t : Tree) (pattern : Bytes) (methods seen : List Bytes)
    (h : t.checkMethods pattern methods seen = .ok ()) : ∀ m ∈ methods, ¬ BadMethod t.hasTrace m :=
  fun m hm => (((checkMethods_ok_iff t pattern methods seen).1 h).2 m hm).1

theorem checkMethods_full (t : Tree) (p : Bytes) (methods seen : List Bytes)
    (h : t.checkMethods p methods seen = .ok ()) :
    methods.Nodup ∧ ∀ m ∈ methods, m ∉ seen ∧ t.hasMethodAt p m = false :=
  ⟨((checkMethods_ok_iff t p methods seen).1 h).1, fun m hm => (((checkMethods_ok_iff t p methods seen).1 h).2 m hm).2⟩

theorem checkMethods_bad (t : Tree) (pattern : Bytes) (methods seen : List Bytes)
    (hbad : ∃ m ∈ methods, BadMethod t.hasTrace m) :
    ∃ e, t.checkMethods pattern methods seen = .error e := by
  cases h : t.checkMethods pattern methods seen with
  | error e => exact ⟨e, rfl⟩
  | ok u =>
    obtain ⟨m, hm, hb⟩ := hbad
    exact absurd hb (checkMethods_ok t pattern methods seen h m hm)

theorem checkMethods_error_cases (t : Tree) (p : Bytes) : ∀ (methods seen : List Bytes) (e : Err),
    t.checkMethods p methods seen = .error e →
      e = .dupMethod ∨ ((e = .reserved ∨ e = .unknownMethod) ∧ ∃ m ∈ methods, BadMethod t.hasTrace m)
  | [], _, _, h => by simp [Tree.checkMethods] at h
  | m :: rest, seen, e, h => by
    rw [checkMethods_cons] at h
    simp only [ite_error_eq_error] at h
    rcases h with ⟨hres, rfl⟩ | ⟨hres, ⟨hkn, rfl⟩ | ⟨hkn, ⟨_, rfl⟩ | ⟨_, ⟨_, rfl⟩ | ⟨_, h⟩⟩⟩⟩
    · exact .inr ⟨.inl rfl, m, List.mem_cons_self, Classical.not_not.1 fun hb => (not_badMethod_iff.1 hb).1 hres⟩
    · refine .inr ⟨.inr rfl, m, List.mem_cons_self, Classical.not_not.1 fun hb => ?_⟩
      rw [(not_badMethod_iff.1 hb).2] at hkn; cases hkn
    · exact .inl rfl
    · exact .inl rfl
    · exact (checkMethods_error_cases t p rest _ e h).imp_right fun ⟨he, x, hx, hb⟩ => ⟨he, x, List.mem_cons_of_mem _ hx, hb⟩

theorem checkMethods_error (t : Tree) (pattern : Bytes) (methods seen : List Bytes) (e : Err)
    (h : t.checkMethods pattern methods seen = .error e) : e = .reserved ∨ e = .unknownMethod ∨ e = .dupMethod :=
  (checkMethods_error_cases t pattern methods seen e h).elim (fun h => .inr (.inr h))
    fun h => h.1.elim .inl fun h => .inr (.inl h)

theorem checkMethods_error_dup (t : Tree) (p : Bytes) (methods seen : List Bytes) (e : Err)
    (hbad : ∀ m ∈ methods, ¬ BadMethod t.hasTrace m) (h : t.checkMethods p methods seen = .error e) : e = .dupMethod :=
  (checkMethods_error_cases t p methods seen e h).elim id fun ⟨_, m, hm, hb⟩ => absurd hb (hbad m hm)

/-- A key of the tree-wide counter map. -/
def CountKeyOk (ht : Bool) (k : Bytes) : Prop := k ∈ methodsTable ∧ k ≠ mOPTIONS ∧ (ht = true → k ≠ mTRACE)

/-- The tree-wide counter map (`Tree.counts`, kept by `buildMethods`) has one entry per key, and only keys that are
counted: methods of `methodsTable` other than OPTIONS and, on a tree with a TRACE handler, TRACE. -/
structure CountsOk (ht : Bool) (counts : AMap Nat) : Prop where
  nodup : counts.keys.Nodup
  ok : ∀ k ∈ counts.keys, CountKeyOk ht k

theorem CountsOk.nil (ht : Bool) : CountsOk ht [] := ⟨by simp [AMap.keys], by simp [AMap.keys]⟩

theorem CountsOk.set {ht : Bool} {a : AMap Nat} (h : CountsOk ht a) {k : Bytes} (v : Nat) (hk : CountKeyOk ht k) :
    CountsOk ht (a.set k v) := by
  refine ⟨AMap.nodup_keys_set _ _ _ h.nodup, ?_⟩
  intro x hx
  rw [AMap.mem_keys_set] at hx
  rcases hx with hx | rfl
  · exact h.ok x hx
  · exact hk

/-- `buildMethods(+1)` for one method. -/
def incr (a : AMap Nat) (k : Bytes) : AMap Nat := a.set k ((a.get? k).getD 0 + 1)

theorem incrAll_get (m : Bytes) (ks : List Bytes) (a : AMap Nat) :
    ((ks.foldl incr a).get? m).getD 0 = (a.get? m).getD 0 + ks.count m := by
  induction ks generalizing a with
  | nil => simp
  | cons k ks ih =>
    rw [List.foldl_cons, ih, incr, AMap.get?_set, List.count_cons]
    by_cases hmk : m = k
    · subst hmk; simp; omega
    · simp [hmk, Ne.symm hmk]

theorem incrAll_ok {ht : Bool} (ks : List Bytes) (hk : ∀ k ∈ ks, CountKeyOk ht k) (a : AMap Nat) (h : CountsOk ht a) :
    CountsOk ht (ks.foldl incr a) :=
  List.foldl_inv (I := CountsOk ht) (fun _ k hkm hs => hs.set _ (hk k hkm)) h

/-- The hand-registered keys of all nodes of a forest, node by node. -/
def regKeysL (cs : List Node) : List Bytes := (nodesL cs).flatMap Node.registered

/-- The fold of `countMethods` over one handler map. -/
theorem handlersFold_eq (hs : AMap Handler) (acc : AMap Nat) :
    hs.foldl (fun a e => if e.1 = mHEAD ∨ e.1 = mOPTIONS ∨ e.1 = mNotAllowed then a
        else a.set e.1 ((a.get? e.1).getD 0 + 1)) acc =
      (hs.keys.filter fun k => k ≠ mHEAD ∧ k ≠ mOPTIONS ∧ k ≠ mNotAllowed).foldl incr acc := by
  induction hs generalizing acc with
  | nil => rfl
  | cons e hs ih =>
    rw [List.foldl_cons, ih]
    unfold AMap.keys
    rw [List.map_cons, List.filter_cons]
    by_cases hr : e.1 = mHEAD ∨ e.1 = mOPTIONS ∨ e.1 = mNotAllowed
    · rw [if_pos hr, if_neg (by
        simp only [ne_eq, decide_eq_true_eq]
        exact fun h => hr.elim h.1 fun hr => hr.elim h.2.1 h.2.2)]
    · rw [if_neg hr, if_pos (by simpa [not_or] using hr)]; rfl

theorem countMethods_eq (n : Node) (acc : AMap Nat) : n.countMethods acc = (regKeysL n.children).foldl incr acc := by
  induction n using Node.rec (motive_2 := fun cs => ∀ acc, countMethodsL cs acc = (regKeysL cs).foldl incr acc)
    generalizing acc with
  | mk s p mi hs idx cs ih => exact ih acc
  | nil => rfl
  | cons c cs ih1 ih2 =>
    simp only [countMethodsL]
    rw [ih2, ih1, handlersFold_eq, ← List.foldl_append, ← List.foldl_append]
    unfold regKeysL
    rw [nodesL, Node.nodes_eq, List.cons_append, List.flatMap_cons, List.flatMap_append]
    rfl

theorem countMethods_ok (ht : Bool) (n : Node) (hg : AllL (Good ht) n.children) (a : AMap Nat) (h : CountsOk ht a) :
    CountsOk ht (n.countMethods a) := by
  rw [countMethods_eq]
  refine incrAll_ok _ (fun k hk => ?_) a h
  -- a hand-registered key of a `Good` node is admissible and neither OPTIONS nor the 405 key
  obtain ⟨x, hx, hkx⟩ := List.mem_flatMap.1 hk
  obtain ⟨hkeys, hr⟩ := List.mem_filter.1 (show k ∈ x.handlers.keys.filter _ from hkx)
  have hr : k ≠ mHEAD ∧ k ≠ mOPTIONS ∧ k ≠ mNotAllowed := by simpa using hr
  have hgx : Good ht x := ((All_iff_nodes _).2 _).1 hg x hx
  rcases hgx.1.2 with h0 | h0
  · rw [h0] at hkeys; cases hkeys
  · exact (h0.adm k hkeys).elim (fun e => absurd e hr.2.2) fun h1 => ⟨h1.1, hr.2.1, h1.2⟩

/-- `Remove` and `Clean` recount the new tree, so what is asked of the tree is `TreeInv` after the step. -/
theorem counts_step {t : Tree} (hc : CountsOk t.hasTrace t.counts) (op : TOp) (hinv : TreeInv (t.step op)) :
    CountsOk (t.step op).hasTrace (t.step op).counts := by
  have ha := hinv.below
  rw [(sameCfg_step t op).1] at ha ⊢
  rcases t.step_cases op with h | ⟨ms, rfl⟩ | ⟨root', counts', hy, h⟩
  · rw [h]; exact hc
  · exact hc
  · rw [h] at ha ⊢
    cases hy with
    | add _ hcm =>
      -- the counters of the methods `checkMethods` let through are bumped
      refine incrAll_ok _ (fun m hm => ?_) _ hc
      have hbad : ¬ BadMethod t.hasTrace m := checkMethods_ok t _ _ _ hcm m hm
      exact ⟨Classical.not_not.1 fun h' => hbad (.inr (.inr (.inr h'))), fun h' => hbad (.inl h'),
        fun htr h' => hbad (.inr (.inr (.inl ⟨htr, h'⟩)))⟩
    | remove => exact countMethods_ok _ root' ha _ (CountsOk.nil _)
    | clean => exact countMethods_ok _ root' ha _ (CountsOk.nil _)

/-- `TreeInv` together with the shape of the counters. -/
structure TreeInv2 (t : Tree) : Prop extends TreeInv t where
  counts : CountsOk t.hasTrace t.counts

theorem inv2_new (name ic nf tr ob nb) : TreeInv2 (Tree.new name ic nf tr ob nb) :=
  ⟨inv_new name ic nf tr ob nb, CountsOk.nil _⟩

theorem inv2_step {t : Tree} (h : TreeInv2 t) (op : TOp) : TreeInv2 (t.step op) :=
  have h' := inv_step h.toTreeInv op
  ⟨h', counts_step h.counts op h'⟩

theorem inv2_run {t : Tree} (h : TreeInv2 t) (ops : List TOp) : TreeInv2 (t.run ops) :=
  Tree.run_inv (I := TreeInv2) (fun _ op _ h => inv2_step h op) h

/-- The methods with a positive tree-wide count. -/
def liveMethods (counts : AMap Nat) : List Bytes := AMap.keys (counts.filter (fun e => e.2 > 0))

/-- The methods whose bits add up to the root's method index (`rootMethodIndex_eq_mask`): OPTIONS, TRACE on a tree with
a TRACE handler, and the methods counted at least once. -/
def rootMaskKeys (ht : Bool) (counts : AMap Nat) : List Bytes :=
  mOPTIONS :: ((if ht then [mTRACE] else []) ++ liveMethods counts)

theorem rootMethodIndex_eq_mask (ht : Bool) (counts : AMap Nat) :
    rootMethodIndex ht counts = ((rootMaskKeys ht counts).map methodBit).sum := by
  unfold rootMethodIndex rootMaskKeys liveMethods
  rw [AMap.map_fst]
  cases ht <;> simp [Nat.add_assoc]

theorem liveMethods_sub {counts : AMap Nat} : (liveMethods counts).Sublist counts.keys := by
  unfold liveMethods AMap.keys
  exact List.Sublist.map _ List.filter_sublist

theorem rootMaskKeys_ok {ht : Bool} {counts : AMap Nat} (h : CountsOk ht counts) :
    (rootMaskKeys ht counts).Nodup ∧ ∀ k ∈ rootMaskKeys ht counts, k ∈ methodsTable := by
  obtain ⟨c1, c2, c3, c4, c5, c6, c7, c8, c9, c10⟩ := method_consts_ne
  obtain ⟨t1, t2, t3, t4, t5⟩ := mem_table_consts
  have hlive : ∀ k ∈ liveMethods counts, CountKeyOk ht k := fun k hk => h.ok k (liveMethods_sub.subset hk)
  have hnd : (liveMethods counts).Nodup := h.nodup.sublist liveMethods_sub
  unfold rootMaskKeys
  cases ht with
  | false =>
    simp only [Bool.false_eq_true, if_false, List.nil_append, List.nodup_cons, List.mem_cons, forall_eq_or_imp]
    exact ⟨⟨fun hm => (hlive _ hm).2.1 rfl, hnd⟩, t3, fun k hk => (hlive k hk).1⟩
  | true =>
    simp only [if_true, List.cons_append, List.nil_append, List.nodup_cons, List.mem_cons, forall_eq_or_imp]
    refine ⟨⟨?_, ?_, hnd⟩, t3, t4, fun k hk => (hlive k hk).1⟩
    · rintro (h' | h')
      · exact c9 h'
      · exact (hlive _ h').2.1 rfl
    · exact fun hm => (hlive _ hm).2.2 rfl rfl

theorem root_methods {t : Tree} (h : TreeInv2 t) (m : Bytes) :
    m ∈ t.root.methods ↔ m = mOPTIONS ∨ (t.hasTrace = true ∧ m = mTRACE) ∨ m ∈ liveMethods t.counts := by
  unfold Node.methods
  rw [h.rootMi, rootMethodIndex_eq_mask]
  obtain ⟨h1, h2⟩ := rootMaskKeys_ok h.counts
  rw [mem_renderMethods_sum _ h1 h2]
  unfold rootMaskKeys
  cases t.hasTrace <;> simp

end Mux
