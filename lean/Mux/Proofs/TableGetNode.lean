/-
  Mux.Proofs.TableGetNode — `getNode` (`addSegment`/`splitNode`) on a tree with the invariant `Sh`: the invariant
  survives (`Sh.gnLocal`, by the rule of GnStep.lean: the texts still to be placed satisfy `PiecesOk`, the search only
  goes on below a node whose text is not closed), the multiset of `(pattern, handlers)` entries does not change
  (`getNode_live`), and the returned path leads to a node whose pattern is the registered text (`getNode_shape`).
-/
import Mux.Proofs.TableShape
import Mux.Proofs.WOkGetNode
namespace Mux.P11
open Mux

/-- What `getNode ic n v rest = .ok r` guarantees (`tgt = n.pattern ++ v ++ rest.flatten`). -/
structure GPost (ic : Interceptors) (n : Node) (tgt : Bytes) (r : Node × List Nat) : Prop where
  all : Node.All (Sh ic) r.1
  seg : r.1.seg = n.seg
  pat : r.1.pattern = n.pattern
  hs : r.1.handlers = n.handlers
  path : r.2 ≠ []
  target : ∃ x, r.1.getAt r.2 = some x ∧ x.pattern = tgt
  live : (liveL r.1.children).Perm (liveL n.children)

theorem AllL_cons_iff {P : Node → Prop} {c : Node} {cs : List Node} :
    AllL P (c :: cs) ↔ Node.All P c ∧ AllL P cs := by simp [AllL]

theorem ent_congr {a b : Node} (h1 : a.pattern = b.pattern) (h2 : a.handlers = b.handlers) : ent a = ent b := by
  unfold ent; rw [h1, h2]

theorem liveN_noHandlers {n : Node} (h : n.handlers = []) : liveN n = liveL n.children := by
  unfold liveN ent; simp [h]

theorem PiecesOk.next {v v' : Bytes} {rest' : List Bytes} (h : PiecesOk v (v' :: rest')) :
    ¬ Closed v ∧ PiecesOk v' rest' := ⟨h.2.1, h.2.2⟩

theorem PiecesOk.dropped {v : Bytes} {rest : List Bytes} {l : Nat} (h : PiecesOk v rest)
    (hp : Plain (v.drop l)) (hvl : ¬ v.length ≤ l) : PiecesOk (v.drop l) rest := by
  exact h.replace (.inl ⟨mt List.drop_eq_nil_iff.1 hvl, hp⟩) hp.not_closed

theorem gnPrep_cont {ic : Interceptors} {n : Node} {v v' : Bytes} {rest rest' : List Bytes} {s : P9.GStep}
    (hn : Sh ic n) (hpc : PiecesOk v rest) (h : P9.gnPrep ic n v rest = .ok s) (hc : s.cont = some (v', rest')) :
    PiecesOk v' rest' ∧ ¬ Closed s.parent.seg.value := by
  obtain ⟨seg, hseg, _⟩ := P9.gnPrep_ok_iff.1 h
  -- the piece is used up: the next piece follows, so `v` is not closed
  have next : s.parent.seg.value = v → P9.restCont rest = some (v', rest') →
      PiecesOk v' rest' ∧ ¬ Closed s.parent.seg.value := by
    intro hpv hc
    rw [P9.restCont_some hc] at hpc
    exact ⟨hpc.next.2, hpv ▸ hpc.next.1⟩
  rcases P9.gnPrep_cut hseg h with ⟨hp, hc'⟩ | ⟨c, hcm, L, hL, _, hlp, hp, hc'⟩
  · exact next hp (hc'.symm.trans hc)
  · -- a similar child: the selected node carries the common part `v.take L`; what is left of `v` goes below it
    have Lp : LpPos c.seg.value v L := lpPos_of_wf (hn.1 c hcm).1 hpc.wf hlp hL
    rw [hc'] at hc
    by_cases hvl : v.length ≤ L
    · rw [if_pos hvl] at hc
      exact next (by rw [hp, Lp.takeEq, List.take_of_length_le hvl]) hc
    · rw [if_neg hvl] at hc
      cases hc
      exact ⟨hpc.dropped Lp.dropB hvl, hp ▸ Lp.notClosed⟩

/-- A node of a sublist `cs` of the children and one more child with a new key, sorted. -/
theorem Sh.sortedIn {ic : Interceptors} {n n1 x : Node} {cs : List Node} (hn : Sh ic n) (hsub : cs.Sublist n.children)
    (hx : ChildOk ic n.pattern x) (hkey : ∀ d ∈ cs, ckey d ≠ ckey x)
    (hn1 : sortNode (n.setChildren (cs ++ [x]) n.indexes) = .ok n1) : Sh ic n1 := by
  unfold Sh
  rw [(Node.own_eq_iff.1 (P9.sortNode_own hn1)).2.1]
  exact (ShL_perm (P9.sortNode_append_perm hn1)).2 (ShL_cons.2 ⟨hx, hkey, ShL_sublist hsub hn⟩)

theorem Sh.gnLocal (ic : Interceptors) : P9.GnLocal ic (Sh ic) PiecesOk (fun d => ¬ Closed d.seg.value) where
  set := fun h hd hnc ho =>
    have ho := Node.own_eq_iff.1 ho
    ShL_set h hd ho.1 ho.2.1 fun hcl _ => absurd hcl hnc
  setSeg := fun _ h => h
  empty := fun _ _ => ShL_nil _ _
  leaf := by
    intro n n1 v rest seg l i hn hpc hseg hsc hl hn1
    have hval := newSegment_value ic v seg hseg
    refine hn.head.sortedIn (x := newLeaf n.pattern seg) (List.Sublist.refl _) ⟨?_, ?_, ?_, fun _ => rfl⟩
      (fun d hd => ?_) hn1
    · simpa [newLeaf, hval] using hpc.wf
    · simpa [newLeaf, hval] using hseg
    · simp [newLeaf]
    · -- no child is similar to the new text: its key is new
      have := key_ne_of_sim_le (hn.head.1 d hd) hpc.wf hseg (scan_none hsc hl d hd).1 (scan_none hsc hl d hd).2
      simpa [ckey, newLeaf, hval] using this
  split := by
    intro n c ret n1 v rest seg s1 s2 l i hn hpc hseg hsc hl hc hlen hss hret hn1
    have L : LpPos c.seg.value v l.toNat :=
      lpPos_of_sim (hn.head.1 _ (List.mem_of_getElem? hc)) hpc.wf hseg (scan_similar hsc hl hc) (by omega)
    obtain ⟨others, p1, _⟩ := set_perm hc
    obtain ⟨hco, hkeys, _⟩ := ShL_cons.1 ((ShL_perm p1).1 hn.head)
    obtain ⟨hv1, hv2, hs1, hs2, rfl, _⟩ := P9.split_built hss hret hn1
    have hlower : ChildOk ic (n.pattern ++ s1.value) (c.setSeg s2) := by
      refine ⟨?_, hs2, ?_, fun hcl => ?_⟩
      · show WfVal s2.value
        rw [hv2]
        exact .inl ⟨mt List.drop_eq_nil_iff.1 hlen, L.dropA⟩
      · show c.pattern = n.pattern ++ s1.value ++ s2.value
        rw [hv1, hv2, List.append_assoc, List.take_append_drop]
        exact hco.2.2.1
      · exact absurd (show Closed s2.value from hcl) (hv2 ▸ L.dropA.not_closed)
    -- the upper half takes the place, and the key, of `c`
    refine ⟨ShL_cons.2 ⟨hlower, by simp, ShL_nil _ _⟩,
      hn.head.sortedIn (removeNodes_sublist _ _) ?_ (fun d hd => ?_) hn1⟩
    · exact ⟨show WfVal s1.value from hv1 ▸ L.wfTake, hs1, rfl,
        fun hcl => absurd (show Closed s1.value from hcl) (hv1 ▸ L.notClosed)⟩
    · show ckey d ≠ vkey s1.value
      rw [hv1, L.keyTake]
      exact hkeys d ((removeNodes_perm_of hn.head p1).mem_iff.1 hd)
  cont := fun hn hpc hs hc => gnPrep_cont hn.head hpc hs hc

theorem gnPrep_live {ic : Interceptors} {n : Node} {v : Bytes} {rest : List Bytes} {s : P9.GStep}
    (hn : Sh ic n) (h : P9.gnPrep ic n v rest = .ok s) : (liveL s.n1.children).Perm (liveL n.children) := by
  obtain ⟨seg, hseg, hcase⟩ := P9.gnPrep_ok_iff.1 h
  cases hcase with
  | identical => exact List.Perm.refl _
  | descend => exact List.Perm.refl _
  | leaf _ _ hn1 =>
    -- the new leaf has no entry
    refine (liveL_perm (P9.sortNode_append_perm hn1)).trans ?_
    rw [liveL_cons, liveN_noHandlers (by simp [newLeaf])]
    simp [newLeaf, liveL_nil]
  | @split l i j c ret n1 s1 s2 _ _ hc _ hss hret hn1 =>
    -- the upper half has no entry of its own; below it are the entries of `c`
    obtain ⟨others, p1, _⟩ := set_perm hc
    obtain ⟨_, _, _, _, rfl, hperm⟩ := P9.split_built hss hret hn1
    refine (liveL_perm (hperm.trans (List.Perm.cons _ (removeNodes_perm_of hn p1)))).trans ?_
    refine List.Perm.trans ?_ (liveL_perm p1.symm)
    rw [liveL_cons, liveL_cons]
    apply List.Perm.append_right
    rw [liveN_noHandlers rfl, Node.children_mk, liveL_singleton]
    unfold liveN
    rw [ent_congr (a := c.setSeg s2) (b := c) rfl rfl]
    exact List.Perm.refl _

theorem getNode_live (ic : Interceptors) (n : Node) (v : Bytes) (rest : List Bytes) :
    ∀ r, Node.All (Sh ic) n → PiecesOk v rest → getNode ic n v rest = .ok r →
      (liveL r.1.children).Perm (liveL n.children) := by
  induction n, v, rest using P9.getNode_induction ic with
  | step n v rest ih =>
    intro r hn hpc h
    obtain ⟨s, hs, hr⟩ := P9.getNode_ok_iff.1 h
    have hlive := gnPrep_live hn.head hs
    rcases hr with ⟨_, rfl⟩ | ⟨v', rest', p', path, hc, hrec, rfl⟩
    · exact hlive
    · have hpos := (P9.gnPrep_top hs).2
      have hp' := ih s v' rest' hs hc _ (P9.gnPrep_localK (Sh.gnLocal ic) hn hpc hs).2
        (gnPrep_cont hn.head hpc hs hc).1 hrec
      obtain ⟨rest0, p1, p2⟩ := set_perm hpos
      refine List.Perm.trans ?_ hlive
      show (liveL (s.n1.children.set s.j p')).Perm _
      refine (liveL_perm (p2 p')).trans (List.Perm.trans ?_ (liveL_perm p1.symm))
      rw [liveL_cons, liveL_cons]
      apply List.Perm.append_right
      unfold liveN
      rw [ent_congr (P9.getNode_pattern hrec) (P9.getNode_handlers hrec)]
      exact List.Perm.append_left _ hp'

theorem patK_of_sh {ic : Interceptors} : ∀ n : Node, Node.All (Sh ic) n → Node.All P10.PatK n :=
  (AllL_mono fun _ hm c hc => (hm.1 c hc).2.2.1).1

theorem getNode_shape (ic : Interceptors) (n : Node) (v : Bytes) (rest : List Bytes) :
    ∀ r, Node.All (Sh ic) n → PiecesOk v rest → getNode ic n v rest = .ok r →
      GPost ic n (n.pattern ++ v ++ rest.flatten) r := by
  intro r hn hpc h
  exact ⟨P9.getNode_localK (Sh.gnLocal ic) hn hpc h, P9.getNode_seg h, P9.getNode_pattern h, P9.getNode_handlers h,
    (P9.getNode_top ic n v rest r h).2.1,
    P10.getNode_target ic n v rest r (patK_of_sh n hn) h, getNode_live ic n v rest r hn hpc h⟩

end Mux.P11
