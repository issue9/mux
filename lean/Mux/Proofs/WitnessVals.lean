/-
  When `P17.MatchChain` holds (the hypothesis of the witness theorems, `Witness.lean`), from hypotheses on the values.
  `GoodChain`: every value is simple for its segment (`SimpleVal`: not a regexp segment, the constraint satisfied, no byte
  of the value in the literal text after the parameter) or, for a regexp segment, the anchored leftmost-first match on the
  rest of the witness path captures exactly the value (`RxExact`).  `RxExact` in turn follows from a hypothesis on the
  value ALONE (`RxSimple`: in the language of the rule, and the rule cannot consume the first byte of the literal text
  after the parameter, `Re.avoids`; for a regexp segment that ends the pattern: `Segment.Valid`), which gives `GoodVal` and
  the table form `witness_table_vals`.  `SimpleInTree` is the property text's "simple values".
-/
import Mux.Proofs.Witness
import Mux.Proofs.RxStable
import Mux.Proofs.MatchCap
namespace Mux.P14
open Mux Mux.P11

theorem newSegment_param {ic : Interceptors} {v : Bytes} {s : Seg} (h : newSegment ic v = .ok s) (hk : s.kind ≠ .str) :
    (∃ en, indexByte endByte v = some en ∧ s.suffix = v.drop (en + 1)) ∧
      (s.kind ≠ .rx → s.endpoint = decide (lastByte v = endByte)) ∧ (s.kind = .rx → isAscii s.suffix = true) := by
  cases (newSegment_ok_iff.1 h).2 with
  | lit => exact absurd rfl hk
  | named st en _ hen => exact ⟨⟨en, hen, rfl⟩, fun _ => rfl, fun e => by cases e⟩
  | namedColon st en sp _ hen => exact ⟨⟨en, hen, rfl⟩, fun _ => rfl, fun e => by cases e⟩
  | ruled st en sp s _ hen _ _ _ hf =>
    rcases ruledSeg_ok_cases hf with ⟨_, _, rfl⟩ | ⟨_, hasc, _, _, rfl⟩
    · exact ⟨⟨en, hen, rfl⟩, fun _ => rfl, fun e => by cases e⟩
    · exact ⟨⟨en, hen, rfl⟩, fun e => absurd rfl e, fun _ => hasc⟩

theorem suffix_nil_last {ic : Interceptors} {v : Bytes} {s : Seg} (h : newSegment ic v = .ok s) (hk : s.kind ≠ .str)
    (hs : s.suffix = []) : lastByte v = endByte := by
  obtain ⟨⟨en, hen, hsuf⟩, _⟩ := newSegment_param h hk
  have hlt := indexByte_some_lt hen
  have hlen : v.length - (en + 1) = 0 := by simpa [hsuf] using congrArg List.length hs
  have hen' : v.length - 1 = en := by omega
  rw [lastByte, hen', indexByte_some_get hen]
  rfl

/-- `v` is a simple value for the segment `s`: the segment is not a regexp, `v` satisfies the segment's
constraint, and no byte of `v` occurs in the literal text that follows the parameter in the segment. -/
def SimpleVal (env : Env) (ic : Interceptors) (s : Seg) (v : Bytes) : Prop :=
  s.kind ≠ .rx ∧ s.Satisfies env ic v ∧ ∀ b ∈ v, b ∉ s.suffix

/-- A segment of the tree matches the text it contributes to the witness path, with the intended capture and
the intended rest (`R` is empty after a segment that ends with `}`: such a node has no children). -/
theorem seg_match_simple {ic0 : Interceptors} (env : Env) (ic : Interceptors) {s : Seg}
    (hseg : newSegment ic0 s.value = .ok s) {v R : Bytes} (hs : SimpleVal env ic s v)
    (hend : lastByte s.value = endByte → R = []) :
    ∃ cap, s.match env ic (s.inst v ++ R) = .yes cap R := by
  obtain ⟨hrx, hsat, hbytes⟩ := hs
  by_cases hstr : s.kind = .str
  · refine ⟨[], ?_⟩
    rw [Seg.match_str env ic s _ hstr]
    simp [Seg.inst, hstr]
  have hk := kind_param hstr hrx
  have hacc := (Seg.satisfies_param hk v).1 hsat
  have hep : s.endpoint = decide (lastByte s.value = endByte) := (newSegment_param hseg hstr).2.1 hrx
  refine ⟨v, ?_⟩
  rw [Seg.inst_param hk]
  cases he : s.endpoint with
  | true =>
    rw [if_pos rfl, hend (by simpa [he] using hep.symm), List.append_nil, Seg.match_endpoint_eq env ic s _ hk he, hacc]
    rfl
  | false =>
    rw [if_neg Bool.false_ne_true, Seg.match_scan_yes_iff env ic s _ v R hk he]
    refine ⟨rfl, hacc, ?_⟩
    -- a candidate that starts inside `v` would put `v[i]` at the head of the (non-empty) suffix
    intro i hi hcon
    have hne : s.suffix ≠ [] := fun e => by
      rw [he] at hep
      exact absurd (suffix_nil_last hseg hstr e) (by simpa using hep.symm)
    have hhead := hcon.1.head hne
    simp only [List.head_drop, List.append_assoc, List.getElem_append_left hi] at hhead
    exact hbytes v[i] (List.getElem_mem _) (hhead ▸ List.head_mem hne)

end Mux.P14

namespace Mux.P17
open Mux Mux.P11 Mux.P14

/-- The exact hypothesis for a regexp segment `s`, value `v` and remaining path `R`: the anchored leftmost-first
match of `(rule)suffix` on `v ++ suffix ++ R` captures exactly `v` (and so leaves exactly `R`); and the segment is
inside the modelled domain of the regexp engine on that path. -/
def RxExact (s : Seg) (v R : Bytes) : Prop :=
  rxMatch s.re s.suffix (v ++ s.suffix ++ R) = some (v, R) ∧ (s.re.wide = true → isAscii (v ++ s.suffix ++ R) = true)

instance (s : Seg) (v R : Bytes) : Decidable (RxExact s v R) := by unfold RxExact; infer_instance

theorem seg_match_rx (env : Env) (ic : Interceptors) {s : Seg} (hk : s.kind = .rx) (hasc : isAscii s.suffix = true)
    {v R : Bytes} (h : RxExact s v R) : s.match env ic (s.inst v ++ R) = .yes v R := by
  have hinst : s.inst v = v ++ s.suffix := by simp [Seg.inst, hk]
  rw [hinst, Seg.match_rx_yes_iff env ic s _ v R hk]
  refine ⟨?_, h.1⟩
  rintro (⟨hw, hn⟩ | hn)
  · exact hn (h.2 hw)
  · exact hn hasc

/-- The value `v` is good for the segment `s` of the chain when the rest of the witness path is `R`:
`SimpleVal` for literal / named / interceptor segments, `RxExact` for regexp segments. -/
def GoodValAt (env : Env) (ic : Interceptors) (s : Seg) (v R : Bytes) : Prop :=
  SimpleVal env ic s v ∨ (s.kind = .rx ∧ RxExact s v R)

def GoodChain (env : Env) (ic : Interceptors) : List (Seg × Bytes) → Prop
  | [] => True
  | sv :: rest => GoodValAt env ic sv.1 sv.2 (instChain rest) ∧ GoodChain env ic rest

theorem goodChain_of_simple {env : Env} {ic : Interceptors} :
    ∀ {chain : List (Seg × Bytes)}, (∀ sv ∈ chain, SimpleVal env ic sv.1 sv.2) → GoodChain env ic chain
  | [], _ => trivial
  | sv :: _, h => ⟨.inl (h sv List.mem_cons_self), goodChain_of_simple fun sv' h' => h sv' (List.mem_cons_of_mem _ h')⟩

/-- A child whose text ends with `}` has no children: the chain ends there. -/
theorem chain_rest_nil {ic' : Interceptors} {pp : Bytes} {c x : Node} {rest : List (Seg × Bytes)}
    (hc : P11.ChildOk ic' pp c) (hlast : lastByte c.seg.value = endByte) (hch : Chain c (rest.map (·.1)) x) :
    instChain rest = [] := by
  have hne : c.seg.value ≠ [] := fun e => by rw [e] at hlast; exact absurd hlast (by decide)
  have hnil := hc.2.2.2 ((lastByte_closed hne).1 hlast)
  cases rest with
  | nil => rfl
  | cons sv rest' =>
    obtain ⟨s, v⟩ := sv
    rcases hch with _ | ⟨hc', _⟩
    rw [hnil] at hc'
    cases hc'

theorem matchChain_of_good {ic' : Interceptors} (env : Env) (ic : Interceptors) (chain : List (Seg × Bytes))
    (n x : Node) (hch : Chain n (chain.map (·.1)) x) (hsh : Node.All (Sh ic') n) (hgood : GoodChain env ic chain) :
    MatchChain env ic chain := by
  induction hch using Chain.vals_induction with
  | nil => trivial
  | @cons n c v rest hc hrest ih =>
    have hco := hsh.head.1 c hc
    refine ⟨?_, ih (AllL_mem hsh.tail hc) hgood.2⟩
    rcases hgood.1 with hsv | ⟨hk, hex⟩
    · exact seg_match_simple env ic hco.2.1 hsv (fun hl => chain_rest_nil hco hl hrest)
    · have hk' : c.seg.kind = .rx := hk
      exact ⟨v, seg_match_rx env ic hk ((newSegment_param hco.2.1 (by rw [hk']; decide)).2.2 hk') hex⟩

theorem matchChain_of_simple {ic' : Interceptors} (env : Env) (ic : Interceptors) (chain : List (Seg × Bytes))
    (n x : Node) (hch : Chain n (chain.map (·.1)) x) (hsh : Node.All (Sh ic') n)
    (h : ∀ sv ∈ chain, SimpleVal env ic sv.1 sv.2) : MatchChain env ic chain :=
  matchChain_of_good env ic chain n x hch hsh (goodChain_of_simple h)

/-- A hypothesis on the value alone: `v` is in the language of the rule, and
* if literal text follows the parameter inside the segment, the rule cannot consume its first byte;
* if the segment ends with the parameter (then it ends the pattern), matching `v` alone captures all of `v`
  (this is `Segment.Valid`). -/
def RxSimple (s : Seg) (v : Bytes) : Prop :=
  Re.Denotes s.re v ∧
    match s.suffix with
    | [] => rxMatch s.re [] v = some (v, [])
    | b :: _ => Re.avoids s.re b = true

theorem rxExact_of_simple {s : Seg} {v R : Bytes} (h : RxSimple s v) (hR : s.suffix = [] → R = [])
    (hw : s.re.wide = true → isAscii (v ++ s.suffix ++ R) = true) : RxExact s v R := by
  refine ⟨?_, hw⟩
  obtain ⟨hd, h2⟩ := h
  cases hs : s.suffix with
  | nil =>
    rw [hs] at h2
    have := hR hs
    subst this
    simpa using h2
  | cons b suf =>
    rw [hs] at h2
    exact rxMatch_extend s.re b suf v R h2 hd

/-- The exact hypothesis implies `Segment.Valid` (the strict URL check): `valid` is NECESSARY. -/
theorem valid_of_rxExact (env : Env) (ic : Interceptors) {s : Seg} (hk : s.kind = .rx) (hasc : isAscii s.suffix = true)
    {v R : Bytes} (h : RxExact s v R) : s.valid env ic v = some true :=
  P13.valid_of_capOk ⟨s.inst v ++ R, R, seg_match_rx env ic hk hasc h⟩

/-- The hypothesis on the values alone. -/
def GoodVal (env : Env) (ic : Interceptors) (s : Seg) (v : Bytes) : Prop :=
  SimpleVal env ic s v ∨ (s.kind = .rx ∧ RxSimple s v)

/-- From the hypothesis on the values alone to the exact one: in the tree a regexp segment without suffix has no
children, so the rest of the path is empty there. -/
theorem goodChain_of_vals {ic' : Interceptors} (env : Env) (ic : Interceptors) (chain : List (Seg × Bytes))
    (n x : Node) (hch : Chain n (chain.map (·.1)) x) (hsh : Node.All (Sh ic') n)
    (hgood : ∀ sv ∈ chain, GoodVal env ic sv.1 sv.2)
    (hasc : isAscii (instChain chain) = true ∨ ∀ sv ∈ chain, sv.1.kind = .rx → sv.1.re.wide = false) :
    GoodChain env ic chain := by
  induction hch using Chain.vals_induction with
  | nil => trivial
  | @cons n c v rest hc hrest ih =>
    have hco := hsh.head.1 c hc
    have hpath : instChain ((c.seg, v) :: rest) = c.seg.inst v ++ instChain rest := rfl
    have hasc' : isAscii (instChain rest) = true ∨ ∀ sv ∈ rest, sv.1.kind = .rx → sv.1.re.wide = false := by
      rcases hasc with h | h
      · rw [hpath, isAscii_append, Bool.and_eq_true] at h
        exact .inl h.2
      · exact .inr (fun sv h' => h sv (List.mem_cons_of_mem _ h'))
    refine ⟨?_, ih (AllL_mem hsh.tail hc) (fun sv h' => hgood sv (List.mem_cons_of_mem _ h')) hasc'⟩
    rcases hgood (c.seg, v) List.mem_cons_self with hsv | ⟨hk, hsim⟩
    · exact .inl hsv
    · replace hk : c.seg.kind = .rx := hk
      refine .inr ⟨hk, rxExact_of_simple hsim ?_ ?_⟩
      · exact fun hsuf => chain_rest_nil hco (suffix_nil_last hco.2.1 (by rw [hk]; decide) hsuf) hrest
      · intro hw
        rcases hasc with h | h
        · rw [hpath, show c.seg.inst v = v ++ c.seg.suffix by simp [Seg.inst, hk]] at h
          exact h
        · rw [h (c.seg, v) List.mem_cons_self hk] at hw
          cases hw

/-- **C03_witness, table form, with regexp segments.** -/
theorem witness_table_vals {t : Tree} (hinv : AllInv t) (env : Env) {p m : Bytes} (h : (tableOf t).has p m) :
    ∃ (x : Node) (segs : List Seg), Chain t.root segs x ∧ segs ≠ [] ∧ x.pattern = p ∧
      p = (segs.map (·.value)).flatten ∧ x.handlers.contains m = true ∧
      ∀ vs : List Bytes, vs.length = segs.length → (∀ sv ∈ segs.zip vs, GoodVal env t.ic sv.1 sv.2) →
        (isAscii (instChain (segs.zip vs)) = true ∨ ∀ s ∈ segs, s.kind = .rx → s.re.wide = false) →
        (∀ s, t.handler env (instChain (segs.zip vs)) [] m ≠ .fault s) ∧
        ∀ f, t.handler env (instChain (segs.zip vs)) [] m = .res f →
          ∃ q, f.node = some q ∧ q.handlers ≠ [] ∧
            (instChain (segs.zip vs) ≠ [] → instChain (segs.zip vs) ≠ [42] → (t.trace = none ∨ m ≠ mTRACE) →
              Diverges t.root segs x q) := by
  obtain ⟨x, segs, hch, hne, hp, hflat, hm, hw⟩ := witness_table_match hinv env h
  refine ⟨x, segs, hch, hne, hp, hflat, hm, fun vs hlen hgood hasc => hw vs hlen ?_⟩
  have hch' : Chain t.root ((segs.zip vs).map (·.1)) x := by rw [List.map_fst_zip (by omega)]; exact hch
  refine matchChain_of_good env t.ic _ t.root x hch' hinv.ti.sh
    (goodChain_of_vals env t.ic _ t.root x hch' hinv.ti.sh hgood ?_)
  exact hasc.imp_right fun h' sv hsv => h' sv.1 (List.of_mem_zip hsv).1

theorem instChain_lit : ∀ (segs : List Seg), (∀ s ∈ segs, s.kind = .str) →
    instChain (segs.zip (segs.map (fun _ => ([] : Bytes)))) = (segs.map (·.value)).flatten := by
  intro segs
  induction segs with
  | nil => intro _; rfl
  | cons s segs ih =>
    intro h
    simp only [List.map_cons, List.zip_cons_cons, instChain, List.flatten_cons]
    rw [ih (fun s' hs' => h s' (List.mem_cons_of_mem _ hs'))]
    have : s.kind = .str := h s List.mem_cons_self
    simp [Seg.inst, this]

/-- **Completeness for literal routes**: on a tree with the invariants of well-formed histories, a live pattern `p`
without `{` on which `m` is registered is never answered 404 for the path `p` itself. -/
theorem literal_found {t : Tree} (hinv : AllInv t) (env : Env) {p m : Bytes} (h : (tableOf t).has p m)
    (hlit : startByte ∉ p) :
    p ≠ [] ∧ ∀ f, t.handler env p [] m = .res f → ∃ q, f.node = some q ∧ q.handlers ≠ [] := by
  obtain ⟨x, segs, hch, hsne, _, hflat, _, hw⟩ := witness_table_vals hinv env h
  have hok : ∀ s ∈ segs, P9.SegOk t.ic s := fun s hs => by
    obtain ⟨c, hc, rfl⟩ := chain_seg_mem hch s hs
    exact ((All_iff_nodes _).2 _).1 (P9.wfL_all_segOk t.root [] hinv.wf) c hc
  have hkind : ∀ s ∈ segs, s.kind = .str := fun s hs => by
    rw [(hok s hs).str_of_noBrace fun hm => hlit (hflat ▸ List.mem_flatten.2 ⟨s.value, List.mem_map_of_mem hs, hm⟩)]
  -- the witness path with the empty value at every segment is `p` itself, and the empty value is simple
  have hinst := instChain_lit segs hkind
  rw [← hflat] at hinst
  have hgood : ∀ sv ∈ segs.zip (segs.map (fun _ => ([] : Bytes))), GoodVal env t.ic sv.1 sv.2 := by
    intro sv hsv
    obtain ⟨h1, h2⟩ := List.of_mem_zip hsv
    obtain ⟨_, _, e⟩ := List.mem_map.1 h2
    have hk := hkind _ h1
    exact .inl ⟨by rw [hk]; nofun, by unfold Seg.Satisfies; rw [hk]; trivial, by rw [← e]; exact fun _ hb => nomatch hb⟩
  obtain ⟨_, hw2⟩ := hw (segs.map (fun _ => [])) (by simp) hgood
    (.inr fun s hs hk => by rw [hkind s hs] at hk; cases hk)
  rw [hinst] at hw2
  refine ⟨fun hp => ?_, fun f hres => ?_⟩
  · obtain ⟨s, hs⟩ := List.exists_mem_of_ne_nil segs hsne
    rw [hp] at hflat
    exact (hok s hs).ne (List.flatten_eq_nil_iff.1 hflat.symm _ (List.mem_map_of_mem hs))
  · obtain ⟨q, hq, hqh, _⟩ := hw2 f hres
    exact ⟨q, hq, hqh⟩

end Mux.P17

namespace Mux.P14
open Mux Mux.P11

/-- The formalisation of "simple values" of the property text: every value satisfies its segment's constraint
(no regexp segments on the pattern's own chain) and shares no byte with the literal text of ANY segment of the
tree — the text of a literal segment, the text after the `}` of a parameter segment. -/
def SimpleInTree (env : Env) (t : Tree) (chain : List (Seg × Bytes)) : Prop :=
  ∀ sv ∈ chain, sv.1.kind ≠ .rx ∧ sv.1.Satisfies env t.ic sv.2 ∧
    ∀ b ∈ sv.2, ∀ n ∈ nodesL t.root.children, b ∉ n.seg.suffix ∧ (n.seg.kind = .str → b ∉ n.seg.value)

theorem SimpleInTree.simpleVal {env : Env} {t : Tree} {chain : List (Seg × Bytes)} {x : Node}
    (hch : Chain t.root (chain.map (·.1)) x) (h : SimpleInTree env t chain) :
    ∀ sv ∈ chain, SimpleVal env t.ic sv.1 sv.2 := by
  intro sv hsv
  obtain ⟨h1, h2, h3⟩ := h sv hsv
  obtain ⟨m, hm, e⟩ := chain_seg_mem hch sv.1 (List.mem_map_of_mem hsv)
  exact ⟨h1, h2, fun b hb => by rw [← e]; exact (h3 b hb m hm).1⟩

end Mux.P14
