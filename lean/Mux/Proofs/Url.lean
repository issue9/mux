/-
  Mux.Proofs.Url — non-strict reverse URL building and `Segment.Valid`.
-/
import Mux.Proofs.Tok
import Mux.Proofs.SegMatch
namespace Mux

/-- The text a segment contributes to a built URL. -/
def Seg.subst (ps : AMap Bytes) (s : Seg) : Bytes :=
  if s.kind = .str then s.value else (ps.get? s.name).getD [] ++ s.suffix

/-- Every parameter of the pattern has a value. -/
def ParamsPresent (ps : AMap Bytes) (segs : List Seg) : Prop :=
  ∀ s ∈ segs, s.kind ≠ .str → (ps.get? s.name).isSome

instance (ps : AMap Bytes) (segs : List Seg) : Decidable (ParamsPresent ps segs) := by
  unfold ParamsPresent; infer_instance

theorem urlLoop_eq (ps : AMap Bytes) (segs : List Seg) :
    urlLoop ps segs =
      if ParamsPresent ps segs then .ok (segs.map (Seg.subst ps)).flatten else .error .missingParam := by
  have hcons (s : Seg) (segs : List Seg) : ParamsPresent ps (s :: segs) ↔
      (s.kind ≠ .str → (ps.get? s.name).isSome) ∧ ParamsPresent ps segs := List.forall_mem_cons
  fun_induction urlLoop ps segs with
  | case1 => exact (if_pos (fun _ h => nomatch h)).symm
  | case2 s segs hk ih =>
    rw [ih]
    split
    next hp =>
      rw [if_pos ((hcons s segs).2 ⟨fun h => absurd hk h, hp⟩), List.map_cons, List.flatten_cons, Seg.subst, if_pos hk]
      rfl
    next hp => exact (if_neg fun h => hp ((hcons s segs).1 h).2).symm
  | case3 s segs hk hg => exact (if_neg fun h => by have := ((hcons s segs).1 h).1 hk; rw [hg] at this; cases this).symm
  | case4 s segs hk v hg ih =>
    rw [ih]
    split
    next hp =>
      rw [if_pos ((hcons s segs).2 ⟨fun _ => by rw [hg]; rfl, hp⟩), List.map_cons, List.flatten_cons, Seg.subst, if_neg hk, hg]
      rfl
    next hp => exact (if_neg fun h => hp ((hcons s segs).1 h).2).symm

theorem urlLoop_ok_iff (ps : AMap Bytes) (segs : List Seg) (u : Bytes) :
    urlLoop ps segs = .ok u ↔ ParamsPresent ps segs ∧ u = (segs.map (Seg.subst ps)).flatten := by
  rw [urlLoop_eq]
  by_cases hp : ParamsPresent ps segs
  · rw [if_pos hp]
    exact ⟨fun h => ⟨hp, (Except.ok.inj h).symm⟩, fun h => by rw [h.2]⟩
  · rw [if_neg hp]
    exact ⟨fun h => (nomatch h), fun h => absurd h.1 hp⟩

theorem urlLoop_error_iff (ps : AMap Bytes) (segs : List Seg) (e : Err) :
    urlLoop ps segs = .error e ↔ e = .missingParam ∧ ¬ ParamsPresent ps segs := by
  rw [urlLoop_eq]
  by_cases hp : ParamsPresent ps segs
  · rw [if_pos hp]
    exact ⟨fun h => (nomatch h), fun h => absurd hp h.2⟩
  · rw [if_neg hp]
    exact ⟨fun h => ⟨(Except.error.inj h).symm, hp⟩, fun h => by rw [h.1]⟩

theorem urlLoop_error (ps : AMap Bytes) (segs : List Seg) (e : Err) (h : urlLoop ps segs = .error e) :
    e = .missingParam := ((urlLoop_error_iff ps segs e).1 h).1

theorem urlLoop_all_str (ps : AMap Bytes) (segs : List Seg) (h : ∀ s ∈ segs, s.kind = .str) :
    urlLoop ps segs = .ok (segs.map (·.value)).flatten := by
  rw [urlLoop_ok_iff]
  refine ⟨fun s hs hk => absurd (h s hs) hk, ?_⟩
  congr 1
  apply List.map_congr_left
  intro s hs
  simp [Seg.subst, h s hs]

theorem Interceptors.url_ok_iff (ic : Interceptors) (p : Bytes) (ps : AMap Bytes) (u : Bytes) :
    ic.url p ps = .ok u ↔
      (p = [] ∧ u = []) ∨
      (∃ segs, split ic p = .ok segs ∧ ParamsPresent ps segs ∧ u = (segs.map (Seg.subst ps)).flatten) := by
  unfold Interceptors.url
  by_cases hp : p = []
  · subst hp
    simp only [if_true, Except.ok.injEq, true_and]
    constructor
    · rintro rfl; exact .inl rfl
    · rintro (rfl | ⟨segs, h, _⟩)
      · rfl
      · simp [split] at h
  · simp only [hp, if_false, false_and, false_or, bind, Except.bind]
    cases hs : split ic p with
    | error e => simp
    | ok segs =>
      simp only [Except.ok.injEq, exists_eq_left']
      exact urlLoop_ok_iff ps segs u

theorem Interceptors.url_error_iff (ic : Interceptors) (p : Bytes) (ps : AMap Bytes) (e : Err) :
    ic.url p ps = .error e ↔
      split ic p = .error e ∧ p ≠ [] ∨
      (∃ segs, split ic p = .ok segs ∧ e = .missingParam ∧ ¬ ParamsPresent ps segs) := by
  unfold Interceptors.url
  by_cases hp : p = []
  · subst hp
    simp [split]
  · simp only [hp, if_false, bind, Except.bind, ne_eq, not_false_eq_true, and_true]
    cases hs : split ic p with
    | error e' =>
      simp only [Except.error.injEq, reduceCtorEq, false_and, exists_false, or_false]
    | ok segs =>
      simp only [reduceCtorEq, false_or, Except.ok.injEq, exists_eq_left']
      exact urlLoop_error_iff ps segs e

theorem Interceptors.url_no_fault (ic : Interceptors) (p : Bytes) (ps : AMap Bytes) (n : Nat) :
    ic.url p ps ≠ .error (.fault n) := by
  unfold Interceptors.url
  split
  · simp
  · simp only [bind, Except.bind]
    split
    · rename_i e he
      intro h
      cases h
      exact split_no_fault ic p n he
    · intro h
      cases urlLoop_error _ _ _ h

theorem muxURL_nil (p : Bytes) : muxURL p [] = .ok p := rfl

theorem muxURL_eq (p : Bytes) (ps : AMap Bytes) (h : ps ≠ []) : muxURL p ps = urlNonStrict p ps := by
  cases ps with
  | nil => exact absurd rfl h
  | cons a r => simp [muxURL]

/-- The domain conditions of `Valid v` and `Match (v ++ suffix)` coincide. -/
theorem valid_dom_iff (s : Seg) (v : Bytes) :
    ((s.re.wide = true ∧ ¬ isAscii (v ++ s.suffix) = true) ∨ ¬ isAscii s.suffix = true) ↔
    ((s.re.wide = true ∧ ¬ isAscii v = true) ∨ ¬ isAscii s.suffix = true) := by
  rw [isAscii_append]
  cases isAscii v <;> cases isAscii s.suffix <;> simp

theorem Seg.valid_rx_eq (env : Env) (ic : Interceptors) (s : Seg) (v : Bytes) (hk : s.kind = .rx) :
    s.valid env ic v =
      if (s.re.wide = true ∧ ¬ isAscii v = true) ∨ ¬ isAscii s.suffix = true then none
      else match rxMatch s.re s.suffix (v ++ s.suffix) with
        | some (_, []) => some true
        | _ => some false := by
  simp only [Seg.valid, hk]
  split
  · rfl
  · rcases rxMatch s.re s.suffix (v ++ s.suffix) with _ | ⟨c, _ | ⟨b, r⟩⟩ <;> rfl

theorem rxMatch_whole (re : Re) (suffix v cap : Bytes)
    (h : rxMatch re suffix (v ++ suffix) = some (cap, [])) : cap = v ∧ Re.Denotes re v := by
  obtain ⟨hp, hd⟩ := rxMatch_sound _ _ _ _ _ h
  simp only [List.append_nil] at hp
  have := List.append_cancel_right hp
  subst this
  exact ⟨rfl, hd⟩

/-- `Match (v ++ suffix)` under the domain condition of `Valid v`. -/
theorem Seg.match_rx_suffix_eq (env : Env) (ic : Interceptors) (s : Seg) (v : Bytes) (hk : s.kind = .rx) :
    s.match env ic (v ++ s.suffix) =
      if (s.re.wide = true ∧ ¬ isAscii v = true) ∨ ¬ isAscii s.suffix = true then .unsupported
      else match rxMatch s.re s.suffix (v ++ s.suffix) with
        | some (cap, rest) => .yes cap rest
        | none => .no := by
  rw [Seg.match_rx_eq env ic s _ hk]
  exact ite_iff (valid_dom_iff s v) _ _

theorem Seg.valid_rx_true_iff (env : Env) (ic : Interceptors) (s : Seg) (v : Bytes) (hk : s.kind = .rx) :
    s.valid env ic v = some true ↔ s.match env ic (v ++ s.suffix) = .yes v [] := by
  rw [Seg.valid_rx_eq env ic s v hk, Seg.match_rx_suffix_eq env ic s v hk]
  split
  · exact ⟨nofun, nofun⟩
  · cases hm : rxMatch s.re s.suffix (v ++ s.suffix) with
    | none => simp
    | some x =>
      obtain ⟨cap, rest⟩ := x
      cases rest with
      | nil =>
        obtain ⟨rfl, _⟩ := rxMatch_whole _ _ _ _ hm
        simp
      | cons b r => simp

theorem Seg.valid_rx_sound (env : Env) (ic : Interceptors) (s : Seg) (v : Bytes) (hk : s.kind = .rx)
    (h : s.valid env ic v = some true) : Re.Denotes s.re v := by
  have hm := (Seg.valid_rx_true_iff env ic s v hk).1 h
  have := (Seg.match_sound env ic s _ _ _ hm).2.1
  simpa [Seg.Satisfies, hk] using this

theorem Seg.valid_rx_none_iff (env : Env) (ic : Interceptors) (s : Seg) (v : Bytes) (hk : s.kind = .rx) :
    s.valid env ic v = none ↔ s.match env ic (v ++ s.suffix) = .unsupported := by
  rw [Seg.valid_rx_eq env ic s v hk, Seg.match_rx_suffix_eq env ic s v hk]
  split
  · exact ⟨fun _ => rfl, fun _ => rfl⟩
  · constructor
    · intro h
      split at h <;> cases h
    · intro h
      split at h <;> cases h

/-- A denoted value is at least *matched* (maybe with a different, earlier-priority capture). -/
theorem Seg.valid_rx_denotes_match (env : Env) (ic : Interceptors) (s : Seg) (v : Bytes) (hk : s.kind = .rx)
    (hd : Re.Denotes s.re v) (hsup : s.valid env ic v ≠ none) :
    ∃ cap rest, s.match env ic (v ++ s.suffix) = .yes cap rest := by
  have hno := Seg.match_complete env ic s v [] (by simpa [Seg.Satisfies, hk] using hd) (fun _ => rfl)
  rw [show s.inst v ++ [] = v ++ s.suffix by simp [Seg.inst, hk]] at hno
  cases hm : s.match env ic (v ++ s.suffix) with
  | yes cap rest => exact ⟨cap, rest, rfl⟩
  | unsupported => exact absurd ((Seg.valid_rx_none_iff env ic s v hk).2 hm) hsup
  | no => exact absurd hm hno

theorem Seg.valid_icpt (env : Env) (ic : Interceptors) (s : Seg) (v : Bytes) (hk : s.kind = .icpt) :
    s.valid env ic v = some (s.accepts env ic v) := by
  simp only [Seg.valid, hk]

theorem Seg.valid_named (env : Env) (ic : Interceptors) (s : Seg) (v : Bytes) (hk : s.kind = .named) :
    s.valid env ic v = some true := by
  simp only [Seg.valid, hk]

theorem Seg.valid_str (env : Env) (ic : Interceptors) (s : Seg) (v : Bytes) (hk : s.kind = .str) :
    s.valid env ic v = some true := by
  simp only [Seg.valid, hk]

end Mux
