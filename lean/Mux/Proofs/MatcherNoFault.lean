/-
  Mux.Proofs.MatcherNoFault — no matcher expression faults (`run_post_no_fault`, by the rules of `Group.lean`, for
  `And`/`Or` of `Hosts`, path-version and header-version matchers whose `Hosts` tables satisfy `TreeInv`), hence
  `Group.serve` faults only where a router it dispatches to does (`go_no_fault`).
-/
import Mux.Proofs.Hosts
import Mux.Proofs.Group
import Mux.Proofs.Recover
namespace Mux.P12
open Mux

mutual
/-- `P id` holds of every `Hosts` matcher id occurring in the expression. -/
def AllHosts (P : Nat → Prop) : Matcher → Prop
  | .hosts id => P id
  | .and ms => AllHostsL P ms
  | .or ms => AllHostsL P ms
  | _ => True
def AllHostsL (P : Nat → Prop) : List Matcher → Prop
  | [] => True
  | m :: ms => AllHosts P m ∧ AllHostsL P ms
end

theorem AllHostsL_iff {P : Nat → Prop} (ms : List Matcher) : AllHostsL P ms ↔ ∀ m ∈ ms, AllHosts P m := by
  induction ms with
  | nil => simp [AllHostsL]
  | cons m ms ih => simp [AllHostsL, ih]

theorem AllHosts.mono {P Q : Nat → Prop} (hPQ : ∀ id, P id → Q id) : ∀ (m : Matcher), AllHosts P m → AllHosts Q m := by
  intro m
  induction m using Matcher.induction with
  | any | pathVersion | headerVersion => simp [AllHosts]
  | hosts id => rw [AllHosts, AllHosts]; exact hPQ id
  | and ms ih | or ms ih =>
    rw [AllHosts, AllHosts, AllHostsL_iff, AllHostsL_iff]
    exact fun h m hm => ih m hm (h m hm)

theorem AllHostsL.mono {P Q : Nat → Prop} (hPQ : ∀ id, P id → Q id) : ∀ (ms : List Matcher), AllHostsL P ms → AllHostsL Q ms :=
  fun ms => AllHosts.mono hPQ (.and ms)

def HostsInvAt (tab : Nat → Option Hosts) (id : Nat) : Prop := ∃ hs, tab id = some hs ∧ TreeInv hs.tree

def HostsReachAt (tab : Nat → Option Hosts) (id : Nat) : Prop := ∃ hs, tab id = some hs ∧ HostsReach hs

theorem HostsReachAt.inv {tab : Nat → Option Hosts} {id : Nat} (h : HostsReachAt tab id) : HostsInvAt tab id := by
  obtain ⟨hs, h1, h2⟩ := h
  exact ⟨hs, h1, h2.inv⟩

section
variable (env : Env) (tab : Nat → Option Hosts)

theorem run_post_no_fault (m : Matcher) : AllHosts (HostsInvAt tab) m → ∀ (req : Req) (path : Bytes) (ps : Params),
    (m.run env tab req path ps).Post (fun _ _ => True) (fun _ _ => True) (fun _ => False) := by
  induction m using Matcher.induction with
  | any => intro _ _ _ _; rw [Matcher.run]; trivial
  | hosts id =>
    intro h req path ps
    rw [AllHosts] at h
    obtain ⟨hs, h1, h2⟩ := h
    rw [Matcher.run, h1]
    exact (Hosts.match_post hs req.host path ps).imp (fun _ _ _ => trivial) (fun _ _ _ => trivial)
      (handler_no_fault h2 env _ ps mGET)
  | pathVersion param vers =>
    intro _ req path ps
    rw [run_pathVersion]
    split <;> trivial
  | headerVersion param key vers =>
    intro _ req path ps
    rw [run_headerVersion]
    split <;> trivial
  | and ms ih =>
    intro h req path ps
    rw [AllHosts, AllHostsL_iff] at h
    exact run_and_post (runAnd_post (fun m hm p' ps' _ => ih m hm (h m hm) req p' ps') trivial)
  | or ms ih =>
    intro h req path ps
    rw [AllHosts, AllHostsL_iff] at h
    rw [Matcher.run]
    exact runOr_post (fun m hm p' ps' _ => ih m hm (h m hm) req p' ps') trivial

theorem run_no_fault (m : Matcher) (h : AllHosts (HostsInvAt tab) m) (req : Req) (path : Bytes) (ps : Params)
    (s : Nat) : m.run env tab req path ps ≠ .fault s :=
  (run_post_no_fault env tab m h req path ps).of_fault

theorem runAnd_no_fault (ms : List Matcher) (h : AllHostsL (HostsInvAt tab) ms) (req : Req) (path : Bytes)
    (ps : Params) (s : Nat) : runAnd env tab ms req path ps ≠ .fault s := fun e => by
  have := run_no_fault env tab (.and ms) h req path ps s
  rw [Matcher.run, e] at this
  exact this rfl

theorem runOr_no_fault (ms : List Matcher) (h : AllHostsL (HostsInvAt tab) ms) (req : Req) (path : Bytes)
    (ps : Params) (s : Nat) : runOr env tab ms req path ps ≠ .fault s := by
  have := run_no_fault env tab (.or ms) h req path ps s
  rwa [Matcher.run] at this

theorem go_no_fault (rt : RTab) (g : Group) (req : Req) (l : List (Nat × Matcher))
    (hl : ∀ e ∈ l, AllHosts (HostsInvAt tab) e.2 ∧
      ∃ r, rt.get? e.1 = some r ∧ ∀ req' ps s rc, r.serveContext env req' ps ≠ .fault s rc)
    (path : Bytes) (s : Nat) (rc : Bool) : Group.serve.go env tab rt g req l path ≠ .fault s rc := by
  intro h
  rcases go_cases h with ⟨_, ⟨⟩⟩ |
    ⟨pre, rid, m, post, rfl, _, ⟨s', hm, _⟩ | ⟨_, ⟨⟩⟩ | ⟨p, ps, _, ⟨hr, _⟩ | ⟨r, hr, hgo⟩⟩⟩
  · exact run_no_fault env tab m (hl (rid, m) (by simp)).1 req path [] s' hm
  · obtain ⟨_, r, hr', _⟩ := hl (rid, m) (by simp)
    rw [hr] at hr'; cases hr'
  · obtain ⟨_, r', hr', hserve⟩ := hl (rid, m) (by simp)
    cases hr.symm.trans hr'
    exact hserve _ _ _ _ hgo

end

end Mux.P12
