/-
  Mux.Proofs.CutPoint — the exact value of `longestPrefix` (after the D22 repair) on brace-free and token texts, segments
  that re-parse from their own well-formed text (`SegOk`), and the cut-point lemmas: the cut is inside literal text or at
  least one byte after the closing brace, never inside `{…}` and never directly after `}`.
-/
import Mux.Proofs.Tok

namespace Mux.P11
open Mux

/-- Length of the common prefix. -/
def lcp : Bytes → Bytes → Nat
  | a :: s1, b :: s2 => if a = b then lcp s1 s2 + 1 else 0
  | _, _ => 0

@[simp] theorem lcp_nil_left (b : Bytes) : lcp [] b = 0 := by simp [lcp]
@[simp] theorem lcp_nil_right (a : Bytes) : lcp a [] = 0 := by cases a <;> simp [lcp]
theorem lcp_cons (a b : UInt8) (s1 s2 : Bytes) : lcp (a :: s1) (b :: s2) = if a = b then lcp s1 s2 + 1 else 0 := by
  rw [lcp]

theorem lcp_pos_iff (a b : Bytes) : 0 < lcp a b ↔ ∃ c r1 r2, a = c :: r1 ∧ b = c :: r2 := by
  cases a with
  | nil => simp
  | cons c a =>
    cases b with
    | nil => simp
    | cons d b =>
      rw [lcp_cons]
      by_cases h : c = d
      · subst h; simp
      · simp [h]
        exact fun e => h e.symm

theorem lpLoop_plain (a b : Bytes) (i : Nat) (st en : Int) (ha : Plain a) :
    lpLoop a b i st en false =
      if en + 1 = ((i + lcp a b : Nat) : Int) then st else ((i + lcp a b : Nat) : Int) := by
  induction a generalizing b i with
  | nil =>
    simp only [lpLoop, lcp_nil_left, Nat.add_zero]
    exact ite_iff (by omega) _ _
  | cons c a ih =>
    cases b with
    | nil =>
      simp only [lpLoop, lcp_nil_right, Nat.add_zero]
      exact ite_iff (by omega) _ _
    | cons d b =>
      obtain ⟨h1, h2, h3⟩ := ha.cons
      rw [lpLoop, lcp_cons]
      by_cases hcd : c = d
      · subst hcd
        rw [if_neg (fun h => h rfl), if_neg h1, if_neg h2, ih b (i + 1) h3, if_pos rfl, Nat.add_assoc, Nat.add_comm 1]
      · rw [if_pos hcd, if_neg hcd, Nat.add_zero]
        exact ite_iff (by simp) _ _

/-- Inside a `{…}` group: the scan goes on after the `}` iff the two bodies are equal.  Only the first body has to be
brace-free, the second need only end at its first `}`: a byte of it is looked at only where it equals the first's. -/
theorem lpLoop_brace (ia ib sa sb : Bytes) (i : Nat) (st en : Int) (ha : Plain ia) (hb : endByte ∉ ib) :
    lpLoop (ia ++ endByte :: sa) (ib ++ endByte :: sb) i st en true =
      if ia = ib then lpLoop sa sb (i + ia.length + 1) st ((i + ia.length : Nat) : Int) false else st := by
  induction ia generalizing ib i with
  | nil =>
    cases ib with
    | nil =>
      rw [List.nil_append, List.nil_append, lpLoop, if_neg (fun h => h rfl), if_neg (by decide), if_pos rfl, if_pos rfl]
      rfl
    | cons d ib =>
      have hne : endByte ≠ d := fun e => hb (by rw [e]; exact List.mem_cons_self)
      rw [List.nil_append, List.cons_append, lpLoop, if_pos hne, if_pos (.inl rfl), if_neg (by simp)]
  | cons c ia ih =>
    obtain ⟨h1, h2, h3⟩ := ha.cons
    cases ib with
    | nil => rw [List.nil_append, List.cons_append, lpLoop, if_pos h2, if_pos (.inl rfl), if_neg (by simp)]
    | cons d ib =>
      rw [List.cons_append, List.cons_append, lpLoop]
      by_cases hcd : c = d
      · subst hcd
        rw [if_neg (fun h => h rfl), if_neg h1, if_neg h2, ih ib (i + 1) h3 (fun h => hb (List.mem_cons_of_mem _ h))]
        simp only [List.cons.injEq, true_and, List.length_cons]
        rw [Nat.add_assoc i 1, Nat.add_comm 1]
      · rw [if_pos hcd, if_pos (.inl rfl), if_neg (fun h => hcd (List.cons.inj h).1)]

theorem lp_plain (a b : Bytes) (ha : Plain a) : longestPrefix a b = (lcp a b : Int) := by
  unfold longestPrefix
  rw [lpLoop_plain a b 0 _ _ ha]
  simp only [Nat.zero_add]
  split
  · omega
  · rfl

/-- A token `{ia}sa` against a text `{ib}sb` whose `ib` has no `}`: the whole token and at least one byte of the
suffix, or nothing. -/
theorem lp_tok (ia ib sa sb : Bytes) (ha : Plain ia) (hb : endByte ∉ ib) (hsa : Plain sa) :
    longestPrefix (startByte :: (ia ++ endByte :: sa)) (startByte :: (ib ++ endByte :: sb)) =
      if ia = ib ∧ 0 < lcp sa sb then ((ia.length + 2 + lcp sa sb : Nat) : Int) else 0 := by
  unfold longestPrefix
  rw [lpLoop, if_neg (fun h => h rfl), if_pos rfl, if_neg Bool.false_ne_true, lpLoop_brace ia ib sa sb _ _ _ ha hb]
  by_cases hab : ia = ib
  · rw [if_pos hab, lpLoop_plain sa sb _ _ _ hsa]
    by_cases hk : 0 < lcp sa sb
    · rw [if_neg (by omega), if_pos ⟨hab, hk⟩]
      congr 1
      omega
    · rw [if_pos (by omega), if_neg (fun h => hk h.2)]
      rfl
  · rw [if_neg hab, if_neg (fun h => hab h.1)]
    rfl

end Mux.P11

namespace Mux.P9
open Mux

theorem longestPrefix_tok (body suf body' suf' : Bytes) (hb : NoBrace body) (hb' : endByte ∉ body')
    (hs : NoBrace suf) :
    longestPrefix (tok body suf) (tok body' suf') = 0 ∨
      (((body.length + 3 : Nat) : Int) ≤ longestPrefix (tok body suf) (tok body' suf') ∧ body = body') := by
  unfold tok
  rw [P11.lp_tok body body' suf suf' hb hb' hs]
  split
  · rename_i h
    exact .inr ⟨by omega, h.1⟩
  · exact .inl rfl

theorem longestPrefix_tok_str (body suf b : Bytes) (hb : startByte ∉ b) :
    longestPrefix (tok body suf) b ≤ 0 := by
  cases b with
  | nil => simp [longestPrefix, tok, lpLoop]
  | cons c b =>
    have hc : startByte ≠ c := fun e => hb (by simp [e])
    simp [longestPrefix, tok, lpLoop, hc]

theorem lp_str_pos_iff {a : Bytes} (b : Bytes) (ha : NoBrace a) :
    0 < longestPrefix a b ↔ ∃ c a' b', a = c :: a' ∧ b = c :: b' := by
  rw [P11.lp_plain a b ha, Int.natCast_pos]
  exact P11.lcp_pos_iff a b

theorem lp_tok_pos_iff {b s b' : Bytes} (s' : Bytes) (hb : NoBrace b) (hb' : endByte ∉ b') (hs : NoBrace s) :
    0 < longestPrefix (tok b s) (tok b' s') ↔ b = b' ∧ ∃ c s1 s1', s = c :: s1 ∧ s' = c :: s1' := by
  unfold tok
  rw [P11.lp_tok b b' s s' hb hb' hs, ← P11.lcp_pos_iff]
  split
  · rename_i h
    exact ⟨fun _ => h, fun _ => by omega⟩
  · rename_i h
    exact ⟨fun h0 => absurd h0 (Int.lt_irrefl 0), fun h' => absurd h' h⟩

theorem stripIgn_wf (raw : Bytes) (h : raw ≠ []) : (stripIgn raw).2 = false → (stripIgn raw).1 ≠ [] := by
  cases raw with
  | nil => exact absurd rfl h
  | cons b r =>
    simp only [stripIgn]
    split <;> simp

/-- I-seg for one segment: it is what `NewSegment` makes of its own text, the text is a well-formed
piece, and it is not empty. -/
structure SegOk (ic : Interceptors) (s : Seg) : Prop where
  seg : newSegment ic s.value = .ok s
  wf : WfPiece s.value
  ne : s.value ≠ []

theorem SegOk.of_newSegment {ic : Interceptors} {v : Bytes} {s : Seg} (h : newSegment ic v = .ok s)
    (hw : WfPiece v) (hne : v ≠ []) : SegOk ic s := by
  have hv := newSegment_value ic v s h
  exact ⟨by rw [hv]; exact h, by rw [hv]; exact hw, by rw [hv]; exact hne⟩

theorem SegOk.str_of_noBrace {ic : Interceptors} {s : Seg} (h : SegOk ic s) (hn : startByte ∉ s.value) :
    s = { value := s.value } := newSegment_str_of_noStart h.seg hn

theorem SegOk.kind_str_iff {ic : Interceptors} {s : Seg} (h : SegOk ic s) : s.kind = .str ↔ NoBrace s.value :=
  h.wf.kind_str_iff h.seg

theorem SegOk.kind_ne_str_of_tok {ic : Interceptors} {s : Seg} (h : SegOk ic s) (ht : TokPiece s.value) :
    s.kind ≠ .str := fun hk => (h.kind_str_iff.1 hk).1 ht.start

theorem SegOk.tok_of_kind {ic : Interceptors} {s : Seg} (h : SegOk ic s) (hk : s.kind ≠ .str) : TokPiece s.value :=
  h.wf.resolve_left fun hw => hk (h.kind_str_iff.2 hw)

theorem SegOk.tok_seg {ic : Interceptors} {s : Seg} (h : SegOk ic s) (hk : s.kind ≠ .str) :
    ∃ b suf, s.value = tok b suf ∧ NoBrace b ∧ NoBrace suf ∧ tokSeg ic b suf = .ok s := by
  obtain ⟨b, suf, hv, hb, hs⟩ := h.tok_of_kind hk
  exact ⟨b, suf, hv, hb, hs, newSegment_tok_ok hb.2 (hv ▸ h.seg)⟩

/-- What `SegNameWf` asks: literal segments have the empty name, capturing segments (no `-` flag) a non-empty one. -/
theorem SegOk.nameWf {ic : Interceptors} {s : Seg} (h : SegOk ic s) :
    (s.kind = .str → s.name = []) ∧ (s.kind ≠ .str ∧ ¬ s.ignoreName → s.name ≠ []) := by
  refine ⟨fun hk => by rw [h.str_of_noBrace (h.kind_str_iff.1 hk).1], fun hk => ?_⟩
  obtain ⟨b, suf, _, _, _, ht⟩ := h.tok_seg hk.1
  obtain ⟨_, hn, hg, _⟩ := tokSeg_ok ht
  rw [hn]
  exact stripIgn_wf _ (tokSeg_rawName_ne ht) (hg ▸ Bool.eq_false_iff.2 hk.2)

theorem SegOk.eq_of_value {ic : Interceptors} {a b : Seg} (ha : SegOk ic a) (hb : SegOk ic b)
    (h : a.value = b.value) : a = b := by
  have h1 := ha.seg
  rw [h, hb.seg] at h1
  cases h1; rfl

theorem SegOk.lit {ic : Interceptors} {v : Bytes} (hn : NoBrace v) (hne : v ≠ []) (hl : v.length ≤ maxInt16) :
    SegOk ic { value := v } :=
  ⟨newSegment_noStart ic hn.1 hl, .inl hn, hne⟩

theorem splitAt_ok {ic : Interceptors} {seg s1 s2 : Seg} {pos : Nat} (hpos : pos ≤ seg.value.length)
    (h1 : newSegment ic (seg.value.take pos) = .ok s1) (h2 : newSegment ic (seg.value.drop pos) = .ok s2) :
    seg.splitAt ic pos = .ok (s1, s2) := by
  rw [Seg.splitAt_eq ic seg hpos, h1, h2]
  rfl

theorem splitAt_inv {ic : Interceptors} {seg s1 s2 : Seg} {pos : Nat} (h : seg.splitAt ic pos = .ok (s1, s2)) :
    pos ≤ seg.value.length ∧ newSegment ic (seg.value.take pos) = .ok s1 ∧
      newSegment ic (seg.value.drop pos) = .ok s2 := by
  by_cases hpos : pos ≤ seg.value.length
  · rw [Seg.splitAt_eq ic seg hpos] at h
    cases ha : newSegment ic (seg.value.take pos) with
    | error e => rw [ha] at h; cases h
    | ok a =>
      cases hb : newSegment ic (seg.value.drop pos) with
      | error e => rw [ha, hb] at h; cases h
      | ok b =>
        rw [ha, hb] at h
        cases h
        exact ⟨hpos, rfl, rfl⟩
  · have e1 := sliceE_err 120 seg.value 0 pos (by omega)
    simp only [Seg.splitAt, bind, Except.bind, e1] at h
    cases h

/-- `L` is a legal cut position of the piece `v`: inside brace-free text, or at least one byte after
the closing brace of the token. -/
def CutAt (v : Bytes) (L : Nat) : Prop :=
  L ≤ v.length ∧
    ((NoBrace v ∧ 0 < L) ∨
      ∃ body suf k, v = tok body suf ∧ NoBrace body ∧ NoBrace suf ∧ L = body.length + 2 + (k + 1))

/-- `b` need only be a piece of `splitString`; where `a` is a token, not an open piece `{w`: against that the scan can
stop inside the braces of `a`. -/
theorem cutAt_of_shape {a b : Bytes} (ha : WfPiece a) (hb : Shape b) (hab : TokPiece a → ClosedPiece b) {l : Nat}
    (hl : longestPrefix a b = (l : Int)) (h0 : 0 < l) : CutAt a l ∧ startByte ∉ b.drop l := by
  have hle := (longestPrefix_nat hl).1
  rcases ha with hn | ⟨body, suf, rfl, hb1, hs1⟩
  · refine ⟨⟨hle, .inl ⟨hn, h0⟩⟩, fun hm => ?_⟩
    -- `b` starts like `a`, hence not with `{`; a piece then has no `{` at all
    obtain ⟨c, a', b', ea, eb⟩ := (lp_str_pos_iff b hn).1 (by omega)
    rcases hb.good with hg | hg
    · rw [eb] at hg
      rw [ea] at hn
      exact hn.cons.1 (Option.some.inj hg)
    · exact hg (List.mem_of_mem_drop hm)
  · rcases hab ⟨body, suf, rfl, hb1, hs1⟩ with hn | ⟨body', suf', rfl, hb2, hs2⟩
    · have := longestPrefix_tok_str body suf b hn
      omega
    · rcases longestPrefix_tok body suf body' suf' hb1 hb2 hs1 with h | ⟨h, rfl⟩
      · omega
      · obtain ⟨k, rfl⟩ : ∃ k, l = body.length + 2 + (k + 1) := ⟨l - (body.length + 3), by omega⟩
        refine ⟨⟨hle, .inr ⟨body, suf, k, rfl, hb1, hs1, rfl⟩⟩, fun hm => hs2 ?_⟩
        rw [tok_drop] at hm
        exact List.mem_of_mem_drop hm

theorem cutAt_of_wf {a b : Bytes} (ha : WfPiece a) (hb : WfPiece b) {l : Nat}
    (hl : longestPrefix a b = (l : Int)) (h0 : 0 < l) : CutAt a l :=
  (cutAt_of_shape ha hb.shape (fun _ => hb.closed) hl h0).1

theorem take_ne_nil {v : Bytes} {L : Nat} (h0 : 0 < L) (hne : v ≠ []) : v.take L ≠ [] := by
  cases v with
  | nil => exact absurd rfl hne
  | cons a v =>
    cases L with
    | zero => omega
    | succ L => simp

theorem CutAt.last {v : Bytes} {L : Nat} (h : CutAt v L) : lastByte (v.take L) ≠ endByte ∧ v.take L ≠ [] := by
  obtain ⟨hle, h | ⟨body, suf, k, rfl, hb, hs, rfl⟩⟩ := h
  · have hne : v ≠ [] := by
      intro e; subst e; simp at hle; omega
    exact ⟨(h.1.take L).last_ne (take_ne_nil h.2 hne), take_ne_nil h.2 hne⟩
  · rw [tok_take]
    rw [tok_length] at hle
    have hsne : suf.take (k + 1) ≠ [] := by
      apply take_ne_nil (by omega)
      intro e; subst e; simp at hle; omega
    exact ⟨lastByte_tok_ne body (hs.take _).2 hsne, by simp [tok]⟩

theorem CutAt.drop_noBrace {v : Bytes} {L : Nat} (h : CutAt v L) : NoBrace (v.drop L) := by
  obtain ⟨_, h | ⟨body, suf, k, rfl, hb, hs, rfl⟩⟩ := h
  · exact h.1.drop L
  · rw [tok_drop]; exact hs.drop _

theorem CutAt.take_wf {v : Bytes} {L : Nat} (h : CutAt v L) : WfPiece (v.take L) := by
  obtain ⟨_, h | ⟨body, suf, k, rfl, hb, hs, rfl⟩⟩ := h
  · exact .inl (h.1.take L)
  · rw [tok_take]; exact .inr ⟨body, _, rfl, hb, hs.take _⟩

theorem CutAt.splitAt {ic : Interceptors} {sa s1 : Seg} {l : Nat} (hc : CutAt sa.value l)
    (hlen : sa.value.length ≤ maxInt16) (h1 : newSegment ic (sa.value.take l) = .ok s1) (hlt : l < sa.value.length) :
    sa.splitAt ic l = .ok (s1, { value := sa.value.drop l }) ∧ SegOk ic s1 ∧
      SegOk ic { value := sa.value.drop l } := by
  have hdne : sa.value.drop l ≠ [] := fun e => by have := List.drop_eq_nil_iff.1 e; omega
  have hdl : (sa.value.drop l).length ≤ maxInt16 := by rw [List.length_drop]; omega
  exact ⟨splitAt_ok hc.1 h1 (newSegment_noStart ic hc.drop_noBrace.1 hdl),
    SegOk.of_newSegment h1 hc.take_wf hc.last.2, SegOk.lit hc.drop_noBrace hdne hdl⟩

/-- `s1` is `sa` cut at `l` under the table `ic`: what `NewSegment` makes of the first `l` bytes; where `l` is inside `sa`,
`Segment.Split` yields it with a literal lower half. -/
structure UpperHalf (ic : Interceptors) (sa : Seg) (l : Nat) (s1 : Seg) : Prop where
  seg : newSegment ic (sa.value.take l) = .ok s1
  wf : WfPiece (sa.value.take l)
  kind : s1.kind = sa.kind
  name : s1.name = sa.name
  ignoreName : s1.ignoreName = sa.ignoreName
  rule : s1.rule = sa.rule
  split : l < sa.value.length →
    sa.splitAt ic l = .ok (s1, { value := sa.value.drop l }) ∧ SegOk ic s1 ∧ SegOk ic { value := sa.value.drop l }

theorem SegOk.take_cut {ic : Interceptors} {sa : Seg} (ha : SegOk ic sa) {l : Nat} (hc : CutAt sa.value l) :
    ∃ s1, UpperHalf ic sa l s1 := by
  have hlen := newSegment_len ha.seg
  suffices ∃ s1, newSegment ic (sa.value.take l) = .ok s1 ∧ s1.kind = sa.kind ∧ s1.name = sa.name ∧
      s1.ignoreName = sa.ignoreName ∧ s1.rule = sa.rule by
    obtain ⟨s1, h1, h2, h3, h4, h5⟩ := this
    exact ⟨s1, h1, hc.take_wf, h2, h3, h4, h5, hc.splitAt hlen h1⟩
  obtain ⟨hle, ⟨hn, _⟩ | ⟨body, suf, k, hva, hb, hs, rfl⟩⟩ := hc
  · refine ⟨{ value := sa.value.take l }, ?_, ?_, ?_, ?_, ?_⟩
    · exact newSegment_noStart ic (hn.take l).1 (by rw [List.length_take]; omega)
    all_goals rw [ha.str_of_noBrace hn.1]
  · have hseg := ha.seg
    rw [hva, tok_length] at hle
    rw [hva] at hseg ⊢
    rw [tok_take]
    exact ⟨_, newSegment_tok_take hb.2 hs.2 hseg (by omega), rfl, rfl, rfl, rfl⟩

/-- **The cut-point lemma**, one-sided: `b` need only be a piece of `splitString` (of any pattern) that `NewSegment` accepts
with the kind of `a`.  The cut is inside literal text or at least one byte after the closing brace of `a`, never
inside `{…}` and never directly after `}`; what it leaves of `b` has no `{`. -/
theorem cutPoint1 {ic : Interceptors} {sa sb : Seg} {b : Bytes} (ha : SegOk ic sa)
    (hbseg : newSegment ic b = .ok sb) (hbs : Shape b) (hk : sa.kind = sb.kind)
    (hpos : 0 < longestPrefix sa.value b) :
    ∃ l : Nat, longestPrefix sa.value b = (l : Int) ∧ 0 < l ∧ l ≤ sa.value.length ∧ l ≤ b.length ∧
      sa.value.take l = b.take l ∧ CutAt sa.value l ∧ startByte ∉ b.drop l ∧
      ∃ s1, UpperHalf ic sa l s1 := by
  obtain ⟨l, hl, h0⟩ := longestPrefix_pos hpos
  obtain ⟨hle, hlb, hpre⟩ := longestPrefix_nat hl
  obtain ⟨hcut, htail⟩ := cutAt_of_shape ha.wf hbs
    (fun ht => .inr (hbs.tok_of_kind hbseg (hk ▸ ha.kind_ne_str_of_tok ht))) hl h0
  exact ⟨l, hl, h0, hle, hlb, hpre, hcut, htail, ha.take_cut hcut⟩

theorem newSegment_wf_indep {ic ic' : Interceptors} {v : Bytes} {a b : Seg} (hw : WfPiece v)
    (ha : newSegment ic v = .ok a) (hb : newSegment ic' v = .ok b) (hk : a.kind = b.kind) : a = b := by
  rcases hw with hn | ⟨body, suf, rfl, hbd, _⟩
  · rw [newSegment_str_of_noStart ha hn.1, newSegment_str_of_noStart hb hn.1]
  · exact tokSeg_indep (newSegment_tok_ok hbd.2 ha) (newSegment_tok_ok hbd.2 hb) hk

/-- **The cut-point lemma**, both sides, for a stored segment `a` (parsed under SOME table `ica`: `Hosts` may register
an interceptor after domains were added) and a new segment `b` (parsed under the current table `ic`) of the same kind.
The upper half of `a` re-parsed under the CURRENT table keeps `a`'s kind, name, flag and rule: a stored regexp segment
whose rule became an interceptor name in between is never split, because a new segment sharing its token is an
interceptor segment (another kind). -/
theorem cutPointX {ica ic : Interceptors} {sa sb : Seg} (ha : SegOk ica sa) (hb : SegOk ic sb)
    (hk : sa.kind = sb.kind) {l : Nat} (hl : longestPrefix sa.value sb.value = (l : Int)) (h0 : 0 < l) :
    NoBrace (sa.value.drop l) ∧ NoBrace (sb.value.drop l) ∧
      sa.name = sb.name ∧ sa.ignoreName = sb.ignoreName ∧ sa.rule = sb.rule ∧
      ∃ s1, UpperHalf ic sa l s1 := by
  have hca := cutAt_of_wf ha.wf hb.wf hl h0
  have hcb := cutAt_of_wf hb.wf ha.wf (by rw [longestPrefix_comm]; exact hl) h0
  obtain ⟨s1, ua⟩ := ha.take_cut hca
  obtain ⟨s1', ub⟩ := hb.take_cut hcb
  -- the same text under the two tables, with the same kind
  have b4 := ub.seg
  rw [← (longestPrefix_nat hl).2.2] at b4
  have hs : s1 = s1' := newSegment_wf_indep ua.wf ua.seg b4 (by rw [ua.kind, ub.kind, hk])
  subst hs
  exact ⟨hca.drop_noBrace, hcb.drop_noBrace, ua.name.symm.trans ub.name, ua.ignoreName.symm.trans ub.ignoreName,
    ua.rule.symm.trans ub.rule, s1, { ua with seg := b4, split := hca.splitAt (newSegment_len ha.seg) b4 }⟩

/-- A well-formed piece that is a proper prefix of another is a whole token (it ends with `}`), or the two are literal
texts with the same first byte, or the same token followed by the same first byte: in the last two cases
`longestPrefix` would cut both, and `addSegment` treats them as similar. -/
theorem WfPiece.prefix_cases {a x : Bytes} (ha : WfPiece a) (hb : WfPiece (a ++ x)) (hane : a ≠ []) :
    lastByte a = endByte ∨ (∃ c a', NoBrace (a ++ x) ∧ a = c :: a') ∨
      ∃ body c sa, NoBrace body ∧ NoBrace (c :: sa ++ x) ∧ a = tok body (c :: sa) := by
  rcases ha with han | ⟨ba, sa, rfl, hba, hsa⟩
  · rcases hb with hbn | ⟨bb, sb, hbv, _, _⟩
    · cases a with
      | nil => exact absurd rfl hane
      | cons c a' => exact .inr (.inl ⟨c, a', hbn, rfl⟩)
    · exfalso
      cases a with
      | nil => exact absurd rfl hane
      | cons c a' =>
        simp only [tok, List.cons_append, List.cons.injEq] at hbv
        exact han.1 (by rw [hbv.1]; simp)
  · rcases hb with hbn | ⟨bb, sb, hbv, hbb, hsb⟩
    · exact absurd (by simp [tok]) hbn.1
    · rw [← tok_append_suffix] at hbv
      obtain ⟨rfl, hs⟩ := tok_inj hba.2 hbb.2 hbv
      cases sa with
      | nil => exact .inl (lastByte_tok_nil ba)
      | cons c sa' => exact .inr (.inr ⟨ba, c, sa', hba, hs ▸ hsb, rfl⟩)

/-- Two siblings are kept apart by the insertion algorithm: different texts, and (when of the same
kind) no common part that `longestPrefix` would split off. -/
def SibDisj (s d : Seg) : Prop := s.value ≠ d.value ∧ (s.kind = d.kind → longestPrefix s.value d.value ≤ 0)

theorem SibDisj.symm {s d : Seg} (h : SibDisj s d) : SibDisj d s :=
  ⟨fun e => h.1 e.symm, fun hk => by rw [longestPrefix_comm]; exact h.2 hk.symm⟩

theorem CutAt.lp_mono {ic : Interceptors} {sd sv : Seg} (hd : SegOk ic sd) (hv : SegOk ic sv)
    (hk : sd.kind = sv.kind) {L : Nat} (hc : CutAt sv.value L)
    (hpos : 0 < longestPrefix sd.value (sv.value.take L)) : 0 < longestPrefix sd.value sv.value := by
  obtain ⟨hle, h | ⟨body, suf, k, hvv, hb, hs, rfl⟩⟩ := hc
  · have hdn : NoBrace sd.value := hd.kind_str_iff.1 (hk.trans (hv.kind_str_iff.2 h.1))
    obtain ⟨c, a', b', e1, e2⟩ := (lp_str_pos_iff _ hdn).1 hpos
    refine (lp_str_pos_iff _ hdn).2 ⟨c, a', sv.value.drop 1, e1, ?_⟩
    cases hvv : sv.value with
    | nil => rw [hvv] at e2; simp at e2
    | cons x xs =>
      rw [hvv] at e2
      cases L with
      | zero => omega
      | succ L =>
        simp only [List.take_succ_cons, List.cons.injEq] at e2
        simp [e2.1]
  · have hkv : sv.kind ≠ .str := hv.kind_ne_str_of_tok ⟨body, suf, hvv, hb, hs⟩
    obtain ⟨bd, sdf, hdv, hbd, hsd⟩ := hd.tok_of_kind (hk ▸ hkv)
    rw [hvv, tok_take, hdv] at hpos
    rw [hvv, hdv]
    obtain ⟨rfl, c, s1, s1', e1, e2⟩ := (lp_tok_pos_iff _ hbd hb.2 hsd).1 hpos
    refine (lp_tok_pos_iff _ hbd hb.2 hsd).2 ⟨rfl, c, s1, suf.drop 1, e1, ?_⟩
    cases suf with
    | nil => simp at e2
    | cons x xs =>
      simp only [List.take_succ_cons, List.cons.injEq] at e2
      simp [e2.1]

/-- The upper half of a legal cut shares a cuttable part with itself (so a sibling with the same
text would have been merged). -/
theorem CutAt.self_pos {v : Bytes} {L : Nat} (hc : CutAt v L) : 0 < longestPrefix (v.take L) (v.take L) := by
  obtain ⟨hne1, hne2⟩ := hc.last
  obtain ⟨hle, h | ⟨body, suf, k, rfl, hb, hs, rfl⟩⟩ := hc
  · cases hv : v.take L with
    | nil => exact absurd hv hne2
    | cons c r => exact (lp_str_pos_iff _ (hv ▸ h.1.take L)).2 ⟨c, r, r, rfl, rfl⟩
  · rw [tok_take]
    rw [tok_length] at hle
    cases suf with
    | nil => simp at hle; omega
    | cons x xs =>
      exact (lp_tok_pos_iff _ hb hb.2 (hs.take _)).2 ⟨rfl, x, xs.take k, xs.take k, rfl, rfl⟩

theorem SibDisj.take {ic : Interceptors} {sd sv s1 : Seg} (hd : SegOk ic sd) (hv : SegOk ic sv)
    (h : SibDisj sd sv) {L : Nat} (hc : CutAt sv.value L) (h1 : SegOk ic s1)
    (hv1 : s1.value = sv.value.take L) (hk1 : s1.kind = sv.kind) : SibDisj sd s1 := by
  have key : sd.kind = s1.kind → longestPrefix sd.value s1.value ≤ 0 := by
    intro hk
    refine Int.not_lt.1 fun hpos => ?_
    rw [hv1] at hpos
    have := hc.lp_mono hd hv (hk.trans hk1) hpos
    have := h.2 (hk.trans hk1)
    omega
  refine ⟨?_, key⟩
  intro e
  have := key (by rw [hd.eq_of_value h1 e])
  rw [e, hv1] at this
  have := hc.self_pos
  omega

end Mux.P9
