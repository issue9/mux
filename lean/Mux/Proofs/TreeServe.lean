/-
  The serve path: a hit is a node of the tree (from the soundness of the matcher), and `Tree.handler` neither faults
  nor falls through to the nil handler on a tree satisfying `TreeInv` (`TreeInv.answer_spec`, `handler_spec`); the
  OPTIONS and the 405 answer for one path come from the same node (`views_agree`).
-/
import Mux.Proofs.TreeInv
import Mux.Proofs.HandlerSound
namespace Mux

theorem chain_mem_nodes {n m : Node} {segs : List Seg} (h : Chain n segs m) : m ∈ n.nodes := by
  induction h with
  | nil n => rw [Node.nodes_eq]; exact List.mem_cons_self
  | cons hc _ ih => rw [Node.nodes_eq]; exact List.mem_cons_of_mem _ (mem_nodesL_iff.2 ⟨_, hc, ih⟩)

theorem chain_mem_below {n m : Node} {segs : List Seg} (h : Chain n segs m) (hne : segs ≠ []) :
    m ∈ nodesL n.children := by
  cases h with
  | nil => exact absurd rfl hne
  | cons hc hrest => exact mem_nodesL_iff.2 ⟨_, hc, chain_mem_nodes hrest⟩

theorem getAt_mem_below {n x : Node} {i : Nat} {p : List Nat} (h : n.getAt (i :: p) = some x) :
    x ∈ nodesL n.children := by
  obtain ⟨segs, _, hch, hlen⟩ := getAt_chain _ _ _ h
  exact chain_mem_below hch fun e => by rw [e] at hlen; cases hlen

theorem chain_seg_mem {n x : Node} {segs : List Seg} (h : Chain n segs x) :
    ∀ s ∈ segs, ∃ m ∈ nodesL n.children, m.seg = s := by
  induction h with
  | nil n => intro s hs; cases hs
  | @cons n c m segs hc _ ih =>
    intro s hs
    rcases List.mem_cons.1 hs with rfl | hs
    · exact ⟨c, mem_nodesL_iff.2 ⟨c, hc, by rw [Node.nodes_eq]; exact List.mem_cons_self⟩, rfl⟩
    · obtain ⟨m', hm', e⟩ := ih s hs
      exact ⟨m', mem_nodesL_iff.2 ⟨c, hc, by rw [Node.nodes_eq]; exact List.mem_cons_of_mem _ hm'⟩, e⟩

theorem hit_mem_nodes {env : Env} {ic : Interceptors} {n : Node} {path : Bytes} {ps : Params} {m : Node} {ps' : Params}
    (h : n.matchChildren env ic path ps = .hit m ps') : m ∈ n.nodes ∧ (path ≠ [] → m ∈ nodesL n.children) := by
  obtain ⟨chain, hc, hp, _⟩ := Node.matchChildren_hit h
  refine ⟨chain_mem_nodes hc, fun hne => chain_mem_below hc fun e => hne ?_⟩
  rw [hp, List.map_eq_nil_iff.1 e]
  rfl

theorem TreeInv.allIdx {t : Tree} (h : TreeInv t) : Node.All IdxOk t.root := by
  rw [Node.All_iff]
  exact ⟨h.rootIdx, (AllL_mono (fun n hn => hn.2)).2 _ h.below⟩

theorem TreeInv.good {t : Tree} (h : TreeInv t) {n : Node} (hn : n ∈ nodesL t.root.children) : Good t.hasTrace n :=
  ((All_iff_nodes _).2 _).1 h.below n hn

theorem TreeInv.root_key {t : Tree} (h : TreeInv t) {k : Bytes} (hk : k ∈ t.root.handlers.keys) :
    k = mOPTIONS ∨ k = mNotAllowed := by
  rw [h.rootKeys] at hk
  simpa using hk

theorem TreeInv.keyShape_all {t : Tree} (h : TreeInv t) {n : Node} (hn : n ∈ t.root.nodes) :
    n.handlers = [] ∨ KeyShape t.hasTrace n.handlers := by
  obtain ⟨_, c2, c3, _, c5, c6, _, c8, c9, _⟩ := method_consts_ne
  rw [Node.nodes_eq] at hn
  rcases List.mem_cons.1 hn with rfl | hn
  · right
    have hk := h.rootKeys
    have hno : ∀ v, t.root.handlers.get? mGET ≠ some v := fun v hv =>
      (h.root_key ((AMap.get?_isSome_iff _ _).1 (by rw [hv]; rfl))).elim c2 c3
    refine ⟨⟨by rw [hk]; simp [c8], by rw [hk]; simp [c2, c3, c5, c6], fun k hk' => ?_,
      fun a _ ha _ => absurd ha (hno a)⟩, by rw [hk]; simp, by rw [hk]; simp⟩
    rcases h.root_key hk' with rfl | rfl
    · exact .inr ⟨mem_table_consts.2.2.1, fun _ => c9⟩
    · exact .inl rfl
  · exact (h.good hn).1.2

theorem TreeInv.has_entries {t : Tree} (h : TreeInv t) {n : Node} (hn : n ∈ t.root.nodes)
    (hne : n.handlers ≠ []) : mNotAllowed ∈ n.handlers.keys ∧ mOPTIONS ∈ n.handlers.keys :=
  let h0 := (h.keyShape_all hn).resolve_left hne
  ⟨h0.notAllowed, h0.options⟩

theorem TreeInv.root_handlers_ne {t : Tree} (h : TreeInv t) : t.root.handlers ≠ [] := by
  intro e
  have := h.rootKeys
  rw [e] at this
  cases this

theorem TreeInv.matched_ok {t : Tree} (h : TreeInv t) (env : Env) (path : Bytes) (ps : Params) :
    (∀ s, t.matched env path ps ≠ .fault s) ∧ ∀ n ps', t.matched env path ps = .hit n ps' → n ∈ t.root.nodes := by
  unfold Tree.matched
  split
  · refine ⟨fun _ => nofun, fun n ps' e => ?_⟩
    cases e
    rw [Node.nodes_eq]
    exact List.mem_cons_self
  · exact ⟨matchChildren_no_fault env t.ic t.root h.allIdx path ps, fun n ps' e => (hit_mem_nodes e).1⟩

/-- The shape of every answer of `Tree.handler` on a tree satisfying the invariant. -/
inductive FoundSpec (t : Tree) (method : Bytes) (f : Found) : Prop where
  /-- 404 -/
  | notFound : f.node = none → f.handler = t.notFound → f.ok = false → FoundSpec t method f
  /-- the TRACE short-circuit -/
  | trace (h : Handler) : t.trace = some h → method = mTRACE → f.node = some t.root → f.handler = h →
      f.ok = true → FoundSpec t method f
  /-- the method is registered on the matched node -/
  | found (n : Node) : f.node = some n → n ∈ t.root.nodes → n.handlers ≠ [] → method ≠ mNotAllowed →
      n.handlers.get? method = some f.handler → f.ok = true → FoundSpec t method f
  /-- 405: the matched node's `""` entry -/
  | notAllowed (n : Node) : f.node = some n → n ∈ t.root.nodes → n.handlers ≠ [] →
      (method = mNotAllowed ∨ n.handlers.get? method = none) →
      n.handlers.get? mNotAllowed = some f.handler → f.ok = false → FoundSpec t method f

/-- The three kinds of answer: the 404, the TRACE short-circuit, or a node with handlers whose entry under the method —
under the 405 key for a refusal — is the handler reported. -/
theorem FoundSpec.entry {t : Tree} {method : Bytes} {f : Found} (h : FoundSpec t method f) :
    (f.node = none ∧ f.handler = t.notFound ∧ f.ok = false) ∨
    (t.trace = some f.handler ∧ method = mTRACE ∧ f.node = some t.root ∧ f.ok = true) ∨
    ∃ n, f.node = some n ∧ n ∈ t.root.nodes ∧ n.handlers ≠ [] ∧
      n.handlers.get? (if f.ok then method else mNotAllowed) = some f.handler ∧
      (if f.ok then method ≠ mNotAllowed else method = mNotAllowed ∨ n.handlers.get? method = none) := by
  cases h with
  | notFound h1 h2 h3 => exact .inl ⟨h1, h2, h3⟩
  | trace h ht hm hnode hh hok => exact .inr (.inl ⟨hh ▸ ht, hm, hnode, hok⟩)
  | found n h1 h2 h3 h4 h5 h6 =>
    exact .inr (.inr ⟨n, h1, h2, h3, by simp only [h6, if_true]; exact h5, by simp only [h6, if_true]; exact h4⟩)
  | notAllowed n h1 h2 h3 h4 h5 h6 =>
    exact .inr (.inr ⟨n, h1, h2, h3, by simp only [h6, Bool.false_eq_true, if_false]; exact h5,
      by simp only [h6, Bool.false_eq_true, if_false]; exact h4⟩)

/-- A reported node other than the root lies below it and answers with its own entry: neither the 404 nor the TRACE
short-circuit is left. -/
theorem FoundSpec.entry_below {t : Tree} {method : Bytes} {f : Found} {n : Node} (h : FoundSpec t method f)
    (hn : f.node = some n) (hroot : n ≠ t.root) :
    n ∈ nodesL t.root.children ∧ n.handlers.get? (if f.ok then method else mNotAllowed) = some f.handler := by
  rcases h.entry with ⟨h1, _⟩ | ⟨_, _, h1, _⟩ | ⟨n', h1, hmem, _, hg, _⟩
  · cases hn.symm.trans h1
  · exact absurd (Option.some.inj (hn.symm.trans h1)) hroot
  · cases hn.symm.trans h1
    rw [Node.nodes_eq] at hmem
    exact ⟨(List.mem_cons.1 hmem).resolve_left hroot, hg⟩

theorem FoundSpec.of_refused {t : Tree} {method : Bytes} {f : Found} {q : Node} (h : FoundSpec t method f)
    (hok : f.ok = false) (hq : f.node = some q) :
    q ∈ t.root.nodes ∧ q.handlers ≠ [] ∧ (method = mNotAllowed ∨ q.handlers.get? method = none) ∧
      q.handlers.get? mNotAllowed = some f.handler := by
  cases h with
  | notFound h1 _ _ => rw [hq] at h1; cases h1
  | trace _ _ _ _ _ h6 => rw [hok] at h6; cases h6
  | found _ _ _ _ _ _ h6 => rw [hok] at h6; cases h6
  | notAllowed n h1 h2 h3 h4 h5 _ => rw [hq] at h1; cases h1; exact ⟨h2, h3, h4, h5⟩

theorem FoundSpec.of_served {t : Tree} {method : Bytes} {f : Found} {n : Node} (h : FoundSpec t method f)
    (hok : f.ok = true) (hn : f.node = some n) :
    (n = t.root ∧ method = mTRACE) ∨
      (n ∈ t.root.nodes ∧ n.handlers ≠ [] ∧ method ≠ mNotAllowed ∧ n.handlers.get? method = some f.handler) := by
  cases h with
  | notFound h1 _ _ => rw [hn] at h1; cases h1
  | trace _ _ hm h3 _ _ => rw [hn] at h3; cases h3; exact .inl ⟨rfl, hm⟩
  | found m h1 h2 h3 h4 h5 _ => rw [hn] at h1; cases h1; exact .inr ⟨h2, h3, h4, h5⟩
  | notAllowed _ _ _ _ _ _ h6 => rw [hok] at h6; cases h6

/-- The answer of a matched node with handlers, on a tree with the invariant: the node has the 405 entry, so the nil
fallback is not reached. -/
theorem TreeInv.answer_spec {t : Tree} (hinv : TreeInv t) {n : Node} (hn : n ∈ t.root.nodes) (hne : n.handlers ≠ [])
    (method : Bytes) (ps : Params) : FoundSpec t method (n.answer method ps) := by
  obtain ⟨h405, hg⟩ := AMap.exists_get?_of_mem (hinv.has_entries hn hne).1
  by_cases hno : method = mNotAllowed ∨ n.handlers.get? method = none
  · rw [Node.answer_of_none ps hno, hg]
    exact .notAllowed n rfl hn hne hno hg rfl
  · obtain ⟨hm, hgm⟩ := not_or.1 hno
    obtain ⟨h, hgm⟩ := Option.ne_none_iff_exists'.1 hgm
    rw [Node.answer_of_get ps hm hgm]
    exact .found n rfl hn hne hm hgm rfl

theorem handler_spec {t : Tree} (hinv : TreeInv t) (env : Env) (path : Bytes) (ps : Params) (method : Bytes) :
    (∃ f, t.handler env path ps method = .res f ∧ FoundSpec t method f) ∨
    t.handler env path ps method = .unsupported := by
  rcases Tree.handler_cases env t path ps method with ⟨h, hh, hm, e⟩ | ⟨_, e⟩
  · exact .inl ⟨_, e, .trace h hh hm rfl rfl rfl⟩
  · rw [e, handlerNoTrace_eq]
    have hm := hinv.matched_ok env path ps
    generalize t.matched env path ps = r at hm
    cases r with
    | fault s => exact absurd rfl (hm.1 s)
    | unsupported => exact .inr rfl
    | miss ps' => exact .inl ⟨_, rfl, .notFound rfl rfl rfl⟩
    | hit n ps' =>
      refine .inl ⟨_, rfl, ?_⟩
      split
      · exact .notFound rfl rfl rfl
      · next hne => exact hinv.answer_spec (hm.2 n ps' rfl) hne method ps'

theorem handler_foundSpec {t : Tree} (hinv : TreeInv t) {env : Env} {path : Bytes} {ps : Params} {method : Bytes}
    {f : Found} (h : t.handler env path ps method = .res f) : FoundSpec t method f := by
  rcases handler_spec hinv env path ps method with ⟨f', h1, h2⟩ | h1
  · cases h1.symm.trans h
    exact h2
  · cases h1.symm.trans h

theorem handler_no_fault {t : Tree} (hinv : TreeInv t) (env : Env) (path : Bytes) (ps : Params)
    (method : Bytes) (s : Nat) : t.handler env path ps method ≠ .fault s := by
  rcases handler_spec hinv env path ps method with ⟨f, h1, _⟩ | h1 <;> rw [h1] <;> simp

/-- The node `Tree.handler` reports does not depend on the method (apart from the TRACE short-circuit), so the OPTIONS
answer and the 405 answer speak about the same node. -/
theorem views_agree {t : Tree} (hinv : TreeInv t) (env : Env) (path : Bytes) (ps : Params) (method : Bytes)
    {fo f : Found} {n : Node}
    (ho : t.handler env path ps mOPTIONS = .res fo) (hf : t.handler env path ps method = .res f)
    (hok : f.ok = false) (hn : f.node = some n) :
    fo.node = some n ∧ fo.ok = true ∧ n ∈ t.root.nodes ∧
      n.handlers.get? mOPTIONS = some fo.handler ∧ n.handlers.get? mNotAllowed = some f.handler := by
  obtain ⟨_, _, _, _, _, _, _, c8, c9, _⟩ := method_consts_ne
  -- an answer with `ok = false` is not the TRACE short-circuit: it is the answer of the node that was matched
  obtain ⟨ps', hm, hne, rfl⟩ := Tree.handler_node (Tree.handler_not_ok hf hok) hf hn
  have hmem := (hinv.matched_ok env path ps).2 n ps' hm
  obtain ⟨h405, hopt⟩ := hinv.has_entries hmem hne
  obtain ⟨x, hx⟩ := AMap.exists_get?_of_mem hopt
  obtain ⟨y, hy⟩ := AMap.exists_get?_of_mem h405
  -- and so is the OPTIONS answer, which finds the node's OPTIONS entry
  rw [Tree.handler_noTrace (.inr c9), handlerNoTrace_eq, hm, Tree.answer, if_neg hne, Node.answer_of_get ps' c8 hx] at ho
  cases ho
  exact ⟨rfl, rfl, hmem, hx, by rw [((n.answer_agrees method ps').2 hok).2, hy]; rfl⟩

end Mux

namespace Mux.P24
open Mux

section
variable {t : Tree} {env : Env} {path : Bytes} {ps : Params} {method : Bytes} {f : Found} {n : Node}
  (h : t.handler env path ps method = .res f)
include h

/-- The node of a served request, for a path other than `""` and `*`, is a node BELOW the root that has handlers, and
the handler called is that node's entry for the method. -/
theorem served_node (hok : f.ok = true) (hn : f.node = some n) (h1 : path ≠ []) (h2 : path ≠ [42])
    (hmt : method ≠ mTRACE) :
    n ∈ nodesL t.root.children ∧ n.handlers ≠ [] ∧ n.handlers.get? method = some f.handler := by
  obtain ⟨ps', hr, hne, rfl⟩ := Tree.handler_node (.inr hmt) h hn
  rw [Tree.matched_of_ne h1 h2] at hr
  exact ⟨(hit_mem_nodes hr).2 h1, hne, ((n.answer_agrees method ps').1 hok).2⟩

theorem served_root (hn : f.node = some n) (h1 : path = [] ∨ path = [42]) (hmt : method ≠ mTRACE) : n = t.root := by
  obtain ⟨ps', hm, _⟩ := Tree.handler_node (.inr hmt) h hn
  rw [Tree.matched_of_eq h1] at hm
  cases hm; rfl
end

end Mux.P24
