/-
  The middleware ("onion") invariant.  `TreeWrap ms t`, with `ms` the chronological list of all `Use` middlewares: a
  handler stored under `key` in a node with pattern `p` carries `mkWraps (own ++ ms) key p name` for some `own` (none at
  the root, in the not-found and in the TRACE handler).  `WrapInv r := TreeWrap r.ms r.tree` is kept by every router
  operation.  Who contributes `own`: the handler map `addMethods` produces (`AddedSpec`, read off `addMethodsNode_map`),
  lifted to `Router.handle` in `C09_own` (`Mux/Properties/C09.lean`).
-/
import Mux.Proofs.FoldRules
import Mux.Proofs.WOkOps
import Mux.Proofs.TreeVals
import Mux.Proofs.TreeReach
namespace Mux.P10
open Mux

/-- The middleware applications `ms` (innermost first) created for one handler: every factory was
called with the same `(method, pattern, router)`. -/
def mkWraps (ms : List Nat) (method pattern router : Bytes) : List Wrap :=
  ms.map (fun m => ⟨m, method, pattern, router⟩)

@[simp] theorem mkWraps_nil (k p r : Bytes) : mkWraps [] k p r = [] := rfl

theorem mkWraps_append (a b : List Nat) (k p r : Bytes) :
    mkWraps (a ++ b) k p r = mkWraps a k p r ++ mkWraps b k p r := by
  simp [mkWraps]

theorem wrapWith_wraps (h : Handler) (k p r : Bytes) (ms : List Nat) :
    (wrapWith h k p r ms).wraps = h.wraps ++ mkWraps ms k p r := rfl

theorem wrapWith_mkWraps {h : Handler} {ms : List Nat} {k p r : Bytes} (hh : h.wraps = mkWraps ms k p r) (m : List Nat) :
    (wrapWith h k p r m).wraps = mkWraps (ms ++ m) k p r := by
  rw [wrapWith_wraps, hh, mkWraps_append]

theorem mkWraps_length (ms : List Nat) (k p r : Bytes) : (mkWraps ms k p r).length = ms.length := by
  simp [mkWraps]

theorem mkWraps_mws (ms : List Nat) (k p r : Bytes) : (mkWraps ms k p r).map (·.mw) = ms := by
  simp [mkWraps, Function.comp_def]

theorem mem_mkWraps {ms : List Nat} {k p r : Bytes} {w : Wrap} (h : w ∈ mkWraps ms k p r) :
    w.method = k ∧ w.pattern = p ∧ w.router = r ∧ w.mw ∈ ms := by
  simp only [mkWraps, List.mem_map] at h
  obtain ⟨m, hm, rfl⟩ := h
  exact ⟨rfl, rfl, rfl, hm⟩

/-- The handler predicate of the invariant below the root. -/
def WrapR (ms : List Nat) (name : Bytes) (p : Bytes) (hs : AMap Handler) : Prop :=
  ∀ e ∈ hs, ∃ own : List Nat, e.2.wraps = mkWraps (own ++ ms) e.1 p name

theorem WrapR_nil (ms : List Nat) (name p : Bytes) : WrapR ms name p [] := by
  intro e he; cases he

theorem WrapR_subset {ms : List Nat} {name p : Bytes} {hs hs' : AMap Handler} (hsub : ∀ e ∈ hs', e ∈ hs)
    (h : WrapR ms name p hs) : WrapR ms name p hs' := fun e he => h e (hsub e he)

theorem WrapR_applyMw (ms m : List Nat) (name p : Bytes) (hs : AMap Handler) (h : WrapR ms name p hs) :
    WrapR (ms ++ m) name p (hs.map (fun e => (e.1, wrapWith e.2 e.1 p name m))) := by
  intro e he
  rw [List.mem_map] at he
  obtain ⟨e0, he0, rfl⟩ := he
  obtain ⟨own, ho⟩ := h e0 he0
  exact ⟨own, (wrapWith_mkWraps ho m).trans (by rw [List.append_assoc])⟩

structure TreeWrap (ms : List Nat) (t : Tree) : Prop where
  nf : t.notFound.wraps = mkWraps ms [] [] t.name
  tr : ∀ h, t.trace = some h → h.wraps = mkWraps ms mTRACE [] t.name
  rootPat : t.root.pattern = []
  rootHs : ∀ e ∈ t.root.handlers, e.2.wraps = mkWraps ms e.1 [] t.name
  below : ListW (WrapR ms t.name) [] t.root.children

theorem TreeWrap.rootW {ms : List Nat} {t : Tree} (h : TreeWrap ms t) : NodeW (WrapR ms t.name) t.root := by
  rw [NodeW_iff, h.rootPat]
  refine ⟨?_, h.below⟩
  intro e he
  exact ⟨[], by exact h.rootHs e he⟩

theorem TreeWrap.belowR {ms : List Nat} {t : Tree} (h : TreeWrap ms t) {n : Node} (hn : n ∈ nodesL t.root.children) :
    WrapR ms t.name n.pattern n.handlers :=
  ((All_iff_nodes _).2 _).1 (ListW_all h.below) n hn

theorem TreeWrap.patternOk {ms : List Nat} {t : Tree} (h : TreeWrap ms t) : Node.PatternOk t.root :=
  NodeW_patternOk _ h.rootW

theorem TreeWrap.of_root {ms : List Nat} {t : Tree} (h : TreeWrap ms t) {root' : Node} (counts' : AMap Nat) (mi : Nat)
    (hW : NodeW (WrapR ms t.name) root') (hp : root'.pattern = []) (hh : root'.handlers = t.root.handlers) :
    TreeWrap ms { t with counts := counts', root := root'.setHandlers root'.handlers mi } := by
  refine ⟨h.nf, h.tr, hp, ?_, ?_⟩
  · show ∀ e ∈ root'.handlers, _
    rw [hh]; exact h.rootHs
  · have := ((NodeW_iff root').1 hW).2
    rwa [hp] at this

theorem tw_new (name : Bytes) (ic : Interceptors) (nf : Handler) (tr : Option Handler) (ob nb : Base)
    (hnf : nf.wraps = []) (htr : ∀ h, tr = some h → h.wraps = []) : TreeWrap [] (Tree.new name ic nf tr ob nb) := by
  refine ⟨by simpa [Tree.new] using hnf, ?_, rfl, ?_, by simp [Tree.new, ListW]⟩
  · intro h hh; exact htr h hh
  · intro e he
    simp only [Tree.new, Node.handlers_mk, List.mem_cons, List.not_mem_nil, or_false] at he
    rcases he with rfl | rfl <;> rfl

theorem tw_use {ms : List Nat} {t : Tree} (m : List Nat) (hw : TreeWrap ms t) :
    TreeWrap (ms ++ m) (t.applyMiddleware m) := by
  obtain ⟨_, hp, _, hh, _, hc⟩ := applyMw_fields t.name m t.root
  refine ⟨wrapWith_mkWraps hw.nf m, ?_, ?_, ?_, ?_⟩
  · intro h hh'
    simp only [Tree.applyMiddleware, Option.map_eq_some_iff] at hh'
    obtain ⟨h0, hh0, rfl⟩ := hh'
    exact wrapWith_mkWraps (hw.tr h0 hh0) m
  · show (t.root.applyMw t.name m).pattern = []
    rw [hp]; exact hw.rootPat
  · show ∀ e ∈ (t.root.applyMw t.name m).handlers, e.2.wraps = mkWraps (ms ++ m) e.1 [] t.name
    rw [hh, hw.rootPat]
    intro e he
    obtain ⟨e0, he0, rfl⟩ := List.mem_map.1 he
    exact wrapWith_mkWraps (hw.rootHs e0 he0) m
  · have := ((NodeW_iff _).1 (applyMw_W t.name m (fun p hs h => WrapR_applyMw ms m t.name p hs h) _ hw.rootW)).2
    rwa [hp, hw.rootPat] at this

/-- What `Handle` hands to `Tree.add` on a router with the `Use` list `ms`: a handler without middlewares, and its own
middlewares in front of `ms`. -/
def AddsOver (ms : List Nat) : TOp → Prop
  | .add _ h ms' _ => h.wraps = [] ∧ ∃ own, ms' = own ++ ms
  | _ => True

theorem AddsOver.keepsW {ms : List Nat} (t : Tree) {op : TOp} (hop : AddsOver ms op) :
    op.KeepsW t (WrapR ms t.name) := by
  cases op with
  | add p h ms' methods =>
    obtain ⟨hh, own, rfl⟩ := hop
    intro n n' _ hn he e hmem
    -- an entry is old, or a handler without middlewares of its own wrapped by this call
    rcases (addMethodsNode_map he).2.2.2 e hmem with h1 | h1 | ⟨b, _, h1⟩
    · exact hn e h1
    · exact ⟨own, by rw [h1, wrapWith_wraps, hh, List.nil_append]⟩
    · exact ⟨own, by rw [h1, wrapWith_wraps, List.nil_append]⟩
  | remove p methods => exact fun n hn => WrapR_subset (removeMethods_sublist _ methods n).subset hn
  | clean pre => trivial
  | use m => trivial

/-- One tree operation: `add`, `remove` and `clean` put a restructured root with the old handlers in place and
recount; `use` wraps every handler once more. -/
theorem tw_step {ms : List Nat} {t : Tree} (hw : TreeWrap ms t) {op : TOp} (hop : AddsOver ms op) :
    TreeWrap (ms ++ useMs [op]) (t.step op) := by
  cases op with
  | use m =>
    rw [show useMs [TOp.use m] = m from List.append_nil m]
    exact tw_use m hw
  | _ =>
    simp only [useMs, List.append_nil]
    rcases Tree.step_cases t _ with e | ⟨m, hm⟩ | ⟨root', counts', hy, e⟩
    · rw [e]; exact hw
    · cases hm
    · obtain ⟨hW, ho⟩ := hy.nodeW (WrapR_nil ms t.name) (hop.keepsW t) hw.rootW hw.rootPat
      obtain ⟨_, hp, _, hh⟩ := Node.own_eq_iff.1 ho
      rw [e]
      exact hw.of_root _ _ hW (hp.trans hw.rootPat) hh

/-- The onion invariant of a router: `r.ms` is the list of `Use` middlewares its tree carries. -/
def WrapInv (r : Router) : Prop := TreeWrap r.ms r.tree

theorem wrap_new {cfg : RouterCfg} {r : Router} (h : Router.new cfg = some r) : WrapInv r := by
  unfold WrapInv
  rw [Router.new_ms h, Router.new_tree h]
  refine tw_new _ _ _ _ _ _ rfl ?_
  intro h hh
  split at hh
  · cases hh; rfl
  · cases hh

/-- A router operation is a tree operation (`P18.step_eq`): `Handle` adds over `r.ms`, `Use` appends to it. -/
theorem wrap_step {r : Router} (hw : WrapInv r) (op : ROp) : WrapInv (r.step op) := by
  have hop : AddsOver r.ms (P18.topOf r op) := by
    cases op with
    | handle p h m methods => exact ⟨rfl, m, rfl⟩
    | _ => trivial
  rw [WrapInv, P18.step_eq, ← useMs_topOf r op]
  exact tw_step hw hop

theorem wrap_run {r : Router} (hw : WrapInv r) (ops : List ROp) : WrapInv (r.run ops) :=
  List.foldl_inv (I := WrapInv) (f := Router.step) (fun _ op _ h => wrap_step h op) hw

theorem run_ms (r : Router) (ops : List ROp) : (r.run ops).ms = r.ms ++ (ops.filterMap useArg).flatten := by
  rw [Router.run_eq]

/-- The key under which the called handler is stored: the request method, or `""` for a 405. -/
def callKey (req : Req) (c : Call) : Bytes := if c.ok then req.method else mNotAllowed

/-- The shape of the middleware stack of the handler `Router.serveContext` calls. -/
def OnionSpec (useMs : List Nat) (name : Bytes) (root : Node) (hasTrace : Bool) (req : Req) (c : Call) : Prop :=
  -- 404: only the `Use` middlewares, method `""`, pattern `""`
  (c.node = none ∧ c.ok = false ∧ c.handler.wraps = mkWraps useMs [] [] name) ∨
  -- the TRACE short-circuit
  (hasTrace = true ∧ req.method = mTRACE ∧ c.node = some root ∧ c.ok = true ∧
    c.handler.wraps = mkWraps useMs mTRACE [] name) ∨
  -- `OPTIONS *` (and `OPTIONS ""`) or the 405 of the root node: pattern `""`
  (c.node = some root ∧ (callKey req c = mOPTIONS ∨ callKey req c = mNotAllowed) ∧
    (callKey req c, c.handler) ∈ root.handlers ∧ c.handler.wraps = mkWraps useMs (callKey req c) [] name) ∨
  -- an entry of a matched node below the root: a route method, the automatic HEAD/OPTIONS, or its 405 (`""`)
  (∃ n ∈ nodesL root.children, c.node = some n ∧ (callKey req c, c.handler) ∈ n.handlers ∧
    ∃ own : List Nat, c.handler.wraps = mkWraps (own ++ useMs) (callKey req c) n.pattern name)

/-- Every case of `OnionSpec` is ONE `mkWraps`: with some middleware list, the router's name, the pattern of the node
of the call and a key, which is `callKey` but for the 404 (`""`) and the TRACE short-circuit. -/
theorem OnionSpec.stack {useMs : List Nat} {name : Bytes} {root : Node} {hasTrace : Bool} {req : Req} {c : Call}
    (h : OnionSpec useMs name root hasTrace req c) (hroot : root.pattern = []) :
    ∃ ms k, c.handler.wraps = mkWraps ms k (match c.node with
        | some n => n.pattern
        | none => []) name ∧
      (k = callKey req c ∨ (c.node = none ∧ k = []) ∨ (req.method = mTRACE ∧ k = mTRACE)) := by
  rcases h with ⟨hn, _, hw⟩ | ⟨_, hm, hn, _, hw⟩ | ⟨hn, _, _, hw⟩ | ⟨n, _, hn, _, own, hw⟩
  · exact ⟨_, _, by rw [hn]; exact hw, .inr (.inl ⟨hn, rfl⟩)⟩
  · exact ⟨_, _, by rw [hn]; simp only [hroot]; exact hw, .inr (.inr ⟨hm, rfl⟩)⟩
  · exact ⟨_, _, by rw [hn]; simp only [hroot]; exact hw, .inl rfl⟩
  · exact ⟨_, _, by rw [hn]; exact hw, .inl rfl⟩

theorem found_onion {ms : List Nat} {t : Tree} (hw : TreeWrap ms t) (hinv : TreeInv t) {n : Node}
    (hn : n ∈ t.root.nodes) {k : Bytes} {h : Handler} (hg : n.handlers.get? k = some h) :
    (n = t.root ∧ (k = mOPTIONS ∨ k = mNotAllowed) ∧ (k, h) ∈ t.root.handlers ∧ h.wraps = mkWraps ms k [] t.name) ∨
    (n ∈ nodesL t.root.children ∧ (k, h) ∈ n.handlers ∧ ∃ own : List Nat, h.wraps = mkWraps (own ++ ms) k n.pattern t.name) := by
  have hmem := AMap.mem_of_get? _ _ _ hg
  rw [Node.nodes_eq] at hn
  rcases List.mem_cons.1 hn with rfl | hn
  · left
    refine ⟨rfl, ?_, hmem, hw.rootHs _ hmem⟩
    have : k ∈ t.root.handlers.keys := List.mem_map_of_mem (f := (·.1)) hmem
    rw [hinv.rootKeys] at this
    simpa using this
  · exact .inr ⟨hn, hmem, hw.belowR hn _ hmem⟩

theorem serve_onion {r : Router} (hw : WrapInv r) (hinv : TreeInv r.tree) (env : Env) (req : Req) (ps : Params)
    {c : Call} (hc : r.serveContext env req ps = .call c) :
    OnionSpec r.ms r.tree.name r.tree.root r.tree.hasTrace req c := by
  obtain ⟨f, _, hspec, rfl⟩ := Router.serve_spec hinv hc
  unfold OnionSpec callKey
  simp only [Router.callOf]
  rcases hspec.entry with ⟨h1, h2, h3⟩ | ⟨ht, hm, hnode, hok⟩ | ⟨n, hnode, hn, _, hg, _⟩
  · left
    exact ⟨h1, h3, by rw [h2]; exact hw.nf⟩
  · right; left
    exact ⟨by simp [Tree.hasTrace, ht], hm, hnode, hok, hw.tr _ ht⟩
  · -- the entry of the node under the key of the call
    rcases found_onion hw hinv hn hg with ⟨rfl, h1, h2, h3⟩ | ⟨h1, h2, h3⟩
    · right; right; left
      exact ⟨hnode, h1, h2, h3⟩
    · right; right; right
      exact ⟨n, h1, hnode, h2, h3⟩

/-- The handler map of the node after `addMethods`, key by key. -/
structure AddedSpec (t : Tree) (h : Handler) (pattern : Bytes) (ms : List Nat) (methods : List Bytes)
    (old new : AMap Handler) : Prop where
  /-- every listed method: the registered handler wrapped with the call's middlewares -/
  route : ∀ k ∈ methods, new.get? k = some (wrapWith h k pattern t.name ms)
  /-- the automatic HEAD, when GET is listed -/
  head : mGET ∈ methods → new.get? mHEAD = some (wrapWith h mHEAD pattern t.name ms)
  /-- OPTIONS: kept when the node had one, otherwise created with the middlewares of this call -/
  options : new.get? mOPTIONS =
    some ((old.get? mOPTIONS).getD (wrapWith { base := t.optionsBase } mOPTIONS pattern t.name ms))
  /-- 405: kept when the node had one, otherwise created with the middlewares of this call -/
  notAllowed : new.get? mNotAllowed =
    some ((old.get? mNotAllowed).getD (wrapWith { base := t.notAllowedBase } mNotAllowed pattern t.name ms))
  /-- every other key is untouched -/
  other : ∀ k, k ∉ methods → ¬ (k = mHEAD ∧ mGET ∈ methods) → k ≠ mOPTIONS → k ≠ mNotAllowed →
    new.get? k = old.get? k

theorem addMethodsNode_spec (t : Tree) (h : Handler) (pattern : Bytes) (ms : List Nat) (methods : List Bytes)
    (n n' : Node) (he : t.addMethodsNode h pattern ms methods n = .ok n') :
    n'.pattern = n.pattern ∧ n'.seg = n.seg ∧ n'.children = n.children ∧
      AddedSpec t h pattern ms methods n.handlers n'.handlers := by
  obtain ⟨hseg, hpat, _, hch⟩ := addMethodsNode_shape he
  obtain ⟨_, get, _, _⟩ := addMethodsNode_map he
  obtain ⟨hO, hN⟩ := addMethodsNode_get_auto he
  refine ⟨hpat, hseg, hch, fun k hk => ?_, fun hg => ?_, hO, hN, fun k hk hnh hkO hkN => ?_⟩
  · rw [get, if_pos (.inl hk)]
  · rw [get, if_pos (.inr ⟨rfl, hg⟩)]
  · exact addMethodsNode_get_other he (fun h => h.elim hk hnh) hkO hkN

end Mux.P10
