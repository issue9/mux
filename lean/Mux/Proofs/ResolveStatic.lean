/-
  C02 part B4 (`C02_canonical` in `C02resolve.lean`), the static half.  In ANY tree with the shape invariant `Sh`
  (`TableShape.lean`) the groups the reference resolver forms from the remainders below a node (`rems`) are its children
  with a live route below them, each with its text extended by `ext` (`groups_remsL`).  When every node without handlers
  is *forked* (`TT`: a parameter child, or two children starting with different bytes, so no literal byte is common to
  everything below it), every child is live and `ext` is empty (`stops_of_TT`), and the tree IS in canonical form for the
  remainders read off it (`canon_of_stops`).
-/
import Mux.Proofs.ResolveCanon
namespace Mux.P15
open Mux Mux.Spec

mutual
/-- The remainders (relative to the node) of the routes living in the subtree, depth first. -/
def rems : Node → List Rem
  | .mk _ pat _ hs _ cs => (if hs.isEmpty then [] else [([], pat)]) ++ remsL cs
def remsL : List Node → List Rem
  | [] => []
  | c :: cs => (rems c).map (fun r => (c.seg.value ++ r.1, r.2)) ++ remsL cs
end

/-- The remainders a child contributes to its parent. -/
def block (c : Node) : List Rem := (rems c).map (fun r => (c.seg.value ++ r.1, r.2))

theorem rems_eq (n : Node) :
    (rems n) = (if n.handlers.isEmpty then [] else [([], n.pattern)]) ++ remsL n.children := by
  cases n; simp [rems, Node.handlers, Node.pattern, Node.children]

theorem remsL_cons (c : Node) (cs : List Node) : remsL (c :: cs) = block c ++ remsL cs := by
  simp [remsL, block]

theorem mem_remsL {cs : List Node} {r : Rem} : r ∈ remsL cs ↔ ∃ d ∈ cs, r ∈ block d := by
  induction cs with
  | nil => simp [remsL]
  | cons c cs ih => rw [remsL_cons, List.mem_append, ih]; simp

theorem mem_rems {n : Node} {r : Rem} :
    r ∈ rems n ↔ (n.handlers ≠ [] ∧ r = ([], n.pattern)) ∨ r ∈ remsL n.children := by
  rw [rems_eq, List.mem_append]
  cases n.handlers <;> simp

/-- The children cannot all continue with one and the same literal byte. -/
def Forked (cs : List Node) : Prop :=
  (∃ d ∈ cs, d.seg.value.head? = some startByte) ∨
  (∃ d1 ∈ cs, ∃ d2 ∈ cs, d1.seg.value.head? ≠ d2.seg.value.head?)

def TT (n : Node) : Prop := n.handlers ≠ [] ∨ Forked n.children

end Mux.P15

/-- The literal text common to all live routes below `c` (relative to `c`): empty in a canonical tree, the
text of the handler-less literal chain below `c` after a `Remove`. -/
def Mux.P16.ext (c : Mux.Node) : Mux.Bytes := Mux.Spec.lcp ((Mux.P15.rems c).map (fun r => Mux.Spec.leadLit r.1))

namespace Mux.P15
open Mux Mux.Spec Mux.P16

/-- The node's own text is the whole common literal continuation of its members: the remainders
below it (relative to it) have no common literal first byte. -/
def Stop (n : Node) : Prop := rems n ≠ [] ∧ ext n = []

section Child
variable {ic : Interceptors} {pp : Bytes} {c : Node} (hc : P11.ChildOk ic pp c)
include hc

theorem block_key {tok suf : Bytes} (F : ValForm c.seg.value tok suf) :
    ∀ r ∈ block c, keyOf r.1 = some (tok, suf.head?) := by
  intro r hr
  obtain ⟨r', hr', rfl⟩ := List.mem_map.1 hr
  refine F.key r'.1 ?_
  by_cases hs : suf = []
  · -- a closed text has no children: the only remainder is the node's own
    right
    rcases mem_rems.1 hr' with ⟨_, rfl⟩ | hr'
    · rfl
    · rw [hc.2.2.2 (F.closed hs)] at hr'
      cases hr'
  · exact .inl hs

theorem mkGroup_block {tok suf : Bytes} (F : ValForm c.seg.value tok suf) (hne : rems c ≠ []) :
    mkGroup (block c) (tok, suf.head?) =
      { value := c.seg.value ++ ext c, members := (rems c).map (fun r => (r.1.drop (ext c).length, r.2)) } := by
  have hne' : (rems c).map (fun r => leadLit r.1) ≠ [] := fun e => hne (List.map_eq_nil_iff.1 e)
  -- the literal parts of the block are those below `c` behind `suf`
  have hval : tok ++ lcp ((block c).map (fun r => litOf r.1)) = c.seg.value ++ ext c := by
    rw [F.eq, List.append_assoc, ext, ← lcp_map_append suf hne', block, List.map_map, List.map_map]
    exact congrArg (tok ++ lcp ·) (List.map_congr_left fun r _ => F.lit r.1)
  rw [mkGroup_of_key (block_key hc F)]
  simp only [hval]
  congr 1
  unfold block
  rw [List.map_map]
  refine List.map_congr_left fun r _ => ?_
  simp only [Function.comp, List.length_append, Prod.mk.injEq, and_true]
  rw [← List.drop_drop, List.drop_left]

end Child

theorem key_ne_of_vkey_ne {a b ta sa tb sb : Bytes} (Fa : ValForm a ta sa) (Fb : ValForm b tb sb)
    (h : P11.vkey a ≠ P11.vkey b) : (ta, sa.head?) ≠ (tb, sb.head?) := by
  intro e
  simp only [Prod.mk.injEq] at e
  apply h
  have : sa.take 1 = sb.take 1 := by cases sa <;> cases sb <;> simp_all
  rw [Fa.vkey, Fb.vkey, e.1, this]

theorem remsL_key_ne {ic : Interceptors} {pp : Bytes} {cs : List Node} (hsh : P11.ShL ic pp cs) {c : Node}
    {tok suf : Bytes} (F : ValForm c.seg.value tok suf) (hkeys : ∀ d ∈ cs, P11.ckey d ≠ P11.ckey c) :
    ∀ r ∈ remsL cs, keyOf r.1 ≠ some (tok, suf.head?) := by
  intro r hr
  obtain ⟨d, hd, hb⟩ := mem_remsL.1 hr
  have hdo := hsh.1 d hd
  obtain ⟨tokd, sufd, Fd⟩ := valForm_of_wf hdo.1
  rw [block_key hdo Fd r hb]
  exact fun e => key_ne_of_vkey_ne Fd F (hkeys d hd) (Option.some.inj e)

theorem stop_of_TT {ic : Interceptors} {n : Node} (hsh : P11.Sh ic n) (hT : TT n)
    (hkids : ∀ c ∈ n.children, Stop c) : Stop n := by
  -- a remainder below `n` for every child, starting like the child
  have elem : ∀ d ∈ n.children, ∃ r ∈ rems n, r.1.head? = d.seg.value.head? := by
    intro d hd
    obtain ⟨r', hr'⟩ := List.exists_mem_of_ne_nil _ (hkids d hd).1
    refine ⟨(d.seg.value ++ r'.1, r'.2), mem_rems.2 (.inr (mem_remsL.2 ⟨d, hd, List.mem_map.2 ⟨r', hr', rfl⟩⟩)), ?_⟩
    exact head_append_of_ne (hsh.1 d hd).1.ne_nil _
  have own : n.handlers ≠ [] → (([], n.pattern) : Rem) ∈ rems n := fun hh => mem_rems.2 (.inl ⟨hh, rfl⟩)
  refine ⟨?_, Classical.byContradiction fun he => ?_⟩
  · rcases hT with hh | ⟨d, hd, _⟩ | ⟨d, hd, _⟩
    · exact List.ne_nil_of_mem (own hh)
    · exact let ⟨_, hr, _⟩ := elem d hd; List.ne_nil_of_mem hr
    · exact let ⟨_, hr, _⟩ := elem d hd; List.ne_nil_of_mem hr
  · -- otherwise all remainders start with one literal byte `b`: `n` has no handlers, no parameter child, no two children
    -- that start differently
    obtain ⟨_, b, hb, hR⟩ := lcp_leadLit_ne_nil_iff.1 he
    have kid : ∀ d ∈ n.children, d.seg.value.head? = some b := fun d hd =>
      let ⟨r, hr, hrh⟩ := elem d hd
      hrh ▸ hR r hr
    rcases hT with hh | ⟨d, hd, hstart⟩ | ⟨d1, hd1, d2, hd2, hne⟩
    · cases hR _ (own hh)
    · exact hb (Option.some.inj ((kid d hd).symm.trans hstart))
    · exact hne ((kid d1 hd1).trans (kid d2 hd2).symm)

theorem selfCanon_rems {ic : Interceptors} {n : Node} (hsh : P11.Sh ic n) : SelfCanon n (rems n) := by
  -- the remainders of the children are not empty
  have own : ∀ r ∈ rems n, r.1 = [] → n.handlers ≠ [] ∧ r = ([], n.pattern) := by
    intro r hr hre
    rcases mem_rems.1 hr with h | hr
    · exact h
    · obtain ⟨d, hd, hb⟩ := mem_remsL.1 hr
      obtain ⟨r', _, rfl⟩ := List.mem_map.1 hb
      exact absurd (List.append_eq_nil_iff.1 hre).1 (hsh.1 d hd).1.ne_nil
  exact ⟨⟨fun hh => ⟨_, mem_rems.2 (.inl ⟨hh, rfl⟩), rfl⟩, fun ⟨r, hr, hre⟩ => (own r hr hre).1⟩,
    fun r hr hre => by rw [(own r hr hre).2]⟩

theorem groups_rems (n : Node) : groups (rems n) = groups (remsL n.children) := by
  rw [rems_eq]
  split
  · rfl
  · rw [List.singleton_append, groups_cons_nil]

/-- The group that the live routes below `c` form among the remainders below the parent of `c`. -/
def groupOf (c : Node) : RGroup :=
  { value := c.seg.value ++ ext c, members := (rems c).map (fun r => (r.1.drop (ext c).length, r.2)) }

theorem groups_remsL {ic : Interceptors} {pp : Bytes} : ∀ {cs : List Node}, P11.ShL ic pp cs →
    groups (remsL cs) = (cs.filter (fun c => rems c ≠ [])).map groupOf
  | [], _ => rfl
  | c :: cs, hsh => by
    obtain ⟨hco, hkeys, hshcs⟩ := P11.ShL_cons.1 hsh
    rw [remsL_cons, List.filter_cons]
    by_cases hne : rems c = []
    · have : block c = [] := by unfold block; rw [hne]; rfl
      rw [this, List.nil_append, if_neg (by simpa using hne), groups_remsL hshcs]
    · obtain ⟨tok, suf, F⟩ := valForm_of_wf hco.1
      rw [if_pos (by simpa using hne), List.map_cons, ← groups_remsL hshcs]
      show _ = ({ value := _, members := _ } : RGroup) :: _
      rw [← mkGroup_block hco F hne]
      exact groups_block (fun e => hne (List.map_eq_nil_iff.1 e)) (block_key hco F) (remsL_key_ne hshcs F hkeys)

theorem mem_groups_rems {ic : Interceptors} {n : Node} (hsh : P11.Sh ic n) {g : RGroup} :
    g ∈ groups (rems n) ↔ ∃ c ∈ n.children, rems c ≠ [] ∧ groupOf c = g := by
  rw [groups_rems, groups_remsL hsh, List.mem_map]
  simp only [List.mem_filter, decide_eq_true_eq, and_assoc]

theorem stops_of_TT (ic : Interceptors) : ∀ n : Node, Node.All (P11.Sh ic) n → AllL TT n.children → AllL Stop n.children :=
  Node.induction fun n ih hsh hT => by
    rw [AllL_iff]
    intro c hc
    have hcs := ih c hc (AllL_mem hsh.tail hc) (AllL_mem hT hc).tail
    rw [Node.All_iff]
    exact ⟨stop_of_TT (AllL_mem hsh.tail hc).head (AllL_mem hT hc).head fun d hd => (AllL_mem hcs hd).head, hcs⟩

theorem canon_of_stops (ic : Interceptors) : ∀ n : Node, Node.All (P11.Sh ic) n → AllL Stop n.children →
    Node.Canon n (rems n) :=
  Node.induction fun n ih hsh hst => by
    have hstop : ∀ c ∈ n.children, Stop c := fun c hc => (AllL_mem hst hc).head
    have hg : groups (rems n) = n.children.map (fun c => ({ value := c.seg.value, members := rems c } : RGroup)) := by
      rw [groups_rems, groups_remsL hsh.head, List.filter_eq_self.2 (fun c hc => by simpa using (hstop c hc).1)]
      refine List.map_congr_left fun c hc => ?_
      unfold groupOf
      rw [(hstop c hc).2]
      simp
    rw [Node.canon_iff]
    refine ⟨selfCanon_rems hsh.head, ?_, ?_⟩
    · rw [hg, List.map_map]; exact List.Perm.refl _
    · rw [hg, CanonL_iff]
      intro c hc g hgm hv
      obtain ⟨d, hd, rfl⟩ := List.mem_map.1 hgm
      rw [P11.ShL.eq_of_value hsh.head hd hc hv]
      exact ih c hc (AllL_mem hsh.tail hc) (AllL_mem hst hc).tail

/-- Put after the pattern of the node, a remainder below it is its route, and the routes are the live patterns below the
node, in the same order. -/
theorem remsL_live (ic : Interceptors) : ∀ n : Node, Node.All (P11.Sh ic) n →
    (remsL n.children).map (fun r => (n.pattern ++ r.1, r.2)) = (liveL n.children).map (fun e => (e.1, e.1)) :=
  Node.induction fun n ih hall => by
    have kids : ∀ cs : List Node, (∀ c ∈ cs, c ∈ n.children) →
        (remsL cs).map (fun r => (n.pattern ++ r.1, r.2)) = (liveL cs).map (fun e => (e.1, e.1)) := by
      intro cs
      induction cs with
      | nil => intro _; rw [P11.liveL_nil]; rfl
      | cons c cs ihc =>
        intro hcs
        have hc := hcs c List.mem_cons_self
        -- the child's own entry, then what is below it (`ih`), with `c.pattern = n.pattern ++ c.seg.value`
        have hcn : (rems c).map (fun r => (c.pattern ++ r.1, r.2)) = (P11.liveN c).map (fun e => (e.1, e.1)) := by
          rw [rems_eq, P11.liveN, List.map_append, List.map_append, ih c hc (AllL_mem hall.tail hc)]
          unfold P11.ent
          cases c.handlers <;> simp
        rw [remsL_cons, P11.liveL_cons, List.map_append, List.map_append,
          ihc fun d hd => hcs d (List.mem_cons_of_mem _ hd), ← hcn, (hall.head.1 c hc).2.2.1]
        unfold block
        rw [List.map_map]
        congr 1
        exact List.map_congr_left fun r _ => by simp
    exact kids n.children fun _ h => h

theorem remsL_routes {ic : Interceptors} {n : Node} (hall : Node.All (P11.Sh ic) n) :
    (remsL n.children).map (fun r => r.2) = (liveL n.children).map (fun e => e.1) := by
  have := congrArg (List.map Prod.snd) (remsL_live ic n hall)
  rw [List.map_map, List.map_map] at this
  exact this

theorem rems_pattern (ic : Interceptors) (n : Node) (hall : Node.All (P11.Sh ic) n) {r : Rem} (hr : r ∈ rems n) :
    n.pattern ++ r.1 = r.2 := by
  rcases mem_rems.1 hr with ⟨_, rfl⟩ | hr
  · simp
  · have := List.mem_map_of_mem (f := fun r : Rem => (n.pattern ++ r.1, r.2)) hr
    rw [remsL_live ic n hall] at this
    obtain ⟨e, _, he⟩ := List.mem_map.1 this
    exact (Prod.mk.inj he).1.symm.trans (Prod.mk.inj he).2

theorem remsL_root {ic : Interceptors} {n : Node} (hall : Node.All (P11.Sh ic) n) (hp : n.pattern = []) :
    remsL n.children = ((liveL n.children).map (fun e => e.1)).map (fun p => (p, p)) := by
  have := remsL_live ic n hall
  rw [hp] at this
  rw [List.map_map]
  exact (List.map_id _).symm.trans this

end Mux.P15
