/-
  Mux.Proofs.HostsDelete — for `Mux/Properties/C14delete.lean`: every registered domain has a `GET` entry in the table
  read off the tree (`domain_has_get`), and the example matcher `exHs` evaluated once (`exHs_eval`).
-/
import Mux.Proofs.Table
import Mux.Proofs.HostsResolve
import Mux.Proofs.HostsReachExamples
namespace Mux.P30
open Mux Mux.P11 Mux.P12 Mux.P14

theorem domain_has_get {hs : Hosts} (hg : HostsGet hs) {p : Bytes} (hp : p ∈ (tableOf hs.tree).patterns) :
    (tableOf hs.tree).has p mGET := by
  rw [tableOf_patterns] at hp
  obtain ⟨e, he, rfl⟩ := List.mem_map.1 hp
  obtain ⟨x, hx, hxh, rfl⟩ := P11.mem_liveL.1 he
  rw [has_tableOf]
  exact ⟨_, he, rfl, mem_regKeys.2 ⟨hg.mem_get hx hxh, by unfold IsReg; decide⟩⟩

/-- `exHs` run once by the kernel: its domains are `a.com` and `a.com.cn`, it
rejects `b.com`, and it stores no regexp segment with the rule `w`. -/
theorem exHs_eval : (tableOf exHs.tree).patterns = [dA, toLower dACn] ∧
    outOf (exHs.match P12.exEnv [98, 46, 99, 111, 109] [47] []) = some (false, [47], []) ∧
    usesRule [119] exHs.tree.root.children = false := by
  simp only [exHs, hostsRun_eq_F]
  decide +kernel

end Mux.P30
