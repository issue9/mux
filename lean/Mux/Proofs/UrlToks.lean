/-
  Mux.Proofs.UrlToks — the token stream of a list of segments (`toks`: literal text with adjacent literals merged |
  parameter name and `-` flag), on which alone URL building depends, and the re-segmentation lemma: segments that each
  re-parse from their own well-formed text (`SegOk`, e.g. the chain of a node in a well-formed tree) have the token stream
  of `Split` of the concatenated text — under ANY interceptor table, as names, flags and suffixes do not depend on it.
-/
import Mux.Proofs.Url
import Mux.Proofs.WfTree
namespace Mux.P13
open Mux Mux.P9

/-- A literal run, or a parameter `(name, ignore flag)`. -/
abbrev Tok := Sum Bytes (Bytes × Bool)

/-- Put literal text in front of a token stream, merging it with a leading literal run and dropping
it when empty. -/
def consLit (x : Bytes) : List Tok → List Tok
  | .inl y :: r => .inl (x ++ y) :: r
  | [] => if x = [] then [] else [.inl x]
  | .inr p :: r => if x = [] then .inr p :: r else .inl x :: .inr p :: r

/-- The token stream of a list of segments: a literal segment contributes its text, a parameter
segment its name and flag followed by its suffix as literal text. -/
def toks : List Seg → List Tok
  | [] => []
  | s :: r => if s.kind = .str then consLit s.value (toks r) else .inr (s.name, s.ignoreName) :: consLit s.suffix (toks r)

/-- Two segment lists spell the same pattern: same parameters in the same order, same literal text
between them (however it is cut into segments). -/
def SameToks (a b : List Seg) : Prop := toks a = toks b

theorem consLit_nil (l : List Tok) : consLit [] l = l := by
  cases l with
  | nil => rfl
  | cons t r => cases t <;> simp [consLit]

theorem consLit_append (a b : Bytes) (l : List Tok) : consLit (a ++ b) l = consLit a (consLit b l) := by
  cases l with
  | nil =>
    by_cases hb : b = []
    · subst hb; simp [consLit]
    · have : a ++ b ≠ [] := by simp [hb]
      simp [consLit, hb]
  | cons t r =>
    cases t with
    | inl y => simp [consLit]
    | inr p =>
      by_cases hb : b = []
      · subst hb; simp [consLit]
      · have : a ++ b ≠ [] := by simp [hb]
        simp [consLit, hb]

def urlToks (ps : AMap Bytes) : List Tok → Except Err Bytes
  | [] => .ok []
  | .inl x :: r => match urlToks ps r with
    | .ok u => .ok (x ++ u)
    | .error e => .error e
  | .inr p :: r => match ps.get? p.1 with
    | none => .error .missingParam
    | some v => match urlToks ps r with
      | .ok u => .ok (v ++ u)
      | .error e => .error e

theorem urlToks_consLit (ps : AMap Bytes) (x : Bytes) (l : List Tok) :
    urlToks ps (consLit x l) = match urlToks ps l with
      | .ok u => .ok (x ++ u)
      | .error e => .error e := by
  cases l with
  | nil =>
    by_cases hx : x = []
    · subst hx; simp [consLit, urlToks]
    · simp [consLit, hx, urlToks]
  | cons t r =>
    cases t with
    | inl y =>
      simp only [consLit, urlToks]
      cases urlToks ps r <;> simp
    | inr p =>
      by_cases hx : x = []
      · subst hx
        simp only [consLit, if_true]
        cases urlToks ps (.inr p :: r) <;> simp
      · simp only [consLit, hx, if_false]
        rw [urlToks]

theorem urlLoop_eq_urlToks (ps : AMap Bytes) (segs : List Seg) : urlLoop ps segs = urlToks ps (toks segs) := by
  fun_induction urlLoop ps segs with
  | case1 => rfl
  | case2 s segs hk ih =>
    rw [toks, if_pos hk, urlToks_consLit, ← ih]
    cases urlLoop ps segs <;> rfl
  | case3 s segs hk hg => rw [toks, if_neg hk, urlToks, hg]
  | case4 s segs hk v hg ih =>
    rw [toks, if_neg hk, urlToks, hg, urlToks_consLit, ← ih]
    cases urlLoop ps segs with
    | error e => rfl
    | ok u => exact congrArg Except.ok (List.append_assoc v s.suffix u)

theorem urlLoop_congr_toks (ps : AMap Bytes) {a b : List Seg} (h : SameToks a b) : urlLoop ps a = urlLoop ps b := by
  rw [urlLoop_eq_urlToks, urlLoop_eq_urlToks, h]

/-- The piece `splitString` is accumulating: literal text so far, or a token and its suffix so far. -/
inductive Cur where
  | lit (x : Bytes)
  | tk (body suf : Bytes)

def Cur.text : Cur → Bytes
  | .lit x => x
  | .tk body suf => tok body suf

def Cur.Ok : Cur → Prop
  | .lit x => NoBrace x
  | .tk body suf => NoBrace body ∧ NoBrace suf

/-- What the piece in progress contributes in front of a token stream. -/
def Cur.toks : Cur → List Tok → List Tok
  | .lit x, l => consLit x l
  | .tk body suf, l => .inr (bodyName body) :: consLit suf l

def Cur.app : Cur → Bytes → Cur
  | .lit x, v => .lit (x ++ v)
  | .tk body suf, v => .tk body (suf ++ v)

theorem NoBrace.append {a b : Bytes} (ha : NoBrace a) (hb : NoBrace b) : NoBrace (a ++ b) := P9.NoBrace.append ha hb

theorem Cur.app_text (c : Cur) (v : Bytes) : (c.app v).text = c.text ++ v := by
  cases c <;> simp [Cur.app, Cur.text, tok]

theorem Cur.app_ok {c : Cur} {v : Bytes} (hc : c.Ok) (hv : NoBrace v) : (c.app v).Ok := by
  cases c with
  | lit x => exact NoBrace.append hc hv
  | tk body suf => exact ⟨hc.1, NoBrace.append hc.2 hv⟩

theorem Cur.app_toks (c : Cur) (v : Bytes) (l : List Tok) : (c.app v).toks l = c.toks (consLit v l) := by
  cases c <;> simp [Cur.app, Cur.toks, consLit_append]

theorem Cur.ok_wf {c : Cur} (h : c.Ok) : WfPiece c.text := by
  cases c with
  | lit x => exact .inl h
  | tk body suf => exact .inr ⟨body, suf, rfl, h.1, h.2⟩

theorem WfPiece.cur {v : Bytes} (h : WfPiece v) : ∃ c : Cur, c.Ok ∧ c.text = v := by
  rcases h with h | ⟨body, suf, rfl, hb, hs⟩
  · exact ⟨.lit v, h, rfl⟩
  · exact ⟨.tk body suf, ⟨hb, hs⟩, rfl⟩

theorem toks_cons_of_newSegment {ic : Interceptors} {c : Cur} {s : Seg} (hc : c.Ok)
    (h : newSegment ic c.text = .ok s) (r : List Seg) : toks (s :: r) = c.toks (toks r) := by
  cases c with
  | lit x =>
    have := newSegment_str_of_noStart h hc.1
    subst this
    simp [toks, Cur.toks, Cur.text]
  | tk body suf =>
    obtain ⟨hk, hsuf, hn, hi, _⟩ := newSegment_tok_fields hc.1.2 h
    simp only [toks, hk, if_false, Cur.toks, hsuf, hn, hi]

/-- A piece emitted in front of the pieces `l` contributes its tokens, an empty one (not emitted) none. -/
theorem toks_emit {ic : Interceptors} {c : Cur} (hc : c.Ok) {l : List Bytes} {flag : Bool} {names : List Bytes}
    {segs : List Seg} (h : splitLoop ic (emit c.text l) flag names = .ok segs) :
    ∃ flag' names' segs', splitLoop ic l flag' names' = .ok segs' ∧ toks segs = c.toks (toks segs') := by
  unfold emit at h
  split at h
  · rename_i hnil
    refine ⟨flag, names, segs, h, ?_⟩
    cases c with
    | lit x => rw [show x = [] from hnil, Cur.toks, consLit_nil]
    | tk body suf => cases hnil
  · obtain ⟨_, _, s, segs', h1, _, h2, rfl⟩ := splitLoop_cons_inv h
    exact ⟨_, _, segs', h2, toks_cons_of_newSegment hc h1 segs'⟩

theorem toks_mergeVals {ic ic' : Interceptors} (cs : List Seg) (hok : ∀ s ∈ cs, SegOk ic s) :
    ∀ (c : Cur), c.Ok → ∀ (flag : Bool) (names : List Bytes) (segs' : List Seg),
      splitLoop ic' (mergeVals c.text (cs.map (·.value))) flag names = .ok segs' →
      toks segs' = c.toks (toks cs) := by
  induction cs with
  | nil =>
    intro c hc flag names segs' h
    obtain ⟨_, _, seg, segs'', h1, _, h2, rfl⟩ := splitLoop_cons_inv h
    cases h2
    exact toks_cons_of_newSegment hc h1 []
  | cons s cs ih =>
    intro c hc flag names segs' h
    have hs := hok s List.mem_cons_self
    have ih' := ih fun x hx => hok x (List.mem_cons_of_mem _ hx)
    -- the text of `s` as a piece `d`: what `s` contributes to the tokens of `cs` is what `d` does
    obtain ⟨d, hd, hdt⟩ := WfPiece.cur hs.wf
    rw [toks_cons_of_newSegment hd (hdt ▸ hs.seg) cs]
    rw [List.map_cons, ← hdt, mergeVals] at h
    cases d with
    | lit x =>
      rw [if_neg (show ¬ (Cur.lit x).text.head? = some startByte from fun hh => hd.1 (List.mem_of_mem_head? hh)),
        ← Cur.app_text] at h
      rw [ih' (c.app x) (Cur.app_ok hc hd) flag names segs' h, Cur.app_toks]
      rfl
    | tk body suf =>
      rw [if_pos (show (Cur.tk body suf).text.head? = some startByte from rfl)] at h
      obtain ⟨flag', names', segs'', h2, e⟩ := toks_emit hc h
      rw [e, ih' (.tk body suf) hd flag' names' segs'' h2]

/-- **The re-segmentation lemma.** Let `cs` be segments that each re-parse from their own
well-formed text under the interceptors `ic` (the chain of a node of a well-formed tree).  If `Split`
— under any interceptors `ic'` — accepts the concatenated text, its segments have the same token stream:
the same parameters (name, `-` flag) in the same order with the same literal text in between. -/
theorem toks_split_chain {ic ic' : Interceptors} {cs : List Seg} (hok : ∀ s ∈ cs, SegOk ic s) {segs' : List Seg}
    (h : split ic' (cs.map (·.value)).flatten = .ok segs') : SameToks segs' cs := by
  replace h := (split_ok_iff.1 h).2
  unfold splitString at h
  rw [splitAux_flatten_wf _ (by
    intro v hv
    obtain ⟨s, hs, rfl⟩ := List.mem_map.1 hv
    exact (hok s hs).wf)] at h
  have := toks_mergeVals (ic' := ic') cs hok (.lit []) NoBrace.nil false [] segs' h
  simpa [SameToks, Cur.toks, consLit_nil] using this

theorem url_of_chain {ic ic' : Interceptors} {cs : List Seg} (hok : ∀ s ∈ cs, SegOk ic s) {segs' : List Seg}
    (h : split ic' (cs.map (·.value)).flatten = .ok segs') (ps : AMap Bytes) :
    ic'.url (cs.map (·.value)).flatten ps = urlLoop ps cs := by
  simp only [Interceptors.url, if_neg (split_ok_iff.1 h).1, h, bind, Except.bind]
  exact urlLoop_congr_toks ps (toks_split_chain hok h)

end Mux.P13
