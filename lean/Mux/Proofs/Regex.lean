/-
  Mux.Proofs.Regex — the backtracking engine `Re.m` in continuation-passing style is `findSome?` over the list of
  remainders the expression can leave, in leftmost-first priority order (`Re.rems`, `Re.m_eq`); the remainders are
  exactly what `Re.Denotes` allows (`mem_rems_iff`: soundness and completeness); consequences for `rxMatch`.
-/
import Mux.Proofs.Syntax
import Mux.Proofs.FoldRules
namespace Mux

theorem isPrefixOf_eq_append {l p : Bytes} (h : p.isPrefixOf l = true) : l = p ++ l.drop p.length :=
  (List.prefix_iff_eq_append.1 (isPrefixOf_iff.1 h)).symm

/-- What a greedy `c*` can leave of `s`: longest match first. -/
def starRems (c : Cls) : Bytes → List Bytes
  | [] => [[]]
  | b :: s => if c.has b then starRems c s ++ [b :: s] else [b :: s]

/-- The remainders `r` can leave of `s`, in the order in which `Re.m` offers them to its continuation.  The facts about
`r.rems s` for every `r` go by `fun_induction Re.rems`, which numbers its cases as the equations stand here and splits the
`if`s: 1 `eps`; 2–4 `cls` (the byte is in the class, is not, end of text); 5 `seq`; 6 `alt`; 7 `star`; 8–10 `plus` (as `cls`);
11 `opt`. -/
def Re.rems : Re → Bytes → List Bytes
  | .eps, s => [s]
  | .cls c, b :: s => if c.has b then [s] else []
  | .cls _, [] => []
  | .seq a b, s => (a.rems s).flatMap fun s' => b.rems s'
  | .alt a b, s => a.rems s ++ b.rems s
  | .star c, s => starRems c s
  | .plus c, b :: s => if c.has b then starRems c s else []
  | .plus _, [] => []
  | .opt r, s => r.rems s ++ [s]

theorem starM_eq {α : Type} (c : Cls) (s : Bytes) (k : Bytes → Option α) : starM c s k = (starRems c s).findSome? k := by
  fun_induction starRems c s with
  | case1 => rw [starM, List.findSome?_singleton]
  | case2 b s hb ih =>
    rw [starM, if_pos hb, List.findSome?_append, List.findSome?_singleton, ← ih]
    cases starM c s k <;> rfl
  | case3 b s hb => rw [starM, if_neg hb, List.findSome?_singleton]

theorem Re.m_eq {α : Type} (r : Re) (s : Bytes) (k : Bytes → Option α) : r.m s k = (r.rems s).findSome? k := by
  fun_induction Re.rems r s generalizing k with
  | case1 s => rw [Re.m, List.findSome?_singleton]
  | case2 c b s hb => rw [Re.m, if_pos hb, List.findSome?_singleton]
  | case3 c b s hb => rw [Re.m, if_neg hb]; rfl
  | case4 c => rfl
  | case5 a b s ihb iha => rw [Re.m, List.findSome?_flatMap, iha]; simp only [ihb]
  | case6 a b s iha ihb =>
    rw [Re.m, List.findSome?_append, ← iha, ← ihb]
    cases a.m s k <;> rfl
  | case7 c s => rw [Re.m, starM_eq]
  | case8 c b s hb => rw [Re.m, if_pos hb, starM_eq]
  | case9 c b s hb => rw [Re.m, if_neg hb]; rfl
  | case10 c => rfl
  | case11 r s ih =>
    rw [Re.m, List.findSome?_append, List.findSome?_singleton, ← ih]
    cases r.m s k <;> rfl

theorem mem_starRems {c : Cls} {s s2 : Bytes} :
    s2 ∈ starRems c s ↔ ∃ s1, s = s1 ++ s2 ∧ Re.Denotes (.star c) s1 := by
  fun_induction starRems c s with
  | case1 =>
    rw [List.mem_singleton]
    constructor
    · rintro rfl; exact ⟨[], rfl, .starNil⟩
    · rintro ⟨s1, h, _⟩; exact (List.append_eq_nil_iff.1 h.symm).2
  | case2 b s hb ih =>
    rw [List.mem_append, List.mem_singleton, ih]
    constructor
    · rintro (⟨s1, rfl, hd⟩ | rfl)
      · exact ⟨b :: s1, rfl, .starCons hb hd⟩
      · exact ⟨[], rfl, .starNil⟩
    · rintro ⟨s1, h, hd⟩
      cases hd with
      | starNil => exact .inr h.symm
      | starCons _ hs => cases h; exact .inl ⟨_, rfl, hs⟩
  | case3 b s hb =>
    rw [List.mem_singleton]
    constructor
    · rintro rfl; exact ⟨[], rfl, .starNil⟩
    · rintro ⟨s1, h, hd⟩
      cases hd with
      | starNil => exact h.symm
      | starCons hb' _ => cases h; exact absurd hb' hb

theorem rems_sound {r : Re} {s s2 : Bytes} (h : s2 ∈ r.rems s) : ∃ s1, s = s1 ++ s2 ∧ Re.Denotes r s1 := by
  fun_induction Re.rems r s generalizing s2 with
  | case1 s => exact ⟨[], List.mem_singleton.1 h ▸ rfl, .eps⟩
  | case2 c b s hb => exact ⟨[b], List.mem_singleton.1 h ▸ rfl, .cls hb⟩
  | case3 | case4 | case9 | case10 => cases h
  | case5 a b s ihb iha =>
    obtain ⟨x, hx, hy⟩ := List.mem_flatMap.1 h
    obtain ⟨s1, rfl, h1⟩ := iha hx
    obtain ⟨t1, rfl, h2⟩ := ihb _ hy
    exact ⟨s1 ++ t1, (List.append_assoc ..).symm, .seq h1 h2⟩
  | case6 a b s iha ihb =>
    rcases List.mem_append.1 h with h | h
    · obtain ⟨s1, e, h1⟩ := iha h; exact ⟨s1, e, .altL h1⟩
    · obtain ⟨s1, e, h1⟩ := ihb h; exact ⟨s1, e, .altR h1⟩
  | case7 c s => exact mem_starRems.1 h
  | case8 c b s hb =>
    obtain ⟨s1, rfl, h1⟩ := mem_starRems.1 h
    exact ⟨b :: s1, rfl, .plus hb h1⟩
  | case11 r s ih =>
    rcases List.mem_append.1 h with h | h
    · obtain ⟨s1, e, h1⟩ := ih h; exact ⟨s1, e, .optSome h1⟩
    · exact ⟨[], (List.mem_singleton.1 h).symm, .optNone⟩

theorem rems_complete {r : Re} {s1 : Bytes} (h : Re.Denotes r s1) (s2 : Bytes) : s2 ∈ r.rems (s1 ++ s2) := by
  induction h generalizing s2 with
  | eps => exact List.mem_singleton.2 rfl
  | cls hb => rw [List.singleton_append, Re.rems, if_pos hb]; exact List.mem_singleton.2 rfl
  | @seq a b s t _ _ iha ihb =>
    rw [Re.rems, List.mem_flatMap, List.append_assoc]
    exact ⟨t ++ s2, iha _, ihb _⟩
  | altL _ ih => exact List.mem_append_left _ (ih s2)
  | altR _ ih => exact List.mem_append_right _ (ih s2)
  | starNil => exact mem_starRems.2 ⟨[], rfl, .starNil⟩
  | starCons hb hs _ => exact mem_starRems.2 ⟨_, rfl, .starCons hb hs⟩
  | plus hb hs _ => rw [List.cons_append, Re.rems, if_pos hb]; exact mem_starRems.2 ⟨_, rfl, hs⟩
  | optNone => exact List.mem_append_right _ (List.mem_singleton.2 rfl)
  | optSome _ ih => exact List.mem_append_left _ (ih s2)

theorem mem_rems_iff {r : Re} {s s2 : Bytes} : s2 ∈ r.rems s ↔ ∃ s1, s = s1 ++ s2 ∧ Re.Denotes r s1 :=
  ⟨rems_sound, fun ⟨_, e, h⟩ => e ▸ rems_complete h s2⟩

theorem Re.m_sound {α : Type} (r : Re) (s : Bytes) (k : Bytes → Option α) (x : α) (h : r.m s k = some x) :
    ∃ s1 s2, s = s1 ++ s2 ∧ Re.Denotes r s1 ∧ k s2 = some x := by
  rw [Re.m_eq] at h
  obtain ⟨s2, hm, hk⟩ := List.exists_of_findSome?_eq_some h
  obtain ⟨s1, e, hd⟩ := rems_sound hm
  exact ⟨s1, s2, e, hd, hk⟩

theorem Re.m_eq_none_iff {α : Type} (r : Re) (s : Bytes) (k : Bytes → Option α) :
    r.m s k = none ↔ ∀ s1 s2, s = s1 ++ s2 → Re.Denotes r s1 → k s2 = none := by
  rw [Re.m_eq, List.findSome?_eq_none_iff]
  exact ⟨fun h s1 s2 e hd => h s2 (mem_rems_iff.2 ⟨s1, e, hd⟩), fun h s2 hm => (rems_sound hm).elim fun s1 h' => h s1 s2 h'.1 h'.2⟩

theorem Re.m_complete {α : Type} (r : Re) (s1 s2 : Bytes) (k : Bytes → Option α)
    (hd : Re.Denotes r s1) (hk : (k s2).isSome) : (r.m (s1 ++ s2) k).isSome := by
  cases h : r.m (s1 ++ s2) k with
  | some x => rfl
  | none => rw [(Re.m_eq_none_iff r _ k).1 h s1 s2 rfl hd] at hk; cases hk

theorem rxMatch_sound (re : Re) (suffix path cap rest : Bytes)
    (h : rxMatch re suffix path = some (cap, rest)) :
    path = cap ++ suffix ++ rest ∧ Re.Denotes re cap := by
  obtain ⟨s1, s2, rfl, hd, hk⟩ := Re.m_sound _ _ _ _ h
  rw [List.length_append, Nat.add_sub_cancel, List.take_left] at hk
  split at hk
  · rename_i hp
    cases hk
    exact ⟨by rw [List.append_assoc, ← isPrefixOf_eq_append hp], hd⟩
  · cases hk

theorem rxMatch_complete (re : Re) (suffix v rest : Bytes) (h : Re.Denotes re v) :
    (rxMatch re suffix (v ++ suffix ++ rest)).isSome := by
  rw [rxMatch, List.append_assoc]
  refine Re.m_complete _ _ _ _ h ?_
  rw [if_pos (isPrefixOf_iff.2 (List.prefix_append ..))]
  rfl

theorem rxMatch_eq_none_iff (re : Re) (suffix path : Bytes) :
    rxMatch re suffix path = none ↔
      ∀ v rest, path = v ++ suffix ++ rest → ¬ Re.Denotes re v := by
  constructor
  · intro h v rest hp hd
    have := rxMatch_complete re suffix v rest hd
    rw [← hp, h] at this
    cases this
  · intro h
    cases hm : rxMatch re suffix path with
    | none => rfl
    | some x => exact absurd (rxMatch_sound _ _ _ _ _ hm).2 (h x.1 x.2 (rxMatch_sound _ _ _ _ _ hm).1)

theorem rxMatch_cap_prefix (re : Re) (suffix path cap rest : Bytes)
    (h : rxMatch re suffix path = some (cap, rest)) : cap <+: path :=
  ⟨suffix ++ rest, by rw [(rxMatch_sound _ _ _ _ _ h).1, List.append_assoc]⟩

section Examples
private def d : Cls := ⟨false, clsDigit⟩

-- `\d+` followed by `/` on `12/x`: captures `12`, rest `x`.
example : rxMatch (.plus d) [47] [49, 50, 47, 120] = some ([49, 50], [120]) := by decide +kernel
-- the engine backtracks: `\d*` followed by the suffix `1` on `111`
example : rxMatch (.star d) [49] [49, 49, 49] = some ([49, 49], []) := by decide +kernel
-- priority order: `(1|12)` followed by `` on `12` takes the first alternative
example : rxMatch (.alt (.cls ⟨false, [(49, 49)]⟩) (.seq (.cls ⟨false, [(49, 49)]⟩) (.cls ⟨false, [(50, 50)]⟩)))
    [] [49, 50] = some ([49], [50]) := by decide +kernel
example : Re.Denotes (.plus d) [49, 50] := .plus (by decide) (.starCons (by decide) .starNil)
end Examples

end Mux
