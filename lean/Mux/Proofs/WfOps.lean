/-
  The structural invariant `WellFormedTree` is preserved by every operation of a history whose registered patterns
  are well-formed: by every edit (`Node.Edit.wfL`: `remove`, `clean`, `applyMiddleware` only delete nodes or change
  handlers) and by `getNode` on the pieces of a well-formed pattern (`getNode_wf`).
-/
import Mux.Proofs.AddAtomic
namespace Mux.P9
open Mux

/-- The operations whose pattern is well-formed (only `add` carries a pattern that is parsed). -/
def PatOk : TOp → Prop
  | .add p _ _ _ => WfPattern p
  | _ => True

theorem wf_step {t : Tree} (hwf : WellFormedTree t) {op : TOp} (hop : PatOk op) : WellFormedTree (t.step op) := by
  obtain ⟨root1, h1, he, hic⟩ := t.step_edit op
  unfold WellFormedTree
  rw [hic]
  refine he.wfL [] ?_
  cases h1 with
  | root => exact hwf
  | add _ hsplit hsp hget =>
    obtain ⟨r, hr, hw⟩ := getNode_wf t.ic t.root _ _ [] hwf (piecesOk_of_split hop hsplit hsp)
    rw [hget] at hr
    cases hr
    exact hw

theorem wf_run {t : Tree} (hwf : WellFormedTree t) {ops : List TOp} (hops : ∀ op ∈ ops, PatOk op) :
    WellFormedTree (t.run ops) :=
  Tree.run_inv (I := WellFormedTree) (fun _ op hop h => wf_step h (hops op hop)) hwf

/-- A tree produced from a fresh one by a history whose registered patterns are well-formed
(balanced, non-nested `{…}` tokens; literal text without braces). -/
def ReachWf (t : Tree) : Prop :=
  ∃ name ic nf tr ob nb ops, (∀ op ∈ ops, PatOk op) ∧ t = (Tree.new name ic nf tr ob nb).run ops

theorem ReachWf.reach {t : Tree} (h : ReachWf t) : t.Reach := by
  obtain ⟨name, ic, nf, tr, ob, nb, ops, _, rfl⟩ := h
  exact ⟨name, ic, nf, tr, ob, nb, ops, rfl⟩

theorem ReachWf.wf {t : Tree} (h : ReachWf t) : WellFormedTree t := by
  obtain ⟨name, ic, nf, tr, ob, nb, ops, hops, rfl⟩ := h
  exact wf_run (wellFormed_new name ic nf tr ob nb) hops

theorem ReachWf.step {t : Tree} (h : ReachWf t) {op : TOp} (hop : PatOk op) : ReachWf (t.step op) := by
  obtain ⟨name, ic, nf, tr, ob, nb, ops, hops, rfl⟩ := h
  exact ⟨name, ic, nf, tr, ob, nb, ops ++ [op], List.forall_mem_append.2 ⟨hops, List.forall_mem_singleton.2 hop⟩,
    by simp [Tree.run]⟩

end Mux.P9
