/-
  Concrete histories with `Remove`/`Clean` for `C02all.lean`, each evaluated once by
  the kernel through `Tree.run_eq_F` (`RunFuel.lean`).  `litOps` (`/a/`, `/a/b` registered, `/a/` removed): the
  handler-less LITERAL node `/a/` keeps its single literal child `b` — not canonical, harmless; `deadOps`: a dead leaf;
  `forkOps`: a fork that is undone.  `cexOps` (`/{a}/`, `/{a}/x` registered, `/{a}/` removed): the handler-less PARAMETER
  node `{a}/` keeps its single literal child `x`, and `/1/y/x` is answered 404, whereas the reference resolver (and a
  fresh router holding `/{a}/x` alone) captures `a = 1/y`; `cex2Ops` is the same after a fork that is undone.
-/
import Mux.Proofs.ResolveAllRefine
import Mux.Proofs.ResolveExamples
import Mux.Proofs.DecEq
import Mux.Proofs.RunFuel
namespace Mux.P16
open Mux Mux.Spec Mux.P15 Mux.P10

/-- `/a/` -/
def litA : Bytes := [47, 97, 47]
/-- `/a/b` -/
def litAB : Bytes := [47, 97, 47, 98]
def litOps : List TOp :=
  [.add litA { base := .user 1 } [] [mGET], .add litAB { base := .user 2 } [] [mGET], .remove litA []]
def deadOps : List TOp := litOps ++ [.clean litAB]

theorem litOps_wf : ∀ op ∈ litOps, op.wf = true := by decide
theorem deadOps_wf : ∀ op ∈ deadOps, op.wf = true := by decide

/-- The shape of the forest below the root, depth first: depth, text, "has handlers". -/
abbrev Shape := Nat × Bytes × Bool

mutual
def shapeOf (d : Nat) : Node → List Shape
  | .mk s _ _ hs _ cs => (d, s.value, !hs.isEmpty) :: shapesOf (d + 1) cs
def shapesOf (d : Nat) : List Node → List Shape
  | [] => []
  | c :: cs => shapeOf d c ++ shapesOf d cs
end

/-- Everything the examples read off the tree of `litOps`, in one evaluation: after the removal `/a/` (no handlers) has
the single child `b` (live); the tree is NOT in canonical form for its table (the resolver's group is `/a/b`). -/
theorem litOps_facts :
    shapesOf 0 (exT0.run litOps).root.children = [(0, litA, false), (1, [98], true)] ∧
    (tableOf (exT0.run litOps)).patterns = [litAB] ∧ ParamStops (exT0.run litOps) ∧
    ¬ KidsCanon (exT0.run litOps).root.children ([litAB].map (fun p => (p, p))) ∧
    resOf ((exT0.run litOps).handler envAll litAB [] mGET) = some (litAB, []) := by
  rw [Tree.run_eq_F]; decide +kernel

theorem litOps_shape : shapesOf 0 (exT0.run litOps).root.children = [(0, litA, false), (1, [98], true)] := litOps_facts.1
theorem litOps_table : (tableOf (exT0.run litOps)).patterns = [litAB] := litOps_facts.2.1
theorem litOps_stops : ParamStops (exT0.run litOps) := litOps_facts.2.2.1
theorem litOps_not_canon : ¬ KidsCanon (exT0.run litOps).root.children ([litAB].map (fun p => (p, p))) := litOps_facts.2.2.2.1
theorem litOps_answer : resOf ((exT0.run litOps).handler envAll litAB [] mGET) = some (litAB, []) := litOps_facts.2.2.2.2

/-- After `Clean("/a/b")`: the dead leaf `/a/`, no route. -/
theorem deadOps_facts :
    shapesOf 0 (exT0.run deadOps).root.children = [(0, litA, false)] ∧
    (tableOf (exT0.run deadOps)).patterns = [] ∧ ParamStops (exT0.run deadOps) := by
  rw [Tree.run_eq_F]; decide +kernel

theorem deadOps_shape : shapesOf 0 (exT0.run deadOps).root.children = [(0, litA, false)] := deadOps_facts.1
theorem deadOps_table : (tableOf (exT0.run deadOps)).patterns = [] := deadOps_facts.2.1
theorem deadOps_stops : ParamStops (exT0.run deadOps) := deadOps_facts.2.2

/-- `/a/c` -/
def litAC : Bytes := [47, 97, 47, 99]
/-- `/a/b`, `/a/c` registered (the node `/a/` forks into `b` and `c`), `/a/c` removed. -/
def forkOps : List TOp :=
  [.add litAB { base := .user 1 } [] [mGET], .add litAC { base := .user 2 } [] [mGET], .remove litAC []]

theorem forkOps_wf : ∀ op ∈ forkOps, op.wf = true := by decide

instance (n : Node) : Decidable (TT n) := by unfold TT Forked; infer_instance

/-- Before the removal `/a/` has the children `b` and `c`; after it `/a/` (no handlers) keeps the single literal child
`b`: neither live nor forked, so the invariant of the add-only theorem is lost. -/
theorem forkOps_facts :
    (shapesOf 0 (exT0.run (forkOps.take 2)).root.children = [(0, litA, false), (1, [98], true), (1, [99], true)] ∧
     shapesOf 0 (exT0.run forkOps).root.children = [(0, litA, false), (1, [98], true)]) ∧
    (tableOf (exT0.run forkOps)).patterns = [litAB] ∧ ParamStops (exT0.run forkOps) ∧
    ¬ KidsCanon (exT0.run forkOps).root.children ([litAB].map (fun p => (p, p))) ∧
    resOf ((exT0.run forkOps).handler envAll litAB [] mGET) = some (litAB, []) ∧
    ¬ ∀ x ∈ nodesL (exT0.run forkOps).root.children, TT x := by
  rw [Tree.run_eq_F, Tree.run_eq_F]; decide +kernel

theorem forkOps_before : shapesOf 0 (exT0.run (forkOps.take 2)).root.children =
    [(0, litA, false), (1, [98], true), (1, [99], true)] := forkOps_facts.1.1
theorem forkOps_shape : shapesOf 0 (exT0.run forkOps).root.children = [(0, litA, false), (1, [98], true)] := forkOps_facts.1.2
theorem forkOps_table : (tableOf (exT0.run forkOps)).patterns = [litAB] := forkOps_facts.2.1
theorem forkOps_stops : ParamStops (exT0.run forkOps) := forkOps_facts.2.2.1
theorem forkOps_not_canon : ¬ KidsCanon (exT0.run forkOps).root.children ([litAB].map (fun p => (p, p))) :=
  forkOps_facts.2.2.2.1
theorem forkOps_answer : resOf ((exT0.run forkOps).handler envAll litAB [] mGET) = some (litAB, []) :=
  forkOps_facts.2.2.2.2.1
theorem forkOps_not_TT : ¬ AllL TT (exT0.run forkOps).root.children := fun h =>
  forkOps_facts.2.2.2.2.2 (((All_iff_nodes _).2 _).1 h)

/-- `/{a}/` -/
def cexR : Bytes := [47, 123, 97, 125, 47]
/-- `/{a}/x` -/
def cexP : Bytes := [47, 123, 97, 125, 47, 120]
/-- `/1/y/x` -/
def cexPath : Bytes := [47, 49, 47, 121, 47, 120]
def cexOps : List TOp :=
  [.add cexR { base := .user 1 } [] [mGET], .add cexP { base := .user 2 } [] [mGET], .remove cexR []]
def cexFresh : List TOp := [.add cexP { base := .user 2 } [] [mGET]]

theorem cexOps_wf : ∀ op ∈ cexOps, op.wf = true := by decide
theorem cexFresh_wf : ∀ op ∈ cexFresh, op.wf = true := by decide

/-- `/` → `{a}/` (no handlers) → `x` (live). -/
theorem cexOps_facts :
    shapesOf 0 (exT0.run cexOps).root.children = [(0, [47], false), (1, [123, 97, 125, 47], false), (2, [120], true)] ∧
    (tableOf (exT0.run cexOps)).patterns = [cexP] ∧
    resOf ((exT0.run cexOps).handler envAll cexPath [] mGET) = none ∧
    (match (exT0.run cexOps).handler envAll cexPath [] mGET with | .res _ => true | _ => false) = true ∧
    ¬ ParamStops (exT0.run cexOps) := by
  rw [Tree.run_eq_F]; decide +kernel

/-- The fresh router holds `/` → `{a}/x`. -/
theorem cexFresh_facts :
    shapesOf 0 (exT0.run cexFresh).root.children = [(0, [47], false), (1, [123, 97, 125, 47, 120], true)] ∧
    (tableOf (exT0.run cexFresh)).patterns = [cexP] ∧
    resOf ((exT0.run cexFresh).handler envAll cexPath [] mGET) = some (cexP, [([97], [49, 47, 121])]) := by
  rw [Tree.run_eq_F]; decide +kernel

theorem cexOps_shape : shapesOf 0 (exT0.run cexOps).root.children =
    [(0, [47], false), (1, [123, 97, 125, 47], false), (2, [120], true)] := cexOps_facts.1
theorem cexFresh_shape : shapesOf 0 (exT0.run cexFresh).root.children =
    [(0, [47], false), (1, [123, 97, 125, 47, 120], true)] := cexFresh_facts.1
theorem cexOps_table : (tableOf (exT0.run cexOps)).patterns = [cexP] := cexOps_facts.2.1
theorem cexFresh_table : (tableOf (exT0.run cexFresh)).patterns = [cexP] := cexFresh_facts.2.1
theorem cexOps_answer : resOf ((exT0.run cexOps).handler envAll cexPath [] mGET) = none := cexOps_facts.2.2.1
theorem cexOps_isRes : (match (exT0.run cexOps).handler envAll cexPath [] mGET with | .res _ => true | _ => false) = true :=
  cexOps_facts.2.2.2.1
theorem cexFresh_answer : resOf ((exT0.run cexFresh).handler envAll cexPath [] mGET) =
    some (cexP, [([97], [49, 47, 121])]) := cexFresh_facts.2.2

theorem cex_resolver : resolveAll envAll [] [cexP] cexPath = [(cexP, [([97], [49, 47, 121])])] := by decide

theorem cexOps_not_stops : ¬ ParamStops (exT0.run cexOps) := cexOps_facts.2.2.2.2

theorem resOf_eq_some {r : HR} {o : Bytes × Params} (h : resOf r = some o) :
    ∃ f, r = .res f ∧ f.node.map (fun n => (n.pattern, f.params)) = some o := by
  cases r with
  | res f => exact ⟨f, rfl, h⟩
  | fault s => cases h
  | unsupported => cases h

/-- A dispatch that is a result and that `resOf` reads as no hit is a 404, which the resolver does not admit when it
finds a route. -/
theorem res_none_not_admissible {env : Env} {ic : Interceptors} {rs : List Bytes} {path : Bytes} {r : HR}
    (h2 : (match r with | .res _ => true | _ => false) = true) (h1 : resOf r = none)
    (hne : Spec.resolveAll env ic rs path ≠ []) :
    ∃ f, r = .res f ∧ f.node = none ∧
      ¬ Spec.Admissible env ic rs path (f.node.map fun n => (n.pattern, f.params)) := by
  cases r with
  | res f =>
    have hn : f.node = none := Option.map_eq_none_iff.1 h1
    refine ⟨f, rfl, hn, ?_⟩
    rw [hn]
    exact hne
  | fault s => cases h2
  | unsupported => cases h2

/-- `/{a}/y` -/
def cexQ : Bytes := [47, 123, 97, 125, 47, 121]
/-- `/{a}/x`, `/{a}/y` registered (`{a}/` forks into `x` and `y`), `/{a}/y` removed. -/
def cex2Ops : List TOp :=
  [.add cexP { base := .user 1 } [] [mGET], .add cexQ { base := .user 2 } [] [mGET], .remove cexQ []]

theorem cex2Ops_wf : ∀ op ∈ cex2Ops, op.wf = true := by decide
theorem cex2Ops_facts :
    shapesOf 0 (exT0.run cex2Ops).root.children = [(0, [47], false), (1, [123, 97, 125, 47], false), (2, [120], true)] ∧
    (tableOf (exT0.run cex2Ops)).patterns = [cexP] ∧
    resOf ((exT0.run cex2Ops).handler envAll cexPath [] mGET) = none ∧
    (match (exT0.run cex2Ops).handler envAll cexPath [] mGET with | .res _ => true | _ => false) = true ∧
    ¬ ParamStops (exT0.run cex2Ops) := by
  rw [Tree.run_eq_F]; decide +kernel

theorem cex2Ops_shape : shapesOf 0 (exT0.run cex2Ops).root.children =
    [(0, [47], false), (1, [123, 97, 125, 47], false), (2, [120], true)] := cex2Ops_facts.1
theorem cex2Ops_table : (tableOf (exT0.run cex2Ops)).patterns = [cexP] := cex2Ops_facts.2.1
theorem cex2Ops_answer : resOf ((exT0.run cex2Ops).handler envAll cexPath [] mGET) = none := cex2Ops_facts.2.2.1
theorem cex2Ops_isRes : (match (exT0.run cex2Ops).handler envAll cexPath [] mGET with | .res _ => true | _ => false) = true :=
  cex2Ops_facts.2.2.2.1
theorem cex2Ops_not_stops : ¬ ParamStops (exT0.run cex2Ops) := cex2Ops_facts.2.2.2.2

end Mux.P16
