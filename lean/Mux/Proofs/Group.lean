/-
  Helper lemmas for C13 (Group dispatch): matcher expressions — the induction over them with the rules of the `And`
  and `Or` loops for an outcome predicate `MatchOut.Post`, and by them what a rejecting matcher leaves behind —, the
  loop of `Group.serve`, the router table (`RTab.get?` of `RTab.set` and of `RTab.update`) and the names of `Group.add/use`.
-/
import Mux.Proofs.Version
import Mux.Proofs.RouterBasic
import Mux.Proofs.FoldRules
namespace Mux

mutual
def Matcher.hostsFree : Matcher → Bool
  | .hosts _ => false
  | .and ms => hostsFreeList ms
  | .or ms => hostsFreeList ms
  | _ => true
def hostsFreeList : List Matcher → Bool
  | [] => true
  | m :: ms => m.hostsFree && hostsFreeList ms
end

mutual
/-- Every `Hosts` matcher sits below some `And` (which restores path and parameters when it rejects).
Strictly more general than `hostsFree`. -/
def Matcher.guarded : Matcher → Bool
  | .hosts _ => false
  | .and _ => true
  | .or ms => guardedList ms
  | _ => true
def guardedList : List Matcher → Bool
  | [] => true
  | m :: ms => m.guarded && guardedList ms
end

theorem guardedList_iff (ms : List Matcher) : guardedList ms = true ↔ ∀ m ∈ ms, m.guarded = true := by
  induction ms with
  | nil => simp [guardedList]
  | cons m ms ih => simp [guardedList, ih]

theorem hostsFreeList_iff (ms : List Matcher) : hostsFreeList ms = true ↔ ∀ m ∈ ms, m.hostsFree = true := by
  induction ms with
  | nil => simp [hostsFreeList]
  | cons m ms ih => simp [hostsFreeList, ih]

theorem Matcher.induction {motive : Matcher → Prop} (any : motive .any) (hosts : ∀ id, motive (.hosts id))
    (pathVersion : ∀ param vers, motive (.pathVersion param vers))
    (headerVersion : ∀ param key vers, motive (.headerVersion param key vers))
    (and : ∀ ms, (∀ m ∈ ms, motive m) → motive (.and ms)) (or : ∀ ms, (∀ m ∈ ms, motive m) → motive (.or ms))
    (m : Matcher) : motive m := by
  refine Matcher.rec (motive_2 := fun ms => ∀ m ∈ ms, motive m) any hosts pathVersion headerVersion and or ?_ ?_ m
  · intro m h; cases h
  · intro m ms hm hms x hx
    rcases List.mem_cons.1 hx with rfl | hx
    · exact hm
    · exact hms x hx

theorem Matcher.hostsFree_guarded (m : Matcher) : m.hostsFree = true → m.guarded = true := by
  induction m using Matcher.induction with
  | hosts id => intro h; simp [Matcher.hostsFree] at h
  | or ms ih =>
    rw [Matcher.hostsFree, Matcher.guarded, hostsFreeList_iff, guardedList_iff]
    exact fun h m hm => ih m hm (h m hm)
  | _ => intro _; rfl

theorem hostsFreeList_guarded : ∀ (ms : List Matcher), hostsFreeList ms = true → guardedList ms = true := by
  intro ms
  rw [hostsFreeList_iff, guardedList_iff]
  exact fun h m hm => m.hostsFree_guarded (h m hm)

/-- `A` of what the matcher accepts with, `R` of what it leaves behind when it rejects, `F` of the site of a fault. -/
def MatchOut.Post (A R : Bytes → Params → Prop) (F : Nat → Prop) : MatchOut → Prop
  | .accept p ps => A p ps
  | .reject p ps => R p ps
  | .fault s => F s
  | .unsupported => True

theorem MatchOut.Post.imp {A A' R R' : Bytes → Params → Prop} {F F' : Nat → Prop} {o : MatchOut} (h : o.Post A R F)
    (hA : ∀ p ps, A p ps → A' p ps) (hR : ∀ p ps, R p ps → R' p ps) (hF : ∀ s, F s → F' s) : o.Post A' R' F' := by
  cases o with
  | accept p ps => exact hA p ps h
  | reject p ps => exact hR p ps h
  | fault s => exact hF s h
  | unsupported => trivial

theorem MatchOut.Post.of_forall {A R : Bytes → Params → Prop} {F : Nat → Prop} (hA : ∀ p ps, A p ps)
    (hR : ∀ p ps, R p ps) (hF : ∀ s, F s) (o : MatchOut) : o.Post A R F := by
  cases o with
  | accept p ps => exact hA p ps
  | reject p ps => exact hR p ps
  | fault s => exact hF s
  | unsupported => trivial

theorem MatchOut.Post.of_reject {A R : Bytes → Params → Prop} {F : Nat → Prop} {o : MatchOut} (h : o.Post A R F)
    {p : Bytes} {ps : Params} (e : o = .reject p ps) : R p ps := by
  subst e; exact h

theorem MatchOut.Post.of_fault {A R : Bytes → Params → Prop} {F : Nat → Prop} {o : MatchOut} (h : o.Post A R F)
    {s : Nat} (e : o = .fault s) : F s := by
  subst e; exact h

section
variable {env : Env} {tab : Nat → Option Hosts} {req : Req}

/-- The loop of `And`: each member runs on what the previous one accepted with (`I`); any other answer of a member
is the answer of the loop. -/
theorem runAnd_post {I R : Bytes → Params → Prop} {F : Nat → Prop} {ms : List Matcher}
    (h : ∀ m ∈ ms, ∀ p ps, I p ps → (m.run env tab req p ps).Post I R F) {path : Bytes} {ps : Params}
    (hI : I path ps) : (runAnd env tab ms req path ps).Post I R F := by
  induction ms generalizing path ps with
  | nil => rw [runAnd]; exact hI
  | cons m ms ih =>
    have hm := h m List.mem_cons_self path ps hI
    rw [runAnd]
    split
    · next p' ps' e =>
      rw [e] at hm
      exact ih (fun x hx => h x (List.mem_cons_of_mem _ hx)) hm
    · exact hm

/-- The loop of `Or`: each member runs on what the previous one left behind when it rejected (`I`). -/
theorem runOr_post {A I : Bytes → Params → Prop} {F : Nat → Prop} {ms : List Matcher}
    (h : ∀ m ∈ ms, ∀ p ps, I p ps → (m.run env tab req p ps).Post A I F) {path : Bytes} {ps : Params}
    (hI : I path ps) : (runOr env tab ms req path ps).Post A I F := by
  induction ms generalizing path ps with
  | nil => rw [runOr]; exact hI
  | cons m ms ih =>
    have hm := h m List.mem_cons_self path ps hI
    rw [runOr]
    split
    · next p' ps' e =>
      rw [e] at hm
      exact ih (fun x hx => h x (List.mem_cons_of_mem _ hx)) hm
    · exact hm

/-- `And` answers like its loop, except that a rejection restores what the `And` was entered with (the D12 repair):
whatever the loop left behind, `R` is owed of the incoming path and parameters only. -/
theorem run_and_post {A R : Bytes → Params → Prop} {F : Nat → Prop} {ms : List Matcher} {path : Bytes} {ps : Params}
    (h : (runAnd env tab ms req path ps).Post A (fun _ _ => R path ps) F) :
    ((Matcher.and ms).run env tab req path ps).Post A R F := by
  rw [Matcher.run]
  split
  · next e => rw [e] at h; exact h
  · next hne =>
    cases e : runAnd env tab ms req path ps with
    | reject p' ps' => exact absurd e (hne p' ps')
    | accept p' ps' => rw [e] at h; exact h
    | fault s => rw [e] at h; exact h
    | unsupported => trivial

theorem Hosts.match_post (hs : Hosts) (host path : Bytes) (ps : Params) :
    (hs.match env host path ps).Post
      (fun p q => p = path ∧ ∃ f, hs.tree.handler env (normHost host) ps mGET = .res f ∧ f.ok = true ∧ q = f.params)
      (fun p q => p = path ∧ ∃ f, hs.tree.handler env (normHost host) ps mGET = .res f ∧ f.ok = false ∧ q = f.params)
      (fun s => hs.tree.handler env (normHost host) ps mGET = .fault s) := by
  unfold Hosts.match
  split
  · trivial
  · cases h : hs.tree.handler env (normHost host) ps mGET with
    | fault s => rfl
    | unsupported => trivial
    | res f =>
      simp only
      cases hok : f.ok
      · exact ⟨rfl, f, rfl, hok, rfl⟩
      · exact ⟨rfl, f, rfl, hok, rfl⟩

end

section
variable (env : Env) (tab : Nat → Option Hosts)

theorem runOr_cons_reject (m : Matcher) (ms : List Matcher) (req : Req) (path : Bytes) (ps : Params)
    (q : Bytes) (qs : Params) (h : runOr env tab (m :: ms) req path ps = .reject q qs) :
    ∃ p' ps', m.run env tab req path ps = .reject p' ps' ∧ runOr env tab ms req p' ps' = .reject q qs := by
  rw [runOr] at h
  split at h
  · rename_i p' ps' hm
    exact ⟨p', ps', hm, h⟩
  · rename_i hr
    exact absurd h (hr q qs)

/-- A rejection leaves the path the matcher was entered with, and the parameters as well when every `Hosts` sits
below an `And`.  For `Or` the members see what the earlier ones left: the state of the loop is "the incoming path,
and the incoming parameters if the members are guarded". -/
theorem run_reject (m : Matcher) : ∀ (req : Req) (path : Bytes) (ps : Params),
    (m.run env tab req path ps).Post (fun _ _ => True)
      (fun p' ps' => p' = path ∧ (m.guarded = true → ps' = ps)) (fun _ => True) := by
  induction m using Matcher.induction with
  | any => intro _ _ _; rw [Matcher.run]; trivial
  | hosts id =>
    intro req path ps
    rw [Matcher.run]
    cases tab id with
    | none => trivial
    | some hs =>
      exact (Hosts.match_post hs req.host path ps).imp (fun _ _ _ => trivial) (fun _ _ h => ⟨h.1, nofun⟩)
        (fun _ _ => trivial)
  | pathVersion param vers =>
    intro req path ps
    rw [run_pathVersion]
    split
    · exact ⟨rfl, fun _ => rfl⟩
    · trivial
  | headerVersion param key vers =>
    intro req path ps
    rw [run_headerVersion]
    split
    · trivial
    · exact ⟨rfl, fun _ => rfl⟩
  | and ms _ =>
    intro req path ps
    exact run_and_post (.of_forall (fun _ _ => trivial) (fun _ _ => ⟨rfl, fun _ => rfl⟩) (fun _ => trivial) _)
  | or ms ih =>
    intro req path ps
    rw [Matcher.run, Matcher.guarded, guardedList_iff]
    refine runOr_post
      (fun m hm p' ps' hI => (ih m hm req p' ps').imp (fun _ _ h => h) (fun q qs h => ?_) (fun _ h => h))
      ⟨rfl, fun _ => rfl⟩
    exact ⟨h.1.trans hI.1, fun hg => (h.2 (hg m hm)).trans (hI.2 hg)⟩

theorem run_reject_path (m : Matcher) {req : Req} {path : Bytes} {ps : Params} {p' : Bytes} {ps' : Params}
    (h : m.run env tab req path ps = .reject p' ps') : p' = path :=
  ((run_reject env tab m req path ps).of_reject h).1

theorem runOr_reject_path : ∀ (ms : List Matcher) (req : Req) (path : Bytes) (ps : Params) (p' : Bytes) (ps' : Params),
    runOr env tab ms req path ps = .reject p' ps' → p' = path :=
  fun ms req path ps p' ps' h => run_reject_path env tab (.or ms) (by rw [Matcher.run]; exact h)

theorem run_reject_guarded (m : Matcher) (hg : m.guarded = true) {req : Req} {path : Bytes} {ps : Params}
    {p' : Bytes} {ps' : Params} (h : m.run env tab req path ps = .reject p' ps') : p' = path ∧ ps' = ps :=
  ((run_reject env tab m req path ps).of_reject h).imp_right fun hps => hps hg

theorem runOr_reject_guarded : ∀ (ms : List Matcher), guardedList ms = true →
    ∀ (req : Req) (path : Bytes) (ps : Params) (p' : Bytes) (ps' : Params),
    runOr env tab ms req path ps = .reject p' ps' → p' = path ∧ ps' = ps :=
  fun ms hg req path ps p' ps' h =>
    run_reject_guarded env tab (.or ms) (by rw [Matcher.guarded]; exact hg) (by rw [Matcher.run]; exact h)

/-- `Or` rejects iff every member rejects, each one seeing what the previous ones left; when the members leave no
trace that is the state the `Or` was entered with. -/
theorem runOr_reject_iff (ms : List Matcher) (req : Req) (path : Bytes) (ps : Params)
    (hms : ∀ m ∈ ms, ∀ p' ps', m.run env tab req path ps = .reject p' ps' → p' = path ∧ ps' = ps) :
    runOr env tab ms req path ps = .reject path ps ↔ ∀ m ∈ ms, m.run env tab req path ps = .reject path ps := by
  induction ms with
  | nil => simp [runOr]
  | cons m ms ih =>
    have ih := ih (fun x hx => hms x (List.mem_cons_of_mem _ hx))
    constructor
    · intro h
      obtain ⟨p', ps', hm, hr⟩ := runOr_cons_reject env tab m ms req path ps path ps h
      obtain ⟨rfl, rfl⟩ := hms m List.mem_cons_self p' ps' hm
      exact List.forall_mem_cons.2 ⟨hm, ih.1 hr⟩
    · intro h
      rw [runOr, h m List.mem_cons_self]
      exact ih.2 (fun x hx => h x (List.mem_cons_of_mem _ hx))

theorem runOr_reject_iff_guarded (ms : List Matcher) (hg : guardedList ms = true)
    (req : Req) (path : Bytes) (ps : Params) :
    runOr env tab ms req path ps = .reject path ps ↔ ∀ m ∈ ms, m.run env tab req path ps = .reject path ps :=
  runOr_reject_iff env tab ms req path ps
    (fun m hm _ _ => run_reject_guarded env tab m ((guardedList_iff ms).1 hg m hm))

end

def Group.notFoundCall (g : Group) (path : Bytes) : ServeRes :=
  .call { handler := g.notFound, node := none, ok := false, params := [], routerName := [],
          respHeaders := [], headWrap := false, path := path, recover := g.recover, recActs := g.recActs }

/-- Every matcher of `l` rejects on `path` (`C13.Rejects`: one entry, on `req.path`). -/
def AllReject (env : Env) (tab : Nat → Option Hosts) (req : Req) (l : List (Nat × Matcher)) (path : Bytes) : Prop :=
  ∀ e ∈ l, ∃ p ps, e.2.run env tab req path [] = .reject p ps

section
variable {env : Env} {tab : Nat → Option Hosts} {rt : RTab} {g : Group} {req : Req}

theorem go_nil (path : Bytes) : Group.serve.go env tab rt g req [] path = g.notFoundCall path := by
  rw [Group.serve.go]; rfl

theorem go_cons_reject {rid : Nat} {m : Matcher} {rest : List (Nat × Matcher)} {path p : Bytes} {ps : Params}
    (h : m.run env tab req path [] = .reject p ps) :
    Group.serve.go env tab rt g req ((rid, m) :: rest) path = Group.serve.go env tab rt g req rest path := by
  cases run_reject_path env tab m h
  rw [Group.serve.go, h]

theorem go_append_reject {pre : List (Nat × Matcher)} (rest : List (Nat × Matcher)) {path : Bytes}
    (hpre : AllReject env tab req pre path) :
    Group.serve.go env tab rt g req (pre ++ rest) path = Group.serve.go env tab rt g req rest path := by
  induction pre with
  | nil => rfl
  | cons e pre ih =>
    obtain ⟨p, ps, h⟩ := hpre e List.mem_cons_self
    rw [List.cons_append, go_cons_reject h]
    exact ih (fun e he => hpre e (List.mem_cons_of_mem _ he))

theorem Group.serve_skip {pre rest : List (Nat × Matcher)} (hg : g.routers = pre ++ rest)
    (hpre : AllReject env tab req pre req.path) :
    g.serve env tab rt req = Group.serve.go env tab rt g req rest req.path := by
  unfold Group.serve
  rw [hg]
  exact go_append_reject rest hpre

theorem Group.serve_all_reject (hall : AllReject env tab req g.routers req.path) :
    g.serve env tab rt req = g.notFoundCall req.path := by
  rw [Group.serve_skip (List.append_nil _).symm hall, go_nil]

/-- **The loop of `Group.serve`, complete.**  Entries whose matcher rejects are skipped, the path unchanged
(`go_append_reject`); if all do, the group's not-found handler is called; otherwise the first other entry decides: a
fault or an unsupported input of its matcher ends the dispatch, an acceptance hands the request to its router. -/
theorem go_cases {l : List (Nat × Matcher)} {path : Bytes} {res : ServeRes}
    (h : Group.serve.go env tab rt g req l path = res) :
    (AllReject env tab req l path ∧ g.notFoundCall path = res) ∨
    ∃ pre rid m post, l = pre ++ (rid, m) :: post ∧ AllReject env tab req pre path ∧
      ((∃ s, m.run env tab req path [] = .fault s ∧ .fault s false = res) ∨
       (m.run env tab req path [] = .unsupported ∧ .unsupported = res) ∨
       (∃ p ps, m.run env tab req path [] = .accept p ps ∧
          ((rt.get? rid = none ∧ .fault 320 false = res) ∨
           ∃ r, rt.get? rid = some r ∧ r.serveContext env { req with path := p } ps = res))) := by
  subst h
  rcases l.forall_or_first_not (fun e => ∃ p ps, e.2.run env tab req path [] = .reject p ps) with
    h | ⟨pre, ⟨rid, m⟩, post, rfl, hpre, hm⟩
  · exact .inl ⟨h, by rw [← List.append_nil l, go_append_reject [] h, go_nil]⟩
  · refine .inr ⟨pre, rid, m, post, rfl, hpre, ?_⟩
    rw [go_append_reject _ hpre, Group.serve.go]
    cases hr : m.run env tab req path [] with
    | fault s => exact .inl ⟨s, rfl, rfl⟩
    | unsupported => exact .inr (.inl ⟨rfl, rfl⟩)
    | accept p ps =>
      refine .inr (.inr ⟨p, ps, rfl, ?_⟩)
      cases rt.get? rid with
      | none => exact .inl ⟨rfl, rfl⟩
      | some r => exact .inr ⟨r, rfl, rfl⟩
    | reject p ps => exact absurd ⟨p, ps, hr⟩ hm

theorem go_eq_call {c : Call} {l : List (Nat × Matcher)} {path : Bytes}
    (h : Group.serve.go env tab rt g req l path = .call c) :
      g.notFoundCall path = .call c ∨
      ∃ e ∈ l, ∃ r p ps, rt.get? e.1 = some r ∧ e.2.run env tab req path [] = .accept p ps ∧
        r.serveContext env { req with path := p } ps = .call c := by
  rcases go_cases h with ⟨_, hgo⟩ |
    ⟨pre, rid, m, post, rfl, _, ⟨s, _, ⟨⟩⟩ | ⟨_, ⟨⟩⟩ | ⟨p, ps, hm, ⟨_, ⟨⟩⟩ | ⟨r, hr, hgo⟩⟩⟩
  · exact .inl hgo
  · exact .inr ⟨(rid, m), by simp, r, p, ps, hr, hm, hgo⟩

end

theorem RTab.get?_cons (e : Nat × Router) (rt : RTab) (id : Nat) :
    RTab.get? (e :: rt) id = if e.1 = id then some e.2 else RTab.get? rt id := by
  unfold RTab.get?
  by_cases h : e.1 = id <;> simp [h]

theorem RTab.any_eq_isSome (rt : RTab) (id : Nat) : rt.any (·.1 = id) = (rt.get? id).isSome := by
  induction rt with
  | nil => rfl
  | cons e rt ih =>
    rw [RTab.get?_cons, List.any_cons, ih]
    by_cases h : e.1 = id <;> simp [h]

/-- `RTab.set` on a table that has the id: every entry with that id is replaced. -/
theorem RTab.get?_map_set (rt : RTab) (rid id : Nat) (r : Router) :
    RTab.get? (rt.map fun e => if e.1 = rid then (rid, r) else e) id =
      if id = rid then (rt.get? rid).map fun _ => r else rt.get? id := by
  induction rt with
  | nil => simp [RTab.get?]
  | cons e rt ih =>
    simp only [List.map_cons, RTab.get?_cons, ih]
    by_cases h2 : id = rid
    · subst h2; by_cases h1 : e.1 = id <;> simp [h1]
    · by_cases h1 : e.1 = rid
      · subst h1; simp [h2, Ne.symm h2]
      · simp [h1, h2]

/-- `RTab.set` on a table without the id: a new last entry. -/
theorem RTab.get?_append (rt : RTab) (rid id : Nat) (r : Router) :
    RTab.get? (rt ++ [(rid, r)]) id = (rt.get? id).or (if id = rid then some r else none) := by
  induction rt with
  | nil => simp [RTab.get?, eq_comm]
  | cons e rt ih => simp only [List.cons_append, RTab.get?_cons, ih]; split <;> simp

theorem RTab.get?_set (rt : RTab) (rid id : Nat) (r : Router) :
    (rt.set rid r).get? id = if id = rid then some r else rt.get? id := by
  unfold RTab.set
  rw [RTab.any_eq_isSome]
  cases h : rt.get? rid with
  | some r0 => simp [RTab.get?_map_set, h]
  | none =>
    by_cases h2 : id = rid
    · subst h2; simp [RTab.get?_append, h]
    · simp [RTab.get?_append, h2]

/-- The entry of `rid`, if the table has one, replaced by its image under `f`: what an operation on a router through
its handle, and `Group.Use` for each member, do to the table. -/
def RTab.update (rt : RTab) (rid : Nat) (f : Router → Router) : RTab :=
  match rt.get? rid with
  | some r => rt.set rid (f r)
  | none => rt

theorem RTab.get?_update (rt : RTab) (rid id : Nat) (f : Router → Router) :
    (rt.update rid f).get? id = if id = rid then (rt.get? rid).map f else rt.get? id := by
  unfold RTab.update
  cases h : rt.get? rid with
  | none => by_cases h2 : id = rid <;> simp [h2, h]
  | some r => simp [RTab.get?_set]

def RTab.nameOf (rt : RTab) (id : Nat) : Option Bytes := (rt.get? id).map (·.tree.name)

theorem Group.names_eq (g : Group) (rt : RTab) : g.names rt = g.routers.filterMap (fun e => rt.nameOf e.1) := rfl

@[simp] theorem Router.use_name (r : Router) (m : List Nat) : (r.use m).tree.name = r.tree.name := rfl

theorem RTab.nameOf_set_same (rt : RTab) (rid : Nat) (r r' : Router) (h : rt.get? rid = some r)
    (hn : r'.tree.name = r.tree.name) (id : Nat) : (rt.set rid r').nameOf id = rt.nameOf id := by
  unfold RTab.nameOf
  rw [RTab.get?_set]
  by_cases h2 : id = rid
  · subst h2; simp [h, hn]
  · simp [h2]

theorem names_congr (routers : List (Nat × Matcher)) (rt rt' : RTab) (h : ∀ id, rt'.nameOf id = rt.nameOf id) :
    routers.filterMap (fun e => rt'.nameOf e.1) = routers.filterMap (fun e => rt.nameOf e.1) := by
  congr 1; funext e; exact h e.1

theorem Group.add_some_inv (g : Group) (rt : RTab) (m : Matcher) (rid : Nat) (g' : Group) (rt' : RTab)
    (h : g.add rt m rid = some (g', rt')) :
    ∃ r, rt.get? rid = some r ∧ r.tree.name ∉ g.names rt ∧
      g' = { g with routers := g.routers ++ [(rid, m)] } ∧ rt' = rt.set rid (r.use g.ms) := by
  unfold Group.add at h
  split at h
  · cases h
  · rename_i r hr
    split at h
    · cases h
    · rename_i hd
      cases h
      exact ⟨r, hr, by simpa using hd, rfl, rfl⟩

theorem use_fold_nameOf (m : List Nat) (routers : List (Nat × Matcher)) (rt : RTab) (id : Nat) :
    (routers.foldl (fun rt e =>
        match rt.get? e.1 with
        | some r => rt.set e.1 (r.use m)
        | none => rt) rt).nameOf id = rt.nameOf id := by
  refine List.foldl_inv (I := fun rt' : RTab => rt'.nameOf id = rt.nameOf id) (fun rt' e _ h => ?_) rfl
  cases hr : rt'.get? e.1 with
  | none => exact h
  | some r => exact (RTab.nameOf_set_same rt' e.1 r (r.use m) hr rfl id).trans h

theorem Group.names_add {g g' : Group} {rt rt' : RTab} {m : Matcher} {rid : Nat}
    (h : g.add rt m rid = some (g', rt')) :
    ∃ r, rt.get? rid = some r ∧ r.tree.name ∉ g.names rt ∧ g'.names rt' = g.names rt ++ [r.tree.name] := by
  obtain ⟨r, hr, hd, hg', hrt'⟩ := Group.add_some_inv g rt m rid g' rt' h
  refine ⟨r, hr, hd, ?_⟩
  rw [hg', hrt', Group.names_eq, Group.names_eq, names_congr _ rt _ (RTab.nameOf_set_same rt rid r (r.use g.ms) hr rfl),
    List.filterMap_append]
  simp [RTab.nameOf, hr]

theorem Group.names_add_nodup {g g' : Group} {rt rt' : RTab} {m : Matcher} {rid : Nat}
    (hnd : (g.names rt).Nodup) (h : g.add rt m rid = some (g', rt')) : (g'.names rt').Nodup := by
  obtain ⟨r, _, hd, hn⟩ := Group.names_add h
  rw [hn]
  exact hnd.snoc hd

theorem Group.names_use (g : Group) (rt : RTab) (m : List Nat) :
    (g.use rt m).1.names (g.use rt m).2 = g.names rt := by
  rw [Group.names_eq, Group.names_eq]
  exact names_congr _ rt _ (use_fold_nameOf m g.routers rt)

theorem Group.routers_remove (g : Group) (rt : RTab) (name : Bytes) :
    (g.remove rt name).routers = g.routers.filter (fun e => decide (rt.nameOf e.1 ≠ some name)) := by
  unfold Group.remove
  simp only
  congr 1; funext e
  unfold RTab.nameOf
  cases rt.get? e.1 <;> simp

theorem Group.names_remove (g : Group) (rt : RTab) (name : Bytes) :
    (g.remove rt name).names rt = (g.names rt).filter (· ≠ name) := by
  rw [Group.names_eq, Group.routers_remove, Group.names_eq, List.filterMap_filter, List.filter_filterMap]
  congr 1; funext e
  cases rt.nameOf e.1 <;> simp [Option.filter]

/-- The not-found handler is the group's own one wrapped in exactly the middlewares given to `Use` so far (in order). -/
def C13.UseInv (g : Group) : Prop :=
  g.notFound = { base := .groupNotFound, wraps := g.ms.map (fun x => ⟨x, [], [], []⟩) }

theorem Group.useInv_new : C13.UseInv {} := rfl

theorem Group.useInv_use {g : Group} (h : C13.UseInv g) (rt : RTab) (m : List Nat) : C13.UseInv (g.use rt m).1 := by
  unfold C13.UseInv at *
  simp only [Group.use, wrapWith, h, List.map_append]

theorem Group.useInv_add {g g' : Group} (h : C13.UseInv g) {rt rt' : RTab} {m : Matcher} {rid : Nat}
    (ha : g.add rt m rid = some (g', rt')) : C13.UseInv g' := by
  obtain ⟨r, _, _, hg', _⟩ := Group.add_some_inv g rt m rid g' rt' ha
  rw [hg']; exact h

end Mux
