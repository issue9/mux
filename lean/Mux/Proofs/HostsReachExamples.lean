/-
  Mux.Proofs.HostsReachExamples — a matcher reached by `RegisterInterceptor("d")`, `Add("a.com")`, `Add("A.com.CN")`
  (evaluated through the fuel version of `getNode`: `hostsRun_eq_F`) and an interleaved history, for the non-vacuity
  examples of `C14reach`.
-/
import Mux.Proofs.HostsReach
import Mux.Proofs.HostsExamples
import Mux.Proofs.DecEq
import Mux.Proofs.RunFuel
namespace Mux.P14
open Mux Mux.P12 Mux.P10

/-- `a.com` -/
def dA : Bytes := [97, 46, 99, 111, 109]
/-- `A.com.CN` -/
def dACn : Bytes := [65, 46, 99, 111, 109, 46, 67, 78]
/-- `A.COM.cn:80` -/
def hostACn : Bytes := [65, 46, 67, 79, 77, 46, 99, 110, 58, 56, 48]

def exRegs : List HOp := [.registerInterceptor 0 [100]]
def exHOps : List HOp := [.add dA, .add dACn]
def exHs : Hosts := hostsRun (hostsRun Hosts.empty exRegs) exHOps

theorem exHs_reachWf : HostsReachWf exHs := by
  refine HostsReachWf.of_regsFirst (regs := exRegs) (ops := exHOps) ?_ ?_
  · intro op hop
    simp only [exRegs, List.mem_singleton] at hop
    subst hop; trivial
  · intro op hop
    simp only [exHOps, List.mem_cons, List.not_mem_nil, or_false] at hop
    rcases hop with rfl | rfl <;> (show WfPattern _ = true; decide +kernel)

/-- An INTERLEAVED history: `Add("a.com")`, then `RegisterInterceptor("d")` (no regexp segment is stored in the
tree at that moment, so the side condition holds), then `Add("A.com.CN")`. -/
def exHOps2 : List HOp := [.add dA, .registerInterceptor 0 [100], .add dACn]

/-- Does a regexp segment below `cs` use `rule`?  (decidable form of `¬ RuleFree`) -/
def usesRule (rule : Bytes) (cs : List Node) : Bool := (nodesL cs).any (fun n => n.seg.kind = .rx ∧ n.seg.rule = rule)

theorem ruleFree_of_usesRule {rule : Bytes} {cs : List Node} (h : usesRule rule cs = false) : RuleFree rule cs := by
  intro n hn hk hr
  have : usesRule rule cs = true := List.any_eq_true.2 ⟨n, hn, by simp [hk, hr]⟩
  rw [h] at this; cases this

theorem exHOps2_ok : hostsRunOk Hosts.empty exHOps2 := by
  refine ⟨by show WfPattern _ = true; decide +kernel, ?_, by show WfPattern _ = true; decide +kernel, trivial⟩
  show RuleFree [100] (hostsStep Hosts.empty (.add dA)).tree.root.children
  apply ruleFree_of_usesRule
  rw [hostsStep_eq_F]; decide +kernel

theorem exHs2_reachWf : HostsReachWf (hostsRun Hosts.empty exHOps2) := ⟨exHOps2, exHOps2_ok, rfl⟩

theorem exHs_answer : ∃ f q, exHs.tree.handler P14.exEnv (normHost hostACn) [] mGET = .res f ∧ f.node = some q ∧
    q.pattern = toLower dACn ∧ f.handler = { base := .hostEmpty, wraps := [] } ∧ f.ok = true ∧ f.params = [] :=
  view_spec (by simp only [exHs, hostsRun_eq_F]; decide +kernel)

/-- Incoming parameters whose keys are not parameter names of the tree (hypothesis of the `_from_reach` forms). -/
theorem exHs_namesFrom : NamesOkL (AMap.keys [([120], [121])]) exHs.tree.root.children := by
  simp only [exHs, hostsRun_eq_F]; decide +kernel

/-- The hypotheses on the host `A.COM.cn:80` and the domain `A.com.CN`, evaluated once. -/
theorem hostACn_facts : isAscii hostACn = true ∧ (123 : UInt8) ∉ toLower dACn ∧ toLower dACn ≠ [42] ∧
    normHost hostACn = toLower dACn := by
  decide +kernel

end Mux.P14
