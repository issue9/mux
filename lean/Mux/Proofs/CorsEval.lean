/-
  Mux.Proofs.CorsEval — the example configurations and requests of `CorsExamples` evaluated once: the facts the
  non-vacuity `example`s of C11 / C12 share.
-/
import Mux.Proofs.CorsExamples
import Mux.Proofs.GetNodeFuel
namespace Mux.CorsEx

theorem sanitize_cfg : Cors.sanitize [origin] [hContentType, xId] [xId] 3600 true = some cfg := by
  simp only [origin, xId, cfg, bytesOfString_eq_data]; decide +kernel

theorem sanitize_cfgStar : Cors.sanitize [[42]] [[42]] [] (-1) false = some cfgStar := by
  simp only [cfgStar, bytesOfString_eq_data]; decide +kernel

theorem sanitize_cfgDeny : Cors.sanitize [] [] [] 0 false = some cfgDeny := by decide +kernel

theorem allowed_preflightEvilHeader : cfg.headerIsAllowed preflightEvilHeader = false := by
  simp only [origin, xId, cfg, preflightEvilHeader, bytesOfString_eq_data]; decide +kernel

theorem handle_preflight : cfg.handle nodeMethods nodeAllow [] mOPTIONS path preflight =
    [(hACAM, [nodeAllow]), (hVary, [hACRM, hACRH, hOrigin]),
     (hACAH, [bytesOfString "Content-Type,X-Id"]), (hACMA, [bytesOfString "3600"]),
     (hACAO, [origin]), (hACAC, [bytesOfString "true"]), (hACEH, [xId])] := by
  simp only [origin, xId, cfg, nodeAllow, path, preflight, bytesOfString_eq_data]; decide +kernel

theorem handle_simple : cfg.handle nodeMethods nodeAllow [] mGET path simple =
    [(hACAO, [origin]), (hVary, [hOrigin]), (hACAC, [bytesOfString "true"]), (hACEH, [xId])] := by
  simp only [origin, xId, cfg, nodeAllow, path, simple, bytesOfString_eq_data]; decide +kernel

/-- The requested headers of `preflight` pass the header check; read off `handle_preflight`, whose result has
`Allow-Headers` only if the check passed, instead of evaluating the check again. -/
theorem allowed_preflight : cfg.headerIsAllowed preflight = true := by
  have h := Cors.has_handle_ACAH cfg nodeMethods nodeAllow mOPTIONS path preflight
  rw [handle_preflight] at h
  exact (of_decide_eq_true (h.symm.trans (by decide +kernel))).2.1

end Mux.CorsEx
