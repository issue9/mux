/-
  Literal siblings start with pairwise distinct bytes (`DistinctFirstBytes`, the second half of I-sort in DESIGN §4.4),
  so the first-byte index is the linear scan.  For one interceptor table: `SOk2 ic = SOk ic ∧ DOk`.  Without one
  (namespace `P17`: a late `Hosts.RegisterInterceptor` leaves stored segments parsed under an older table): `SX` and
  `SX3` (every child segment is `newSegment` of its well-formed text under SOME table), which `getNode` run with the
  current table keeps.  `SOk2 ic` is `SX3` with `SOk ic` once sibling texts differ, so the histories are run with
  `SOk3 ic = SX3 ∧ SOk ic` and `SOk2 ic` is read off at the end.
-/
import Mux.Proofs.HostsLateNames
import Mux.Proofs.StructCons
namespace Mux.P8
open Mux Mux.P9

/-- `DistinctFirstBytes n` is `n.children.Pairwise DRel` (`distinct_iff`). -/
def DRel (a b : Node) : Prop := a.seg.kind = .str → b.seg.kind = .str → a.seg.value.head? ≠ b.seg.value.head?

theorem DRel.symm {a b : Node} (h : DRel a b) : DRel b a := fun hb ha e => h ha hb e.symm

theorem distinct_iff (n : Node) : DistinctFirstBytes n ↔ n.children.Pairwise DRel := Iff.rfl

theorem cons_of_head?_eq {a b : Bytes} (ha : a ≠ []) (h : a.head? = b.head?) :
    ∃ x a' b', a = x :: a' ∧ b = x :: b' := by
  cases a with
  | nil => exact absurd rfl ha
  | cons x a' =>
    cases b with
    | nil => cases h
    | cons y b' => cases h; exact ⟨x, a', b', rfl, rfl⟩

/-- What `SOk` does not say: the children have tidy texts, and literal children start with pairwise distinct bytes. -/
structure DOk (n : Node) : Prop where
  tidy : ∀ c ∈ n.children, Tidy c.seg.value
  distinct : n.children.Pairwise DRel

def SOk2 (ic : Interceptors) (n : Node) : Prop := SOk ic n ∧ DOk n

theorem pairwise_DRel_of_map_sublist {cs cs' : List Node} (hs : (cs'.map sigc).Sublist (cs.map sigc))
    (h : cs.Pairwise DRel) : cs'.Pairwise DRel :=
  pairwise_of_map_sublist (R := fun x y => x.1.kind = .str → y.1.kind = .str → x.1.value.head? ≠ y.1.value.head?) hs h

theorem DOk.of_map_sublist {n m : Node} (h : DOk n) (hs : (m.children.map sigc).Sublist (n.children.map sigc)) :
    DOk m :=
  ⟨forall_of_map_sublist (S := fun x => Tidy x.1.value) hs h.tidy, pairwise_DRel_of_map_sublist hs h.distinct⟩

theorem SOk2.closed (ic : Interceptors) : Closed (SOk2 ic) where
  congr := fun h hp hi hs =>
    ⟨(SOk.closed ic).congr h.1 hp hi hs, h.2.of_map_sublist (by rw [hs]; exact List.Sublist.refl _)⟩
  sublist := fun h hp hs hi => ⟨(SOk.closed ic).sublist h.1 hp hs hi, h.2.of_map_sublist hs⟩
  empty := fun s p mi hs => ⟨(SOk.closed ic).empty s p mi hs, by intro c hc; simp at hc, by simp⟩

theorem SOk2.all_SOk {ic : Interceptors} : ∀ n : Node, Node.All (SOk2 ic) n → Node.All (SOk ic) n :=
  (AllL_mono (fun _ h => h.1)).1

structure StructInv2 (t : Tree) : Prop where
  all : Node.All (SOk2 t.ic) t.root
  rootPat : t.root.pattern = []

theorem StructInv2.toStructInv {t : Tree} (h : StructInv2 t) : StructInv t := ⟨SOk2.all_SOk _ h.all, h.rootPat⟩

/-- Every piece of the pattern is brace-free text or one `{token}` followed by brace-free text. -/
def TidyPattern (p : Bytes) : Prop := ∀ v ∈ splitString p, Tidy v

/-- The operation registers a tidy pattern (no condition on `remove`, `clean`, `use`). -/
def TidyOp : TOp → Prop
  | .add p _ _ _ => TidyPattern p
  | _ => True

theorem struct2_new (name : Bytes) (ic : Interceptors) (nf : Handler) (tr : Option Handler)
    (ob : Base := .options) (nb : Base := .notAllowed) : StructInv2 (Tree.new name ic nf tr ob nb) :=
  ⟨⟨(SOk2.closed ic).empty _ _ _ _, trivial⟩, rfl⟩

/-- A tree produced from a fresh one by a history that registers tidy patterns only. -/
def ReachTidy (t : Tree) : Prop :=
  ∃ name ic nf tr ob nb ops, (∀ op ∈ ops, TidyOp op) ∧ t = (Tree.new name ic nf tr ob nb).run ops

theorem ReachTidy.reach {t : Tree} (h : ReachTidy t) : t.Reach := by
  obtain ⟨name, ic, nf, tr, ob, nb, ops, _, rfl⟩ := h
  exact ⟨name, ic, nf, tr, ob, nb, ops, rfl⟩

end Mux.P8

namespace Mux.P17
open Mux Mux.P9

section
open Mux.P8

/-- I-sort and I-index of one node. -/
structure SX (n : Node) : Prop where
  sorted : RankSorted n.children
  index : buildIndexes n.children = .ok n.indexes

theorem SX.closed : Closed SX where
  congr := fun h _ hi hs =>
    ⟨h.sorted.of_map_sublist (hs ▸ List.Sublist.refl _), by rw [hi, buildIndexes_congr hs]; exact h.index⟩
  sublist := fun h _ hs hi => ⟨h.sorted.of_map_sublist hs, hi⟩
  empty := fun _ _ _ _ => ⟨by simp [RankSorted], by simp [buildIndexes, indexesSize]⟩

theorem SX.idxLit {n : Node} (h : SX n) : IdxLit n := idxLit_of_sorted h.sorted h.index

theorem All_idxLit_of_SX : ∀ n : Node, Node.All SX n → Node.All IdxLit n :=
  (AllL_mono (fun _ h => SX.idxLit h)).1

theorem SX.of_sortNode {m n1 : Node} (hs : sortNode m = .ok n1) : SX n1 := by
  obtain ⟨idx, hidx, rfl⟩ := sortNode_ok hs
  exact ⟨by simpa [Node.setChildren] using rankSorted_sortChildren m.children,
    by simpa [Node.setChildren] using hidx⟩

end

structure SX3 (n : Node) : Prop where
  segs : ∀ c ∈ n.children, SegOkX c.seg
  nodup : n.children.Pairwise (fun a b => a.seg.value ≠ b.seg.value)
  sorted : P8.RankSorted n.children
  index : buildIndexes n.children = .ok n.indexes
  distinct : n.children.Pairwise P8.DRel

theorem SX3.toSX {n : Node} (h : SX3 n) : SX n := ⟨h.sorted, h.index⟩

/-- The suffix of a regexp segment is ASCII under whatever table it was parsed. -/
theorem SX3.rxAscii {n : Node} (h : SX3 n) : RxAscii n :=
  fun c hc hk => (h.segs c hc).elim fun _ hok => newSegment_rx_ascii hok.seg hk

theorem SX3.of_map_sublist {n m : Node} (h : SX3 n) (hs : (m.children.map P8.sigc).Sublist (n.children.map P8.sigc))
    (hi : buildIndexes m.children = .ok m.indexes) : SX3 m :=
  ⟨P8.forall_of_map_sublist (S := fun x => SegOkX x.1) hs h.segs,
    P8.pairwise_of_map_sublist (R := fun x y => x.1.value ≠ y.1.value) hs h.nodup,
    h.sorted.of_map_sublist hs, hi, P8.pairwise_DRel_of_map_sublist hs h.distinct⟩

theorem SX3.closed : P8.Closed SX3 where
  congr := fun h _ hi hs =>
    h.of_map_sublist (by rw [hs]; exact List.Sublist.refl _) (by rw [hi, P8.buildIndexes_congr hs]; exact h.index)
  sublist := fun h _ hs hi => h.of_map_sublist hs hi
  empty := fun _ _ _ _ => ⟨by intro c hc; simp at hc, by simp, by simp [P8.RankSorted],
    by simp [buildIndexes, indexesSize], by simp⟩

theorem AllSX_of_SX3 : ∀ n : Node, Node.All SX3 n → Node.All SX n := (AllL_mono (fun _ h => SX3.toSX h)).1

theorem SX3.of_sortNode {m n1 : Node} (hs : sortNode m = .ok n1) (hsegs : ∀ c ∈ m.children, SegOkX c.seg)
    (hd : m.children.Pairwise P8.DRel) : SX3 n1 := by
  have hch := sortNode_children hs
  have hperm := sortChildren_perm m.children
  refine ⟨?_, ?_, (SX.of_sortNode hs).sorted, (SX.of_sortNode hs).index, ?_⟩
  · intro c hc; exact hsegs c ((mem_of_sortNode hs).1 hc)
  · rw [hch]
    exact (List.Perm.pairwise_iff (fun h e => h e.symm) hperm).2 (sortNode_distinct hs)
  · rw [hch]
    exact (List.Perm.pairwise_iff (fun h => P8.DRel.symm h) hperm).2 hd

theorem SX3.sortedIn {n n1 x : Node} {cs : List Node} (hn : SX3 n) (hsub : cs.Sublist n.children) (hx : SegOkX x.seg)
    (hrel : ∀ d ∈ cs, P8.DRel d x) (hn1 : sortNode (n.setChildren (cs ++ [x]) n.indexes) = .ok n1) : SX3 n1 := by
  refine SX3.of_sortNode hn1 ?_ ?_
  · rw [setChildren_children]
    exact List.forall_mem_append.2 ⟨fun c hc => hn.segs c (hsub.subset hc), List.forall_mem_singleton.2 hx⟩
  · rw [setChildren_children]
    exact List.pairwise_append.2 ⟨hn.distinct.sublist hsub, List.pairwise_singleton _ _,
      fun a ha b hb => List.mem_singleton.1 hb ▸ hrel a ha⟩

def PiecesWf (v : Bytes) (rest : List Bytes) : Prop := ∀ x ∈ v :: rest, WfPiece x ∧ x ≠ []

theorem PiecesWf.segOk {ic : Interceptors} {v : Bytes} {rest : List Bytes} (h : PiecesWf v rest) {s : GStep} {n : Node}
    (hprep : gnPrep ic n v rest = .ok s) : ∃ seg, newSegment ic v = .ok seg ∧ SegOk ic seg := by
  obtain ⟨seg, hseg, _⟩ := gnPrep_ok_iff.1 hprep
  exact ⟨seg, hseg, SegOk.of_newSegment hseg (h v (by simp)).1 (h v (by simp)).2⟩

theorem PiecesWf.cont {v : Bytes} {rest : List Bytes} (h : PiecesWf v rest) {s : GStep} (hc : ContX v rest s)
    {v' : Bytes} {rest' : List Bytes} (hcont : s.cont = some (v', rest')) : PiecesWf v' rest' := by
  rcases hc with hc1 | ⟨L, hL0, hLv, hnb, hc1⟩
  · rw [hc1] at hcont
    rw [restCont_some hcont] at h
    exact fun x hx => h x (List.mem_cons_of_mem _ hx)
  · rw [hc1] at hcont
    simp only [Option.some.injEq, Prod.mk.injEq] at hcont
    obtain ⟨rfl, rfl⟩ := hcont
    intro x hx
    rcases List.mem_cons.1 hx with rfl | hx
    · exact ⟨.inl hnb, fun e => by have := List.drop_eq_nil_iff.1 e; omega⟩
    · exact h x (List.mem_cons_of_mem _ hx)

/-- The two facts of `SX3`, for a new segment parsed under the current table. -/
theorem SX3.gnLocal (ic : Interceptors) : GnLocal ic SX3 PiecesWf (fun _ => True) :=
  SX3.closed.gnLocal
    (leaf := by
      intro n n1 v rest seg l i hn hpw hseg hsc hl hn1
      have hok : SegOk ic seg := SegOk.of_newSegment hseg (hpw v (by simp)).1 (hpw v (by simp)).2
      have hsim := scan_none hsc hl
      refine hn.head.sortedIn (x := newLeaf n.pattern seg) (List.Sublist.refl _) ⟨ic, hok⟩
        (fun c hc hck hnk he => ?_) hn1
      -- two literal siblings with the same first byte would be similar
      simp only [newLeaf, Node.seg_mk] at hnk he
      obtain ⟨ic0, hc0⟩ := hn.head.segs c hc
      have hcn : P8.NoBrace c.seg.value := hc0.kind_str_iff.1 hck
      obtain ⟨hs2, hs1⟩ := hsim c hc
      have hvc : seg.value ≠ c.seg.value := fun e => hs2 (Seg.similarity_neg_one_iff.2 e)
      rw [Seg.similarity_same_kind hvc (by rw [hnk, hck]), longestPrefix_comm] at hs1
      have := (lp_str_pos_iff seg.value hcn).2 (P8.cons_of_head?_eq hc0.ne he)
      omega)
    (split := by
      intro n c ret n1 v rest seg s1 s2 l i hn hpw hseg hsc hl hc hlen hsp hret hn1
      have hok : SegOk ic seg := SegOk.of_newSegment hseg (hpw v (by simp)).1 (hpw v (by simp)).2
      obtain ⟨hL, hk, hl⟩ := similar_lp hsc hl hc
      replace hlen : l.toNat < c.seg.value.length := Nat.lt_of_not_le hlen
      generalize l.toNat = L at hL hl hlen hsp
      have hcm : c ∈ n.children := List.mem_of_getElem? hc
      obtain ⟨ic0, hc0⟩ := hn.head.segs c hcm
      obtain ⟨_, _, _, _, _, s1', hu⟩ := cutPointX hc0 hok hk hl hL
      obtain ⟨hsp', hs1ok, hs2ok⟩ := hu.split hlen
      rw [hsp] at hsp'
      cases hsp'
      obtain ⟨hs1v, _, _, _, rfl, _⟩ := split_built hsp hret hn1
      have hretS := SX3.of_sortNode hret (fun x hx => List.mem_singleton.1 hx ▸ ⟨ic, hs2ok⟩)
        (List.pairwise_singleton _ _)
      have hrem := removeNodes_values (v := c.seg.value) hn.head.nodup
      refine ⟨hretS, hn.head.sortedIn (removeNodes_sublist _ _) ?_ (fun d hd hdk hrk he => ?_) hn1⟩
      · exact ⟨ic, hs1ok⟩
      -- a literal sibling with the first byte of the upper half has the first byte of the split child
      simp only [Node.seg_mk] at hrk he
      have hdc : P8.DRel d c :=
        pairwise_mem_ne (R := P8.DRel) (fun _ _ h => P8.DRel.symm h) hn.head.distinct
          ((removeNodes_sublist _ _).subset hd) hcm (fun e => hrem d hd (by rw [e]))
      rw [hs1v, List.head?_take, if_neg (by omega)] at he
      exact hdc hdk (by rw [← hu.kind]; exact hrk) he)
    (cont := fun hn hpw hs hc => by
      obtain ⟨seg, hseg, hok⟩ := hpw.segOk hs
      exact hpw.cont (gnPrep_contX hn.head.segs hseg hok hs) hc)

end Mux.P17

namespace Mux.P8
open Mux Mux.P9 Mux.P17

theorem Closed.and {P Q : Node → Prop} (hP : Closed P) (hQ : Closed Q) : Closed (fun n => P n ∧ Q n) where
  congr := fun h hp hi hs => ⟨hP.congr h.1 hp hi hs, hQ.congr h.2 hp hi hs⟩
  sublist := fun h hp hs hi => ⟨hP.sublist h.1 hp hs hi, hQ.sublist h.2 hp hs hi⟩
  empty := fun s p mi hs => ⟨hP.empty s p mi hs, hQ.empty s p mi hs⟩

/-- `SOk2` does not say that sibling texts differ (`sortNode` refuses anything else); with that, its table-free
part is `SX3`. -/
theorem SOk2_iff_SX3 {ic : Interceptors} {n : Node}
    (hd : n.children.Pairwise (fun a b => a.seg.value ≠ b.seg.value)) : SOk2 ic n ↔ SX3 n ∧ SOk ic n :=
  ⟨fun h => ⟨⟨fun c hc => ⟨ic, (h.1.child c hc).2.2, (P14.wfPiece_iff_tidy _).2 (h.2.tidy c hc), (h.1.child c hc).2.1⟩,
      hd, h.1.sorted, h.1.index, h.2.distinct⟩, h.1⟩,
    fun h => ⟨h.2, fun c hc => (P14.wfPiece_iff_tidy _).1 ((h.1.segs c hc).elim fun _ h0 => h0.wf), h.1.distinct⟩⟩

/-- The invariant the histories are run with. -/
def SOk3 (ic : Interceptors) (n : Node) : Prop := SX3 n ∧ SOk ic n

theorem SOk3.closed (ic : Interceptors) : Closed (SOk3 ic) := Closed.and SX3.closed (SOk.closed ic)

theorem SOk3.toSOk2 {ic : Interceptors} : ∀ n : Node, Node.All (SOk3 ic) n → Node.All (SOk2 ic) n :=
  (AllL_mono (fun _ h => (SOk2_iff_SX3 h.1.nodup).2 h)).1

theorem getNode_SOk3 {ic : Interceptors} {n : Node} {v : Bytes} {rest : List Bytes} {r : Node × List Nat}
    (hn : Node.All (SOk3 ic) n) (hp : PiecesWf v rest) (h : getNode ic n v rest = .ok r) : Node.All (SOk3 ic) r.1 :=
  (All_and _).2 ⟨getNode_localK (SX3.gnLocal ic) ((All_and n).1 hn).1 hp h,
    getNode_localK (SOk.gnLocal ic) ((All_and n).1 hn).2
      ⟨(hp v List.mem_cons_self).2, fun x hx => (hp x (List.mem_cons_of_mem _ hx)).2⟩ h⟩

theorem struct3_step {t : Tree} (hinv : Node.All (SOk3 t.ic) t.root) (op : TOp) (hop : TidyOp op) :
    (t.step op).ic = t.ic ∧ (t.step op).root.pattern = t.root.pattern ∧ Node.All (SOk3 t.ic) (t.step op).root :=
  step_closed (SOk3.closed t.ic) t op (fun p _ _ _ v rest r he hpieces hsp hg => by
    subst he
    have htidy : TidyPattern p := hop
    unfold TidyPattern at htidy
    rw [hsp] at htidy
    exact getNode_SOk3 hinv (fun x hx => ⟨(P14.wfPiece_iff_tidy x).2 (htidy x hx), hpieces x hx⟩) hg) hinv

theorem struct3_run {t : Tree} (hinv : Node.All (SOk3 t.ic) t.root) (ops : List TOp) (hops : ∀ op ∈ ops, TidyOp op) :
    (t.run ops).ic = t.ic ∧ (t.run ops).root.pattern = t.root.pattern ∧ Node.All (SOk3 t.ic) (t.run ops).root := by
  refine Tree.run_inv (I := fun t' => t'.ic = t.ic ∧ t'.root.pattern = t.root.pattern ∧ Node.All (SOk3 t.ic) t'.root)
    (fun t' op hop h => ?_) ⟨rfl, rfl, hinv⟩
  obtain ⟨h1, h2, h3⟩ := struct3_step (h.1 ▸ h.2.2) op (hops op hop)
  exact ⟨h1.trans h.1, h2.trans h.2.1, h.1 ▸ h3⟩

theorem struct2_reach {t : Tree} (h : ReachTidy t) : StructInv2 t := by
  obtain ⟨name, ic, nf, tr, ob, nb, ops, hops, rfl⟩ := h
  have h0 : Node.All (SOk3 (Tree.new name ic nf tr ob nb).ic) (Tree.new name ic nf tr ob nb).root := by
    simp only [Tree.new, Node.All, AllL, and_true]
    exact (SOk3.closed ic).empty _ _ _ _
  obtain ⟨hic, hpat, ha⟩ := struct3_run h0 ops hops
  exact ⟨hic ▸ SOk3.toSOk2 _ ha, hpat⟩

theorem distinct_of_reachTidy {t : Tree} (h : ReachTidy t) {n : Node} (hn : n ∈ t.root.nodes) :
    DistinctFirstBytes n :=
  (((All_iff_nodes _).1 _).1 (struct2_reach h).all n hn).2.distinct

end Mux.P8
