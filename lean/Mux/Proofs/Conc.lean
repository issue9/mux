/-
  Mux.Proofs.Conc — the instances of the abstract readers/writer semantics (`Mux.Proofs.RWLock`)
  used by C06/C07, and the instance-isolation lemmas of C07 (router table, context pool).
-/
import Mux.Proofs.FoldRules
import Mux.Proofs.RWLock
import Mux.Proofs.Group
import Mux.Proofs.Params
import Mux.Spec.Defs
import Mux.Ties.C06
import Mux.Ties.C07
namespace Mux.Conc
open Mux Mux.RWLock

/-- The API calls C06 names. `add`/`remove`/`clean` take the write lock, `handler` (the tree walk of
`ServeHTTP`), `routes` and `url` (strict `URL`) the read lock. -/
inductive Op where
  | add (pattern : Bytes) (h : Handler) (ms : List Nat) (methods : List Bytes)
  | remove (pattern : Bytes) (methods : List Bytes)
  | clean (pre : Bytes)
  | handler (path : Bytes) (ps : Params) (method : Bytes)
  | routes
  | url (pattern : Bytes) (ps : AMap Bytes)

def Op.isWriter : Op → Bool
  | .add .. => true
  | .remove .. => true
  | .clean .. => true
  | _ => false

/-- The Go method an operation is (the key of its regenerated lock shape). -/
def Op.api : Op → String
  | .add .. => "Tree.Add"
  | .remove .. => "Tree.Remove"
  | .clean .. => "Tree.Clean"
  | .handler .. => "Tree.Handler"
  | .routes => "Tree.Routes"
  | .url .. => "Tree.URL"

/-- The writer operations as history operations of `Mux.Spec.Defs`. -/
def Op.toTOp? : Op → Option TOp
  | .add p h ms methods => some (.add p h ms methods)
  | .remove p methods => some (.remove p methods)
  | .clean pre => some (.clean pre)
  | _ => none

inductive Resp where
  | wrote (err : Option Err)
  | handler (r : HR)
  | routes (l : List (Bytes × List Bytes))
  | url (r : Except Err Bytes)

def errOf {α : Type} : Except Err α → Option Err
  | .ok _ => none
  | .error e => some e

theorem errOf_eq_some {α : Type} {r : Except Err α} {e : Err} (h : errOf r = some e) : r = .error e := by
  cases r with
  | ok _ => cases h
  | error _ => exact congrArg _ (Option.some.inj h)

/-- The sequential meaning (L1): writers are `Tree.step` (a failing call leaves the tree as it
was and reports the error), readers are the pure functions of the model. -/
def sem (env : Env) : Op → Tree → Tree × Resp
  | .add p h ms methods, t => (t.step (.add p h ms methods), .wrote (errOf (t.add p h ms methods)))
  | .remove p methods, t => (t.step (.remove p methods), .wrote (errOf (t.remove p methods)))
  | .clean pre, t => (t.step (.clean pre), .wrote (errOf (t.clean pre)))
  | .handler path ps method, t => (t, .handler (t.handler env path ps method))
  | .routes, t => (t, .routes t.routes)
  | .url p ps, t => (t, .url (t.url env p ps))

/-- The shared accesses of a Go method, read off its regenerated lock shape. -/
def accsOf (f : String) : List (String × Bool) :=
  ((Ties.shapeOf f).getD []).filterMap fun
    | .read w => some (w, false)
    | .write w => some (w, true)
    | _ => none

theorem reader_accs_facts :
    (∀ a ∈ accsOf "Tree.Handler", a.2 = false) ∧ (∀ a ∈ accsOf "Tree.Routes", a.2 = false) ∧
    (∀ a ∈ accsOf "Tree.URL", a.2 = false) := by decide +kernel

/-- The tree under `WithLock(true)`. The reader constraints hold by construction of `sem`, and —
for the micro-accesses — by the regenerated facts. -/
@[reducible] def treeSys (env : Env) : Sys where
  σ := Tree
  Op := Op
  Resp := Resp
  Loc := String
  mode := Op.isWriter
  sem := sem env
  accs := fun op => accsOf op.api
  reader_pure := by intro op s h; cases op <;> first | rfl | simp [Op.isWriter] at h
  reader_accs := by
    intro op h
    cases op
    case handler => exact reader_accs_facts.1
    case routes => exact reader_accs_facts.2.1
    case url => exact reader_accs_facts.2.2
    all_goals simp [Op.isWriter] at h

theorem run_eq (env : Env) (t : Tree) (ops : List Op) :
    run (treeSys env) t ops = t.run (ops.filterMap Op.toTOp?) :=
  List.foldl_filterMap_of_step id (fun _ op => by cases op <;> rfl) ops t

/-- Serving on a router nobody modifies. The operation is the request; its meaning is
`Router.serveContext` on the context `NewContext` hands out (no parameters). -/
@[reducible] def serveSys (env : Env) : Sys where
  σ := Router
  Op := Req
  Resp := ServeRes
  Loc := Unit
  mode := fun _ => false
  sem := fun req r => (r, r.serveContext env req [])
  accs := fun _ => [((), false)]
  reader_pure := by intros; rfl
  reader_accs := by intro op _ a ha; simp at ha; simp [ha]

theorem serveSys_readOnly (env : Env) (progs : Nat → List Req) : ReadOnly (S := serveSys env) progs :=
  fun _ _ _ => rfl

def stepAt (rt : RTab) (id : Nat) (op : ROp) : RTab :=
  match rt.get? id with
  | some r => rt.set id (r.step op)
  | none => rt

theorem stepAt_get? (rt : RTab) (id id' : Nat) (op : ROp) :
    (stepAt rt id op).get? id' = if id' = id then (rt.get? id).map (·.step op) else rt.get? id' := by
  unfold stepAt
  cases h : rt.get? id with
  | none => by_cases h2 : id' = id <;> simp [h2, h]
  | some r => simp [RTab.get?_set]

/-- A history of operations on several routers, each tagged with its handle. -/
def runAt (rt : RTab) (h : List (Nat × ROp)) : RTab := h.foldl (fun rt e => stepAt rt e.1 e.2) rt

theorem runAt_get? (rt : RTab) (h : List (Nat × ROp)) (id : Nat) :
    (runAt rt h).get? id = (rt.get? id).map (fun r => r.run ((h.filter (·.1 = id)).map (·.2))) :=
  (List.foldl_keyed (fun rt => rt.get?) (own := fun o op => o.map (·.step op)) stepAt_get? h rt id).trans
    (List.foldl_option_map Router.step _ _)

/-- Histories that also create routers (`NewRouter` under a handle). -/
inductive IOp where
  | create (cfg : RouterCfg)
  | op (o : ROp)

/-- One instance alone: its state is a function of its own history only. A failing `NewRouter`
(empty name: panic with a message) and operations on a handle that does not exist do nothing. -/
def IOp.own : Option Router → IOp → Option Router
  | cur, .create cfg => match Router.new cfg with
    | some r => some r
    | none => cur
  | cur, .op o => cur.map (·.step o)

def applyAt (rt : RTab) (id : Nat) : IOp → RTab
  | .create cfg => match Router.new cfg with
    | some r => rt.set id r
    | none => rt
  | .op o => stepAt rt id o

theorem applyAt_get? (rt : RTab) (id id' : Nat) (o : IOp) :
    (applyAt rt id o).get? id' = if id' = id then IOp.own (rt.get? id) o else rt.get? id' := by
  cases o with
  | create cfg =>
    simp only [applyAt, IOp.own]
    cases Router.new cfg with
    | none => by_cases h : id' = id <;> simp [h]
    | some r => simp [RTab.get?_set]
  | op o => simp [applyAt, IOp.own, stepAt_get?]

def runAll (rt : RTab) (h : List (Nat × IOp)) : RTab := h.foldl (fun rt e => applyAt rt e.1 e.2) rt

theorem runAll_get? (rt : RTab) (h : List (Nat × IOp)) (id : Nat) :
    (runAll rt h).get? id = ((h.filter (·.1 = id)).map (·.2)).foldl IOp.own (rt.get? id) :=
  List.foldl_keyed (fun rt => rt.get?) applyAt_get? h rt id

inductive PoolOp where
  | destroy (c : Ctx)
  | get

/-- Runs pool operations; returns the pool and the contexts handed out (earliest first). -/
def poolRun : Pool → List PoolOp → Pool × List Ctx
  | p, [] => (p, [])
  | p, .destroy c :: ops => poolRun (p.destroy c) ops
  | p, .get :: ops =>
    let r := poolRun p.newContext.2 ops
    (r.1, p.newContext.1 :: r.2)

theorem poolRun_fresh (p : Pool) (ops : List PoolOp) : ∀ c ∈ (poolRun p ops).2, c = {} := by
  fun_induction poolRun p ops with
  | case1 p => exact fun _ h => nomatch h
  | case2 p c ops ih => exact ih
  | case3 p ops r ih => exact List.forall_mem_cons.2 ⟨Pool.newContext_fst p, ih⟩

end Mux.Conc
