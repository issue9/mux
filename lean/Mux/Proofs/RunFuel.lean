/-
  Mux.Proofs.RunFuel — kernel evaluation of histories that build nodes with SEVERAL children.  `sortChildren` is
  `List.mergeSort`, defined by well-founded recursion, which the kernel does not unfold on lists of two or more nodes.
  A stable merge sort is insertion sort (`mergeSort_eq_ins`), so `getNodeF sortNode` equals `getNodeF sortNodeI`, which
  sorts by structural insertion; `Tree.run_eq_F` and `Router.run_eq_F` turn a history into a fold of steps built from
  these structural versions only.
-/
import Mux.Proofs.GetNodeFuel
namespace Mux.P16
open Mux Mux.P10

section InsSort
variable {α : Type} (le : α → α → Bool)

def insBefore (a : α) : List α → List α
  | [] => [a]
  | b :: s => if le a b then a :: b :: s else b :: insBefore a s

/-- Insertion sort, the earlier element first among equals. -/
def insSort : List α → List α
  | [] => []
  | a :: l => insBefore le a (insSort l)

theorem insBefore_append (a : α) : ∀ (l₁ l₂ : List α), (∀ b ∈ l₁, (!le a b) = true) → (∀ b ∈ l₂.head?, le a b = true) →
    insBefore le a (l₁ ++ l₂) = l₁ ++ a :: l₂
  | [], [], _, _ => rfl
  | [], b :: l₂, _, h2 => by
    simp only [List.nil_append, insBefore]
    rw [if_pos (h2 b (by simp))]
  | c :: l₁, l₂, h1, h2 => by
    have hc : le a c = false := by simpa using h1 c List.mem_cons_self
    simp only [List.cons_append, insBefore, hc, Bool.false_eq_true, if_false]
    rw [insBefore_append a l₁ l₂ (fun b hb => h1 b (List.mem_cons_of_mem _ hb)) h2]

theorem mergeSort_eq_ins (trans : ∀ a b c : α, le a b → le b c → le a c) (total : ∀ a b : α, le a b || le b a) :
    ∀ l : List α, l.mergeSort le = insSort le l
  | [] => by simp [insSort]
  | a :: l => by
    obtain ⟨l₁, l₂, h1, h2, h3⟩ := List.mergeSort_cons trans total a l
    have hs := List.pairwise_mergeSort trans total (a :: l)
    rw [h1] at hs
    have hl2 : ∀ b ∈ l₂.head?, le a b = true := by
      intro b hb
      have hb' : b ∈ l₂ := List.mem_of_mem_head? hb
      have := (List.pairwise_append.1 hs).2.1
      exact List.rel_of_pairwise_cons this hb'
    rw [h1, insSort, ← mergeSort_eq_ins trans total l, h2, insBefore_append le a l₁ l₂ h3 hl2]
end InsSort

def leP (a b : Node) : Bool := decide (a.priority ≤ b.priority)

theorem sortChildren_eq (cs : List Node) : sortChildren cs = insSort leP cs := by
  unfold sortChildren
  exact mergeSort_eq_ins leP (fun a b c h1 h2 => by simp only [leP, decide_eq_true_eq] at *; omega)
    (fun a b => by simp only [leP, Bool.or_eq_true, decide_eq_true_eq]; omega) cs

def sortNodeI (n : Node) : Except Err Node := do
  if hasDupValues n.children then throw .unsupported
  let cs := insSort leP n.children
  let idx ← buildIndexes cs
  return n.setChildren cs idx

theorem sortNode_eq (n : Node) : sortNode n = sortNodeI n := by
  unfold sortNode sortNodeI
  simp only [sortChildren_eq]

theorem getNodeF_eq_I (ic : Interceptors) (k : Nat) : getNodeF sortNode ic k = getNodeF sortNodeI ic k := by
  rw [funext sortNode_eq]

/-- `mux_eval` for histories that build nodes with several children.  No call site: facts about such histories go
through `Tree.run_eq_F` below. -/
macro "mux_eval2" "[" ids:ident,* "]" : tactic =>
  `(tactic| (simp only [$[$ids:ident],*, Tree.run, Tree.step, List.foldl_cons, List.foldl_nil,
      Tree.add, getNode_eq_F, getNodeF_eq_I]; decide +kernel))

end Mux.P16

/-! `Tree.add` with the fuel version of `getNode`, and the steps of a history through it.  After `rw [Tree.run_eq_F]`
(`Router.run_eq_F`) a fact about a concrete history is closed by `decide +kernel`.  `mux_eval` unfolds every operation
inside the goal instead, so that the tree of each step is copied to every place where the next step mentions it, and the
kernel has to check all those unfoldings: here it only evaluates. -/

namespace Mux
open Mux.P10 Mux.P16

def Tree.addF (t : Tree) (pattern : Bytes) (h : Handler) (ms : List Nat) (methods : List Bytes) : Except Err Tree := do
  let methods := if methods.isEmpty then anyMethods else methods
  match ← t.root.checkAmb t.ic pattern false with
  | some true => throw .ambiguous
  | _ => pure ()
  let _ ← split t.ic pattern
  Tree.checkMethods t pattern methods []
  match splitString pattern with
  | [] => throw (.fault 260)
  | v :: rest =>
    let (root1, path) ← getNodeF sortNodeI t.ic (P9.gnMeasure v rest + 1) t.root v rest
    let root2 ← root1.modifyAt (t.addMethodsNode h pattern ms methods) path
    return ({ t with root := root2 }).bumpMethods methods

theorem Tree.add_eq_F (t : Tree) (pattern : Bytes) (h : Handler) (ms : List Nat) (methods : List Bytes) :
    t.add pattern h ms methods = t.addF pattern h ms methods := by
  simp only [Tree.add, Tree.addF, getNode_eq_F, getNodeF_eq_I]
  rfl

def Tree.stepF (t : Tree) : TOp → Tree
  | .add p h ms methods => match t.addF p h ms methods with
    | .ok t' => t'
    | .error _ => t
  | op => t.step op

theorem Tree.step_eq_F (t : Tree) (op : TOp) : t.step op = t.stepF op := by
  cases op with
  | add p h ms methods => simp only [Tree.step, Tree.stepF, Tree.add_eq_F]; rfl
  | _ => rfl

theorem Tree.run_eq_F (t : Tree) (ops : List TOp) : t.run ops = ops.foldl Tree.stepF t := by
  rw [Tree.run, funext fun t => funext (Tree.step_eq_F t)]

def Router.stepF (r : Router) : ROp → Router
  | .handle p h m methods => match r.tree.addF p { base := .user h } (m ++ r.ms) methods with
    | .ok t => { r with tree := t }
    | .error _ => r
  | op => r.step op

theorem Router.step_eq_F (r : Router) (op : ROp) : r.step op = r.stepF op := by
  cases op with
  | handle p h m methods =>
    simp only [Router.step, Router.stepF, Router.handle, Tree.add_eq_F]
    cases r.tree.addF p { base := .user h } (m ++ r.ms) methods <;> rfl
  | _ => rfl

theorem Router.run_eq_F (r : Router) (ops : List ROp) : r.run ops = ops.foldl Router.stepF r := by
  rw [Router.run, funext fun r => funext (Router.step_eq_F r)]

end Mux
