/-
  `C01_found_from` / `C01_404_from` for ARBITRARY incoming parameters `ps` (what a `Group` matcher captured), on every
  tree with `IdxLit`.  With no hypothesis on `ps` a found route looks up like `setAll ps (captures chain)` (the `AMap.set`
  fold: route captures win, every other key keeps its incoming value) and a 404 like `ps` (`found_lookup`,
  `notFound_lookup`; the equations themselves need one entry per key: `handler_found_restore`, `handler_404_restore`);
  `params = ps ++ captures chain` holds for ANY `ps` no key of which is the `seg.name` of a node of the tree
  (`namesOkL_of_disjoint`).  Then what the `Call` of `Router.serveContext` means for arbitrary incoming parameters
  (`NodeSound`, `NotFoundSound`), and the collision table of D30 on which `Mux/Properties/C01group.lean` shows the repaired undo.
-/
import Mux.Proofs.GroupLiftMorph
import Mux.Proofs.FoldRules
import Mux.Proofs.RestoreMatch
import Mux.Proofs.ReachAll
import Mux.Proofs.UrlInverse
import Mux.Proofs.UrlTree
namespace Mux.P18
open Mux

/-- The `seg.name` of every node below the root (`""` for literal nodes). -/
def treeNames (t : Tree) : List Bytes := (nodesL t.root.children).map (·.seg.name)

/-- The names of the parameter (non-literal) nodes below the root. -/
def paramNames (t : Tree) : List Bytes :=
  ((nodesL t.root.children).filter (fun n => decide (n.seg.kind ≠ .str))).map (·.seg.name)

/-- `ps` overridden / extended by `caps` in order, with the model's `AMap.set`. -/
def setAll (ps : Params) (caps : List (Bytes × Bytes)) : Params := caps.foldl (fun a e => a.set e.1 e.2) ps

theorem setAll_nil (ps : Params) : setAll ps [] = ps := rfl
theorem setAll_cons (ps : Params) (e : Bytes × Bytes) (caps : List (Bytes × Bytes)) :
    setAll ps (e :: caps) = setAll (ps.set e.1 e.2) caps := rfl

theorem get?_setAll_other (caps : List (Bytes × Bytes)) (ps : Params) {k : Bytes} (hk : k ∉ caps.map (·.1)) :
    (setAll ps caps).get? k = ps.get? k :=
  List.foldl_inv (I := fun a : Params => a.get? k = ps.get? k)
    (fun a e he h => (get?_set_other a e.2 fun hke : k = e.1 => hk (hke ▸ List.mem_map_of_mem he)).trans h) rfl

theorem get?_setAll_mem (caps : List (Bytes × Bytes)) : ∀ (ps : Params) {k v : Bytes}, (caps.map (·.1)).Nodup →
    (k, v) ∈ caps → (setAll ps caps).get? k = some v := by
  induction caps with
  | nil => intro _ _ _ _ h; cases h
  | cons e caps ih =>
    intro ps k v hnd hmem
    simp only [List.map_cons, List.nodup_cons] at hnd
    rw [setAll_cons]
    rcases List.mem_cons.1 hmem with rfl | hmem
    · rw [get?_setAll_other caps _ hnd.1, get?_set_self]
    · exact ih _ hnd.2 hmem

theorem setAll_fresh (caps : List (Bytes × Bytes)) : ∀ (ps : Params), (caps.map (·.1)).Nodup →
    (∀ k ∈ caps.map (·.1), k ∉ ps.keys) → setAll ps caps = ps ++ caps :=
  P19.setCaps_fresh caps

theorem namesOk_add : (n : Node) → (used K : List Bytes) → Node.NamesOk used n →
    (∀ x ∈ nodesL n.children, x.seg.name ∉ K) → Node.NamesOk (used ++ K) n := by
  intro n
  induction n using Node.induction with
  | step n ih =>
    intro used K h hK
    rw [Node.namesOk_iff, NamesOkL_iff] at h ⊢
    intro c hc
    -- `c` and the nodes below it are nodes below `n`
    have hsub : ∀ x ∈ c.nodes, x.seg.name ∉ K := fun x hx => hK x (mem_nodesL_iff.2 ⟨c, hc, hx⟩)
    rw [Node.nodes_eq] at hsub
    have hc' := ih c hc _ K ((Node.namesOk_iff _ _).2 (h c hc).2) fun x hx => hsub x (List.mem_cons_of_mem _ hx)
    rw [Node.namesOk_iff] at hc'
    refine ⟨fun hm => (List.mem_append.1 hm).elim (h c hc).1 (hsub c List.mem_cons_self), ?_⟩
    split
    · rename_i hk; rw [if_pos hk] at hc'; exact hc'
    · rename_i hk; rw [if_neg hk] at hc'; exact hc'

theorem namesOkL_of_disjoint {t : Tree} (hN : NamesOkL [] t.root.children) {ps : Params}
    (hd : ∀ k ∈ ps.keys, k ∉ treeNames t) : NamesOkL ps.keys t.root.children :=
  (Node.namesOk_iff _ _).1 (namesOk_add t.root [] ps.keys ((Node.namesOk_iff _ _).2 hN)
    fun x hx hk => hd _ hk (List.mem_map_of_mem hx))

theorem captures_keys_treeNames {t : Tree} {n : Node} {chain : List (Seg × Bytes)}
    (h : Chain t.root (chain.map (·.1)) n) : ∀ k ∈ (captures chain).map (·.1), k ∈ treeNames t := by
  intro k hk
  rw [captures_keys] at hk
  simp only [List.mem_map, List.mem_filter] at hk
  obtain ⟨sv, ⟨hsv, _⟩, rfl⟩ := hk
  obtain ⟨x, hx, he⟩ :=
    P13.chain_forall h (((All_iff_nodes _).2 _).2 fun _ hm => hm) sv.1 (List.mem_map_of_mem hsv)
  exact List.mem_map.2 ⟨x, hx, by rw [he]⟩

theorem captures_nodup {t : Tree} (hN : NamesOkL [] t.root.children) {n : Node} {chain : List (Seg × Bytes)}
    (h : Chain t.root (chain.map (·.1)) n) : ((captures chain).map (·.1)).Nodup :=
  (chain_names ((Node.namesOk_iff [] t.root).2 hN) h).1

/-- Over incoming parameters no key of which is a name of the tree the `set` fold of a chain's captures only appends. -/
theorem setAll_captures_disjoint {t : Tree} (hN : NamesOkL [] t.root.children) {n : Node} {chain : List (Seg × Bytes)}
    (h : Chain t.root (chain.map (·.1)) n) {ps : Params} (hd : ∀ k ∈ ps.keys, k ∉ treeNames t) :
    setAll ps (captures chain) = ps ++ captures chain :=
  setAll_fresh _ _ (captures_nodup hN h) fun k hk hmem => hd k hmem (captures_keys_treeNames h k hk)

/-! The matcher only writes the parameters (`set`, `restoreParam`), so it cannot tell two parameter lists with the same
lookups apart; and every list has the lookups of one with one entry per key, for which the exact law of
`RestoreMatch.lean` holds. -/

def SameGet (a b : Params) : Prop := ∀ k, a.get? k = b.get? k

theorem SameGet.closed : Closed SameGet where
  set := fun a b x v h k => by rw [AMap.get?_set, AMap.get?_set, h k]
  restore := fun a b a2 b2 x h h2 k => by rw [P19.get?_restoreParam, P19.get?_restoreParam, h x, h2 k]

theorem SameGet.setAll {a b : Params} (h : SameGet a b) (caps : List (Bytes × Bytes)) :
    SameGet (setAll a caps) (setAll b caps) := by
  induction caps generalizing a b with
  | nil => exact h
  | cons e caps ih => exact ih (SameGet.closed.set a b e.1 e.2 h)

theorem exists_nodup_sameGet (ps : Params) : ∃ ps1 : Params, ps1.keys.Nodup ∧ SameGet ps ps1 := by
  induction ps with
  | nil => exact ⟨[], List.nodup_nil, fun _ => rfl⟩
  | cons e ps ih =>
    obtain ⟨ps1, hnd, h⟩ := ih
    refine ⟨ps1.set e.1 e.2, AMap.nodup_keys_set ps1 e.1 e.2 hnd, fun k => ?_⟩
    rw [AMap.get?_set, AMap.get?_cons, h k]
    by_cases hk : k = e.1
    · rw [if_pos hk, if_pos hk.symm]
    · rw [if_neg hk, if_neg (Ne.symm hk)]

theorem handler_nodup (env : Env) (t : Tree) (path method : Bytes) (ps : Params) (f : Found)
    (h : t.handler env path ps method = .res f) :
    ∃ ps1 f1, ps1.keys.Nodup ∧ SameGet ps ps1 ∧ t.handler env path ps1 method = .res f1 ∧ f.node = f1.node ∧
      f.handler = f1.handler ∧ f.ok = f1.ok ∧ SameGet f.params f1.params := by
  obtain ⟨ps1, hnd, hs⟩ := exists_nodup_sameGet ps
  have := handler_rel env t SameGet.closed path method ps ps1 hs
  rw [h] at this
  obtain ⟨f1, h1, a, b, c, d⟩ := this.res_left
  exact ⟨ps1, f1, hnd, hs, h1, a, b, c, d⟩

theorem found_lookup (env : Env) (t : Tree) (hI : Node.All IdxLit t.root)
    (path method : Bytes) (ps : Params) (f : Found) (n : Node)
    (hp : path ≠ []) (hs : path ≠ [42]) (htr : t.trace = none ∨ method ≠ mTRACE)
    (h : t.handler env path ps method = .res f) (hf : f.node = some n) :
    ∃ chain : List (Seg × Bytes),
      chain ≠ [] ∧ Chain t.root (chain.map (·.1)) n ∧ path = instChain chain ∧
      (∀ sv ∈ chain, sv.1.Satisfies env t.ic sv.2) ∧ n.handlers ≠ [] ∧ HandlerAgrees n method f ∧
      SameGet f.params (setAll ps (captures chain)) := by
  obtain ⟨ps1, f1, hnd, hs1, h1, e1, e2, e3, hs2⟩ := handler_nodup env t path method ps f h
  obtain ⟨chain, c1, c2, c3, c4, c5, c6, c7⟩ := P19.handler_found_restore hI hnd hp hs htr h1 (e1 ▸ hf)
  refine ⟨chain, c1, c2, c3, c4, c6, ?_, fun k => ?_⟩
  · unfold HandlerAgrees at c7 ⊢
    rw [e2, e3]; exact c7
  · rw [hs2 k, c5]
    exact (hs1.setAll _ k).symm

theorem notFound_lookup (env : Env) (t : Tree) (hI : Node.All IdxLit t.root) (path method : Bytes) (ps : Params)
    (f : Found) (h : t.handler env path ps method = .res f) (hf : f.node = none) :
    f.handler = t.notFound ∧ f.ok = false ∧ SameGet f.params ps := by
  obtain ⟨ps1, f1, hnd, hs1, h1, e1, e2, e3, hs2⟩ := handler_nodup env t path method ps f h
  obtain ⟨a, b, c⟩ := P19.handler_404_restore hI hnd h1 (e1 ▸ hf)
  exact ⟨e2.trans b, e3.trans c, fun k => by rw [hs2 k, a, hs1 k]⟩

theorem treeNames_reach {t : Tree} (hr : P14.ReachAll t) {k : Bytes} (hk : k ∈ treeNames t) :
    k = [] ∨ k ∈ paramNames t := by
  obtain ⟨x, hx, rfl⟩ := List.mem_map.1 hk
  have hseg := ((All_iff_nodes _).2 _).1 (P9.reach_segOk hr.reachWf) x hx
  by_cases hstr : x.seg.kind = .str
  · exact .inl (hseg.nameWf.1 hstr)
  · exact .inr (List.mem_map.2 ⟨x, List.mem_filter.2 ⟨hx, by simpa using hstr⟩, rfl⟩)

/-- What a call with a node means (arbitrary incoming parameters `ps`). -/
def NodeSound (env : Env) (t : Tree) (path method : Bytes) (ps : Params) (c : Call) (n : Node) : Prop :=
  ∃ chain : List (Seg × Bytes),
    chain ≠ [] ∧ Chain t.root (chain.map (·.1)) n ∧ path = instChain chain ∧
    (∀ sv ∈ chain, sv.1.Satisfies env t.ic sv.2) ∧ n.handlers ≠ [] ∧ HandlerAgrees n method (Call.found c) ∧
    n.pattern = (chain.map (·.1.value)).flatten ∧
    ((captures chain).map (·.1)).Nodup ∧
    (∀ k, k ∈ (captures chain).map (·.1) ∨ k ∉ treeNames t →
      c.params.get? k = (setAll ps (captures chain)).get? k) ∧
    (∀ k, c.params.get? k = (setAll ps (captures chain)).get? k ∨ c.params.get? k = none) ∧
    ((∀ k ∈ ps.keys, k ∉ treeNames t) →
      c.params = ps ++ captures chain ∧ c.params = setAll ps (captures chain))

/-- What a call without a node (the router's 404) means. -/
def NotFoundSound (t : Tree) (ps : Params) (c : Call) : Prop :=
  c.handler = t.notFound ∧ c.ok = false ∧
    (∀ k, k ∉ treeNames t → c.params.get? k = ps.get? k) ∧
    (∀ k, c.params.get? k = ps.get? k ∨ c.params.get? k = none) ∧
    ((∀ k ∈ ps.keys, k ∉ treeNames t) → c.params = ps)

theorem chain_pattern_reach {t : Tree} (hr : P14.ReachAll t) {n : Node} {chain : List (Seg × Bytes)}
    (hc : Chain t.root (chain.map (·.1)) n) : n.pattern = (chain.map (·.1.value)).flatten := by
  rw [P13.reach_chain_pattern hr.reachWf hc, List.map_map]
  rfl

/-! ## The collision table of D30

`/u/{id}/a`, `/u/{id}/c`, `/u/{name}/b` (the tree these three `Handle` calls build), evaluated in
`C01_collision_tree_repaired`: with the incoming parameter `id = v1` (e.g. a path-version matcher with key `id`)

* `GET /u/5/b` is served by `/u/{name}/b`: `{id}/` matched `5`, overwrote `id`, its subtree missed.  Before the D30
  repair the undo was `erase id`, which deleted the key instead of restoring `v1` (parameters `{name: 5}` only); the
  repaired undo `restoreParam` writes `v1` back: parameters `{id: v1, name: 5}`;
* `GET /u/5/z` is a 404 that reports the incoming `{id: v1}` (before the repair: no parameters). -/

def cxSegU : Seg := { value := [47, 117, 47] }
def cxSegId : Seg := { value := [123, 105, 100, 125, 47], kind := .named, name := [105, 100], suffix := [47] }
def cxSegName : Seg :=
  { value := [123, 110, 97, 109, 101, 125, 47, 98], kind := .named, name := [110, 97, 109, 101], suffix := [47, 98] }
def cxGET : Bytes := [71, 69, 84]
def cxHs (i : Nat) : AMap Handler := [(cxGET, { base := .user i }), (mNotAllowed, { base := .notAllowed })]
def cxA : Node := .mk { value := [97] } (cxSegU.value ++ cxSegId.value ++ [97]) 1 (cxHs 1) [] []
def cxC : Node := .mk { value := [99] } (cxSegU.value ++ cxSegId.value ++ [99]) 1 (cxHs 3) [] []
def cxId : Node := .mk cxSegId (cxSegU.value ++ cxSegId.value) 0 [] [] [cxA, cxC]
def cxName : Node := .mk cxSegName (cxSegU.value ++ cxSegName.value) 1 (cxHs 2) [] []
def cxU : Node := .mk cxSegU cxSegU.value 0 [] [] [cxId, cxName]
def cxTree : Tree := { root := .mk { value := [] } [] 0 [] [] [cxU], name := [114], notFound := { base := .notFound } }
def cxRouter : Router := { tree := cxTree }
def cxEnv : Env := ⟨fun _ _ => true⟩
/-- `id = v1` -/
def cxPs : Params := [([105, 100], [118, 49])]

end Mux.P18
