/-
  Mux.Proofs.Trace — C18: `html.EscapeString` (no forbidden byte, every `&` starts an entity, `htmlUnescape` inverts
  it) and the TRACE helper on a fresh response.  (The stored TRACE handler through a history: `Tree.run_outer`,
  TreeReach.lean.)
-/
import Mux.Proofs.Head
namespace Mux

def entLt : Bytes := [38, 108, 116, 59]        -- &lt;
def entGt : Bytes := [38, 103, 116, 59]        -- &gt;
def entAmp : Bytes := [38, 97, 109, 112, 59]   -- &amp;
def entApos : Bytes := [38, 35, 51, 57, 59]    -- &#39;
def entQuot : Bytes := [38, 35, 51, 52, 59]    -- &#34;
def entities : List Bytes := [entLt, entGt, entAmp, entApos, entQuot]

theorem entLt_eq : bytesOfString "&lt;" = entLt := by decide +kernel
theorem entGt_eq : bytesOfString "&gt;" = entGt := by decide +kernel
theorem entAmp_eq : bytesOfString "&amp;" = entAmp := by decide +kernel
theorem entApos_eq : bytesOfString "&#39;" = entApos := by decide +kernel
theorem entQuot_eq : bytesOfString "&#34;" = entQuot := by decide +kernel

def escByte (b : UInt8) : Bytes :=
  if b = 60 then entLt else if b = 62 then entGt else if b = 38 then entAmp
  else if b = 39 then entApos else if b = 34 then entQuot else [b]

theorem htmlEscape_cons (b : UInt8) (rest : Bytes) :
    htmlEscape (b :: rest) = escByte b ++ htmlEscape rest := by
  simp only [htmlEscape, escByte, entLt_eq, entGt_eq, entAmp_eq, entApos_eq, entQuot_eq]

theorem htmlEscape_nil : htmlEscape [] = [] := rfl

theorem escByte_cases (b : UInt8) :
    escByte b ∈ entities ∨ (escByte b = [b] ∧ b ≠ 60 ∧ b ≠ 62 ∧ b ≠ 38 ∧ b ≠ 39 ∧ b ≠ 34) := by
  unfold escByte
  by_cases h1 : b = 60
  · rw [if_pos h1]; exact .inl (.head _)
  rw [if_neg h1]
  by_cases h2 : b = 62
  · rw [if_pos h2]; exact .inl (.tail _ (.head _))
  rw [if_neg h2]
  by_cases h3 : b = 38
  · rw [if_pos h3]; exact .inl (.tail _ (.tail _ (.head _)))
  rw [if_neg h3]
  by_cases h4 : b = 39
  · rw [if_pos h4]; exact .inl (.tail _ (.tail _ (.tail _ (.head _))))
  rw [if_neg h4]
  by_cases h5 : b = 34
  · rw [if_pos h5]; exact .inl (.tail _ (.tail _ (.tail _ (.tail _ (.head _)))))
  rw [if_neg h5]
  exact .inr ⟨rfl, h1, h2, h3, h4, h5⟩

theorem entities_safe : ∀ e ∈ entities, ∀ b ∈ e, b ≠ 60 ∧ b ≠ 62 ∧ b ≠ 34 ∧ b ≠ 39 := by
  decide +kernel

theorem escByte_safe (b x : UInt8) (hx : x ∈ escByte b) : x ≠ 60 ∧ x ≠ 62 ∧ x ≠ 34 ∧ x ≠ 39 := by
  rcases escByte_cases b with h | ⟨h, h1, h2, _, h4, h5⟩
  · exact entities_safe _ h x hx
  · rw [h, List.mem_singleton] at hx
    subst hx
    exact ⟨h1, h2, h5, h4⟩

theorem htmlEscape_safe (s : Bytes) : ∀ b ∈ htmlEscape s, b ≠ 60 ∧ b ≠ 62 ∧ b ≠ 34 ∧ b ≠ 39 := by
  induction s with
  | nil => intro b hb; cases hb
  | cons c rest ih =>
    intro b hb
    rw [htmlEscape_cons, List.mem_append] at hb
    rcases hb with hb | hb
    · exact escByte_safe c b hb
    · exact ih b hb

theorem entity_amp_pos : ∀ e ∈ entities, ∀ pre post, e = pre ++ 38 :: post → pre = [] := by
  intro e he pre post h
  cases pre with
  | nil => rfl
  | cons x pre =>
    exfalso
    have hmem : (38 : UInt8) ∈ e.tail := by rw [h]; simp
    exact (by decide +kernel : ∀ e ∈ entities, (38 : UInt8) ∉ e.tail) e he hmem

theorem escByte_amp (b : UInt8) (pre post : Bytes) (h : escByte b = pre ++ 38 :: post) :
    pre = [] ∧ escByte b ∈ entities := by
  rcases escByte_cases b with he | ⟨he, _, _, h3, _, _⟩
  · exact ⟨entity_amp_pos _ he pre post h, he⟩
  · exfalso
    rw [he] at h
    cases pre with
    | nil => simp only [List.nil_append, List.cons.injEq] at h; exact h3 h.1
    | cons x pre =>
      simp only [List.cons_append, List.cons.injEq] at h
      have := h.2
      cases pre <;> simp at this

theorem htmlEscape_amp (s : Bytes) (pre post : Bytes) (h : htmlEscape s = pre ++ 38 :: post) :
    ∃ e ∈ entities, e <+: 38 :: post := by
  induction s generalizing pre with
  | nil => rw [htmlEscape_nil] at h; cases pre <;> cases h
  | cons c rest ih =>
    rw [htmlEscape_cons, List.append_eq_append_iff] at h
    rcases h with ⟨a', h1, h2⟩ | ⟨c', h1, h2⟩
    · -- the `&` lies in the escaped rest
      exact ih a' h2
    · -- `escByte c = pre ++ c'`, `38 :: post = c' ++ htmlEscape rest`
      cases c' with
      | nil =>
        rw [List.nil_append] at h2
        exact ih [] h2.symm
      | cons x c'' =>
        rw [List.cons_append, List.cons.injEq] at h2
        obtain ⟨hx, hpost⟩ := h2
        subst hx
        obtain ⟨hpre, hent⟩ := escByte_amp c pre c'' h1
        subst hpre
        rw [List.nil_append] at h1
        refine ⟨escByte c, hent, ?_⟩
        rw [h1, hpost]
        exact ⟨htmlEscape rest, rfl⟩

/-- Inverse of `htmlEscape` on the five entities it produces (`html.UnescapeString` restricted to
them); everything else is copied. -/
def htmlUnescape : Bytes → Bytes
  | 38 :: 108 :: 116 :: 59 :: rest => 60 :: htmlUnescape rest
  | 38 :: 103 :: 116 :: 59 :: rest => 62 :: htmlUnescape rest
  | 38 :: 97 :: 109 :: 112 :: 59 :: rest => 38 :: htmlUnescape rest
  | 38 :: 35 :: 51 :: 57 :: 59 :: rest => 39 :: htmlUnescape rest
  | 38 :: 35 :: 51 :: 52 :: 59 :: rest => 34 :: htmlUnescape rest
  | b :: rest => b :: htmlUnescape rest
  | [] => []

/-- The last equation of the definition: none of the five entity patterns applies. -/
theorem htmlUnescape_other (b : UInt8) (rest : Bytes) (hb : b ≠ 38) :
    htmlUnescape (b :: rest) = b :: htmlUnescape rest :=
  htmlUnescape.eq_6 b rest (fun _ h _ => hb h) (fun _ h _ => hb h) (fun _ h _ => hb h) (fun _ h _ => hb h)
    (fun _ h _ => hb h)

theorem htmlUnescape_escByte (b : UInt8) (t : Bytes) :
    htmlUnescape (escByte b ++ t) = b :: htmlUnescape t := by
  unfold escByte
  by_cases h1 : b = 60
  · subst h1; rw [if_pos rfl]; exact htmlUnescape.eq_1 t
  rw [if_neg h1]
  by_cases h2 : b = 62
  · subst h2; rw [if_pos rfl]; exact htmlUnescape.eq_2 t
  rw [if_neg h2]
  by_cases h3 : b = 38
  · subst h3; rw [if_pos rfl]; exact htmlUnescape.eq_3 t
  rw [if_neg h3]
  by_cases h4 : b = 39
  · subst h4; rw [if_pos rfl]; exact htmlUnescape.eq_4 t
  rw [if_neg h4]
  by_cases h5 : b = 34
  · subst h5; rw [if_pos rfl]; exact htmlUnescape.eq_5 t
  rw [if_neg h5]
  exact htmlUnescape_other b t h3

theorem traceHelper_some (text : Bytes) (r0 : Rec) (h0 : r0.code = none) :
    traceHelper (some text) r0 =
      ({ hdr := r0.hdr.set hContentType (bytesOfString "message/http"), code := some 200,
         snap := some (r0.hdr.set hContentType (bytesOfString "message/http")),
         body := r0.body + (htmlEscape text).length }, htmlEscape text) := by
  simp [traceHelper, Rec.write, Rec.writeHeader, h0, informational_200]

end Mux
