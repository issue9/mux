/-
  C02 part B4 (`C02_canonical` in `C02resolve.lean`) along histories: a registration and a `Use` call keep `FInv t tb`,
  the simulation invariant of C03 (`Sim`, giving the shape invariant `Sh` and `tableOf t ≈ tb`) together with "every node
  below the root is forked or its pattern is in `tb`".  So it holds after every history of well-formed registrations and
  `Use` calls (any order, any accept/reject verdicts; `AddUse`, with `AddOnly` as the special case), at tree level and,
  from `Router.new`, at router level (`HandleUse`).  A tree with `FInv` is in canonical form for its own route table
  (`canonical_of_FInv`).  `Remove` and `Clean` do not keep it.
-/
import Mux.Proofs.ResolveForked
import Mux.Proofs.Table
import Mux.Proofs.Names
import Mux.Proofs.ReachAll
namespace Mux.P15
open Mux Mux.P11

/-- `TL` looks at a node's pattern and at the `(seg, pattern)` of its children.  It does not survive the deletion of
children, so it is not a closed predicate and does not go through `modifyAt` and `applyMw` as edits. -/
theorem TL.congr {live : List Bytes} {n n' : Node} (hp : n'.pattern = n.pattern)
    (hs : n'.children.map P8.sigc = n.children.map P8.sigc) (h : TL live n) : TL live n' := by
  refine h.imp (fun hl => hp ▸ hl) (Forked_of_heads fun d hd => ?_)
  obtain ⟨d', hd', e⟩ := List.mem_map.1 (hs ▸ List.mem_map_of_mem (f := P8.sigc) hd)
  exact ⟨d', hd', by rw [show d'.seg = d.seg from congrArg Prod.fst e]⟩

theorem modifyAt_TL {live : List Bytes} {f : Node → Except Err Node} (hf : ∀ m m', f m = .ok m' → m.SameShape m') :
    ∀ (path : List Nat) (n n' : Node), Node.All (TL live) n → n.modifyAt f path = .ok n' → Node.All (TL live) n' := by
  intro path
  induction path with
  | nil =>
    intro n n' hn h
    obtain ⟨_, h2, _, h4⟩ := hf _ _ ((Node.modifyAt_nil f n).symm.trans h)
    rw [Node.All_iff] at hn ⊢
    exact ⟨hn.1.congr h2 (by rw [h4]), by rw [h4]; exact hn.2⟩
  | cons i path ih =>
    intro n n' hn h
    obtain ⟨c, c', hc, hmod, rfl⟩ := Node.modifyAt_cons_iff.1 h
    have hs := (modifyAt_edit (H := fun _ _ => True) (fun _ _ h => ⟨trivial, hf _ _ h⟩) hmod).sigc
    exact (Node.All_iff _ _).2 ⟨TL.congr (n := n) rfl (P8.map_sigc_set hc hs) hn.head,
      AllL_set hn.tail (ih c c' (AllL_getElem? hn.tail hc) hmod)⟩

theorem applyMw_TL (live : List Bytes) (router : Bytes) (ms : List Nat) :
    ∀ n : Node, Node.All (TL live) n → Node.All (TL live) (n.applyMw router ms) := by
  intro n
  induction n using Node.induction with
  | step n ih =>
    intro hn
    obtain ⟨_, hp, _, _, _, hc⟩ := applyMw_fields router ms n
    rw [applyMwL_eq_map] at hc
    refine (Node.All_iff _ _).2 ⟨hn.head.congr hp ?_, ?_⟩
    · rw [hc, List.map_map]
      exact List.map_congr_left fun c _ => (applyMw_edit router ms c).sigc
    · rw [hc, AllL_iff]
      intro c' hc'
      obtain ⟨c, hcm, rfl⟩ := List.mem_map.1 hc'
      exact ih c hcm ((AllL_iff _ _).1 hn.tail c hcm)

/-- The root, whose pattern is empty, counts as live: the patterns below it are not empty (`FInv.allTT`). -/
structure FInv (t : Tree) (tb : Spec.Table) : Prop where
  sim : Sim t tb
  forked : Node.All (TL ([] :: tb.patterns)) t.root

theorem FInv.new (name : Bytes) (ic : Interceptors) (nf : Handler) (tr : Option Handler) (ob nb : Base) :
    FInv (Tree.new name ic nf tr ob nb) [] :=
  ⟨Sim.new name ic nf tr ob nb, by simp [Tree.new, Node.All, AllL, TL]⟩

theorem FInv.step_add {t : Tree} {tb : Spec.Table} (h : FInv t tb) (p : Bytes) (hd : Handler) (ms : List Nat)
    (methods : List Bytes) (hw : WfPattern p = true) :
    FInv (t.step (.add p hd ms methods)) (Spec.stepWith t tb (.add p hd ms methods)) := by
  refine ⟨h.sim.step (.add p hd ms methods) hw, ?_⟩
  simp only [Tree.step, Spec.stepWith]
  cases he : t.add p hd ms methods with
  | error e => exact h.forked
  | ok t' =>
    obtain ⟨segs, v, rest, root1, path, root2, hsplit, _, hsp, hget, hmod, rfl⟩ := Tree.add_ok he
    have hinv := h.sim.inv
    have hpc := split_pieces t.ic hw hsplit hsp
    have hmono := (TL_mono (live := [] :: tb.patterns) (live' := [] :: (Spec.add tb p methods).patterns)
      (fun q hq => List.mem_cons.2 ((List.mem_cons.1 hq).imp id fun hq => (mem_patterns_add tb p methods q).2 (.inl hq)))).1
      _ h.forked
    have htgt : t.root.pattern ++ v ++ rest.flatten ∈ [] :: (Spec.add tb p methods).patterns := by
      rw [hinv.rootPat, List.nil_append, ← List.flatten_cons, ← hsp, splitString_join]
      exact List.mem_cons_of_mem _ ((mem_patterns_add tb p methods p).2 (.inr rfl))
    have hf := getNode_forked t.ic _ t.root v rest (root1, path) hinv.sh hmono.tail hpc (P9.splitString_tail_heads hsp) htgt hget
    have hrp : root1.pattern = [] := by
      rw [(getNode_shape t.ic t.root v rest (root1, path) hinv.sh hpc hget).pat]; exact hinv.rootPat
    have hall2 := modifyAt_TL (fun _ _ => addMethodsNode_shape) path root1 root2
      ((Node.All_iff _ _).2 ⟨.inl (hrp ▸ List.mem_cons_self), hf.all⟩) hmod
    -- the recount of `bumpMethods` replaces the root's method index
    exact (Node.All_iff _ _).2 ⟨hall2.head, hall2.tail⟩

theorem FInv.step_use {t : Tree} {tb : Spec.Table} (h : FInv t tb) (ms : List Nat) :
    FInv (t.step (.use ms)) (Spec.stepWith t tb (.use ms)) :=
  ⟨h.sim.step (.use ms) rfl, applyMw_TL _ t.name ms t.root h.forked⟩

/-- A history that only registers. -/
def AddOnly (ops : List TOp) : Prop := ∀ op ∈ ops, ∃ p h ms methods, op = .add p h ms methods

theorem live_of_mem {t : Tree} {tb : Spec.Table} (h : Sim t tb) {x : Node} (hx : x ∈ nodesL t.root.children)
    (hp : x.pattern ∈ tb.patterns) : x.handlers ≠ [] := by
  rw [← h.patterns, tableOf_patterns] at hp
  obtain ⟨e, he, hep⟩ := List.mem_map.1 hp
  obtain ⟨y, hy, hyh, rfl⟩ := mem_liveL.1 he
  rwa [node_unique h.inv.sh hy hx hep] at hyh

theorem FInv.allTT {t : Tree} {tb : Spec.Table} (h : FInv t tb) : AllL TT t.root.children := by
  have := h.forked.tail
  rw [(All_iff_nodes _).2] at this ⊢
  intro x hx
  refine (this x hx).imp (fun hl => live_of_mem h.sim hx ?_) id
  rcases List.mem_cons.1 hl with e | hl
  · obtain ⟨r, hr, hxr⟩ := below_pattern t.ic _ h.sim.inv.sh x hx
    rw [h.sim.inv.rootPat, List.nil_append, e] at hxr
    exact absurd hxr.symm hr
  · exact hl

/-- The tree is in canonical form for its own route table (C02 part B4, `C02.C02_canonical`). -/
theorem canonical_of_FInv {t : Tree} {tb : Spec.Table} (h : FInv t tb) :
    KidsCanon t.root.children ((tableOf t).patterns.map (fun p => (p, p))) := by
  have hsh := h.sim.inv.sh
  have := ((Node.canon_iff _ _).1 (canon_of_stops t.ic t.root hsh (stops_of_TT t.ic t.root hsh h.allTT))).2
  rwa [KidsCanon, groups_rems, ← KidsCanon, remsL_root hsh h.sim.inv.rootPat, ← tableOf_patterns] at this

theorem run_trace {name : Bytes} {ic : Interceptors} {nf : Handler} {tr : Option Handler} {ob nb : Base} (ops : List TOp)
    {method : Bytes} (htr : tr = none ∨ method ≠ mTRACE) :
    ((Tree.new name ic nf tr ob nb).run ops).trace = none ∨ method ≠ mTRACE := by
  refine htr.imp (fun e => ?_) id
  subst e
  have h1 : ((Tree.new name ic nf none ob nb).run ops).hasTrace = false := (sameCfg_run _ ops).1
  unfold Tree.hasTrace at h1
  cases ht : ((Tree.new name ic nf none ob nb).run ops).trace with
  | none => rfl
  | some _ => rw [ht] at h1; cases h1

theorem run_ic (name : Bytes) (ic : Interceptors) (nf : Handler) (tr : Option Handler) (ob nb : Base) (ops : List TOp) :
    ((Tree.new name ic nf tr ob nb).run ops).ic = ic := (sameCfg_run (Tree.new name ic nf tr ob nb) ops).2.2.1

/-- Every `add` of the history succeeds (on the tree it is applied to). -/
def Accepted : Tree → List TOp → Prop
  | _, [] => True
  | t, op :: ops =>
    (match op with
     | .add p h ms methods => ∃ t', t.add p h ms methods = .ok t'
     | _ => True) ∧ Accepted (t.step op) ops

/-- For histories of registrations and `use` calls (the hypothesis is `P28.AddUse`, and follows from `AddOnly`). -/
theorem patterns_of_accepted : ∀ (ops : List TOp) (t : Tree) (tb : Spec.Table),
    (∀ op ∈ ops, (∃ p h ms methods, op = .add p h ms methods) ∨ ∃ ms, op = .use ms) → Accepted t ops →
    ∀ q, q ∈ (specRunFrom t tb ops).patterns ↔ q ∈ tb.patterns ∨ ∃ h ms methods, TOp.add q h ms methods ∈ ops
  | [], t, tb, _, _, q => by simp [specRunFrom]
  | op :: ops, t, tb, ha, hacc, q => by
    obtain ⟨hacc1, hrest⟩ := hacc
    rw [specRunFrom, patterns_of_accepted ops _ _ (fun o ho => ha o (List.mem_cons_of_mem _ ho)) hrest q]
    rcases ha _ List.mem_cons_self with ⟨p, hd, ms, methods, rfl⟩ | ⟨ms, rfl⟩
    · obtain ⟨t', ht'⟩ := hacc1
      simp only [Spec.stepWith, ht']
      rw [mem_patterns_add]
      constructor
      · rintro ((h | rfl) | ⟨h, ms', me', hm⟩)
        · exact .inl h
        · exact .inr ⟨hd, ms, methods, List.mem_cons_self⟩
        · exact .inr ⟨h, ms', me', List.mem_cons_of_mem _ hm⟩
      · rintro (h | ⟨h, ms', me', hm⟩)
        · exact .inl (.inl h)
        · rcases List.mem_cons.1 hm with e | hm
          · cases e; exact .inl (.inr rfl)
          · exact .inr ⟨h, ms', me', hm⟩
    · -- a `use` leaves the table alone and is no registration
      simp only [Spec.stepWith, List.mem_cons, reduceCtorEq, false_or]

end Mux.P15

namespace Mux.P28
open Mux Mux.P11 Mux.P15

/-- A history of registrations and `Use` calls (no `Remove`, no `Clean`). -/
def AddUse (ops : List TOp) : Prop :=
  ∀ op ∈ ops, (∃ p h ms methods, op = .add p h ms methods) ∨ ∃ ms, op = .use ms

instance (ops : List TOp) : Decidable (AddUse ops) :=
  decidable_of_iff (∀ op ∈ ops, (match op with | .add .. => true | .use _ => true | _ => false) = true) (by
    unfold AddUse
    refine forall_congr' fun op => forall_congr' fun _ => ?_
    cases op <;> simp)

theorem addUse_of_addOnly {ops : List TOp} (h : AddOnly ops) : AddUse ops := fun op hop => .inl (h op hop)

theorem FInv.runUse {t : Tree} {tb : Spec.Table} (h : FInv t tb) (ops : List TOp) (ha : AddUse ops)
    (hw : ∀ op ∈ ops, op.wf = true) : FInv (t.run ops) (specRunFrom t tb ops) :=
  specRun_inv (I := FInv) (fun _ _ op ho h => by
    rcases ha op ho with ⟨p, hd, ms, methods, rfl⟩ | ⟨ms, rfl⟩
    · exact h.step_add p hd ms methods (hw _ ho)
    · exact h.step_use ms) h

theorem finv_history_use (name : Bytes) (ic : Interceptors) (nf : Handler) (tr : Option Handler) (ob nb : Base)
    (ops : List TOp) (ha : AddUse ops) (hw : ∀ op ∈ ops, op.wf = true) :
    FInv ((Tree.new name ic nf tr ob nb).run ops) (specRun (Tree.new name ic nf tr ob nb) ops) :=
  FInv.runUse (FInv.new name ic nf tr ob nb) ops ha hw

theorem _root_.Mux.P15.finv_history (name : Bytes) (ic : Interceptors) (nf : Handler) (tr : Option Handler) (ob nb : Base)
    (ops : List TOp) (ha : AddOnly ops) (hw : ∀ op ∈ ops, op.wf = true) :
    FInv ((Tree.new name ic nf tr ob nb).run ops) (specRun (Tree.new name ic nf tr ob nb) ops) :=
  finv_history_use name ic nf tr ob nb ops (addUse_of_addOnly ha) hw

/-- A router history that only registers (with or without middlewares) and calls `Use`. -/
def HandleUse (ops : List ROp) : Prop :=
  ∀ op ∈ ops, (∃ p h m methods, op = .handle p h m methods) ∨ ∃ m, op = .use m

instance (ops : List ROp) : Decidable (HandleUse ops) :=
  decidable_of_iff (∀ op ∈ ops, (match op with | .handle .. => true | .use _ => true | _ => false) = true) (by
    unfold HandleUse
    refine forall_congr' fun op => forall_congr' fun _ => ?_
    cases op <;> simp)

theorem _root_.Mux.Router.tops_addUse (r : Router) {ops : List ROp} (ha : HandleUse ops) : AddUse (r.tops ops) :=
  Router.tops_forall (W := fun op => (∃ p h m methods, op = .handle p h m methods) ∨ ∃ m, op = .use m)
    (fun r op h => by
      rcases h with ⟨p, hd, m, methods, rfl⟩ | ⟨m, rfl⟩
      · exact .inl ⟨p, _, _, methods, rfl⟩
      · exact .inr ⟨m, rfl⟩) r ha

theorem finv_routerFrom {r : Router} {tb : Spec.Table} (h : FInv r.tree tb) (ops : List ROp) (ha : HandleUse ops)
    (hw : ∀ op ∈ ops, P18.ROp.wf op = true) : FInv (r.run ops).tree (specRunFrom r.tree tb (r.tops ops)) := by
  rw [Router.run_eq]
  exact FInv.runUse h _ (r.tops_addUse ha) (r.tops_wf hw)

theorem finv_router_new {cfg : RouterCfg} {r0 : Router} (hnew : Router.new cfg = some r0) : FInv r0.tree [] := by
  rw [Router.new_tree hnew]
  exact FInv.new _ _ _ _ _ _

end Mux.P28
