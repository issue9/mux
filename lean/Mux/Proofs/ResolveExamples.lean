/-
  Concrete instances for the non-vacuity examples of `C02resolve.lean`:
  the two-route table of D1 as an explicit tree (what `Tree.run` builds: `exD1_eq`), with
  the structural invariant, the canonical form and the tracking hypotheses.
-/
import Mux.Proofs.ResolveCanon
import Mux.Proofs.ResolveHistory
import Mux.Proofs.RunFuel
import Mux.Proofs.ReachAll
namespace Mux.P15
open Mux Mux.P8 Mux.Spec

/-- `/users/{id}/{page:\d+}` -/
def exPA : Bytes :=
  [47, 117, 115, 101, 114, 115, 47, 123, 105, 100, 125, 47, 123, 112, 97, 103, 101, 58, 92, 100, 43, 125]
/-- `/users/{id}/{action}/log` -/
def exPB : Bytes :=
  [47, 117, 115, 101, 114, 115, 47, 123, 105, 100, 125, 47, 123, 97, 99, 116, 105, 111, 110, 125, 47, 108, 111, 103]
/-- `/users/5/7/log` -/
def exPathD1 : Bytes := [47, 117, 115, 101, 114, 115, 47, 53, 47, 55, 47, 108, 111, 103]

def exHs (k : Nat) : AMap Handler :=
  [(mHEAD, { base := .user k }), (mGET, { base := .user k }), (mOPTIONS, { base := .options }),
   (mNotAllowed, { base := .notAllowed })]

def exPageLeaf : Node :=
  .mk { value := [123, 112, 97, 103, 101, 58, 92, 100, 43, 125], kind := .rx, name := [112, 97, 103, 101],
        rule := [92, 100, 43], re := .plus { neg := false, ranges := [(48, 57)] } } exPA 385 (exHs 1) [] []
def exActionLeaf : Node :=
  .mk { value := [123, 97, 99, 116, 105, 111, 110, 125, 47, 108, 111, 103], kind := .named,
        name := [97, 99, 116, 105, 111, 110], suffix := [47, 108, 111, 103] } exPB 385 (exHs 2) [] []
def exIdNode : Node :=
  .mk { value := [123, 105, 100, 125, 47], kind := .named, name := [105, 100], suffix := [47] }
    [47, 117, 115, 101, 114, 115, 47, 123, 105, 100, 125, 47] 0 [] [] [exPageLeaf, exActionLeaf]
def exUsersNode : Node :=
  .mk { value := [47, 117, 115, 101, 114, 115, 47] } [47, 117, 115, 101, 114, 115, 47] 0 [] [] [exIdNode]
def exD1Root : Node :=
  .mk { value := [] } [] 257 [(mOPTIONS, { base := .options }), (mNotAllowed, { base := .notAllowed })] [] [exUsersNode]

/-- The tree `Tree.new … |>.run [add /users/{id}/{page:\d+}, add /users/{id}/{action}/log]` builds. -/
def exD1 : Tree := { root := exD1Root, counts := [(mGET, 2)], name := [114], notFound := { base := .notFound } }

def exT0 : Tree := Tree.new [114] [] { base := .notFound } none

theorem exD1_eq :
    exD1 = exT0.run [.add exPA { base := .user 1 } [] [mGET], .add exPB { base := .user 2 } [] [mGET]] := by
  rw [Tree.run_eq_F]; decide +kernel

theorem exD1_struct : StructInv2 exD1 := by
  rw [exD1_eq]
  exact (P14.ReachAll.inv ⟨_, _, _, _, _, _, _, by decide, rfl⟩).s2

theorem exD1_names : NamesOkL [] exD1.root.children := by decide

theorem exD1_canon : KidsCanon exD1.root.children ([exPA, exPB].map (fun p => (p, p))) := by decide +kernel

theorem exD1_mem : exIdNode ∈ exD1.root.nodes := by
  simp only [exD1, exD1Root, exUsersNode, Node.nodes, nodesL, List.append_nil, List.mem_cons]
  exact .inr (.inr (by rw [Node.nodes_eq]; exact List.mem_cons_self))

def envAll : Env := { icpt := fun _ _ => true }

def resOf : HR → Option (Bytes × Params)
  | .res f => f.node.map (fun n => (n.pattern, f.params))
  | _ => none

/-! Two registration orders of `/a`, `/a/b` (evaluated by the kernel through the fuel version of `getNode`) -/

/-- Boolean form of `Accepted`. -/
def acceptedB : Tree → List TOp → Bool
  | _, [] => true
  | t, op :: ops =>
    (match op with
     | .add p h ms methods => (t.add p h ms methods).isOk
     | _ => true) && acceptedB (t.step op) ops

theorem accepted_of_B : ∀ (ops : List TOp) (t : Tree), acceptedB t ops = true → Accepted t ops
  | [], _, _ => trivial
  | op :: ops, t, h => by
    simp only [acceptedB, Bool.and_eq_true] at h
    refine ⟨?_, accepted_of_B ops _ h.2⟩
    cases op with
    | add p hd ms methods => exact Except.exists_ok h.1
    | _ => trivial

/-- `/a` -/
def exA : Bytes := [47, 97]
/-- `/a/b` -/
def exAB : Bytes := [47, 97, 47, 98]
def opsAB : List TOp := [.add exA { base := .user 1 } [] [mGET], .add exAB { base := .user 2 } [] [mGET]]
def opsBA : List TOp := [.add exAB { base := .user 2 } [] [mGET], .add exA { base := .user 1 } [] [mGET]]

theorem opsAB_addOnly : AddOnly opsAB := by
  intro op hop
  simp only [opsAB, List.mem_cons, List.not_mem_nil, or_false] at hop
  rcases hop with rfl | rfl <;> exact ⟨_, _, _, _, rfl⟩
theorem opsBA_addOnly : AddOnly opsBA := by
  intro op hop
  simp only [opsBA, List.mem_cons, List.not_mem_nil, or_false] at hop
  rcases hop with rfl | rfl <;> exact ⟨_, _, _, _, rfl⟩
theorem opsAB_wf : ∀ op ∈ opsAB, op.wf = true := by decide
theorem opsBA_wf : ∀ op ∈ opsBA, op.wf = true := by decide

theorem accAB : Accepted exT0 opsAB := by
  apply accepted_of_B
  simp only [opsAB, acceptedB, Tree.step_eq_F, Tree.add_eq_F]
  decide +kernel
theorem accBA : Accepted exT0 opsBA := by
  apply accepted_of_B
  simp only [opsBA, acceptedB, Tree.step_eq_F, Tree.add_eq_F]
  decide +kernel

theorem opsAB_same : ∀ p, (∃ h ms methods, TOp.add p h ms methods ∈ opsAB) ↔ (∃ h ms methods, TOp.add p h ms methods ∈ opsBA) := by
  intro p
  -- the same two members, in the other order
  simp only [opsAB, opsBA, List.mem_cons, List.not_mem_nil, or_false]
  exact exists_congr fun _ => exists_congr fun _ => exists_congr fun _ => or_comm

end Mux.P15
