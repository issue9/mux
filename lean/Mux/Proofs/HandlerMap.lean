/-
  The handler map of a node after `addMethods` and after `Remove`, in closed form.
  `Remove` leaves ONE filter of the old map (`foldl_rmStep_eq`, `removeMethods_eq`); `addMethods` is described key by key
  and entry by entry (`addMethodsLoop_spec`, `addMethodsNode_map`).  Every predicate on handler maps goes through the two
  operations by these statements; the loops are not unfolded again.
-/
import Mux.Proofs.TreeBasic
namespace Mux

theorem method_consts_ne :
    mGET ≠ mHEAD ∧ mGET ≠ mOPTIONS ∧ mGET ≠ mNotAllowed ∧ mGET ≠ mTRACE ∧
    mHEAD ≠ mOPTIONS ∧ mHEAD ≠ mNotAllowed ∧ mHEAD ≠ mTRACE ∧
    mOPTIONS ≠ mNotAllowed ∧ mOPTIONS ≠ mTRACE ∧ mTRACE ≠ mNotAllowed := by decide +kernel

theorem mem_table_consts :
    mGET ∈ methodsTable ∧ mHEAD ∈ methodsTable ∧ mOPTIONS ∈ methodsTable ∧ mTRACE ∈ methodsTable ∧
    mNotAllowed ∉ methodsTable := by decide +kernel

theorem isKnownMethod_iff (m : Bytes) : isKnownMethod m = true ↔ m ∈ methodsTable := by
  unfold isKnownMethod; simp

/-- The step of the fold of `removeMethods`. -/
def rmStep (hs : AMap Handler) (m : Bytes) : AMap Handler :=
  if m = mOPTIONS ∨ m = mHEAD ∨ m = mNotAllowed then hs
  else if m = mGET then (hs.erase mHEAD).erase mGET
  else hs.erase m

theorem removeMethods_handlers (ht : Bool) (methods : List Bytes) (n : Node) :
    (removeMethods ht methods n).handlers =
      (if methods.isEmpty then []
       else if (methods.foldl rmStep n.handlers).length = 2 ∧
          AMap.contains (methods.foldl rmStep n.handlers) mOPTIONS = true ∧
          AMap.contains (methods.foldl rmStep n.handlers) mNotAllowed = true then []
        else methods.foldl rmStep n.handlers) := by
  unfold removeMethods
  simp only [Node.setHandlers, Node.handlers_mk]
  rfl

/-- The keys that `Remove(pattern, methods…)` erases from a handler map: the listed ones, except OPTIONS, HEAD and the
405 key, and HEAD along with GET. -/
def Erased (methods : List Bytes) (k : Bytes) : Prop :=
  (k ∈ methods ∧ k ≠ mOPTIONS ∧ k ≠ mHEAD ∧ k ≠ mNotAllowed) ∨ (k = mHEAD ∧ mGET ∈ methods)

instance (methods : List Bytes) (k : Bytes) : Decidable (Erased methods k) := by unfold Erased; infer_instance

theorem not_erased_auto (methods : List Bytes) : ¬ Erased methods mOPTIONS ∧ ¬ Erased methods mNotAllowed := by
  obtain ⟨_, _, _, _, c5, c6, _⟩ := method_consts_ne
  exact ⟨fun h => h.elim (fun h => h.2.1 rfl) fun h => c5 h.1.symm, fun h => h.elim (fun h => h.2.2.2 rfl) fun h => c6 h.1.symm⟩

theorem erased_cons (m : Bytes) (ms : List Bytes) (k : Bytes) : Erased (m :: ms) k ↔ Erased [m] k ∨ Erased ms k := by
  simp only [Erased, List.mem_cons, List.not_mem_nil, or_false, or_and_right, and_or_left]
  exact or_or_or_comm

theorem rmStep_eq (hs : AMap Handler) (m : Bytes) : rmStep hs m = hs.filter fun e => !decide (Erased [m] e.1) := by
  obtain ⟨c1, c2, c3, _⟩ := method_consts_ne
  have hE : ∀ k, Erased [m] k ↔ ¬ (m = mOPTIONS ∨ m = mHEAD ∨ m = mNotAllowed) ∧ (k = m ∨ (k = mHEAD ∧ m = mGET)) := by
    intro k
    simp only [Erased, List.mem_cons, List.not_mem_nil, or_false, eq_comm (a := mGET)]
    constructor
    · rintro (⟨rfl, h1, h2, h3⟩ | ⟨rfl, rfl⟩)
      · exact ⟨by simp [h1, h2, h3], .inl rfl⟩
      · exact ⟨by simp [c1, c2, c3], .inr ⟨rfl, rfl⟩⟩
    · rintro ⟨h, rfl | h'⟩
      · exact .inl ⟨rfl, fun e => h (.inl e), fun e => h (.inr (.inl e)), fun e => h (.inr (.inr e))⟩
      · exact .inr h'
  unfold rmStep AMap.erase
  split
  · next h => exact (List.filter_eq_self.2 fun e _ => by simp [hE, h]).symm
  · next h =>
    split
    · next hg =>
      subst hg
      rw [List.filter_filter]
      exact List.filter_congr fun e _ => by simp [hE, h, and_comm]
    · next hg => exact List.filter_congr fun e _ => by simp [hE, h, hg]

theorem foldl_rmStep_eq (methods : List Bytes) (hs : AMap Handler) :
    methods.foldl rmStep hs = hs.filter fun e => !decide (Erased methods e.1) := by
  induction methods generalizing hs with
  | nil => exact (List.filter_eq_self.2 fun e _ => by simp [Erased]).symm
  | cons m ms ih =>
    rw [List.foldl_cons, ih, rmStep_eq, List.filter_filter]
    exact List.filter_congr fun e _ => by
      have := erased_cons m ms e.1
      by_cases h1 : Erased [m] e.1 <;> by_cases h2 : Erased ms e.1 <;> simp [this, h1, h2]

theorem mem_keys_notErased (methods : List Bytes) (hs : AMap Handler) (k : Bytes) :
    k ∈ AMap.keys (hs.filter fun e => !decide (Erased methods e.1)) ↔ k ∈ hs.keys ∧ ¬ Erased methods k := by
  rw [AMap.keys_filterKeys hs (fun k => !decide (Erased methods k))]; simp

theorem get?_notErased (methods : List Bytes) (hs : AMap Handler) {k : Bytes} (h : ¬ Erased methods k) :
    AMap.get? (hs.filter fun e => !decide (Erased methods e.1)) k = hs.get? k := by
  rw [AMap.get?_filterKeys hs (fun k => !decide (Erased methods k))]; simp [h]

theorem not_erased_of_not_mem {methods : List Bytes} {k : Bytes} (hk : k ∉ methods) (hh : k = mHEAD → mGET ∉ methods) :
    ¬ Erased methods k :=
  fun h => h.elim (fun h => hk h.1) fun h => hh h.1 h.2

theorem mem_of_length_two {α} {l : List α} {a b : α} (hl : l.length = 2) (ha : a ∈ l) (hb : b ∈ l) (hab : a ≠ b) :
    ∀ c ∈ l, c = a ∨ c = b := by
  match l, hl with
  | [x, y], _ =>
    simp only [List.mem_cons, List.not_mem_nil, or_false] at ha hb ⊢
    rcases ha with rfl | rfl <;> rcases hb with rfl | rfl <;> first | exact absurd rfl hab | simp [or_comm]

/-- The handler map `Remove` leaves at the node: `[]` when no method is listed or when only the two automatic
entries would be left, otherwise the old map without the erased keys. -/
theorem removeMethods_eq (ht : Bool) (methods : List Bytes) (n : Node) :
    ((removeMethods ht methods n).handlers = [] ∧ (methods = [] ∨
        ∀ e ∈ n.handlers, ¬ Erased methods e.1 → e.1 = mOPTIONS ∨ e.1 = mNotAllowed)) ∨
      (methods ≠ [] ∧ (removeMethods ht methods n).handlers = n.handlers.filter fun e => !decide (Erased methods e.1)) := by
  rw [removeMethods_handlers, foldl_rmStep_eq]
  split
  · next h => exact .inl ⟨rfl, .inl (by simpa using h)⟩
  · next h =>
    split
    · next hc =>
      refine .inl ⟨rfl, .inr fun e he hk => ?_⟩
      have := mem_of_length_two (by simpa [AMap.keys] using hc.1) ((AMap.contains_iff _ _).1 hc.2.1)
        ((AMap.contains_iff _ _).1 hc.2.2) method_consts_ne.2.2.2.2.2.2.2.1 e.1
      exact this (List.mem_map_of_mem (List.mem_filter.2 ⟨he, by simpa using hk⟩))
    · exact .inr ⟨by simpa using h, rfl⟩

theorem removeMethods_sublist (ht : Bool) (methods : List Bytes) (n : Node) :
    (removeMethods ht methods n).handlers.Sublist n.handlers := by
  rcases removeMethods_eq ht methods n with ⟨h, _⟩ | ⟨_, h⟩ <;> rw [h]
  · exact List.nil_sublist _
  · exact List.filter_sublist

theorem removeMethods_get {ht : Bool} {methods : List Bytes} {n : Node} {k : Bytes} {v : Handler}
    (h : (removeMethods ht methods n).handlers.get? k = some v) : n.handlers.get? k = some v ∧ ¬ Erased methods k := by
  rcases removeMethods_eq ht methods n with ⟨h0, _⟩ | ⟨_, h0⟩ <;> rw [h0] at h
  · cases h
  · rw [AMap.get?_filterKeys n.handlers (fun k => !decide (Erased methods k))] at h
    split at h
    · next hk => exact ⟨h, by simpa using hk⟩
    · cases h

theorem erased_head_iff (methods : List Bytes) : Erased methods mHEAD ↔ Erased methods mGET := by
  obtain ⟨c1, c2, c3, _⟩ := method_consts_ne
  simp [Erased, c1, c2, c3]

/-- The keys `Handle(pattern, h, methods…)` writes the registered handler under: the listed methods, and HEAD along
with GET. -/
def Added (methods : List Bytes) (k : Bytes) : Prop := k ∈ methods ∨ (k = mHEAD ∧ mGET ∈ methods)

instance (methods : List Bytes) (k : Bytes) : Decidable (Added methods k) := by unfold Added; infer_instance

/-- What the loop has checked of the method list when it succeeds on the map `hs`. -/
structure AddOk (ht : Bool) (hs : AMap Handler) (methods : List Bytes) : Prop where
  reg : ∀ m ∈ methods, m ≠ mHEAD ∧ m ≠ mOPTIONS ∧ m ≠ mNotAllowed
  adm : ∀ m ∈ methods, m ∈ methodsTable ∧ (ht = true → m ≠ mTRACE)
  fresh : ∀ m ∈ methods, m ∉ hs.keys
  nodup : methods.Nodup

theorem AddOk.not_auto {ht : Bool} {hs : AMap Handler} {methods : List Bytes} (ok : AddOk ht hs methods) :
    ¬ Added methods mOPTIONS ∧ ¬ Added methods mNotAllowed := by
  obtain ⟨_, _, _, _, c5, c6, _⟩ := method_consts_ne
  exact ⟨fun h => h.elim (fun h => (ok.reg _ h).2.1 rfl) fun h => c5 h.1.symm,
    fun h => h.elim (fun h => (ok.reg _ h).2.2 rfl) fun h => c6 h.1.symm⟩

theorem added_cons (m : Bytes) (rest : List Bytes) (k : Bytes) :
    Added (m :: rest) k ↔ (k = m ∨ (k = mHEAD ∧ m = mGET)) ∨ Added rest k := by
  simp only [Added, List.mem_cons, and_or_left, eq_comm (a := mGET) (b := m)]
  exact or_or_or_comm

/-- One accepted method: the registered handler is set under it, and under HEAD along with GET. -/
theorem addMethodStep_get (t : Tree) (h : Handler) (p : Bytes) (ms : List Nat) (hs : AMap Handler) (m k : Bytes) :
    (addMethodStep t h p ms hs m).get? k =
      if k = m ∨ (k = mHEAD ∧ m = mGET) then some (wrapWith h k p t.name ms) else hs.get? k := by
  unfold addMethodStep
  rw [AMap.get?_set]
  by_cases hkm : k = m
  · simp [hkm]
  · by_cases hg : m = mGET
    · subst hg
      by_cases hk : k = mHEAD
      · subst hk
        simp [hkm, AMap.get?_set]
      · simp [hkm, hk, AMap.get?_set]
    · simp [hkm, hg]

theorem mem_keys_addMethodStep (t : Tree) (h : Handler) (p : Bytes) (ms : List Nat) (hs : AMap Handler) (m k : Bytes) :
    k ∈ (addMethodStep t h p ms hs m).keys ↔ k ∈ hs.keys ∨ k = m ∨ (k = mHEAD ∧ m = mGET) := by
  rw [← AMap.get?_isSome_iff, ← AMap.get?_isSome_iff, addMethodStep_get]
  split <;> simp [*]

theorem addMethodStep_mem {t : Tree} {h : Handler} {p : Bytes} {ms : List Nat} {hs : AMap Handler} {m : Bytes}
    {e : Bytes × Handler} (he : e ∈ addMethodStep t h p ms hs m) : e ∈ hs ∨ e.2 = wrapWith h e.1 p t.name ms := by
  unfold addMethodStep at he
  rcases AMap.mem_set he with he | rfl
  · split at he
    · exact (AMap.mem_set he).imp_right fun e0 => by rw [e0]
    · exact .inl he
  · exact .inr rfl

theorem addMethodsLoop_spec (t : Tree) (h : Handler) (p : Bytes) (ms : List Nat) :
    ∀ (methods : List Bytes) (hs hs' : AMap Handler), addMethodsLoop t h p ms methods hs = .ok hs' →
      AddOk t.hasTrace hs methods ∧
      (∀ k, hs'.get? k = if Added methods k then some (wrapWith h k p t.name ms) else hs.get? k) ∧
      (hs.keys.Nodup → hs'.keys.Nodup) ∧
      (∀ e ∈ hs', e ∈ hs ∨ e.2 = wrapWith h e.1 p t.name ms)
  | [], hs, hs', he => by
    cases he
    exact ⟨⟨nofun, nofun, nofun, .nil⟩, fun k => by simp [Added], id, fun e he => .inl he⟩
  | m :: rest, hs, hs', he => by
    obtain ⟨hres, hkn, hcon, he'⟩ := addMethodsLoop_cons_ok.1 he
    obtain ⟨ok, get, nd, mem⟩ := addMethodsLoop_spec t h p ms rest _ hs' he'
    have hkeys := mem_keys_addMethodStep t h p ms hs m
    have hmt := (isKnownMethod_iff m).1 hkn
    refine ⟨⟨List.forall_mem_cons.2 ⟨?_, ok.reg⟩, List.forall_mem_cons.2 ⟨?_, ok.adm⟩, List.forall_mem_cons.2 ⟨?_, ?_⟩,
      List.nodup_cons.2 ⟨fun hin => ok.fresh m hin ((hkeys m).2 (.inr (.inl rfl))), ok.nodup⟩⟩, fun k => ?_, fun hnd => nd ?_,
      fun e he => (mem e he).elim addMethodStep_mem .inr⟩
    · exact ⟨fun e => hres (.inr (.inl e)), fun e => hres (.inl e), fun e => mem_table_consts.2.2.2.2 (e ▸ hmt)⟩
    · exact ⟨hmt, fun htr e => hres (.inr (.inr ⟨htr, e⟩))⟩
    · exact (AMap.contains_false_iff _ _).1 hcon
    · exact fun x hx hk => ok.fresh x hx ((hkeys x).2 (.inl hk))
    · rw [get k, addMethodStep_get]
      by_cases h1 : Added rest k
      · rw [if_pos h1, if_pos ((added_cons ..).2 (.inr h1))]
      · by_cases h2 : k = m ∨ (k = mHEAD ∧ m = mGET)
        · rw [if_neg h1, if_pos h2, if_pos ((added_cons ..).2 (.inl h2))]
        · rw [if_neg h1, if_neg h2, if_neg (fun h3 => ((added_cons ..).1 h3).elim h2 h1)]
    · unfold addMethodStep
      split <;> exact AMap.nodup_keys_set _ _ _ (by first | exact AMap.nodup_keys_set _ _ _ hnd | exact hnd)

/-- The automatic handler `addMethodsNode` installs under `k` when the key is missing. -/
def autoBase (t : Tree) (k : Bytes) : Option Base :=
  if k = mOPTIONS then some t.optionsBase else if k = mNotAllowed then some t.notAllowedBase else none

/-- **The handler map after `addMethods`**, key by key and entry by entry.  Under a written key (`Added`): the
registered handler wrapped for that key; under OPTIONS and the 405 key: the old entry, or the automatic handler where
there was none; under any other key: the old entry. -/
theorem addMethodsNode_map {t : Tree} {h : Handler} {p : Bytes} {ms : List Nat} {methods : List Bytes} {n n' : Node}
    (he : t.addMethodsNode h p ms methods n = .ok n') :
    AddOk t.hasTrace n.handlers methods ∧
    (∀ k, n'.handlers.get? k =
      if Added methods k then some (wrapWith h k p t.name ms)
      else match autoBase t k with
        | some b => some ((n.handlers.get? k).getD (wrapWith { base := b } k p t.name ms))
        | none => n.handlers.get? k) ∧
    (n.handlers.keys.Nodup → n'.handlers.keys.Nodup) ∧
    (∀ e ∈ n'.handlers, e ∈ n.handlers ∨ e.2 = wrapWith h e.1 p t.name ms ∨
      ∃ b, autoBase t e.1 = some b ∧ e.2 = wrapWith { base := b } e.1 p t.name ms) := by
  obtain ⟨hs, hloop, rfl⟩ := addMethodsNode_ok_iff.1 he
  obtain ⟨ok, get, nd, mem⟩ := addMethodsLoop_spec t h p ms methods _ hs hloop
  have c8 := method_consts_ne.2.2.2.2.2.2.2.1
  -- one automatic entry
  have absent : ∀ (hs : AMap Handler) (a : Bytes) (v : Handler),
      (∀ k, (if hs.contains a then hs else hs.set a v).get? k = if k = a then some ((hs.get? a).getD v) else hs.get? k) ∧
      (hs.keys.Nodup → (if hs.contains a then hs else hs.set a v).keys.Nodup) ∧
      ∀ e ∈ (if hs.contains a then hs else hs.set a v), e ∈ hs ∨ e = (a, v) := by
    intro hs a v
    rw [AMap.contains_eq_isSome]
    cases hg : hs.get? a with
    | none =>
      simp only [Option.isSome_none, Bool.false_eq_true, if_false, Option.getD_none]
      exact ⟨fun k => AMap.get?_set _ _ _ _, AMap.nodup_keys_set _ _ _, fun e he => AMap.mem_set he⟩
    | some x =>
      simp only [Option.isSome_some, if_true, Option.getD_some]
      exact ⟨fun k => by split <;> simp_all, id, fun e he => .inl he⟩
  obtain ⟨g1, n1, m1⟩ := absent hs mOPTIONS (wrapWith { base := t.optionsBase } mOPTIONS p t.name ms)
  obtain ⟨g2, n2, m2⟩ := absent _ mNotAllowed (wrapWith { base := t.notAllowedBase } mNotAllowed p t.name ms)
  obtain ⟨hO, hN⟩ := ok.not_auto
  refine ⟨ok, fun k => ?_, fun hnd => n2 (n1 (nd hnd)), fun e he => ?_⟩
  · show (addAuto t p ms hs).get? k = _
    unfold addAuto autoBase
    simp only [g2, g1, get]
    by_cases hk2 : k = mNotAllowed
    · subst hk2; simp [hN, Ne.symm c8]
    · by_cases hk1 : k = mOPTIONS
      · subst hk1; simp [hO, c8]
      · simp [hk1, hk2]
  · have he : e ∈ addAuto t p ms hs := he
    unfold addAuto at he
    rcases m2 e he with he | rfl
    · rcases m1 e he with he | rfl
      · exact (mem e he).elim .inl fun h => .inr (.inl h)
      · exact .inr (.inr ⟨_, by simp [autoBase], rfl⟩)
    · exact .inr (.inr ⟨_, by simp [autoBase, Ne.symm c8], rfl⟩)

theorem AddOk.head_iff {ht : Bool} {hs : AMap Handler} {methods : List Bytes} (ok : AddOk ht hs methods) :
    Added methods mHEAD ↔ Added methods mGET := by
  have : mHEAD ∉ methods := fun h => (ok.reg _ h).1 rfl
  simp [Added, this, method_consts_ne.1]

/-- The two automatic keys after `addMethods`: the old entry, or the automatic handler where there was none. -/
theorem addMethodsNode_get_auto {t : Tree} {h : Handler} {p : Bytes} {ms : List Nat} {methods : List Bytes} {n n' : Node}
    (he : t.addMethodsNode h p ms methods n = .ok n') :
    n'.handlers.get? mOPTIONS =
        some ((n.handlers.get? mOPTIONS).getD (wrapWith { base := t.optionsBase } mOPTIONS p t.name ms)) ∧
      n'.handlers.get? mNotAllowed =
        some ((n.handlers.get? mNotAllowed).getD (wrapWith { base := t.notAllowedBase } mNotAllowed p t.name ms)) := by
  obtain ⟨ok, get, _, _⟩ := addMethodsNode_map he
  rw [get, get, if_neg ok.not_auto.1, if_neg ok.not_auto.2]
  simp [autoBase, Ne.symm method_consts_ne.2.2.2.2.2.2.2.1]

/-- GET and HEAD after `addMethods`: written together, from the registered handler, or both kept. -/
theorem addMethodsNode_get_head {t : Tree} {h : Handler} {p : Bytes} {ms : List Nat} {methods : List Bytes} {n n' : Node}
    (he : t.addMethodsNode h p ms methods n = .ok n') :
    (n'.handlers.get? mGET = some (wrapWith h mGET p t.name ms) ∧
        n'.handlers.get? mHEAD = some (wrapWith h mHEAD p t.name ms)) ∨
      (n'.handlers.get? mGET = n.handlers.get? mGET ∧ n'.handlers.get? mHEAD = n.handlers.get? mHEAD) := by
  obtain ⟨_, c2, c3, _, c5, c6, _⟩ := method_consts_ne
  obtain ⟨ok, get, _, _⟩ := addMethodsNode_map he
  rw [get, get]
  by_cases hadd : Added methods mGET
  · exact .inl ⟨if_pos hadd, if_pos (ok.head_iff.2 hadd)⟩
  · rw [if_neg hadd, if_neg (mt ok.head_iff.1 hadd)]
    exact .inr (by simp [autoBase, c2, c3, c5, c6])

theorem addMethodsNode_get_other {t : Tree} {h : Handler} {p : Bytes} {ms : List Nat} {methods : List Bytes} {n n' : Node}
    (he : t.addMethodsNode h p ms methods n = .ok n') {k : Bytes} (hadd : ¬ Added methods k) (hO : k ≠ mOPTIONS)
    (hN : k ≠ mNotAllowed) : n'.handlers.get? k = n.handlers.get? k := by
  rw [(addMethodsNode_map he).2.1, if_neg hadd]
  simp [autoBase, hO, hN]

theorem addMethodsNode_mem_keys {t : Tree} {h : Handler} {p : Bytes} {ms : List Nat} {methods : List Bytes} {n n' : Node}
    (he : t.addMethodsNode h p ms methods n = .ok n') (k : Bytes) :
    k ∈ n'.handlers.keys ↔ k ∈ n.handlers.keys ∨ Added methods k ∨ k = mOPTIONS ∨ k = mNotAllowed := by
  rw [← AMap.get?_isSome_iff, ← AMap.get?_isSome_iff, (addMethodsNode_map he).2.1 k]
  by_cases hadd : Added methods k
  · simp [hadd]
  · simp only [hadd, if_false, false_or, autoBase]
    by_cases h1 : k = mOPTIONS
    · simp [h1]
    · by_cases h2 : k = mNotAllowed
      · simp [h2, Ne.symm method_consts_ne.2.2.2.2.2.2.2.1]
      · simp [h1, h2]

end Mux
