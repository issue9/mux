/-
  Mux.Proofs.HostsResolve — for `Mux/Properties/C14resolve.lean`: the private tree of a `Hosts` matcher after
  "interceptors first, then only `Add`" is the tree of an ADD-ONLY well-formed `Tree` history (`regsAdds_tree`), so
  `C02_resolve` applies to it.
-/
import Mux.Proofs.HostsReach
import Mux.Proofs.ResolveHistory
namespace Mux.P30
open Mux Mux.P12 Mux.P14

/-- `Add` of a domain whose lower-cased text has balanced, non-nested braces. -/
def HOp.addOk : HOp → Prop
  | .add d => WfPattern (toLower d) = true
  | _ => False

theorem HOp.addOk.domainOk {op : HOp} (h : HOp.addOk op) : HOp.domainOk op := by
  cases op with
  | add d => exact h
  | delete d => exact h.elim
  | registerInterceptor id rule => exact h.elim

theorem regsAdds_tree {regs adds : List HOp} (hregs : ∀ op ∈ regs, HOp.isReg op) (hadds : ∀ op ∈ adds, HOp.addOk op) :
    ∃ ic tops, P15.AddOnly tops ∧ (∀ o ∈ tops, o.wf = true) ∧
      (hostsRun (hostsRun Hosts.empty regs) adds).tree = (hostTree0 ic).run tops := by
  have hdom : ∀ op ∈ adds, HOp.domainOk op := fun op ho => (hadds op ho).domainOk
  obtain ⟨ic, h⟩ := regsFirst_tree hregs hdom
  refine ⟨ic, adds.map topOf, List.forall_mem_map.2 fun op ho => ?_,
    List.forall_mem_map.2 fun op ho => topOf_wf (hdom op ho), h⟩
  cases op with
  | add d => exact ⟨_, _, _, _, rfl⟩
  | delete d => exact (hadds _ ho).elim
  | registerInterceptor id rule => exact (hadds _ ho).elim

end Mux.P30
