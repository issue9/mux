/-
  `Tree.remove` and `Tree.clean` cannot fail (their only error sites are faults: `buildIndexes` on an empty literal
  text, and an index path that leaves the tree) on a tree whose nodes below the root have non-empty texts: paths
  returned by `findPath` are valid.
-/
import Mux.Proofs.TreeOps
namespace Mux.P9
open Mux

def ValsNonEmpty (t : Tree) : Prop := AllL (fun c => c.seg.value ≠ []) t.root.children

theorem findPath_valid (n : Node) (pat : Bytes) (p : List Nat) (h : n.findPath pat = some p) :
    (n.getAt p).isSome = true := by
  obtain ⟨x, hx⟩ := findPath_spells n pat p h
  rw [hx.2.1]; rfl

theorem findIn_valid : (cs : List Node) → (i : Nat) → (pat : Bytes) → (p : List Nat) → findIn cs i pat = some p →
    ∃ j p' c, p = (i + j) :: p' ∧ cs[j]? = some c ∧ (c.getAt p').isSome = true := by
  intro cs i pat p h
  rw [findIn_eq] at h
  obtain ⟨⟨c, k⟩, hm, hv⟩ := List.exists_of_findSome?_eq_some h
  obtain ⟨hik, hc⟩ := List.mem_zipIdx_iff_le_and_getElem?_sub.1 hm
  have hk : k = i + (k - i) := (Nat.add_sub_cancel' hik).symm
  unfold findVia at hv
  split at hv
  · cases hv
    exact ⟨k - i, [], c, by rw [← hk], hc, by rw [Node.getAt_nil]; rfl⟩
  · split at hv
    · obtain ⟨p', hp', rfl⟩ := Option.map_eq_some_iff.1 hv
      exact ⟨k - i, p', c, by rw [← hk], hc, findPath_valid c _ p' hp'⟩
    · cases hv

theorem removeAt_ok (f : Node → Node) :
    ∀ (path : List Nat) (n m : Node), n.getAt path = some m → AllL (fun c => c.seg.value ≠ []) n.children →
      ∃ n', n.removeAt f path = .ok n'
  | [], n, _, _, _ => ⟨_, Node.removeAt_nil f n⟩
  | i :: path, n, m, hg, hne => by
    obtain ⟨c, hc, hg⟩ := Node.getAt_cons_some.1 hg
    obtain ⟨c', hc'⟩ := removeAt_ok f path c m hg (AllL_getElem? hne hc).tail
    by_cases hd : c'.size = 0 ∧ c'.children.isEmpty
    · -- the emptied child is deleted; the texts of the others are not empty
      obtain ⟨idx', hidx'⟩ := buildIndexes_ok (cs := n.children.eraseIdx i)
        (fun x hx => ((AllL_iff _ _).1 hne x ((List.eraseIdx_sublist _ _).subset hx)).head)
      exact ⟨_, Node.removeAt_cons_iff.2 ⟨c, c', hc, hc', by rw [if_pos hd]; exact ⟨idx', hidx', rfl⟩⟩⟩
    · exact ⟨_, Node.removeAt_cons_iff.2 ⟨c, c', hc, hc', by rw [if_neg hd]⟩⟩

theorem remove_ok {t : Tree} (hne : ValsNonEmpty t) (p : Bytes) (methods : List Bytes) :
    ∃ t', t.remove p methods = .ok t' := by
  unfold Tree.remove
  split
  · exact ⟨t, rfl⟩
  · rename_i path hpath
    obtain ⟨x, hx⟩ := findPath_spells t.root p path hpath
    obtain ⟨root1, h1⟩ := removeAt_ok (removeMethods t.hasTrace methods) path t.root x hx.2.1 hne
    exact ⟨_, bind_ok_iff.2 ⟨root1, h1, rfl⟩⟩

theorem treeClean_ok {t : Tree} (hne : ValsNonEmpty t) (pre : Bytes) : ∃ t', t.clean pre = .ok t' := by
  obtain ⟨root1, h1⟩ := Node.clean_succeeds t.root pre hne
  exact ⟨_, bind_ok_iff.2 ⟨root1, h1, rfl⟩⟩

end Mux.P9
