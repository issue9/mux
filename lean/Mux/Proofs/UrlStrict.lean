/-
  Mux.Proofs.UrlStrict — strict reverse URL building (`Tree.URL`): the loop over the chain of the node,
  index paths vs. chains, and the characterisation of every outcome of `Tree.url`, `Router.url`,
  `Facade.url` on an arbitrary tree (no invariant needed here).
-/
import Mux.Proofs.Url
import Mux.Proofs.GnStep
import Mux.Proofs.Names
namespace Mux.P13
open Mux Mux.P9

/-- A parameter segment has a value, and the value passes `Segment.Valid`. -/
def SegValid (env : Env) (ic : Interceptors) (ps : AMap Bytes) (s : Seg) : Prop :=
  ∃ v, ps.get? s.name = some v ∧ s.valid env ic v = some true

def AllValid (env : Env) (ic : Interceptors) (ps : AMap Bytes) (segs : List Seg) : Prop :=
  ∀ s ∈ segs, s.kind ≠ .str → SegValid env ic ps s

/-- Why the strict loop fails: at the FIRST parameter segment that has no value (`missingParam`), or whose
value `Segment.Valid` rejects (`badValue`) or cannot judge (`unsupported`); all parameter segments
before it are valid. -/
def FirstBad (env : Env) (ic : Interceptors) (ps : AMap Bytes) (segs : List Seg) (e : Err) : Prop :=
  ∃ pre s post, segs = pre ++ s :: post ∧ AllValid env ic ps pre ∧ s.kind ≠ .str ∧
    ((ps.get? s.name = none ∧ e = .missingParam) ∨
     ∃ v, ps.get? s.name = some v ∧
       ((s.valid env ic v = some false ∧ e = .badValue) ∨ (s.valid env ic v = none ∧ e = .unsupported)))

theorem FirstBad.err {env : Env} {ic : Interceptors} {ps : AMap Bytes} {segs : List Seg} {e : Err}
    (h : FirstBad env ic ps segs e) : e = .missingParam ∨ e = .badValue ∨ e = .unsupported := by
  obtain ⟨_, _, _, _, _, _, ⟨_, h⟩ | ⟨_, _, ⟨_, h⟩ | ⟨_, h⟩⟩⟩ := h
  · exact .inl h
  · exact .inr (.inl h)
  · exact .inr (.inr h)

/-- The check the strict loop makes on one segment: the error it stops with, if any. -/
def segCheck (env : Env) (ic : Interceptors) (ps : AMap Bytes) (s : Seg) : Option Err :=
  if s.kind = .str then none else
    match ps.get? s.name with
    | none => some .missingParam
    | some v =>
      match s.valid env ic v with
      | none => some .unsupported
      | some false => some .badValue
      | some true => none

theorem strictUrlLoop_eq (env : Env) (ic : Interceptors) (ps : AMap Bytes) (segs : List Seg) :
    strictUrlLoop env ic ps segs =
      match segs.findSome? (segCheck env ic ps) with
      | some e => .error e
      | none => urlLoop ps segs := by
  fun_induction strictUrlLoop env ic ps segs with
  | case1 => rfl
  | case2 s segs hk ih =>
    rw [ih, urlLoop, List.findSome?_cons, segCheck, if_pos hk, if_pos hk]
    cases List.findSome? (segCheck env ic ps) segs <;> rfl
  | case3 s segs hk hg => rw [urlLoop, List.findSome?_cons, segCheck, if_neg hk, hg]
  | case4 s segs hk v hg hv => simp only [List.findSome?_cons, segCheck, if_neg hk, hg, hv]
  | case5 s segs hk v hg hv => simp only [List.findSome?_cons, segCheck, if_neg hk, hg, hv]
  | case6 s segs hk v hg hv ih =>
    simp only [ih, urlLoop, List.findSome?_cons, segCheck, if_neg hk, hg, hv]
    cases List.findSome? (segCheck env ic ps) segs <;> rfl

theorem segCheck_none_iff {env : Env} {ic : Interceptors} {ps : AMap Bytes} {s : Seg} :
    segCheck env ic ps s = none ↔ (s.kind ≠ .str → SegValid env ic ps s) := by
  unfold segCheck SegValid
  by_cases hk : s.kind = .str
  · simp [hk]
  · rw [if_neg hk]
    cases ps.get? s.name with
    | none => simp [hk]
    | some v =>
      simp only [Option.some.injEq, exists_eq_left']
      cases s.valid env ic v with
      | none => simp [hk]
      | some b => cases b <;> simp [hk]

theorem segCheck_some_iff {env : Env} {ic : Interceptors} {ps : AMap Bytes} {s : Seg} {e : Err} :
    segCheck env ic ps s = some e ↔ s.kind ≠ .str ∧
      ((ps.get? s.name = none ∧ e = .missingParam) ∨
       ∃ v, ps.get? s.name = some v ∧
         ((s.valid env ic v = some false ∧ e = .badValue) ∨ (s.valid env ic v = none ∧ e = .unsupported))) := by
  unfold segCheck
  by_cases hk : s.kind = .str
  · simp [hk]
  · rw [if_neg hk]
    cases ps.get? s.name with
    | none => simp [hk, eq_comm]
    | some v =>
      simp only [Option.some.injEq, exists_eq_left']
      cases s.valid env ic v with
      | none => simp [hk, eq_comm]
      | some b => cases b <;> simp [hk, eq_comm]

theorem findSome?_segCheck_none {env : Env} {ic : Interceptors} {ps : AMap Bytes} {segs : List Seg} :
    segs.findSome? (segCheck env ic ps) = none ↔ AllValid env ic ps segs := by
  simp only [List.findSome?_eq_none_iff, segCheck_none_iff, AllValid]

theorem findSome?_segCheck_some {env : Env} {ic : Interceptors} {ps : AMap Bytes} {segs : List Seg} {e : Err} :
    segs.findSome? (segCheck env ic ps) = some e ↔ FirstBad env ic ps segs e := by
  rw [List.findSome?_eq_some_iff]
  constructor
  · rintro ⟨pre, s, post, h, hs, hpre⟩
    exact ⟨pre, s, post, h, fun x hx => segCheck_none_iff.1 (hpre x hx), segCheck_some_iff.1 hs⟩
  · rintro ⟨pre, s, post, h, hpre, hs⟩
    exact ⟨pre, s, post, h, segCheck_some_iff.2 hs, fun x hx => segCheck_none_iff.2 (hpre x hx)⟩

theorem strictUrlLoop_ok_iff (env : Env) (ic : Interceptors) (ps : AMap Bytes) (segs : List Seg) (u : Bytes) :
    strictUrlLoop env ic ps segs = .ok u ↔ AllValid env ic ps segs ∧ urlLoop ps segs = .ok u := by
  rw [strictUrlLoop_eq, ← findSome?_segCheck_none]
  cases segs.findSome? (segCheck env ic ps) <;> simp

theorem strictUrlLoop_error_iff (env : Env) (ic : Interceptors) (ps : AMap Bytes) (segs : List Seg) (e : Err) :
    strictUrlLoop env ic ps segs = .error e ↔ FirstBad env ic ps segs e := by
  rw [strictUrlLoop_eq, ← findSome?_segCheck_some]
  cases hf : segs.findSome? (segCheck env ic ps) with
  | some e' => simp
  | none =>
    -- every parameter has a value, so the non-strict loop succeeds
    simp only [reduceCtorEq, iff_false]
    intro h
    refine ((urlLoop_error_iff ps segs e).1 h).2 fun s hs hk => ?_
    obtain ⟨v, hv, _⟩ := findSome?_segCheck_none.1 hf s hs hk
    rw [hv]; rfl

/-- `notRoute` is not an error of the loop: it is decided before the loop runs. -/
theorem strictUrlLoop_ne_notRoute {env : Env} {ic : Interceptors} {ps : AMap Bytes} {segs : List Seg} :
    strictUrlLoop env ic ps segs ≠ .error .notRoute := by
  intro h
  rcases ((strictUrlLoop_error_iff _ _ _ _ _).1 h).err with h | h | h <;> cases h

/-- `Segment.Valid` cannot judge only regexp segments: a non-ASCII value under a rule with a wide
class, or a non-ASCII suffix (which `NewSegment` never lets into a tree, see `valid_none_iff_segOk`). -/
theorem valid_none_iff (env : Env) (ic : Interceptors) (s : Seg) (v : Bytes) :
    s.valid env ic v = none ↔
      s.kind = .rx ∧ ((s.re.wide = true ∧ isAscii v = false) ∨ isAscii s.suffix = false) := by
  cases hk : s.kind with
  | str | icpt | named => simp [Seg.valid, hk]
  | rx =>
    rw [Seg.valid_rx_eq env ic s v hk]
    simp only [true_and]
    split
    · rename_i h
      simpa using h
    · rename_i h
      constructor
      · intro h'; split at h' <;> cases h'
      · intro h'; exact absurd (by simpa using h') h

theorem segsAt_none_iff (p : List Nat) (n : Node) : n.segsAt p = none ↔ n.getAt p = none := by
  induction p generalizing n with
  | nil => simp
  | cons i p ih =>
    rw [Node.getAt_cons, Node.segsAt_cons]
    cases hc : n.children[i]? with
    | none => simp
    | some c => simp [ih c]

theorem Tree.url_of_find {env : Env} {t : Tree} {pattern : Bytes} {ps : AMap Bytes} {p : List Nat} {n : Node}
    {segs : List Seg} (hf : t.root.findPath pattern = some p) (hg : t.root.getAt p = some n)
    (hs : t.root.segsAt p = some segs) :
    t.url env pattern ps = if n.handlers = [] then .error .notRoute else strictUrlLoop env t.ic ps segs := by
  simp only [Tree.url, hf, hg, hs, Node.size, List.length_eq_zero_iff]

/-- The two ways `Tree.URL` can go.  The fault site 270 is unreachable. -/
theorem Tree.url_cases (env : Env) (t : Tree) (pattern : Bytes) (ps : AMap Bytes) :
    (t.root.findPath pattern = none ∧ t.url env pattern ps = .error .notRoute) ∨
    ∃ p n segs, t.root.findPath pattern = some p ∧ t.root.getAt p = some n ∧
      t.url env pattern ps = if n.handlers = [] then .error .notRoute else strictUrlLoop env t.ic ps segs := by
  cases hf : t.root.findPath pattern with
  | none => exact .inl ⟨rfl, by simp only [Tree.url, hf]⟩
  | some p =>
    have hsome := findPath_valid t.root pattern p hf
    cases hg : t.root.getAt p with
    | none => rw [hg] at hsome; cases hsome
    | some n =>
      obtain ⟨segs, h1, _⟩ := getAt_chain p t.root n hg
      exact .inr ⟨p, n, segs, rfl, hg, Tree.url_of_find hf hg h1⟩

theorem Tree.url_errors (env : Env) (t : Tree) (pattern : Bytes) (ps : AMap Bytes) (e : Err)
    (h : t.url env pattern ps = .error e) :
    e = .notRoute ∨ e = .missingParam ∨ e = .badValue ∨ e = .unsupported := by
  rcases Tree.url_cases env t pattern ps with ⟨_, h'⟩ | ⟨_, n, segs, _, _, h'⟩
  · rw [h'] at h; cases h; exact .inl rfl
  · rw [h'] at h
    split at h
    · cases h; exact .inl rfl
    · exact .inr ((strictUrlLoop_error_iff _ _ _ _ _).1 h).err

theorem Router.url_strict_eq (env : Env) (r : Router) (pattern : Bytes) (ps : AMap Bytes) :
    r.url env true pattern ps =
      if pattern = [] then .ok r.urlDomain
      else match r.tree.url env pattern ps with
        | .ok u => .ok (r.urlDomain ++ u)
        | .error e => .error e := by
  unfold Router.url
  by_cases hp : pattern = []
  · subst hp; simp [bind, Except.bind, pure, Except.pure]
  · have : pattern.length ≠ 0 := fun h => hp (List.eq_nil_of_length_eq_zero h)
    simp only [this, if_false, if_true, hp, bind, Except.bind, pure, Except.pure]
    cases r.tree.url env pattern ps <;> rfl

theorem Router.url_strict_ok_iff (env : Env) (r : Router) (pattern : Bytes) (ps : AMap Bytes) (u : Bytes) :
    r.url env true pattern ps = .ok u ↔
      (pattern = [] ∧ u = r.urlDomain) ∨
      (pattern ≠ [] ∧ ∃ u', r.tree.url env pattern ps = .ok u' ∧ u = r.urlDomain ++ u') := by
  rw [Router.url_strict_eq]
  by_cases hp : pattern = []
  · simp [hp, eq_comm]
  · simp only [hp, if_false, false_and, false_or, ne_eq, not_false_eq_true, true_and]
    cases r.tree.url env pattern ps with
    | error e => simp
    | ok u' => simp [eq_comm]

theorem Router.url_strict_error_iff (env : Env) (r : Router) (pattern : Bytes) (ps : AMap Bytes) (e : Err) :
    r.url env true pattern ps = .error e ↔ pattern ≠ [] ∧ r.tree.url env pattern ps = .error e := by
  rw [Router.url_strict_eq]
  by_cases hp : pattern = []
  · simp [hp]
  · simp only [hp, if_false, ne_eq, not_false_eq_true, true_and]
    cases r.tree.url env pattern ps <;> simp

theorem Router.url_nonstrict_eq (env : Env) (r : Router) (pattern : Bytes) (ps : AMap Bytes) :
    r.url env false pattern ps =
      match muxURL pattern ps with
      | .ok u => .ok (r.urlDomain ++ u)
      | .error e => .error e := by
  unfold Router.url muxURL
  by_cases hp : pattern = []
  · subst hp
    by_cases hps : ps.length = 0
    · simp [hps, bind, Except.bind, pure, Except.pure]
    · simp [hps, bind, Except.bind, pure, Except.pure, urlNonStrict, Interceptors.url]
  · have : pattern.length ≠ 0 := fun h => hp (List.eq_nil_of_length_eq_zero h)
    simp only [this, if_false, Bool.false_eq_true, bind, Except.bind, pure, Except.pure]
    by_cases hps : ps.length = 0
    · simp [hps]
    · simp only [hps, if_false]
      cases urlNonStrict pattern ps <;> rfl

theorem Facade.url_eq (env : Env) (p : Facade) (r : Router) (strict : Bool) (pattern : Bytes) (ps : AMap Bytes) :
    p.url env r strict pattern ps = r.url env strict (p.pattern ++ pattern) ps := rfl

end Mux.P13
