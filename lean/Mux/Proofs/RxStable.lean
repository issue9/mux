/-
  Mux.Proofs.RxStable — the leftmost-first matcher is stable under cutting off the rest of the path: what dispatch finds
  at a regexp segment, `rxMatch re suffix (v ++ suffix ++ rest) = some (v, rest)`, is what `Segment.Valid` checks,
  `rxMatch re suffix (v ++ suffix) = some (v, [])` (`rxMatch_stable`, from `Re.m_stable`).  `Mux.P17` has the converse for
  a rule that avoids the first byte of the suffix (`rxMatch_extend`; false without a hypothesis, `rxMatch_extend_false`).
-/
import Mux.Proofs.Regex
namespace Mux.P13
open Mux

theorem rems_length_le {r : Re} {s x : Bytes} (h : x ∈ r.rems s) : x.length ≤ s.length := by
  obtain ⟨s1, rfl, _⟩ := rems_sound h
  rw [List.length_append]; exact Nat.le_add_left ..

section
variable (rest : Bytes)

/-- "still contains all of `rest`" -/
def long (x : Bytes) : Bool := decide (rest.length ≤ x.length)

theorem long_append (x : Bytes) : long rest (x ++ rest) = true := by
  simp [long]

theorem filter_long_short {r : Re} {t : Bytes} (ht : t.length < rest.length) : (r.rems t).filter (long rest) = [] := by
  rw [List.filter_eq_nil_iff]
  intro x hx hl
  have := rems_length_le hx
  simp only [long, decide_eq_true_eq] at hl
  omega

/-- An expression that does not match the empty text consumes a byte: nothing it leaves of `rest` is long. -/
theorem filter_long_self {r : Re} (hr : ¬ Re.Denotes r []) : (r.rems rest).filter (long rest) = [] := by
  rw [List.filter_eq_nil_iff]
  intro x hx hl
  obtain ⟨s1, e, hd⟩ := rems_sound hx
  have hlen := congrArg List.length e
  rw [List.length_append] at hlen
  simp only [long, decide_eq_true_eq] at hl
  exact hr ((List.length_eq_zero_iff.1 (by omega) : s1 = []) ▸ hd)

theorem starRems_long (c : Cls) (s : Bytes) :
    (starRems c (s ++ rest)).filter (long rest) = (starRems c s).map (· ++ rest) := by
  fun_induction starRems c s with
  | case1 =>
    -- greedy on `rest` itself: only the last candidate, `rest`, is long
    cases rest with
    | nil => rfl
    | cons b t =>
      rw [List.nil_append, starRems]
      have hs : (starRems c t).filter (long (b :: t)) = [] :=
        filter_long_short (r := .star c) (b :: t) (Nat.lt_succ_self _)
      split
      · rw [List.filter_append, hs]; simp [long]
      · simp [long]
  | case2 a s ha ih =>
    have hl : long rest (a :: (s ++ rest)) = true := long_append rest (a :: s)
    rw [List.cons_append, starRems, if_pos ha, List.filter_append, ih, List.map_append, List.filter_cons_of_pos hl]
    rfl
  | case3 a s ha =>
    have hl : long rest (a :: (s ++ rest)) = true := long_append rest (a :: s)
    rw [List.cons_append, starRems, if_neg ha, List.filter_cons_of_pos hl]
    rfl

theorem rems_long (r : Re) (s : Bytes) : (r.rems (s ++ rest)).filter (long rest) = (r.rems s).map (· ++ rest) := by
  fun_induction Re.rems r s with
  | case1 s => rw [Re.rems, List.filter_cons_of_pos (long_append rest s)]; rfl
  | case2 c a s ha => rw [List.cons_append, Re.rems, if_pos ha, List.filter_cons_of_pos (long_append rest s)]; rfl
  | case3 c a s ha => rw [List.cons_append, Re.rems, if_neg ha]; rfl
  | case4 c => exact filter_long_self rest nofun
  | case5 a b s ihb iha =>
    rw [Re.rems, List.filter_flatMap,
      List.flatMap_filter_of (q := long rest) fun x _ hx =>
        filter_long_short rest (by simpa [long] using hx),
      iha, List.flatMap_map, List.map_flatMap]
    simp only [ihb]
  | case6 a b s iha ihb => rw [Re.rems, List.filter_append, iha, ihb, List.map_append]
  | case7 c s => exact starRems_long rest c s
  | case8 c a s ha => rw [List.cons_append, Re.rems, if_pos ha]; exact starRems_long rest c s
  | case9 c a s ha => rw [List.cons_append, Re.rems, if_neg ha]; rfl
  | case10 c => exact filter_long_self rest nofun
  | case11 r s ih =>
    rw [Re.rems, List.filter_append, ih, List.map_append, List.filter_cons_of_pos (long_append rest s)]; rfl
end

section
variable {α β : Type} (rest : Bytes) (good : β → Prop) (Q : α → β → Prop)

/-- The relation between the continuation on the short input (`k`) and on the long input (`K`). -/
structure ContRel (k : Bytes → Option α) (K : Bytes → Option β) : Prop where
  /-- accepted on the short input ⇒ accepted on the long input -/
  mono : ∀ r', (k r').isSome → (K (r' ++ rest)).isSome
  /-- the good answer, given at a position inside the short input, is also given there on the short input -/
  agree : ∀ r' X, K (r' ++ rest) = some X → good X → ∃ x, k r' = some x ∧ Q x X
  /-- positions beyond the short input never give the good answer -/
  beyond : ∀ r X, r.length < rest.length → K r = some X → ¬ good X

/-- For continuations related in this way, the good answer on the long input `s ++ rest` is, up to `Q`, the answer
on the short input `s`: the remainder that gives it is long (`beyond`), the long remainders are those of the short
input (`rems_long`), and none before it is accepted on the short input (`mono`). -/
theorem Re.m_stable {k : Bytes → Option α} {K : Bytes → Option β} (hr : ContRel rest good Q k K) (r : Re) (s : Bytes)
    {X : β} (h : r.m (s ++ rest) K = some X) (hg : good X) : ∃ x, r.m s k = some x ∧ Q x X := by
  rw [Re.m_eq] at h
  have h2 := List.findSome?_filter (p := long rest) h fun x _ hx =>
    decide_eq_true (Nat.le_of_not_lt fun hlt => hr.beyond x X hlt hx hg)
  rw [rems_long, List.findSome?_map] at h2
  rw [Re.m_eq]
  refine List.findSome?_rel h2 (fun x _ hx => ?_) (fun x _ hx => hr.agree x X hx hg)
  cases hk : k x with
  | none => rfl
  | some y =>
    have := hr.mono x (by rw [hk]; rfl)
    rw [Function.comp_apply] at hx
    rw [hx] at this
    cases this
end

theorem rxMatch_stable (re : Re) (suffix v rest : Bytes)
    (h : rxMatch re suffix (v ++ suffix ++ rest) = some (v, rest)) :
    rxMatch re suffix (v ++ suffix) = some (v, []) := by
  -- the remainder that gives the answer `(v, rest)` is the suffix followed by `rest`
  have hlong : ∀ {x : Bytes} {X : Bytes × Bytes}, (if suffix.isPrefixOf x then
      some ((v ++ suffix ++ rest).take ((v ++ suffix ++ rest).length - x.length), x.drop suffix.length) else none) =
        some X → X = (v, rest) → x = suffix ++ rest := by
    intro x X hx hX
    subst hX
    split at hx
    · rename_i hp
      rw [isPrefixOf_eq_append hp, (Prod.mk.inj (Option.some.inj hx)).2]
    · cases hx
  unfold rxMatch at h ⊢
  refine (Re.m_stable rest (fun X : Bytes × Bytes => X = (v, rest)) (fun x _ => x = (v, ([] : Bytes)))
    ⟨?_, ?_, ?_⟩ re (v ++ suffix) h rfl).elim fun x hx => hx.2 ▸ hx.1
  · -- mono: the suffix is still there when the rest of the path follows
    intro r' hk
    split at hk
    · rename_i hp
      rw [if_pos (isPrefixOf_iff.2 ((isPrefixOf_iff.1 hp).trans (List.prefix_append _ _)))]
      rfl
    · cases hk
  · -- agree: the answer `(v, rest)` is given at the end of the short input
    intro r' X hX hg
    have := List.append_cancel_right (hlong hX hg)
    subst this
    rw [if_pos (isPrefixOf_iff.2 (List.prefix_refl _)), List.length_append, Nat.add_sub_cancel, List.take_left,
      List.drop_length]
    exact ⟨_, rfl, rfl⟩
  · -- beyond: what gives `(v, rest)` is at least as long as `rest`
    intro r X hlt hX hg
    rw [hlong hX hg, List.length_append] at hlt
    omega

end Mux.P13

namespace Mux.P17
open Mux

/-- No class of the expression contains `b`. -/
def Re.avoids : Re → UInt8 → Bool
  | .eps, _ => true
  | .cls c, b => !c.has b
  | .seq x y, b => Re.avoids x b && Re.avoids y b
  | .alt x y, b => Re.avoids x b && Re.avoids y b
  | .star c, b => !c.has b
  | .plus c, b => !c.has b
  | .opt r, b => Re.avoids r b

theorem denotes_avoids {r : Re} {s : Bytes} (h : Re.Denotes r s) {b : UInt8} (ha : Re.avoids r b = true) : b ∉ s := by
  -- a byte of a class that does not contain `b` is not `b`
  have hne : ∀ {c : Cls} {x : UInt8}, c.has x = true → (!c.has b) = true → ¬ b = x := by
    rintro c x hx hb rfl
    rw [hx] at hb
    cases hb
  induction h with
  | eps => exact List.not_mem_nil
  | cls hx => exact fun hm => hne hx ha (List.mem_singleton.1 hm)
  | seq _ _ ih1 ih2 =>
    have ha := Bool.and_eq_true_iff.1 ha
    exact fun hm => (List.mem_append.1 hm).elim (ih1 ha.1) (ih2 ha.2)
  | altL _ ih => exact ih (Bool.and_eq_true_iff.1 ha).1
  | altR _ ih => exact ih (Bool.and_eq_true_iff.1 ha).2
  | starNil => exact List.not_mem_nil
  | starCons hx _ ih => exact fun hm => (List.mem_cons.1 hm).elim (hne hx ha) (ih ha)
  | plus hx _ ih => exact fun hm => (List.mem_cons.1 hm).elim (hne hx ha) (ih ha)
  | optNone => exact List.not_mem_nil
  | optSome _ ih => exact ih ha

/-- `r` never looks past a byte it avoids: what it consumes of `s ++ b :: T` lies within `s` (`denotes_avoids`), so every
remainder is long. -/
theorem rems_avoid {r : Re} {b : UInt8} (hr : Re.avoids r b = true) (s T : Bytes) :
    r.rems (s ++ b :: T) = (r.rems s).map (· ++ b :: T) := by
  rw [← P13.rems_long, List.filter_eq_self.2]
  intro x hx
  obtain ⟨s1, e, hd⟩ := rems_sound hx
  have hb : b ∉ s1 := denotes_avoids hd hr
  rcases List.append_eq_append_iff.1 e with ⟨a, rfl, ha⟩ | ⟨a, _, rfl⟩
  · cases a with
    | nil => rw [List.nil_append] at ha; exact ha ▸ P13.long_append _ []
    | cons a0 a => exact absurd (List.mem_append_right _ ((List.cons.inj ha).1 ▸ List.mem_cons_self)) hb
  · exact P13.long_append _ a

/-- **`Valid` ⇒ dispatch, when the rule avoids the first byte of the suffix.**  If the rule `re` cannot consume the
first byte `b` of the literal text after the parameter, then for every value `v` in the language of `re` and every
continuation `R` of the path, the anchored leftmost-first match of `(re)suffix` on `v ++ suffix ++ R` captures exactly
`v` and leaves exactly `R`. -/
theorem rxMatch_extend (re : Re) (b : UInt8) (suf v R : Bytes) (ha : Re.avoids re b = true)
    (hd : Re.Denotes re v) : rxMatch re (b :: suf) (v ++ (b :: suf) ++ R) = some (v, R) := by
  have hv : b ∉ v := denotes_avoids hd ha
  -- the remainders on the long input are those on `v`, each followed by `b :: suf ++ R`; one that is not `[]` does not
  -- start with `b`, and `[]` is among them
  rw [show v ++ (b :: suf) ++ R = v ++ b :: (suf ++ R) by rw [List.append_assoc]; rfl, rxMatch, Re.m_eq, rems_avoid ha,
    List.findSome?_map]
  refine List.findSome?_unique (a := []) (by simpa using rems_complete hd []) ?_ fun x hx hne => ?_
  · simp only [Function.comp_apply]
    rw [List.nil_append, if_pos (show (b :: suf).isPrefixOf (b :: (suf ++ R)) = true from isPrefixOf_iff.2 ⟨R, rfl⟩),
      List.length_append, Nat.add_sub_cancel, List.take_left]
    exact congrArg (fun t => some (v, t)) (List.drop_left (l₁ := b :: suf))
  · obtain ⟨s1, rfl, _⟩ := rems_sound hx
    cases x with
    | nil => exact absurd rfl hne
    | cons a x =>
      simp only [Function.comp_apply]
      rw [List.cons_append, if_neg]
      exact fun h => hv (List.mem_append_right _ ((List.cons_prefix_cons.1 (isPrefixOf_iff.1 h)).1 ▸ List.mem_cons_self))

/-- Without a hypothesis the converse of `rxMatch_stable` fails: `(a/xb|a)` followed by `/x`.  On `a/x` the capture
is `a`; on `a/xb/x` it is `a/xb`, not `a` with the rest `b/x`. -/
theorem rxMatch_extend_false :
    let a : Re := .cls ⟨false, [(97, 97)]⟩
    let sl : Re := .cls ⟨false, [(47, 47)]⟩
    let x : Re := .cls ⟨false, [(120, 120)]⟩
    let bb : Re := .cls ⟨false, [(98, 98)]⟩
    let re : Re := .alt (.seq (.seq (.seq a sl) x) bb) a
    rxMatch re [47, 120] ([97] ++ [47, 120]) = some ([97], []) ∧
    rxMatch re [47, 120] ([97] ++ [47, 120] ++ [98, 47, 120]) = some ([97, 47, 120, 98], []) := by
  decide +kernel

end Mux.P17
