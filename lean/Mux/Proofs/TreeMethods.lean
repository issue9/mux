/-
  What a `Good` node's method index renders to.
-/
import Mux.Proofs.TreeServe
namespace Mux

/-- The methods registered by hand on a node: its keys without HEAD, OPTIONS and the 405 key. -/
def Node.registered (n : Node) : List Bytes :=
  n.handlers.keys.filter (fun k => k ≠ mHEAD ∧ k ≠ mOPTIONS ∧ k ≠ mNotAllowed)

/-- The list whose bits make up the method index of a node with handlers. -/
def maskKeys (ht : Bool) (hs : AMap Handler) : List Bytes :=
  hs.keys.filter (· ≠ mNotAllowed) ++ (if ht then [mTRACE] else [])

theorem sum_map_filter_zero {α} (l : List α) (p : α → Bool) (f : α → Nat) (h : ∀ x ∈ l, p x = false → f x = 0) :
    ((l.filter p).map f).sum = (l.map f).sum := by
  induction l with
  | nil => rfl
  | cons x xs ih =>
    have ih' := ih (fun y hy => h y (by simp [hy]))
    by_cases hx : p x = true
    · simp [hx, ih']
    · have := h x (by simp) (by simpa using hx)
      simp [hx, ih', this]

theorem nodeMethodIndex_eq_mask (ht : Bool) (hs : AMap Handler) (hne : hs ≠ []) :
    nodeMethodIndex ht hs = ((maskKeys ht hs).map methodBit).sum := by
  unfold nodeMethodIndex maskKeys
  have h1 : hs.map (fun e => methodBit e.1) = hs.keys.map methodBit := AMap.map_fst hs methodBit
  have h2 : ((hs.keys.filter (· ≠ mNotAllowed)).map methodBit).sum = (hs.keys.map methodBit).sum := by
    apply sum_map_filter_zero
    intro x _ hx
    have : x = mNotAllowed := by simpa using hx
    rw [this]; exact methodBit_notAllowed
  have hlen : hs.length > 0 := by
    cases hs with
    | nil => exact absurd rfl hne
    | cons _ _ => simp
  rw [h1, List.map_append, List.sum_append, h2]
  cases ht <;> simp [hlen]

theorem maskKeys_nodup {ht : Bool} {hs : AMap Handler} (h : KeyShape ht hs) : (maskKeys ht hs).Nodup := by
  unfold maskKeys
  rw [List.nodup_append]
  refine ⟨h.nodup.filter _, by cases ht <;> simp, ?_⟩
  intro a ha b hb
  cases ht with
  | false => simp at hb
  | true =>
    simp at hb; subst hb
    intro hab; subst hab
    rcases h.adm _ (List.mem_filter.1 ha).1 with h0 | h0
    · exact method_consts_ne.2.2.2.2.2.2.2.2.2 h0
    · exact h0.2 rfl rfl

theorem maskKeys_subset {ht : Bool} {hs : AMap Handler} (h : KeyShape ht hs) :
    ∀ k ∈ maskKeys ht hs, k ∈ methodsTable := by
  intro k hk
  unfold maskKeys at hk
  rw [List.mem_append] at hk
  rcases hk with hk | hk
  · have hk' := List.mem_filter.1 hk
    rcases h.adm _ hk'.1 with h0 | h0
    · simp [h0] at hk'
    · exact h0.1
  · cases ht with
    | false => simp at hk
    | true => simp at hk; subst hk; exact mem_table_consts.2.2.2.1

theorem mem_maskKeys {ht : Bool} {hs : AMap Handler} {m : Bytes} :
    m ∈ maskKeys ht hs ↔ (m ∈ hs.keys ∧ m ≠ mNotAllowed) ∨ (ht = true ∧ m = mTRACE) := by
  unfold maskKeys
  cases ht <;> simp [List.mem_filter]

theorem good_methods {ht : Bool} {n : Node} (hg : Good ht n) (hne : n.handlers ≠ []) :
    n.methods = sortBytes (methodsTable.filter (fun m => decide (m ∈ maskKeys ht n.handlers))) ∧
    (∀ m, m ∈ n.methods ↔ (m ∈ n.handlers.keys ∧ m ≠ mNotAllowed) ∨ (ht = true ∧ m = mTRACE)) := by
  have hshape : KeyShape ht n.handlers := hg.1.2.resolve_left hne
  have hmi : n.methodIndex = ((maskKeys ht n.handlers).map methodBit).sum := by
    rw [hg.1.1]; exact nodeMethodIndex_eq_mask ht _ hne
  unfold Node.methods
  rw [hmi]
  refine ⟨renderMethods_sum _ (maskKeys_nodup hshape) (maskKeys_subset hshape), ?_⟩
  intro m
  rw [mem_renderMethods_sum _ (maskKeys_nodup hshape) (maskKeys_subset hshape), mem_maskKeys]

theorem keys_registered {ht : Bool} {n : Node} (h : KeyShape ht n.handlers) (m : Bytes) :
    (m ∈ n.handlers.keys ∧ m ≠ mNotAllowed) ↔
      m ∈ n.registered ∨ (m = mHEAD ∧ mGET ∈ n.registered) ∨ m = mOPTIONS := by
  obtain ⟨c1, c2, c3, c4, c5, c6, c7, c8, c9, c10⟩ := method_consts_ne
  have hget : mGET ∈ n.registered ↔ mGET ∈ n.handlers.keys := by
    unfold Node.registered
    simp [List.mem_filter, c1, c2, c3]
  unfold Node.registered at *
  simp only [List.mem_filter, decide_eq_true_eq] at *
  constructor
  · rintro ⟨hk, hna⟩
    by_cases hh : m = mHEAD
    · subst hh; exact .inr (.inl ⟨rfl, hget.2 (h.head_iff.1 hk)⟩)
    · by_cases ho : m = mOPTIONS
      · exact .inr (.inr ho)
      · exact .inl ⟨hk, by simp [hh, ho, hna]⟩
  · rintro (⟨hk, hx⟩ | ⟨rfl, hg⟩ | rfl)
    · exact ⟨hk, hx.2.2⟩
    · exact ⟨h.head_iff.2 (hget.1 hg), c6⟩
    · exact ⟨h.options, c8⟩

theorem routesL_eq (cs : List Node) :
    routesL cs = ((nodesL cs).filter (fun n => decide (n.methodIndex > 0))).map (fun n => (n.pattern, n.methods)) := by
  induction cs using Node.rec_1 (motive_1 := fun n => n.routes =
    (n.nodes.filter (fun n => decide (n.methodIndex > 0))).map (fun n => (n.pattern, n.methods))) with
  | mk s p mi hs idx cs ih =>
    simp only [Node.routes, Node.nodes, List.filter_cons, Node.methodIndex_mk, ih]
    by_cases hmi : mi > 0 <;> simp [hmi, Node.methods]
  | nil => simp [routesL, nodesL]
  | cons c cs ih1 ih2 => simp [routesL, nodesL, ih1, ih2]

theorem le_sum_of_mem {l : List Nat} {x : Nat} (h : x ∈ l) : x ≤ l.sum := by
  induction l with
  | nil => simp at h
  | cons y ys ih =>
    rcases List.mem_cons.1 h with rfl | h
    · simp
    · have := ih h
      simp only [List.sum_cons]; omega

theorem good_mi_pos {ht : Bool} {n : Node} (hg : Good ht n) : n.methodIndex > 0 ↔ n.handlers ≠ [] := by
  constructor
  · intro h h0
    rw [hg.1.1, h0] at h
    simp [nodeMethodIndex] at h
  · intro hne
    have h0 := hg.1.2.resolve_left hne
    rw [hg.1.1, nodeMethodIndex_eq_mask ht _ hne]
    have hmem : mOPTIONS ∈ maskKeys ht n.handlers :=
      mem_maskKeys.2 (.inl ⟨h0.options, method_consts_ne.2.2.2.2.2.2.2.1⟩)
    have hle : methodBit mOPTIONS ≤ ((maskKeys ht n.handlers).map methodBit).sum :=
      le_sum_of_mem (List.mem_map_of_mem hmem)
    have : methodBit mOPTIONS = 256 := methodBit_table.2.2.2.2.2.2.2.2
    omega

/-- `Routes()` below the `*` entry: the pairs `(pattern, methods)` of the nodes that have handlers. -/
theorem TreeInv.mem_routesL {t : Tree} (hinv : TreeInv t) (x : Bytes × List Bytes) :
    x ∈ routesL t.root.children ↔ ∃ n ∈ nodesL t.root.children, n.handlers ≠ [] ∧ x = (n.pattern, n.methods) := by
  rw [routesL_eq, List.mem_map]
  constructor
  · rintro ⟨n, hn, rfl⟩
    obtain ⟨hn, hmi⟩ := List.mem_filter.1 hn
    exact ⟨n, hn, (good_mi_pos (hinv.good hn)).1 (by simpa using hmi), rfl⟩
  · rintro ⟨n, hn, hne, rfl⟩
    exact ⟨n, List.mem_filter.2 ⟨hn, by simpa using (good_mi_pos (hinv.good hn)).2 hne⟩, rfl⟩

theorem TreeInv.mem_routes {t : Tree} (hinv : TreeInv t) (x : Bytes × List Bytes) :
    x ∈ t.routes ↔ x = ([42], mOPTIONS :: (if t.hasTrace then [mTRACE] else [])) ∨
      ∃ n ∈ nodesL t.root.children, n.handlers ≠ [] ∧ x = (n.pattern, n.methods) := by
  unfold Tree.routes
  rw [List.mem_cons, hinv.mem_routesL]

theorem Good.registered_iff {ht : Bool} {n : Node} (hg : Good ht n) (hne : n.handlers ≠ []) (m : Bytes) :
    m ∈ n.registered ↔ m ∈ n.methods ∧ m ≠ mHEAD ∧ m ≠ mOPTIONS ∧ ¬ (ht = true ∧ m = mTRACE) := by
  have hs : KeyShape ht n.handlers := hg.1.2.resolve_left hne
  unfold Node.registered
  rw [List.mem_filter, (good_methods hg hne).2 m]
  simp only [ne_eq, decide_eq_true_eq]
  constructor
  · rintro ⟨hk, hr⟩
    refine ⟨.inl ⟨hk, hr.2.2⟩, hr.1, hr.2.1, fun ⟨htr, hm⟩ => ?_⟩
    exact (hs.adm m hk).elim hr.2.2 fun h => h.2 htr hm
  · rintro ⟨h | h, h1, h2, h3⟩
    · exact ⟨h.1, h1, h2, h.2⟩
    · exact absurd h h3

end Mux
