/-
  Mux.Proofs.AutoServe — the keyed invariant `TreeAuto` (`AutoQ` of every node, kept by every history) and from it to
  calls and responses: the record `runCall` leaves for the automatic OPTIONS and 405 handlers, and which entry of the
  matched node a call's handler is (OPTIONS / `""`: `call_auto`); a HEAD request against the GET request for the same path: what `Tree.handler`, `Router.serveContext` and `runCall` do
  with the two (the `head` part of `TreeAuto` says that the HEAD entry is the HEAD copy of the GET entry, `HeadOf`).
-/
import Mux.Proofs.TreeReach
import Mux.Proofs.Head
import Mux.Proofs.Recover
import Mux.Proofs.Onion
namespace Mux

/-- A middleware application without the `method` argument the factory was called with. -/
def Wrap.site (w : Wrap) : Nat × Bytes × Bytes := (w.mw, w.pattern, w.router)

/-- `hh` is "the HEAD copy" of `hg`: same underlying handler, and the same middlewares applied in the same
order with the same pattern and router name (the factories are called with method HEAD instead of GET). -/
def HeadOf (hg hh : Handler) : Prop :=
  hh.base = hg.base ∧ hh.wraps.map Wrap.site = hg.wraps.map Wrap.site

theorem HeadOf.refl (h : Handler) : HeadOf h h := ⟨rfl, rfl⟩

theorem HeadOf.mws {hg hh : Handler} (h : HeadOf hg hh) : hh.wraps.map (·.mw) = hg.wraps.map (·.mw) := by
  have := congrArg (List.map (fun x : Nat × Bytes × Bytes => x.1)) h.2
  simpa [List.map_map, Function.comp_def, Wrap.site] using this

theorem HeadOf.wrap {hg hh : Handler} (h : HeadOf hg hh) (p name : Bytes) (ms : List Nat) :
    HeadOf (wrapWith hg mGET p name ms) (wrapWith hh mHEAD p name ms) := by
  refine ⟨h.1, ?_⟩
  simp only [wrapWith, List.map_append, h.2, List.map_map]
  rfl

structure AutoQ (ob nb : Base) (_mi : Nat) (hs : AMap Handler) : Prop where
  options : ∀ h, hs.get? mOPTIONS = some h → h.base = ob
  notAllowed : ∀ h, hs.get? mNotAllowed = some h → h.base = nb
  head : ∀ hg hh, hs.get? mGET = some hg → hs.get? mHEAD = some hh → HeadOf hg hh

variable {ob nb : Base}

theorem AutoQ_empty (ob nb : Base) : AutoQ ob nb 0 [] := by
  constructor <;> intros <;> contradiction

/-- Every clause says "if an entry is present then …": a map all of whose entries are entries of `hs` inherits `AutoQ`
from `hs`, whatever the method index. -/
theorem AutoQ.anti {hs hs' : AMap Handler} {mi mi' : Nat} (h : AutoQ ob nb mi hs)
    (hsub : ∀ k v, hs'.get? k = some v → hs.get? k = some v) : AutoQ ob nb mi' hs' :=
  ⟨fun x hx => h.options x (hsub _ _ hx), fun x hx => h.notAllowed x (hsub _ _ hx),
   fun a b ha hb => h.head a b (hsub _ _ ha) (hsub _ _ hb)⟩

theorem AutoQ_mi (mi mi' : Nat) (hs : AMap Handler) (h : AutoQ ob nb mi hs) : AutoQ ob nb mi' hs :=
  h.anti fun _ _ hv => hv

theorem AutoQ_add {t : Tree} {h : Handler} (hob : t.optionsBase = ob) (hnb : t.notAllowedBase = nb)
    {pattern : Bytes} {ms : List Nat} {methods : List Bytes} {n n' : Node}
    (hq : AutoQ ob nb n.methodIndex n.handlers) (he : t.addMethodsNode h pattern ms methods n = .ok n') :
    AutoQ ob nb n'.methodIndex n'.handlers := by
  obtain ⟨hO, hN⟩ := addMethodsNode_get_auto he
  refine ⟨fun x hx => ?_, fun x hx => ?_, fun a b ha hb => ?_⟩
  · -- OPTIONS is never written by the loop: the entry is the old one or the automatic one
    cases hO.symm.trans hx
    cases hg : n.handlers.get? mOPTIONS with
    | none => exact hob
    | some y => exact hq.options y hg
  · cases hN.symm.trans hx
    cases hg : n.handlers.get? mNotAllowed with
    | none => exact hnb
    | some y => exact hq.notAllowed y hg
  · rcases addMethodsNode_get_head he with ⟨hg, hh⟩ | ⟨hg, hh⟩
    · cases hg.symm.trans ha
      cases hh.symm.trans hb
      exact (HeadOf.refl h).wrap pattern t.name ms
    · exact hq.head a b (hg ▸ ha) (hh ▸ hb)

theorem AutoQ_remove (ht : Bool) (methods : List Bytes) {n : Node} (hq : AutoQ ob nb n.methodIndex n.handlers) :
    AutoQ ob nb (removeMethods ht methods n).methodIndex (removeMethods ht methods n).handlers :=
  hq.anti fun _ _ h => (removeMethods_get h).1

theorem AutoQ_applyMw (router : Bytes) (ms : List Nat) (mi : Nat) (hs : AMap Handler) (p : Bytes)
    (h : AutoQ ob nb mi hs) : AutoQ ob nb mi (hs.map (fun e => (e.1, wrapWith e.2 e.1 p router ms))) := by
  have hget : ∀ k x, AMap.get? (hs.map (fun e => (e.1, wrapWith e.2 e.1 p router ms))) k = some x →
      ∃ x0, hs.get? k = some x0 ∧ x = wrapWith x0 k p router ms := by
    intro k x hx
    rw [AMap.get?_mapVals hs (fun k v => wrapWith v k p router ms), Option.map_eq_some_iff] at hx
    obtain ⟨x0, hx0, rfl⟩ := hx
    exact ⟨x0, hx0, rfl⟩
  refine ⟨fun x hx => ?_, fun x hx => ?_, fun a b ha hb => ?_⟩
  · obtain ⟨x0, hx0, rfl⟩ := hget _ x hx
    exact h.options x0 hx0
  · obtain ⟨x0, hx0, rfl⟩ := hget _ x hx
    exact h.notAllowed x0 hx0
  · obtain ⟨a0, ha0, rfl⟩ := hget _ a ha
    obtain ⟨b0, hb0, rfl⟩ := hget _ b hb
    exact (h.head a0 b0 ha0 hb0).wrap p router ms

structure TreeAuto (t : Tree) : Prop where
  nodes : Node.All (NodeOk (AutoQ t.optionsBase t.notAllowedBase)) t.root

theorem auto_new (name : Bytes) (ic : Interceptors) (nf : Handler) (tr : Option Handler) (ob nb : Base) :
    TreeAuto (Tree.new name ic nf tr ob nb) := by
  obtain ⟨_, c2, c3, _, _, _, _, c8, _⟩ := method_consts_ne
  have h : AutoQ ob nb 0 [(mOPTIONS, { base := ob }), (mNotAllowed, { base := nb })] := by
    refine ⟨fun x hx => ?_, fun x hx => ?_, fun a b ha _ => ?_⟩
    · simp only [AMap.get?_cons, if_true, Option.some.injEq] at hx
      rw [← hx]
    · simp only [AMap.get?_cons, c8, if_false, if_true, Option.some.injEq] at hx
      rw [← hx]
    · simp [AMap.get?_cons, c2.symm, c3.symm] at ha
  exact ⟨⟨⟨AutoQ_mi _ _ _ h, nofun⟩, trivial⟩⟩

theorem auto_step {t : Tree} (hv : TreeAuto t) (op : TOp) : TreeAuto (t.step op) := by
  have hop : op.Keeps t (AutoQ t.optionsBase t.notAllowedBase) := by
    cases op with
    | add p h ms methods => exact fun _ _ => AutoQ_add rfl rfl
    | remove p methods => exact fun _ => AutoQ_remove t.hasTrace methods
    | clean pre => trivial
    | use ms => exact AutoQ_applyMw t.name ms
  have hcfg := sameCfg_step t op
  refine ⟨?_⟩
  rw [hcfg.2.2.2.1, hcfg.2.2.2.2]
  exact step_All AutoQ_mi (AutoQ_empty _ _) hop hv.nodes

theorem auto_run {t : Tree} (hv : TreeAuto t) (ops : List TOp) : TreeAuto (t.run ops) :=
  Tree.run_inv (I := TreeAuto) (fun _ op _ h => auto_step h op) hv

theorem Tree.Reach.auto {t : Tree} (h : t.Reach) : TreeAuto t := by
  obtain ⟨name, ic, nf, tr, ob, nb, ops, rfl⟩ := h
  exact auto_run (auto_new name ic nf tr ob nb) ops

theorem TreeAuto.get {t : Tree} (hv : TreeAuto t) {n : Node} (hn : n ∈ t.root.nodes) :
    AutoQ t.optionsBase t.notAllowedBase n.methodIndex n.handlers :=
  (((All_iff_nodes _).1 _).1 hv.nodes n hn).1

/-- The outcome of a call on the plain writer whose handler has the base `b`, when `b` has a script `acts` of its own
(every base but a user's handler and the nil handlers): a normal outcome is the record `acts` leaves, and the outcome is
normal unless a middleware around the handler or the base itself is configured to panic. -/
theorem outcome_base {pc : PanicCfg} {scripts : Scripts} {c : Call} {b : Base} {acts : List Act} {out : Outcome}
    (hb : c.handler.base = b) (hs : Handler.script scripts { base := b } c.allow = some acts) (hw : c.headWrap = false)
    (hout : out = withRecover c.recover c.respHeaders (runCall pc scripts c) c.recActs c.headWrap) :
    (∀ rec, out = .normal rec → rec = runGet acts c.rec0) ∧
    (mwPanic pc c.handler = none → basePanic pc b = none → ∃ rec, out = .normal rec) := by
  have hs' : c.handler.script scripts c.allow = some acts := by rw [← hs, Handler.script, Handler.script, hb]
  subst hout hb
  refine ⟨fun rec h => ?_, fun hmw hbp => ⟨_, withRecover_normal.2 (runCall_ok_iff.2 ⟨hmw, hbp, acts, hs', rfl⟩)⟩⟩
  obtain ⟨_, _, acts', hacts, rfl⟩ := runCall_ok_iff.1 (withRecover_normal.1 h)
  cases hs'.symm.trans hacts
  rw [hw]
  rfl

/-- The call made for a request, on a tree with the invariants: with a node reported,
an OPTIONS request is answered by that node's OPTIONS entry, which is the automatic OPTIONS handler; and a call with
`ok = false` is the node's `""` entry, which is the automatic 405 handler. -/
theorem call_auto {r : Router} (hinv : TreeInv r.tree) (ha : TreeAuto r.tree) (env : Env) (req : Req) (ps : Params)
    {c : Call} {n : Node} (hc : r.serveContext env req ps = .call c) (hn : c.node = some n) :
    n ∈ r.tree.root.nodes ∧ n.handlers ≠ [] ∧
    (req.method = mOPTIONS → c.ok = true ∧ n.handlers.get? mOPTIONS = some c.handler ∧
      c.handler.base = r.tree.optionsBase ∧ c.headWrap = false) ∧
    (c.ok = false → n.handlers.get? mNotAllowed = some c.handler ∧
      c.handler.base = r.tree.notAllowedBase ∧ c.headWrap = false) := by
  obtain ⟨_, _, _, _, c5, _, _, c8, c9, _⟩ := method_consts_ne
  obtain ⟨f, _, hspec, rfl⟩ := Router.serve_spec hinv hc
  change f.node = some n at hn
  simp only [Router.callOf]
  cases hspec with
  | notFound h1 h2 h3 => rw [h1] at hn; cases hn
  | trace h ht hm hnode hh hok =>
    rw [hnode] at hn; cases hn
    refine ⟨by rw [Node.nodes_eq]; exact List.mem_cons_self, hinv.root_handlers_ne, fun hm' => ?_, fun hk => ?_⟩
    · rw [hm] at hm'; exact absurd hm'.symm c9
    · rw [hok] at hk; cases hk
  | found m hnode hm hne hmeth hg hok =>
    rw [hnode] at hn; cases hn
    refine ⟨hm, hne, fun hmO => ?_, fun hk => ?_⟩
    · rw [hmO] at hg ⊢
      exact ⟨hok, hg, (ha.get hm).options _ hg, by simp [c5.symm]⟩
    · rw [hok] at hk; cases hk
  | notAllowed m hnode hm hne hmeth hg hok =>
    rw [hnode] at hn; cases hn
    refine ⟨hm, hne, fun hmO => ?_, fun _ => ⟨hg, (ha.get hm).notAllowed _ hg, by simp [hok]⟩⟩
    rw [hmO] at hmeth
    rcases hmeth with hmeth | hmeth
    · exact absurd hmeth c8
    · have := (hinv.has_entries hm hne).2
      rw [← AMap.get?_isSome_iff, hmeth] at this
      cases this

theorem head_get {t : Tree} (hinv : TreeInv t) {n : Node} (hn : n ∈ t.root.nodes) :
    (mHEAD ∈ n.handlers.keys ↔ mGET ∈ n.handlers.keys) ∧
    (∀ hg hh, n.handlers.get? mGET = some hg → n.handlers.get? mHEAD = some hh → hh.base = hg.base) := by
  rcases hinv.keyShape_all hn with h0 | h0
  · rw [h0]; simp [AMap.keys, AMap.get?]
  · exact ⟨h0.head_iff, h0.headBase⟩

theorem head_isSome_get {t : Tree} (hinv : TreeInv t) {n : Node} (hn : n ∈ t.root.nodes) :
    (n.handlers.get? mHEAD).isSome = (n.handlers.get? mGET).isSome := by
  have := (head_get hinv hn).1
  rw [← AMap.get?_isSome_iff, ← AMap.get?_isSome_iff] at this
  exact Bool.eq_iff_iff.2 this

/-- What `Tree.Handler` finds for HEAD, given what it finds for GET on the same path with the same incoming
parameters: the same node, the same verdict, the same parameters; when GET is registered on the node the HEAD entry of
that node, which is the HEAD copy of the GET entry; otherwise the very same 404/405 handler. -/
theorem handler_head_get {t : Tree} (hinv : TreeInv t) (ha : TreeAuto t) (env : Env) (path : Bytes) (ps : Params)
    {fg : Found} (hg : t.handler env path ps mGET = .res fg) :
    ∃ vh, t.handler env path ps mHEAD = .res { fg with handler := vh } ∧ HeadOf fg.handler vh ∧
      (fg.ok = true → ∃ n ∈ t.root.nodes, fg.node = some n ∧ n.handlers.get? mGET = some fg.handler ∧
        n.handlers.get? mHEAD = some vh) ∧
      (fg.ok = false → vh = fg.handler) := by
  obtain ⟨_, _, c3, c4, _, c6, c7, _⟩ := method_consts_ne
  rw [Tree.handler_noTrace (.inr c4), handlerNoTrace_eq] at hg
  rw [Tree.handler_noTrace (.inr c7), handlerNoTrace_eq]
  have hm := hinv.matched_ok env path ps
  generalize t.matched env path ps = r at hm hg
  cases r with
  | fault s => exact absurd rfl (hm.1 s)
  | unsupported => cases hg
  | miss ps' => cases hg; exact ⟨_, rfl, HeadOf.refl _, nofun, fun _ => rfl⟩
  | hit n ps' =>
    have hm := hm.2 n ps' rfl
    simp only [Tree.answer] at hg ⊢
    by_cases h0 : n.handlers = []
    · rw [if_pos h0] at hg ⊢
      cases hg
      exact ⟨_, rfl, HeadOf.refl _, nofun, fun _ => rfl⟩
    · rw [if_neg h0] at hg ⊢
      have hsome := head_isSome_get hinv hm
      cases hgg : n.handlers.get? mGET with
      | some vg =>
        obtain ⟨vh, hgh⟩ := Option.isSome_iff_exists.1 (hsome.trans (by rw [hgg]; rfl))
        rw [Node.answer_of_get ps' c3 hgg] at hg
        rw [Node.answer_of_get ps' c6 hgh]
        cases hg
        exact ⟨vh, rfl, (ha.get hm).head vg vh hgg hgh, fun _ => ⟨n, hm, rfl, hgg, hgh⟩, nofun⟩
      | none =>
        -- neither is registered: both requests fall through to the node's 405 entry
        have hgh : n.handlers.get? mHEAD = none := Option.not_isSome_iff_eq_none.1 (by rw [hsome, hgg]; exact Bool.false_ne_true)
        rw [Node.answer_of_none ps' (.inr hgg)] at hg
        rw [Node.answer_of_none ps' (.inr hgh)]
        cases hg
        exact ⟨_, rfl, HeadOf.refl _, nofun, fun _ => rfl⟩

/-- `Cors.handle` looks at the method only to recognise a preflight (OPTIONS). -/
theorem cors_handle_method (c : Cors) (ms : List Bytes) (allow : Bytes) (wh : Hdr) (path : Bytes) (hs : Hdr)
    {m m' : Bytes} (hm : m ≠ mOPTIONS) (hm' : m' ≠ mOPTIONS) :
    c.handle ms allow wh m path hs = c.handle ms allow wh m' path hs := by
  have h : ∀ m, m ≠ mOPTIONS → c.preflightPart ms allow wh m path hs = (wh, true) :=
    fun m hm => if_neg fun h => hm h.1
  unfold Cors.handle
  rw [h m hm, h m' hm']

theorem serve_head_get {r : Router} (hinv : TreeInv r.tree) (ha : TreeAuto r.tree) (env : Env) (req : Req)
    (ps : Params) (hg : req.method = mGET) {cg : Call} (hcg : r.serveContext env req ps = .call cg) :
    ∃ ch, r.serveContext env { req with method := mHEAD } ps = .call ch ∧
      ch.node = cg.node ∧ ch.ok = cg.ok ∧ ch.params = cg.params ∧ ch.respHeaders = cg.respHeaders ∧
      ch.routerName = cg.routerName ∧ ch.path = cg.path ∧ ch.recover = cg.recover ∧ ch.recActs = cg.recActs ∧
      ch.headWrap = cg.ok ∧ cg.headWrap = false ∧
      HeadOf cg.handler ch.handler ∧
      (cg.ok = true → ∃ n ∈ r.tree.root.nodes, cg.node = some n ∧ n.handlers.get? mGET = some cg.handler ∧
        n.handlers.get? mHEAD = some ch.handler) ∧
      (cg.ok = false → ch = cg) := by
  obtain ⟨c1, c2, _, _, c5, _⟩ := method_consts_ne
  obtain ⟨fg, hfg, rfl⟩ := Router.serveContext_call_iff.1 hcg
  rw [hg] at hfg
  obtain ⟨vh, hfh, e4, e5, e6⟩ := handler_head_get hinv ha env req.path ps hfg
  refine ⟨_, Router.serveContext_res hfh, rfl, rfl, rfl, ?_, rfl, rfl, rfl, rfl, by simp [Router.callOf],
    by simp [Router.callOf, hg, c1], e4, e5, fun hok => ?_⟩
  · show (r.callOf { req with method := mHEAD } { fg with handler := vh }).respHeaders = (r.callOf req fg).respHeaders
    simp only [Router.callOf, hg]
    cases fg.ok with
    | false => rfl
    | true =>
      cases fg.node with
      | none => rfl
      | some n => exact cors_handle_method r.cors n.methods n.allow [] req.path req.headers c5 c2
  · have hok' : fg.ok = false := hok
    simp [Router.callOf, e6 hok', hok', hg]

theorem mwPanic_congr (pc : PanicCfg) {h h' : Handler} (e : h'.wraps.map (·.mw) = h.wraps.map (·.mw)) :
    mwPanic pc h' = mwPanic pc h := by
  have key : ∀ ws : List Wrap, ws.reverse.filterMap (fun w => lookupNat pc.mws w.mw) =
      (ws.map (·.mw)).reverse.filterMap (lookupNat pc.mws) := by
    intro ws
    rw [← List.map_reverse, List.filterMap_map]
    rfl
  unfold mwPanic
  rw [key, key, e]

/-- The script run for the HEAD copy of a handler on the same node is the script run for the handler: same
middleware panics (outermost first), same base panic, same write script. -/
theorem callScript_headOf (pc : PanicCfg) (scripts : Scripts) {cg ch : Call} (hh : HeadOf cg.handler ch.handler)
    (hn : ch.node = cg.node) : callScript pc scripts ch = callScript pc scripts cg := by
  unfold callScript
  rw [mwPanic_congr pc hh.mws, hh.1]
  have : ch.handler.script scripts ch.allow = cg.handler.script scripts cg.allow := by
    unfold Handler.script Call.allow
    rw [hh.1, hn]
  rw [this]

end Mux
