/-
  Mux.Proofs.UrlMalformed — which byte shapes make `Split` fail, and with which error: evaluation lemmas for
  `splitString`/`splitLoop` on a pattern `a ++ "{" ++ …` with a brace-free literal prefix `a`.
-/
import Mux.Proofs.UrlText
namespace Mux.P28
open Mux Mux.Spec Mux.P9 Mux.P13

/-- The first piece cut from literal text after a non-empty piece in progress: up to the next `{`. -/
theorem splitAux_false_head (cur b : Bytes) (hc : cur ≠ []) :
    ∃ tl, splitAux false cur b = (cur ++ b.takeWhile (· ≠ startByte)) :: tl := by
  induction b generalizing cur with
  | nil => exact ⟨[], by simp [splitAux]⟩
  | cons c b ih =>
    by_cases h : c = startByte
    · subst h
      exact ⟨splitAux true [startByte] b, by simp [splitAux, hc]⟩
    · obtain ⟨tl, htl⟩ := ih (cur ++ [c]) (by simp)
      exact ⟨tl, by simp [splitAux, h, htl]⟩

theorem splitString_lit_brace (a x : Bytes) (ha : NoBrace a) :
    splitString (a ++ startByte :: x) = emit a (splitAux true [startByte] x) := by
  unfold splitString
  rw [splitAux_append_noStart [] a _ ha.1]
  simp [splitAux, emit]

theorem splitAux_tok_head (body b : Bytes) (hb : endByte ∉ body) :
    ∃ tl, splitAux true [startByte] (body ++ endByte :: b) = tok body (b.takeWhile (· ≠ startByte)) :: tl := by
  rw [splitAux_true_body _ _ _ hb]
  obtain ⟨tl, htl⟩ := splitAux_false_head ([startByte] ++ body ++ [endByte]) b (by simp)
  exact ⟨tl, by rw [htl]; simp [tok]⟩

/-- A token followed by text `w` without `{` and then another `{`: the piece `{body}w` is cut off, and cutting goes on
at that `{`. -/
theorem splitAux_tok_brace (body w x : Bytes) (hb : endByte ∉ body) (hw : startByte ∉ w) :
    splitAux true [startByte] (body ++ endByte :: (w ++ startByte :: x)) =
      tok body w :: splitAux true [startByte] x := by
  rw [splitAux_true_body _ _ _ hb, splitAux_append_noStart _ _ _ hw]
  simp only [splitAux, if_true]
  rw [if_neg (by simp)]
  simp [tok]

theorem split_lit_brace_err {ic : Interceptors} (a x : Bytes) (ha : NoBrace a) (hlen : a.length ≤ maxInt16) {e : Err}
    (h : splitLoop ic (splitAux true [startByte] x) false [] = .error e) :
    split ic (a ++ startByte :: x) = .error e := by
  unfold split
  rw [if_neg (by simp), splitString_lit_brace a x ha]
  unfold emit
  split
  · exact h
  · rename_i hne
    have hlast : decide (lastByte a = endByte) = false := decide_eq_false (ha.last_ne hne)
    exact splitLoop_cons_error hne (by simp) (newSegment_noStart ic ha.1 hlen) (.inl rfl) (by rwa [hlast])

theorem takeWhile_append_of_not_mem {b : UInt8} {x : Bytes} (y : Bytes) (h : b ∉ x) :
    (x ++ y).takeWhile (· ≠ b) = x ++ y.takeWhile (· ≠ b) :=
  List.takeWhile_append_of_pos fun _ ha => decide_eq_true fun e => h (e ▸ ha)

theorem takeWhile_of_not_mem {b : UInt8} {x : Bytes} (h : b ∉ x) : x.takeWhile (· ≠ b) = x := by
  simpa using takeWhile_append_of_not_mem [] h

theorem takeWhile_append_sep {b : UInt8} {x : Bytes} (r : Bytes) (h : b ∉ x) : (x ++ b :: r).takeWhile (· ≠ b) = x := by
  simpa using takeWhile_append_of_not_mem (b :: r) h

/-- **First token bad.**  If `NewSegment` rejects the first token piece `{body}w` (`w`: the text after it up to the
next `{`), `Split` fails with that error. -/
theorem split_first_tok_err {ic : Interceptors} (a body b : Bytes) (ha : NoBrace a) (hlen : a.length ≤ maxInt16)
    (hb : endByte ∉ body) {e : Err}
    (h : newSegment ic (tok body (b.takeWhile (· ≠ startByte))) = .error e) :
    split ic (a ++ tok body b) = .error e := by
  have : a ++ tok body b = a ++ startByte :: (body ++ endByte :: b) := by simp [tok]
  rw [this]
  apply split_lit_brace_err a _ ha hlen
  obtain ⟨tl, htl⟩ := splitAux_tok_head body b hb
  rw [htl]
  rw [splitLoop_cons ic tl _ _ (by simp [tok]), if_neg (by simp), h]
  rfl

/-- `{}…`: empty name. -/
theorem newSegment_empty_name (ic : Interceptors) (w : Bytes) (hl : (tok [] w).length ≤ maxInt16) :
    newSegment ic (tok [] w) = .error .syntax := by
  rw [newSegment_tok_of_len (by simp) hl]
  exact if_pos (.inl rfl)

/-- `{:rule}…`: no name before the `:`. -/
theorem newSegment_colon_first (ic : Interceptors) (rule w : Bytes) (hr : endByte ∉ rule)
    (hl : (tok (separatorByte :: rule) w).length ≤ maxInt16) :
    newSegment ic (tok (separatorByte :: rule) w) = .error .syntax := by
  rw [newSegment_tok_of_len (by simp only [List.mem_cons, not_or]; exact ⟨by decide, hr⟩) hl]
  exact if_pos (.inr rfl)

theorem bodyRule_append_sep {name : Bytes} (rule : Bytes) (hns : separatorByte ∉ name) :
    bodyRule (name ++ separatorByte :: rule) = rule := by
  unfold bodyRule
  rw [indexByte_append_of_not_mem hns]
  simp [indexByte]

/-- `{name:rule}…` with a rule that is no interceptor and does not compile, ASCII text after the token. -/
theorem newSegment_bad_rule (ic : Interceptors) (name rule w : Bytes) (hn : name ≠ []) (hns : separatorByte ∉ name)
    (hne : endByte ∉ name) (hr : endByte ∉ rule) (hrn : rule ≠ []) (hic : ic.find rule = none)
    (hbad : parseRule rule = .bad) (hasc : isAscii w = true)
    (hl : (tok (name ++ separatorByte :: rule) w).length ≤ maxInt16) :
    newSegment ic (tok (name ++ separatorByte :: rule) w) = .error .regexp := by
  have hb : endByte ∉ name ++ separatorByte :: rule := by
    simp only [List.mem_append, List.mem_cons, not_or]
    exact ⟨hne, by decide, hr⟩
  have hh : ¬ (name ++ separatorByte :: rule = [] ∨ (name ++ separatorByte :: rule).head? = some separatorByte) := by
    cases name with
    | nil => exact absurd rfl hn
    | cons c r => simp only [List.mem_cons, not_or] at hns; simpa using fun e => hns.1 e.symm
  rw [newSegment_tok_of_len hb hl]
  unfold tokSeg ruledSeg
  rw [if_neg hh, bodyRule_append_sep rule hns, if_neg hrn, hic]
  simp [hasc, compileRule, hbad]

/-- **Adjacent parameters**: a token that `NewSegment` accepts, directly followed by `{`. -/
theorem split_adjacent {ic : Interceptors} (a body b : Bytes) (ha : NoBrace a) (hlen : a.length ≤ maxInt16)
    (hb : endByte ∉ body) {s : Seg} (hs : newSegment ic (tok body []) = .ok s) :
    split ic (a ++ tok body [] ++ startByte :: b) = .error .adjacent := by
  have : a ++ tok body [] ++ startByte :: b = a ++ startByte :: (body ++ endByte :: ([] ++ startByte :: b)) := by
    simp [tok]
  rw [this]
  apply split_lit_brace_err a _ ha hlen
  obtain ⟨_, tl, htl, ⟨w, rfl⟩, _⟩ := splitAux_first true [startByte] b
  rw [splitAux_tok_brace body [] b hb List.not_mem_nil, htl, List.singleton_append]
  refine splitLoop_cons_error (by simp [tok]) (by simp) hs (.inr (by simp)) ?_
  rw [lastByte_tok_nil, splitLoop_cons ic tl _ _ (List.cons_ne_nil _ _)]
  exact if_pos ⟨decide_eq_true rfl, rfl⟩

/-- **Repeated name**: two tokens that `NewSegment` accepts, separated by brace-free text, with the same
parameter name (read off the bytes: `Spec.tokName`). -/
theorem split_dup_name {ic : Interceptors} (a body1 suf1 body2 b : Bytes) (ha : NoBrace a) (hlen : a.length ≤ maxInt16)
    (hb1 : endByte ∉ body1) (hs1 : NoBrace suf1) (hne : suf1 ≠ []) (hb2 : endByte ∉ body2) {s1 s2 : Seg}
    (h1 : newSegment ic (tok body1 suf1) = .ok s1)
    (h2 : newSegment ic (tok body2 (b.takeWhile (· ≠ startByte))) = .ok s2)
    (hname : tokName body1 = tokName body2) :
    split ic (a ++ tok body1 suf1 ++ tok body2 b) = .error .dupName := by
  have : a ++ tok body1 suf1 ++ tok body2 b =
      a ++ startByte :: (body1 ++ endByte :: (suf1 ++ startByte :: (body2 ++ endByte :: b))) := by simp [tok]
  rw [this]
  apply split_lit_brace_err a _ ha hlen
  obtain ⟨tl, htl⟩ := splitAux_tok_head body2 b hb2
  rw [splitAux_tok_brace body1 suf1 _ hb1 hs1.1, htl]
  obtain ⟨k1, _, n1, _⟩ := newSegment_tok_fields hb1 h1
  obtain ⟨k2, _, n2, _⟩ := newSegment_tok_fields hb2 h2
  refine splitLoop_cons_error (by simp [tok]) (by simp) h1 (.inr (by simp)) ?_
  rw [decide_eq_false (lastByte_tok_ne body1 hs1.2 hne), usedBelow, if_neg k1,
    splitLoop_cons ic tl _ _ (by simp [tok]), if_neg (by simp), h2]
  exact if_pos ⟨k2, by rw [n2, ← tokName_eq, ← hname, tokName_eq, ← n1]; simp⟩

theorem splitLoop_no_end {ic : Interceptors} : ∀ (vs : List Bytes) (names : List Bytes),
    (∀ q ∈ vs, q ≠ [] ∧ endByte ∉ q ∧ q.length ≤ maxInt16) → ∃ segs, splitLoop ic vs false names = .ok segs
  | [], _, _ => ⟨[], rfl⟩
  | q :: vs, names, h => by
    obtain ⟨hne, hend, hlen⟩ := h q List.mem_cons_self
    have hs : newSegment ic q = .ok { value := q } := newSegment_noEnd ic hend hlen
    have hflag : decide (lastByte q = endByte) = false :=
      decide_eq_false fun e => hend (e ▸ lastByte_mem hne)
    obtain ⟨segs, hsegs⟩ := splitLoop_no_end vs names (fun x hx => h x (List.mem_cons_of_mem _ hx))
    exact ⟨{ value := q } :: segs, splitLoop_cons_ok hne (by simp) hs (.inl rfl) (by rwa [hflag])⟩

theorem split_no_end (ic : Interceptors) (p : Bytes) (hne : p ≠ []) (hend : endByte ∉ p) (hlen : p.length ≤ maxInt16) :
    ∃ segs, split ic p = .ok segs := by
  unfold split
  rw [if_neg hne]
  apply splitLoop_no_end
  intro q hq
  have hsub : ∀ x ∈ q, x ∈ p := by
    intro x hx
    rw [← splitString_join p]
    exact List.mem_flatten.2 ⟨q, hq, hx⟩
  refine ⟨splitString_pieces_nonempty p hne q hq, fun h => hend (hsub _ h), ?_⟩
  have hl : q.length ≤ (splitString p).flatten.length := (List.sublist_flatten_of_mem hq).length_le
  rw [splitString_join] at hl
  omega

end Mux.P28
