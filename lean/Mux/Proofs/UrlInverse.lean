/-
  Mux.Proofs.UrlInverse — URL building inverts matching, at the level of chains: building from the
  parameters captured along a chain of re-parsable segments with pairwise distinct names and without a
  `-` parameter reproduces the instantiated chain; the chain from a node to one of its descendants is
  unique when a node is reached by one index path only (`UniqHyp`).
-/
import Mux.Proofs.UrlStrict
import Mux.Proofs.UrlToks
import Mux.Proofs.ReachAll
namespace Mux.P13
open Mux Mux.P9

theorem segOk_suffix_nil_of_endpoint {ic : Interceptors} {s : Seg} (h : SegOk ic s) (he : s.endpoint = true) :
    s.suffix = [] := by
  rcases h.wf with hn | ⟨body, suf, hv, hb, hs⟩
  · rw [h.str_of_noBrace hn.1]
  · have ht := newSegment_tok_ok hb.2 (hv ▸ h.seg)
    rw [(tokSeg_ok ht).2.2.2.2.1]
    -- `endpoint` says that the text ends with `}`; after a non-empty brace-free suffix it does not
    have hlast : lastByte (endByte :: suf) = endByte :=
      of_decide_eq_true (Bool.and_eq_true_iff.1 ((tokSeg_endpoint ht).symm.trans he)).2
    exact Classical.byContradiction fun hne => lastByte_tok_ne body hs.2 hne ((lastByte_tok body suf).trans hlast)

theorem segOk_inst_eq {ic : Interceptors} {s : Seg} (h : SegOk ic s) (hk : s.kind ≠ .str) (v : Bytes) :
    s.inst v = v ++ s.suffix := by
  unfold Seg.inst
  cases hkind : s.kind with
  | str => exact absurd hkind hk
  | rx => rfl
  | named | icpt =>
    simp only []
    split
    · rename_i he; rw [segOk_suffix_nil_of_endpoint h he, List.append_nil]
    · rfl

/-- The hypotheses on a chain of `(segment, captured value)` pairs: every segment re-parses from its
own well-formed text, parameter names are pairwise distinct, no parameter is ignored (`-`). -/
structure ChainOk (ic : Interceptors) (chain : List (Seg × Bytes)) : Prop where
  segOk : ∀ sv ∈ chain, SegOk ic sv.1
  names : (chainNames (chain.map (·.1))).Nodup
  noIgnore : ∀ sv ∈ chain, sv.1.kind ≠ .str → sv.1.ignoreName = false

/-- Every parameter of the chain finds its own captured value: an earlier parameter cannot shadow it,
since the names are distinct. -/
theorem captures_get? {ic : Interceptors} (chain : List (Seg × Bytes)) (hc : ChainOk ic chain) :
    ∀ sv ∈ chain, sv.1.kind ≠ .str → AMap.get? (captures chain) sv.1.name = some sv.2 := by
  intro sv hsv hk
  have hcap : ∀ sv ∈ chain, sv.1.kind ≠ .str → sv.1.kind ≠ .str ∧ ¬ sv.1.ignoreName := fun sv hsv hk =>
    ⟨hk, by rw [hc.noIgnore sv hsv hk]; exact Bool.false_ne_true⟩
  -- no parameter is ignored, so the keys are the names of the chain: distinct, and a lookup is a membership
  have hnd : ((captures chain).map (·.1)).Nodup := by
    rw [captures_keys, List.filter_congr fun sv hsv => decide_eq_decide.2 ⟨And.left, hcap sv hsv⟩]
    have := hc.names
    rwa [chainNames, List.filter_map, List.map_map] at this
  exact (AMap.mem_iff_get? _ _ _ hnd).1 (mem_captures hsv (hcap sv hsv hk))

theorem instChain_eq_flatten (chain : List (Seg × Bytes)) :
    instChain chain = (chain.map fun sv => sv.1.inst sv.2).flatten := by
  induction chain with
  | nil => rfl
  | cons sv chain ih => simp [instChain, ih]

/-- **Building inverts instantiation.** From the parameters captured along the chain, the non-strict loop
over the chain's segments writes exactly the instantiated chain. -/
theorem urlLoop_captures {ic : Interceptors} (chain : List (Seg × Bytes)) (hc : ChainOk ic chain) :
    urlLoop (captures chain) (chain.map (·.1)) = .ok (instChain chain) := by
  rw [urlLoop_ok_iff, instChain_eq_flatten, List.map_map]
  refine ⟨fun s hs hk => ?_, congrArg _ (List.map_congr_left fun sv hsv => ?_)⟩
  · obtain ⟨sv, hsv, rfl⟩ := List.mem_map.1 hs
    rw [captures_get? chain hc sv hsv hk]
    rfl
  · by_cases hk : sv.1.kind = .str
    · simp [Seg.inst, Seg.subst, hk]
    · simp [Seg.subst, hk, captures_get? chain hc sv hsv hk, segOk_inst_eq (hc.segOk sv hsv) hk]

theorem chain_forall {P : Node → Prop} {n m : Node} {segs : List Seg} (hc : Chain n segs m) (h : AllL P n.children) :
    ∀ s ∈ segs, ∃ c, P c ∧ c.seg = s := fun s hs =>
  let ⟨c, hmem, e⟩ := chain_seg_mem hc s hs
  ⟨c, ((All_iff_nodes P).2 _).1 h c hmem, e⟩

/-- What makes chains unique below a node: patterns are parent pattern ++ segment text, and `findPath` is complete
(`Node.Det`), so that a node is reached by one index path only (`Node.Spells.inj`). -/
structure UniqHyp (n : Node) : Prop where
  pat : Node.PatternOk n
  det : Node.All Node.Det n

theorem UniqHyp.child {n c : Node} (h : UniqHyp n) (hc : c ∈ n.children) : UniqHyp c :=
  ⟨(PatternOkL_mem ((Node.patternOk_iff n).1 h.pat) hc).2, AllL_mem h.det.tail hc⟩

theorem nodes_disjoint {n c c' x : Node} (h : UniqHyp n) (hc : c ∈ n.children) (hc' : c' ∈ n.children)
    (hx : x ∈ c.nodes) (hx' : x ∈ c'.nodes) : c = c' := by
  obtain ⟨i, hi⟩ := List.getElem?_of_mem hc
  obtain ⟨j, hj⟩ := List.getElem?_of_mem hc'
  obtain ⟨q, P, hs⟩ := spells_of_mem_nodes hi hx
  obtain ⟨q', P', hs'⟩ := spells_of_mem_nodes hj hx'
  cases (List.cons.inj (hs.inj hs' h.pat h.det rfl).1).1
  exact Option.some.inj (hi.symm.trans hj)

/-- A non-empty chain does not come back to its start. -/
theorem chain_cons_ne {n c : Node} {segs : List Seg} (h : UniqHyp n) (hch : Chain c segs n) : c ∉ n.children := by
  intro hc
  have hcp := PatternOkL_mem ((Node.patternOk_iff n).1 h.pat) hc
  obtain ⟨e, _⟩ := chain_pattern hch hcp.2
  rw [hcp.1, List.append_assoc] at e
  have : c.seg.value ++ (segs.map (·.value)).flatten = [] := by
    have := congrArg List.length e
    simp only [List.length_append] at this
    apply List.eq_nil_of_length_eq_zero
    simp only [List.length_append]
    omega
  exact (h.det.head.2 c hc).1 (List.append_eq_nil_iff.1 this).1

theorem chain_unique {n x : Node} {segs1 segs2 : List Seg} (h1 : Chain n segs1 x) (h2 : Chain n segs2 x)
    (h : UniqHyp n) : segs1 = segs2 := by
  induction h1 generalizing segs2 with
  | nil n =>
    cases h2 with
    | nil => rfl
    | cons hc hch => exact absurd hc (chain_cons_ne h hch)
  | @cons n c m segs hc hch ih =>
    cases h2 with
    | nil => exact absurd hc (chain_cons_ne h hch)
    | @cons _ c' _ segs' hc' hch' =>
      obtain rfl := nodes_disjoint h hc hc' (chain_mem_nodes hch) (chain_mem_nodes hch')
      rw [ih hch' (h.child hc)]

end Mux.P13
