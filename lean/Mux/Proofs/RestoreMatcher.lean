/-
  Matcher expressions and parameters with one entry per key (`keys.Nodup`), by the rules of `Mux/Proofs/Group.lean`.
  "One entry per key" is an invariant of everything that writes parameters: `Tree.handler` (it only writes with `set` and
  `restoreParam`) and with it every `Matcher` (`run_nodup`; `runAnd_nodup` and `runOr_nodup` do not use their hypothesis
  `HostsIdxLit`), so the parameters a `Group` matcher hands to its router satisfy the side condition of
  `C01_group_dispatch_exact`.  On such parameters a rejecting matcher leaves the path and the parameters as they were, for
  EVERY matcher expression (bare `Hosts` and `Or`s of them included), when its `Hosts` tables have `P12.HostsGet` and
  `IdxLit`, as they do after `NewHosts` and any supported history (`run_reject_reach`, for `C13_no_trace_reach`).
-/
import Mux.Proofs.GroupLiftMorph
import Mux.Proofs.MatcherNoFault
import Mux.Proofs.RestoreMatch
namespace Mux.P19
open Mux

theorem handler_params_nodup (env : Env) (t : Tree) (path method : Bytes) (ps : Params)
    (hnd : ps.keys.Nodup) (f : Found) (h : t.handler env path ps method = .res f) : f.params.keys.Nodup := by
  have hR : P18.Closed (fun a _ : Params => a.keys.Nodup) :=
    ⟨fun a _ x v h => AMap.nodup_keys_set a x v h, fun a _ a2 _ x _ h2 => by
      unfold restoreParam
      split
      · exact AMap.nodup_keys_set a2 x _ h2
      · exact AMap.nodup_keys_erase a2 x h2⟩
  have := P18.handler_rel env t hR path method ps ps hnd
  rw [h] at this
  exact this.2.2.2

/-- The parameters a matcher call leaves behind (accepting or rejecting) have one entry per key. -/
def MatchOut.ParamsNodup : MatchOut → Prop
  | .accept _ ps => ps.keys.Nodup
  | .reject _ ps => ps.keys.Nodup
  | _ => True

/-- Every `Hosts` matcher of the table has a tree whose index fast path selects literal children (every matcher made
by `NewHosts` and a history of `Add`/`Delete`/`RegisterInterceptor`: `P17.HostsLateWf.idxLit`). -/
def HostsIdxLit (tab : Nat → Option Hosts) : Prop := ∀ id hs, tab id = some hs → Node.All IdxLit hs.tree.root

theorem paramsNodup_iff (o : MatchOut) :
    MatchOut.ParamsNodup o ↔ o.Post (fun _ ps => ps.keys.Nodup) (fun _ ps => ps.keys.Nodup) (fun _ => True) := by
  cases o <;> exact Iff.rfl

theorem run_nodup (env : Env) (tab : Nat → Option Hosts) (m : Matcher) : ∀ (req : Req) (path : Bytes) (ps : Params), ps.keys.Nodup →
    MatchOut.ParamsNodup (m.run env tab req path ps) := by
  simp only [paramsNodup_iff]
  induction m using Matcher.induction with
  | any => intro _ _ _ hnd; rw [Matcher.run]; exact hnd
  | hosts id =>
    intro req path ps hnd
    rw [Matcher.run]
    cases tab id with
    | none => trivial
    | some hs =>
      have keeps : ∀ (ok : Bool) (p : Bytes) (q : Params), (p = path ∧
          ∃ f, hs.tree.handler env (normHost req.host) ps mGET = .res f ∧ f.ok = ok ∧ q = f.params) → q.keys.Nodup :=
        fun _ _ _ ⟨_, f, hf, _, e⟩ => e ▸ handler_params_nodup env hs.tree _ _ ps hnd f hf
      exact (Hosts.match_post hs req.host path ps).imp (keeps true) (keeps false) (fun _ _ => trivial)
  | pathVersion param vers =>
    intro req path ps hnd
    rw [run_pathVersion]
    split
    · exact hnd
    · exact nodup_ite_set hnd _ _ _
  | headerVersion param key vers =>
    intro req path ps hnd
    rw [run_headerVersion]
    cases hh : headerVersionMatch param key vers req ps with
    | none => exact hnd
    | some ps' =>
      obtain ⟨_, mp, _, _, rfl⟩ := (headerVersionMatch_iff param key vers req ps ps').1 hh
      exact nodup_ite_set hnd _ _ _
  | and ms ih =>
    intro req path ps hnd
    exact run_and_post ((runAnd_post (fun m hm p' ps' h => ih m hm req p' ps' h) hnd).imp (fun _ _ h => h)
      (fun _ _ _ => hnd) (fun _ h => h))
  | or ms ih =>
    intro req path ps hnd
    rw [Matcher.run]
    exact runOr_post (fun m hm p' ps' h => ih m hm req p' ps' h) hnd

theorem runAnd_nodup (env : Env) (tab : Nat → Option Hosts) (htab : HostsIdxLit tab) :
    (ms : List Matcher) → (req : Req) → (path : Bytes) → (ps : Params) → ps.keys.Nodup →
      MatchOut.ParamsNodup (runAnd env tab ms req path ps) :=
  fun _ req _ _ hnd =>
    (paramsNodup_iff _).2 (runAnd_post (fun m _ p ps h => (paramsNodup_iff _).1 (run_nodup env tab m req p ps h)) hnd)

theorem runOr_nodup (env : Env) (tab : Nat → Option Hosts) (htab : HostsIdxLit tab) :
    (ms : List Matcher) → (req : Req) → (path : Bytes) → (ps : Params) → ps.keys.Nodup →
      MatchOut.ParamsNodup (runOr env tab ms req path ps) :=
  fun _ req _ _ hnd =>
    (paramsNodup_iff _).2 (runOr_post (fun m _ p ps h => (paramsNodup_iff _).1 (run_nodup env tab m req p ps h)) hnd)

end Mux.P19

namespace Mux.P24
open Mux Mux.P12 Mux.P19

/-- A rejecting `Hosts.Match` restores exactly the incoming parameters — ANY incoming parameters with one entry per
key (no condition relating them to the names used in the table). -/
theorem Hosts.match_reject_restore (env : Env) {hs : Hosts} (hg : HostsGet hs) (hI : Node.All IdxLit hs.tree.root)
    (host path : Bytes) (ps : Params) (hnd : ps.keys.Nodup) (p : Bytes) (q : Params)
    (h : hs.match env host path ps = .reject p q) : p = path ∧ q = ps :=
  Hosts.match_reject_of_miss env hg (fun _ hm => matchChildren_miss_restore hm hI hnd) h

/-- The `Hosts` table entry `id` exists and is of the kind above. -/
def HostsRestoreOk (tab : Nat → Option Hosts) (id : Nat) : Prop :=
  ∃ hs, tab id = some hs ∧ HostsGet hs ∧ Node.All IdxLit hs.tree.root

/-- The members of an `Or` all run on the state the `Or` was entered with, since each leaves it as it was. -/
theorem run_reject_reach (env : Env) (tab : Nat → Option Hosts) (m : Matcher) :
    AllHosts (HostsRestoreOk tab) m → ∀ (req : Req) (path : Bytes) (ps : Params), ps.keys.Nodup →
      (m.run env tab req path ps).Post (fun _ _ => True) (fun p' ps' => p' = path ∧ ps' = ps) (fun _ => True) := by
  -- what holds of every matcher in which every `Hosts` sits below an `And`
  have guarded : ∀ m : Matcher, m.guarded = true → ∀ (req : Req) (path : Bytes) (ps : Params),
      (m.run env tab req path ps).Post (fun _ _ => True) (fun p' ps' => p' = path ∧ ps' = ps) (fun _ => True) :=
    fun m hg req path ps => (run_reject env tab m req path ps).imp (fun _ _ h => h) (fun _ _ h => ⟨h.1, h.2 hg⟩) (fun _ h => h)
  induction m using Matcher.induction with
  | hosts id =>
    intro hm req path ps hnd
    rw [AllHosts] at hm
    obtain ⟨hs, ht, hg, hI⟩ := hm
    rw [Matcher.run, ht]
    show (hs.match env req.host path ps).Post _ _ _
    cases e : hs.match env req.host path ps with
    | reject p' ps' => exact Hosts.match_reject_restore env hg hI _ _ _ hnd _ _ e
    | _ => trivial
  | or ms ih =>
    intro hm req path ps hnd
    rw [AllHosts, AllHostsL_iff] at hm
    rw [Matcher.run]
    exact runOr_post (I := fun p' ps' => p' = path ∧ ps' = ps)
      (fun m hmem p' ps' hI => by obtain ⟨rfl, rfl⟩ := hI; exact ih m hmem (hm m hmem) req _ _ hnd) ⟨rfl, rfl⟩
  | _ => exact fun _ req path ps _ => guarded _ rfl req path ps

theorem runOr_reject_reach (env : Env) (tab : Nat → Option Hosts) :
    (ms : List Matcher) → AllHostsL (HostsRestoreOk tab) ms → (req : Req) → (path : Bytes) → (ps : Params) →
      ps.keys.Nodup → (p' : Bytes) → (ps' : Params) → runOr env tab ms req path ps = .reject p' ps' →
      p' = path ∧ ps' = ps :=
  fun ms hm req path ps hnd _ _ h =>
    (run_reject_reach env tab (.or ms) hm req path ps hnd).of_reject (by rw [Matcher.run]; exact h)

end Mux.P24
