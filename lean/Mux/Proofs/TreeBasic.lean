/-
  What the tree-wide invariants are built from: a node's own data, node predicates under `Node.All` / `AllL`, index
  paths and what `findPath` returns, and the characterisation of each helper of `getNode` and `addMethods` that an
  invariant is pushed through.
-/
import Mux.Spec.Defs
import Mux.Proofs.Syntax
import Mux.Proofs.Params
namespace Mux

@[simp] theorem Node.seg_mk (s p mi hs idx cs) : (Node.mk s p mi hs idx cs).seg = s := rfl
@[simp] theorem Node.pattern_mk (s p mi hs idx cs) : (Node.mk s p mi hs idx cs).pattern = p := rfl
@[simp] theorem Node.methodIndex_mk (s p mi hs idx cs) : (Node.mk s p mi hs idx cs).methodIndex = mi := rfl
@[simp] theorem Node.handlers_mk (s p mi hs idx cs) : (Node.mk s p mi hs idx cs).handlers = hs := rfl
@[simp] theorem Node.indexes_mk (s p mi hs idx cs) : (Node.mk s p mi hs idx cs).indexes = idx := rfl
@[simp] theorem Node.children_mk (s p mi hs idx cs) : (Node.mk s p mi hs idx cs).children = cs := rfl

@[simp] theorem setChildren_setChildren (n : Node) (a c : List Node) (b d : List (UInt8 × Nat)) :
    (n.setChildren a b).setChildren c d = n.setChildren c d := rfl

@[simp] theorem setChildren_children (n : Node) (a : List Node) (b : List (UInt8 × Nat)) :
    (n.setChildren a b).children = a := rfl

@[simp] theorem setChildren_seg (n : Node) (a : List Node) (b : List (UInt8 × Nat)) :
    (n.setChildren a b).seg = n.seg := rfl

@[simp] theorem setChildren_pattern (n : Node) (a : List Node) (b : List (UInt8 × Nat)) :
    (n.setChildren a b).pattern = n.pattern := rfl

@[simp] theorem setChildren_handlers (n : Node) (a : List Node) (b : List (UInt8 × Nat)) :
    (n.setChildren a b).handlers = n.handlers := rfl

@[simp] theorem setChildren_methodIndex (n : Node) (a : List Node) (b : List (UInt8 × Nat)) :
    (n.setChildren a b).methodIndex = n.methodIndex := rfl

@[simp] theorem setChildren_indexes (n : Node) (a : List Node) (b : List (UInt8 × Nat)) :
    (n.setChildren a b).indexes = b := rfl

@[simp] theorem setSeg_seg (n : Node) (s : Seg) : (n.setSeg s).seg = s := rfl
@[simp] theorem setSeg_children (n : Node) (s : Seg) : (n.setSeg s).children = n.children := rfl
@[simp] theorem setSeg_handlers (n : Node) (s : Seg) : (n.setSeg s).handlers = n.handlers := rfl

theorem Node.eta (n : Node) : n = .mk n.seg n.pattern n.methodIndex n.handlers n.indexes n.children := by
  cases n; rfl

theorem getAtL_eq (cs : List Node) (i : Nat) (p : List Nat) :
    getAtL cs i p = (cs[i]?).bind (fun c => c.getAt p) := by
  induction cs generalizing i with
  | nil => simp [getAtL]
  | cons c cs ih =>
    cases i with
    | zero => simp [getAtL]
    | succ i => simp [getAtL, ih]

theorem Node.getAt_cons (n : Node) (i : Nat) (p : List Nat) :
    n.getAt (i :: p) = (n.children[i]?).bind (fun c => c.getAt p) := by
  cases n; simp [Node.getAt, getAtL_eq]

@[simp] theorem Node.getAt_nil (n : Node) : n.getAt [] = some n := by
  cases n; simp [Node.getAt]

theorem Node.getAt_cons_some {n x : Node} {i : Nat} {p : List Nat} :
    n.getAt (i :: p) = some x ↔ ∃ c, n.children[i]? = some c ∧ c.getAt p = some x := by
  rw [Node.getAt_cons, Option.bind_eq_some_iff]

theorem segsAtL_eq (cs : List Node) (i : Nat) (p : List Nat) :
    segsAtL cs i p = (cs[i]?).bind (fun c => (c.segsAt p).map (c.seg :: ·)) := by
  induction cs generalizing i with
  | nil => simp [segsAtL]
  | cons c cs ih =>
    cases i with
    | zero => simp [segsAtL]
    | succ i => simp [segsAtL, ih]

@[simp] theorem Node.segsAt_nil (n : Node) : n.segsAt [] = some [] := by
  cases n; simp [Node.segsAt]

theorem Node.segsAt_cons (n : Node) (i : Nat) (p : List Nat) :
    n.segsAt (i :: p) = (n.children[i]?).bind (fun c => (c.segsAt p).map (c.seg :: ·)) := by
  cases n; simp [Node.segsAt, segsAtL_eq]

/-- What a node carries itself: everything but the children and their index.  The restructuring of `getNode` and a
replacement of children leave it alone. -/
def Node.own (n : Node) : Seg × Bytes × Nat × AMap Handler := (n.seg, n.pattern, n.methodIndex, n.handlers)

theorem Node.own_eq_iff {a b : Node} : a.own = b.own ↔
    a.seg = b.seg ∧ a.pattern = b.pattern ∧ a.methodIndex = b.methodIndex ∧ a.handlers = b.handlers := by
  simp only [Node.own, Prod.mk.injEq]

/-- `n'` is `n` with another handler map and method index (`addMethodsNode`, `removeMethods`, one node of
`applyMw`). -/
def Node.SameShape (n n' : Node) : Prop :=
  n'.seg = n.seg ∧ n'.pattern = n.pattern ∧ n'.indexes = n.indexes ∧ n'.children = n.children

/-- I-index (range part): every stored position is in range. -/
def IdxOk (n : Node) : Prop := ∀ e ∈ n.indexes, e.2 < n.children.length

/-- A node predicate that only talks about `(methodIndex, handlers)` plus `IdxOk`. -/
def NodeOk (Q : Nat → AMap Handler → Prop) (n : Node) : Prop := Q n.methodIndex n.handlers ∧ IdxOk n

theorem Node.All_iff (P : Node → Prop) (n : Node) : Node.All P n ↔ P n ∧ AllL P n.children := by
  cases n; simp [Node.All]

theorem Node.All.head {P : Node → Prop} {n : Node} (h : Node.All P n) : P n := ((Node.All_iff P n).1 h).1
theorem Node.All.tail {P : Node → Prop} {n : Node} (h : Node.All P n) : AllL P n.children :=
  ((Node.All_iff P n).1 h).2

theorem AllL_iff (P : Node → Prop) (cs : List Node) : AllL P cs ↔ ∀ c ∈ cs, Node.All P c := by
  induction cs with
  | nil => simp [AllL]
  | cons c cs ih => simp [AllL, ih]

theorem AllL_nil (P : Node → Prop) : AllL P [] := by simp [AllL]

theorem AllL_append {P : Node → Prop} {as bs : List Node} :
    AllL P (as ++ bs) ↔ AllL P as ∧ AllL P bs := by
  simp only [AllL_iff, List.mem_append]
  constructor
  · intro h; exact ⟨fun c hc => h c (.inl hc), fun c hc => h c (.inr hc)⟩
  · rintro ⟨h1, h2⟩ c (hc | hc); exact h1 c hc; exact h2 c hc

theorem AllL_perm {P : Node → Prop} {as bs : List Node} (hp : as.Perm bs) : AllL P as ↔ AllL P bs := by
  simp only [AllL_iff]
  constructor
  · intro h c hc; exact h c (hp.mem_iff.2 hc)
  · intro h c hc; exact h c (hp.mem_iff.1 hc)

theorem AllL_set {P : Node → Prop} {cs : List Node} {i : Nat} {c : Node}
    (h : AllL P cs) (hc : Node.All P c) : AllL P (cs.set i c) := by
  rw [AllL_iff] at *
  intro x hx
  rcases List.mem_or_eq_of_mem_set hx with hx | hx
  · exact h x hx
  · exact hx ▸ hc

theorem AllL_getElem? {P : Node → Prop} {cs : List Node} {i : Nat} {c : Node}
    (h : AllL P cs) (hc : cs[i]? = some c) : Node.All P c := by
  rw [AllL_iff] at h
  exact h c (List.mem_of_getElem? hc)

theorem AllL_mem {P : Node → Prop} {cs : List Node} (h : AllL P cs) {c : Node} (hc : c ∈ cs) : Node.All P c :=
  (AllL_iff P cs).1 h c hc

theorem Node.induction {motive : Node → Prop} (step : ∀ n, (∀ c ∈ n.children, motive c) → motive n) (n : Node) :
    motive n :=
  Node.rec (motive_2 := fun cs => ∀ c ∈ cs, motive c) (fun _ _ _ _ _ _ ih => step _ ih) (fun _ hc => nomatch hc)
    (fun _ _ ih1 ih2 => List.forall_mem_cons.2 ⟨ih1, ih2⟩) n

theorem Node.induct {MN : Node → Prop} {ML : List Node → Prop}
    (node : ∀ seg pat mi hs idx cs, ML cs → MN (.mk seg pat mi hs idx cs))
    (nil : ML []) (cons : ∀ c cs, MN c → ML cs → ML (c :: cs)) : (∀ n, MN n) ∧ ∀ cs, ML cs :=
  ⟨fun n => Node.rec (motive_1 := MN) (motive_2 := ML) node nil cons n,
    fun cs => Node.rec_1 (motive_1 := MN) (motive_2 := ML) node nil cons cs⟩

theorem AllL_mono {P R : Node → Prop} (hPR : ∀ n, P n → R n) :
    (∀ n, Node.All P n → Node.All R n) ∧ (∀ cs, AllL P cs → AllL R cs) := by
  have hL : ∀ cs, (∀ c ∈ cs, Node.All P c → Node.All R c) → AllL P cs → AllL R cs := fun cs ih h =>
    (AllL_iff R cs).2 fun c hc => ih c hc ((AllL_iff P cs).1 h c hc)
  have hN : ∀ n, Node.All P n → Node.All R n := fun n => by
    induction n using Node.induction with
    | step n ih => exact fun h => (Node.All_iff R n).2 ⟨hPR n h.head, hL _ ih h.tail⟩
  exact ⟨hN, fun cs => hL cs fun c _ => hN c⟩

theorem AllL_children {P Q : Node → Prop} (hP : ∀ m, P m → ∀ c ∈ m.children, Q c) :
    ∀ n : Node, Node.All P n → AllL Q n.children := by
  intro n
  induction n using Node.induction with
  | step n ih =>
    exact fun h => (AllL_iff _ _).2 fun c hc =>
      (Node.All_iff _ _).2 ⟨hP n h.head c hc, ih c hc (AllL_mem h.tail hc)⟩

theorem getAt_chain : ∀ (p : List Nat) (n x : Node), n.getAt p = some x →
    ∃ segs, n.segsAt p = some segs ∧ Chain n segs x ∧ segs.length = p.length := by
  intro p
  induction p with
  | nil =>
    intro n x h
    simp only [Node.getAt_nil, Option.some.injEq] at h
    subst h
    exact ⟨[], by simp, Chain.nil _, rfl⟩
  | cons i p ih =>
    intro n x h
    obtain ⟨c, hc, h⟩ := Node.getAt_cons_some.1 h
    obtain ⟨segs, h1, h2, h3⟩ := ih c x h
    exact ⟨c.seg :: segs, by simp [Node.segsAt_cons, hc, h1], Chain.cons (List.mem_of_getElem? hc) h2, by simp [h3]⟩

theorem AllL_getAt {P : Node → Prop} :
    ∀ (p : List Nat) (n m : Node), Node.All P n → n.getAt p = some m → Node.All P m := by
  intro p
  induction p with
  | nil => intro n m h hm; simp at hm; exact hm ▸ h
  | cons i p ih =>
    intro n m h hm
    obtain ⟨c, hc, hm⟩ := Node.getAt_cons_some.1 hm
    exact ih c m (AllL_getElem? h.tail hc) hm

theorem All_of_forall {P : Node → Prop} (h : ∀ m, P m) (n : Node) : Node.All P n := by
  induction n using Node.induction with
  | step n ih => exact (Node.All_iff _ _).2 ⟨h n, (AllL_iff _ _).2 ih⟩

theorem AllL_of_forall {P : Node → Prop} (h : ∀ m, P m) (cs : List Node) : AllL P cs :=
  (AllL_iff _ _).2 fun c _ => All_of_forall h c

theorem All_and {P R : Node → Prop} (n : Node) :
    Node.All (fun m => P m ∧ R m) n ↔ Node.All P n ∧ Node.All R n := by
  induction n using Node.induction with
  | step n ih =>
    rw [Node.All_iff, Node.All_iff, Node.All_iff, AllL_iff, AllL_iff, AllL_iff]
    exact ⟨fun h => ⟨⟨h.1.1, fun c hc => ((ih c hc).1 (h.2 c hc)).1⟩, h.1.2, fun c hc => ((ih c hc).1 (h.2 c hc)).2⟩,
      fun h => ⟨⟨h.1.1, h.2.1⟩, fun c hc => (ih c hc).2 ⟨h.1.2 c hc, h.2.2 c hc⟩⟩⟩

theorem AllL_and {P R : Node → Prop} {cs : List Node} :
    AllL (fun m => P m ∧ R m) cs ↔ AllL P cs ∧ AllL R cs := by
  rw [AllL_iff, AllL_iff, AllL_iff]
  exact ⟨fun h => ⟨fun c hc => ((All_and c).1 (h c hc)).1, fun c hc => ((All_and c).1 (h c hc)).2⟩,
    fun h c hc => (All_and c).2 ⟨h.1 c hc, h.2 c hc⟩⟩

/-- The index path `p` leads from `n` through at least one child to `x`, and the texts of the segments on the way make
up `P`. -/
def Node.Spells (n : Node) (p : List Nat) (P : Bytes) (x : Node) : Prop :=
  p ≠ [] ∧ n.getAt p = some x ∧ ∃ segs, n.segsAt p = some segs ∧ (segs.map (·.value)).flatten = P

theorem Node.Spells.here {n c : Node} {i : Nat} (hc : n.children[i]? = some c) : n.Spells [i] c.seg.value c :=
  ⟨List.cons_ne_nil _ _, by simp [Node.getAt_cons, hc], [c.seg], by simp [Node.segsAt_cons, hc], by simp⟩

theorem Node.Spells.below {n c x : Node} {i : Nat} {p : List Nat} {P : Bytes} (hc : n.children[i]? = some c)
    (h : c.Spells p P x) : n.Spells (i :: p) (c.seg.value ++ P) x := by
  obtain ⟨_, hx, segs, hs, rfl⟩ := h
  exact ⟨List.cons_ne_nil _ _, by simp [Node.getAt_cons, hc, hx], c.seg :: segs, by simp [Node.segsAt_cons, hc, hs],
    by simp⟩

theorem Node.Spells.cases {n x : Node} {i : Nat} {p : List Nat} {P : Bytes} (h : n.Spells (i :: p) P x) :
    ∃ c, n.children[i]? = some c ∧
      ((p = [] ∧ x = c ∧ P = c.seg.value) ∨ ∃ P', c.Spells p P' x ∧ P = c.seg.value ++ P') := by
  obtain ⟨_, hx, segs, hs, rfl⟩ := h
  obtain ⟨c, hc, hx⟩ := Node.getAt_cons_some.1 hx
  rw [Node.segsAt_cons, hc, Option.bind_some, Option.map_eq_some_iff] at hs
  obtain ⟨segs', hs', rfl⟩ := hs
  refine ⟨c, hc, ?_⟩
  cases p with
  | nil =>
    simp only [Node.getAt_nil, Option.some.injEq, Node.segsAt_nil] at hx hs'
    subst hx hs'
    exact .inl ⟨rfl, rfl, by simp⟩
  | cons j p => exact .inr ⟨_, ⟨List.cons_ne_nil _ _, hx, segs', hs', rfl⟩, by simp⟩

theorem Node.Spells.chain {n x : Node} {p : List Nat} {P : Bytes} (h : n.Spells p P x) :
    ∃ segs, Chain n segs x ∧ segs ≠ [] ∧ (segs.map (·.value)).flatten = P := by
  obtain ⟨hp, hx, segs, hs, hP⟩ := h
  obtain ⟨segs', hs', hch, hlen⟩ := getAt_chain p n x hx
  cases hs.symm.trans hs'
  exact ⟨segs, hch, fun e => hp (List.eq_nil_of_length_eq_zero (by rw [← hlen, e]; rfl)), hP⟩

theorem Node.findPath_eq (n : Node) (pat : Bytes) : n.findPath pat = findIn n.children 0 pat := by
  cases n; rfl

/-- What `findIn` gets from the child `e.1` at position `e.2`: that child, or what `findPath` finds below it. -/
def findVia (P : Bytes) (e : Node × Nat) : Option (List Nat) :=
  if e.1.seg.value = P then some [e.2]
  else if e.1.seg.value <+: P then (e.1.findPath (P.drop e.1.seg.value.length)).map (e.2 :: ·) else none

theorem findIn_eq (cs : List Node) (i : Nat) (P : Bytes) : findIn cs i P = (cs.zipIdx i).findSome? (findVia P) := by
  induction cs generalizing i with
  | nil => rw [findIn]; rfl
  | cons c cs ih =>
    rw [findIn, List.zipIdx_cons, List.findSome?_cons, ← ih, findVia]
    by_cases hv : c.seg.value = P
    · rw [if_pos hv, if_pos hv]
    · rw [if_neg hv, if_neg hv]
      by_cases hp : c.seg.value <+: P
      · rw [if_pos ((hasPrefix_iff _ _).2 hp), if_pos hp]
        cases c.findPath (P.drop c.seg.value.length) <;> rfl
      · rw [if_neg (mt (hasPrefix_iff _ _).1 hp), if_neg hp]

theorem findPath_spells (n : Node) : ∀ (P : Bytes) (p : List Nat), n.findPath P = some p → ∃ x, n.Spells p P x := by
  induction n using Node.induction with
  | step n ih =>
    intro P p h
    rw [Node.findPath_eq, findIn_eq] at h
    obtain ⟨⟨c, k⟩, hm, hv⟩ := List.exists_of_findSome?_eq_some h
    have hc : n.children[k]? = some c := List.mem_zipIdx_iff_getElem?.1 hm
    unfold findVia at hv
    split at hv
    · rename_i hval
      cases hv
      exact ⟨c, hval ▸ .here hc⟩
    · split at hv
      · rename_i hpre
        obtain ⟨p', hp', rfl⟩ := Option.map_eq_some_iff.1 hv
        obtain ⟨x, hx⟩ := ih c (List.mem_of_getElem? hc) _ _ hp'
        obtain ⟨t, rfl⟩ := hpre
        rw [List.drop_left] at hx
        exact ⟨x, .below hc hx⟩
      · cases hv

theorem findPath_ne_nil (n : Node) (pat : Bytes) (p : List Nat) (h : n.findPath pat = some p) : p ≠ [] :=
  let ⟨_, hx⟩ := findPath_spells n pat p h
  hx.1

/-- Sibling texts differ and are not empty, and a text that another sibling's text begins with belongs to a node without
children: at most one child can lead `findPath` anywhere. -/
def Node.Det (n : Node) : Prop :=
  n.children.Pairwise (fun a b => a.seg.value ≠ b.seg.value) ∧
    ∀ c ∈ n.children, c.seg.value ≠ [] ∧
      ∀ d ∈ n.children, c.seg.value <+: d.seg.value → c.seg.value = d.seg.value ∨ c.children = []

theorem Node.Spells.ne_nil {n x : Node} {p : List Nat} {P : Bytes} (hn : Node.Det n) (h : n.Spells p P x) : P ≠ [] := by
  obtain ⟨i, q, rfl⟩ := List.exists_cons_of_ne_nil h.1
  obtain ⟨c, hc, hcase⟩ := h.cases
  have hne := (hn.2 c (List.mem_of_getElem? hc)).1
  rcases hcase with ⟨_, _, rfl⟩ | ⟨_, _, rfl⟩
  · exact hne
  · exact fun e => hne (List.append_eq_nil_iff.1 e).1

theorem findIn_skip (pre post : List Node) (k : Nat) (P : Bytes)
    (h : ∀ d ∈ pre, d.seg.value ≠ P ∧ (d.seg.value <+: P → d.children = [])) :
    findIn (pre ++ post) k P = findIn post (k + pre.length) P := by
  rw [findIn_eq, findIn_eq, List.zipIdx_append, List.findSome?_append, List.findSome?_eq_none_iff.2, Option.none_or]
  intro e he
  obtain ⟨h1, h2⟩ := h e.1 (List.fst_mem_of_mem_zipIdx he)
  rw [findVia, if_neg h1]
  split
  · rw [Node.findPath_eq, h2 ‹_›, findIn]; rfl
  · rfl

theorem findPath_of_spells : ∀ (p : List Nat) (n x : Node) (P : Bytes), Node.All Node.Det n → n.Spells p P x →
    n.findPath P = some p
  | [], _, _, _, _, h => absurd rfl h.1
  | i :: p, n, x, P, hn, h => by
    obtain ⟨c, hc, hcase⟩ := h.cases
    obtain ⟨hpw, hdet⟩ := hn.head
    have hcm := List.mem_of_getElem? hc
    have hcP : c.seg.value <+: P ∧ (c.seg.value = P ∨ c.children ≠ []) := by
      rcases hcase with ⟨_, _, rfl⟩ | ⟨P', hx, rfl⟩
      · exact ⟨List.prefix_refl _, .inl rfl⟩
      · refine ⟨List.prefix_append _ _, .inr fun e => ?_⟩
        obtain ⟨j, q, rfl⟩ := List.exists_cons_of_ne_nil hx.1
        obtain ⟨d, hd, _⟩ := hx.cases
        rw [e] at hd; cases hd
    -- no other child can lead anywhere
    have hdead : ∀ d ∈ n.children, d.seg.value ≠ c.seg.value →
        d.seg.value ≠ P ∧ (d.seg.value <+: P → d.children = []) := by
      intro d hd hne
      have hcd : c.seg.value <+: d.seg.value → c.seg.value = P ∧ d.seg.value ≠ P := fun hpre =>
        have hch : c.children = [] := ((hdet c hcm).2 d hd hpre).resolve_left (Ne.symm hne)
        have hcv := hcP.2.resolve_right (fun h => h hch)
        ⟨hcv, hcv ▸ hne⟩
      refine ⟨fun e => (hcd (e ▸ hcP.1)).2 e, fun hdp => ?_⟩
      rcases List.prefix_or_prefix_of_prefix hdp hcP.1 with hpre | hpre
      · exact ((hdet d hd).2 c hcm hpre).resolve_left hne
      · exact ((hdet d hd).2 c hcm ((hcd hpre).1 ▸ hdp)).resolve_left hne
    obtain ⟨hi, hci⟩ := List.getElem?_eq_some_iff.1 hc
    have hsplit : n.children = n.children.take i ++ c :: n.children.drop (i + 1) := by
      rw [← hci, ← List.drop_eq_getElem_cons hi, List.take_append_drop]
    have hvals := hpw
    rw [hsplit, List.pairwise_append] at hvals
    rw [Node.findPath_eq, hsplit, findIn_skip _ _ _ _ fun d hd =>
      hdead d (List.mem_of_mem_take hd) (hvals.2.2 d hd c List.mem_cons_self), Nat.zero_add,
      List.length_take_of_le (Nat.le_of_lt hi)]
    rcases hcase with ⟨rfl, _, rfl⟩ | ⟨P', hx, rfl⟩
    · simp [findIn]
    · have hP' : P' ≠ [] := hx.ne_nil (AllL_getElem? hn.tail hc).head
      have hne : c.seg.value ≠ c.seg.value ++ P' := fun e => hP' (by simpa using e.symm)
      simp only [findIn, hne, if_false, (hasPrefix_iff _ _).2 (List.prefix_append _ _), if_true, List.drop_left,
        findPath_of_spells p c x P' (AllL_getElem? hn.tail hc) hx]

theorem Node.Spells.unique {n x y : Node} {p q : List Nat} {P : Bytes} (hn : Node.All Node.Det n)
    (hx : n.Spells p P x) (hy : n.Spells q P y) : p = q ∧ x = y := by
  have e := Option.some.inj ((findPath_of_spells p n x P hn hx).symm.trans (findPath_of_spells q n y P hn hy))
  subst e
  exact ⟨rfl, Option.some.inj (hx.2.1.symm.trans hy.2.1)⟩

theorem mem_nodesL_iff {m : Node} {cs : List Node} : m ∈ nodesL cs ↔ ∃ c ∈ cs, m ∈ c.nodes := by
  induction cs with
  | nil => simp [nodesL]
  | cons c cs ih => simp [nodesL, ih]

theorem Node.nodes_eq (n : Node) : n.nodes = n :: nodesL n.children := by
  cases n; simp [Node.nodes]

theorem All_iff_nodes (P : Node → Prop) :
    (∀ n : Node, Node.All P n ↔ ∀ m ∈ n.nodes, P m) ∧ (∀ cs : List Node, AllL P cs ↔ ∀ m ∈ nodesL cs, P m) := by
  have hL : ∀ cs, (∀ c ∈ cs, (Node.All P c ↔ ∀ m ∈ c.nodes, P m)) → (AllL P cs ↔ ∀ m ∈ nodesL cs, P m) := by
    intro cs ih
    simp only [AllL_iff, mem_nodesL_iff]
    exact ⟨fun h m ⟨c, hc, hm⟩ => (ih c hc).1 (h c hc) m hm, fun h c hc => (ih c hc).2 fun m hm => h m ⟨c, hc, hm⟩⟩
  have hN : ∀ n, Node.All P n ↔ ∀ m ∈ n.nodes, P m := fun n => by
    induction n using Node.induction with
    | step n ih => rw [Node.All_iff, Node.nodes_eq, hL _ ih, List.forall_mem_cons]
  exact ⟨hN, fun cs => hL cs fun c _ => hN c⟩

theorem P8.All_sub {P : Node → Prop} : ∀ r : Node, Node.All P r → ∀ n ∈ r.nodes, Node.All P n := by
  intro r
  induction r using Node.induction with
  | step r ih =>
    intro h n hn
    rw [Node.nodes_eq] at hn
    rcases List.mem_cons.1 hn with rfl | hn
    · exact h
    · obtain ⟨c, hc, hn⟩ := mem_nodesL_iff.1 hn
      exact ih c hc (AllL_mem h.tail hc) n hn

theorem spells_of_mem_nodes {n c x : Node} {i : Nat} (hc : n.children[i]? = some c) :
    x ∈ c.nodes → ∃ q P, n.Spells (i :: q) P x := by
  induction c using Node.induction generalizing n i x with
  | step c ih =>
    intro hx
    rw [Node.nodes_eq] at hx
    rcases List.mem_cons.1 hx with rfl | hx
    · exact ⟨_, _, .here hc⟩
    · obtain ⟨d, hd, hxd⟩ := mem_nodesL_iff.1 hx
      obtain ⟨j, hj⟩ := List.getElem?_of_mem hd
      obtain ⟨q, P, h⟩ := ih d hd hj hxd
      exact ⟨_, _, h.below hc⟩

theorem spells_of_mem {n x : Node} (hx : x ∈ nodesL n.children) : ∃ p P, n.Spells p P x := by
  obtain ⟨c, hc, hxc⟩ := mem_nodesL_iff.1 hx
  obtain ⟨i, hi⟩ := List.getElem?_of_mem hc
  obtain ⟨q, P, h⟩ := spells_of_mem_nodes hi hxc
  exact ⟨_, _, h⟩

theorem mem_nodes_chain (n x : Node) (hx : x ∈ n.nodes) : ∃ segs, Chain n segs x := by
  rw [Node.nodes_eq] at hx
  rcases List.mem_cons.1 hx with rfl | hx
  · exact ⟨[], .nil _⟩
  · obtain ⟨p, P, h⟩ := spells_of_mem hx
    obtain ⟨segs, hch, _⟩ := h.chain
    exact ⟨segs, hch⟩

theorem removeNodes_sublist (cs : List Node) (v : Bytes) : (removeNodes cs v).Sublist cs := by
  fun_induction removeNodes cs v with
  | case1 => exact .slnil
  | case2 c cs => exact List.sublist_cons_self c cs
  | case3 c cs v h ih => exact ih.cons_cons c

theorem AllL_sublist {P : Node → Prop} {as bs : List Node} (hs : as.Sublist bs) (h : AllL P bs) : AllL P as := by
  rw [AllL_iff] at *
  intro c hc; exact h c (hs.subset hc)

theorem AllL_removeNodes {P : Node → Prop} {cs : List Node} (v : Bytes) (h : AllL P cs) :
    AllL P (removeNodes cs v) := AllL_sublist (removeNodes_sublist cs v) h

theorem sortChildren_perm (cs : List Node) : (sortChildren cs).Perm cs := by
  unfold sortChildren; exact List.mergeSort_perm _ _

theorem sortChildren_length (cs : List Node) : (sortChildren cs).length = cs.length :=
  (sortChildren_perm cs).length_eq

theorem sortChildren_singleton (c : Node) : sortChildren [c] = [c] :=
  List.perm_singleton.1 (sortChildren_perm [c])

theorem childPos_spec {cs : List Node} {v : Bytes} {j : Nat} (h : childPos cs v = some j) :
    ∃ c, cs[j]? = some c ∧ c.seg.value = v := by
  unfold childPos at h
  rw [List.findIdx?_eq_some_iff_getElem] at h
  obtain ⟨hlt, hv, _⟩ := h
  exact ⟨cs[j], by simp [hlt], by simpa using hv⟩

theorem Seg.similarity_neg_one_iff {c seg : Seg} : c.similarity seg = -1 ↔ seg.value = c.value := by
  unfold Seg.similarity
  by_cases hv : seg.value = c.value
  · rw [if_pos hv]; exact iff_of_true rfl hv
  · rw [if_neg hv]
    refine iff_of_false ?_ hv
    split
    · omega
    · rcases longestPrefix_spec seg.value c.value with h | ⟨k, h, _⟩ <;> rw [h] <;> omega

theorem Seg.similarity_same_kind {c seg : Seg} (hv : seg.value ≠ c.value) (hk : seg.kind = c.kind) :
    c.similarity seg = longestPrefix seg.value c.value := by
  unfold Seg.similarity; rw [if_neg hv, if_neg (not_not_intro hk)]

theorem Seg.similarity_pos {c seg : Seg} (h : 0 < c.similarity seg) :
    seg.value ≠ c.value ∧ seg.kind = c.kind ∧ c.similarity seg = longestPrefix seg.value c.value := by
  have hv : seg.value ≠ c.value := fun e => by rw [Seg.similarity_neg_one_iff.2 e] at h; omega
  have hk : seg.kind = c.kind := Decidable.byContradiction fun hk => by
    unfold Seg.similarity at h; rw [if_neg hv, if_pos hk] at h; omega
  exact ⟨hv, hk, Seg.similarity_same_kind hv hk⟩

/-- What the scan of `addSegment` returns: an identical child, or the greatest similarity, which is the start value
`l` or is attained at the position returned. -/
theorem scanChildren_spec (seg : Seg) (cs : List Node) (i : Nat) (l : Int) (bi : Nat) :
    match scanChildren seg cs i l bi with
    | .identical k => ∃ c, (c, k) ∈ cs.zipIdx i ∧ c.seg.similarity seg = -1
    | .best l' b => (∀ c ∈ cs, c.seg.similarity seg ≠ -1 ∧ c.seg.similarity seg ≤ l') ∧ l ≤ l' ∧
        ((l' = l ∧ b = bi) ∨ ∃ c, (c, b) ∈ cs.zipIdx i ∧ c.seg.similarity seg = l') := by
  fun_induction scanChildren seg cs i l bi with
  | case1 i l bi => exact ⟨fun _ h => absurd h List.not_mem_nil, Int.le_refl _, .inl ⟨rfl, rfl⟩⟩
  | case2 c cs i l bi l1 h1 => exact ⟨c, List.mem_cons_self, h1⟩
  | case3 c cs i l bi l1 h1 h2 ih =>
    -- `c` is the best so far
    revert ih
    cases scanChildren seg cs (i + 1) l1 i with
    | identical k => exact fun ⟨d, hd, hs⟩ => ⟨d, List.mem_cons_of_mem _ hd, hs⟩
    | best l' b =>
      rintro ⟨hall, hle, hor⟩
      refine ⟨List.forall_mem_cons.2 ⟨⟨h1, hle⟩, hall⟩, Int.le_trans (Int.le_of_lt h2) hle, .inr ?_⟩
      rcases hor with ⟨rfl, rfl⟩ | ⟨d, hd, hs⟩
      · exact ⟨c, List.mem_cons_self, rfl⟩
      · exact ⟨d, List.mem_cons_of_mem _ hd, hs⟩
  | case4 c cs i l bi l1 h1 h2 ih =>
    revert ih
    cases scanChildren seg cs (i + 1) l bi with
    | identical k => exact fun ⟨d, hd, hs⟩ => ⟨d, List.mem_cons_of_mem _ hd, hs⟩
    | best l' b =>
      rintro ⟨hall, hle, hor⟩
      exact ⟨List.forall_mem_cons.2 ⟨⟨h1, Int.le_trans (Int.not_lt.1 h2) hle⟩, hall⟩, hle,
        hor.imp_right fun ⟨d, hd, hs⟩ => ⟨d, List.mem_cons_of_mem _ hd, hs⟩⟩

theorem scan_identical {seg : Seg} {cs : List Node} {i : Nat} {c : Node}
    (hsc : scanChildren seg cs 0 0 0 = .identical i) (hc : cs[i]? = some c) : seg.value = c.seg.value := by
  have := scanChildren_spec seg cs 0 0 0
  rw [hsc] at this
  obtain ⟨c', hc', hs⟩ := this
  cases hc.symm.trans (List.mem_zipIdx_iff_getElem?.1 hc')
  exact Seg.similarity_neg_one_iff.1 hs

theorem scan_none {seg : Seg} {cs : List Node} {l : Int} {i : Nat} (hsc : scanChildren seg cs 0 0 0 = .best l i)
    (hl : l ≤ 0) : ∀ d ∈ cs, d.seg.similarity seg ≠ -1 ∧ d.seg.similarity seg ≤ 0 := by
  have := scanChildren_spec seg cs 0 0 0
  rw [hsc] at this
  exact fun d hd => ⟨(this.1 d hd).1, Int.le_trans (this.1 d hd).2 hl⟩

theorem scan_similar {seg : Seg} {cs : List Node} {l : Int} {i : Nat} {c : Node}
    (hsc : scanChildren seg cs 0 0 0 = .best l i) (hl : 0 < l) (hc : cs[i]? = some c) :
    c.seg.similarity seg = l := by
  have := scanChildren_spec seg cs 0 0 0
  rw [hsc] at this
  rcases this.2.2 with ⟨rfl, _⟩ | ⟨c', hc', hs⟩
  · exact absurd hl (Int.lt_irrefl 0)
  · cases hc.symm.trans (List.mem_zipIdx_iff_getElem?.1 hc')
    exact hs

theorem similar_lp {seg : Seg} {cs : List Node} {l : Int} {i : Nat} {c : Node}
    (hsc : scanChildren seg cs 0 0 0 = .best l i) (hl : 0 < l) (hc : cs[i]? = some c) :
    0 < l.toNat ∧ c.seg.kind = seg.kind ∧ longestPrefix c.seg.value seg.value = (l.toNat : Int) := by
  have hsim := scan_similar hsc hl hc
  obtain ⟨_, hk, hlp⟩ := Seg.similarity_pos (hsim ▸ hl)
  exact ⟨by omega, hk.symm, by rw [longestPrefix_comm, ← hlp, hsim]; omega⟩

theorem mem_idxSet {idx : List (UInt8 × Nat)} {b : UInt8} {i : Nat} {e : UInt8 × Nat} (h : e ∈ idxSet idx b i) :
    e ∈ idx ∨ e = (b, i) := by
  unfold idxSet at h
  split at h
  · rw [List.mem_map] at h
    obtain ⟨e0, he0, rfl⟩ := h
    split
    · exact .inr rfl
    · exact .inl he0
  · rw [List.mem_append] at h
    rcases h with h | h
    · exact .inl h
    · exact .inr (by simpa using h)

namespace P8

/-- The entry maps the first byte of a literal child of `full` to that child's position. -/
def EntryOk (full : List Node) (e : UInt8 × Nat) : Prop :=
  ∃ c, full[e.2]? = some c ∧ c.seg.kind = .str ∧ c.seg.value.head? = some e.1

theorem keys_idxSet (idx : List (UInt8 × Nat)) (b : UInt8) (i : Nat) :
    b ∈ (idxSet idx b i).map (·.1) ∧ ∀ k ∈ idx.map (·.1), k ∈ (idxSet idx b i).map (·.1) := by
  unfold idxSet
  split
  · rename_i hany
    have hkeys : (idx.map fun e => if e.1 = b then (b, i) else e).map (·.1) = idx.map (·.1) := by
      rw [List.map_map]
      refine List.map_congr_left fun e _ => ?_
      show (if e.1 = b then (b, i) else e).1 = e.1
      split
      · rename_i h; exact h.symm
      · rfl
    rw [hkeys]
    obtain ⟨e, he, hb⟩ := List.any_eq_true.1 hany
    exact ⟨List.mem_map.2 ⟨e, he, of_decide_eq_true hb⟩, fun _ hk => hk⟩
  · rw [List.map_append]
    exact ⟨List.mem_append_right _ (List.mem_singleton.2 rfl), fun k hk => List.mem_append_left _ hk⟩

theorem buildIndexesLoop_spec {cs : List Node} {i : Nat} {acc idx : List (UInt8 × Nat)}
    (h : buildIndexesLoop cs i acc = .ok idx) :
    (∀ e ∈ idx, e ∈ acc ∨ ∃ c, (c, e.2) ∈ cs.zipIdx i ∧ c.seg.kind = .str ∧ c.seg.value.head? = some e.1) ∧
    (∀ k ∈ acc.map (·.1), k ∈ idx.map (·.1)) ∧
    ∀ c ∈ cs, c.seg.kind = .str → ∃ b, c.seg.value.head? = some b ∧ b ∈ idx.map (·.1) := by
  fun_induction buildIndexesLoop cs i acc with
  | case1 i acc =>
    cases h
    exact ⟨fun _ he => .inl he, fun _ => id, fun _ hc => absurd hc List.not_mem_nil⟩
  | case2 c cs i acc hk hv => cases h
  | case3 c cs i acc hk b v hv ih =>
    obtain ⟨h1, h2, h3⟩ := ih h
    obtain ⟨k1, k2⟩ := keys_idxSet acc b i
    refine ⟨fun e he => ?_, fun k hk' => h2 k (k2 k hk'),
      List.forall_mem_cons.2 ⟨fun _ => ⟨b, by rw [hv]; rfl, h2 b k1⟩, h3⟩⟩
    rcases h1 e he with he | ⟨d, hd, hs⟩
    · rcases mem_idxSet he with he | rfl
      · exact .inl he
      · exact .inr ⟨c, List.mem_cons_self, hk, by rw [hv]; rfl⟩
    · exact .inr ⟨d, List.mem_cons_of_mem _ hd, hs⟩
  | case4 c cs i acc hk ih =>
    obtain ⟨h1, h2, h3⟩ := ih h
    exact ⟨fun e he => (h1 e he).imp_right fun ⟨d, hd, hs⟩ => ⟨d, List.mem_cons_of_mem _ hd, hs⟩, h2,
      List.forall_mem_cons.2 ⟨fun hck => absurd hck hk, h3⟩⟩

theorem buildIndexes_entries {cs : List Node} {idx : List (UInt8 × Nat)} (h : buildIndexes cs = .ok idx) :
    ∀ e ∈ idx, EntryOk cs e := by
  unfold buildIndexes at h
  split at h
  · cases h; exact fun _ he => absurd he List.not_mem_nil
  · intro e he
    rcases (buildIndexesLoop_spec h).1 e he with he | ⟨c, hc, hs⟩
    · cases he
    · exact ⟨c, List.mem_zipIdx_iff_getElem?.1 hc, hs⟩

end P8

theorem buildIndexes_range {cs : List Node} {idx : List (UInt8 × Nat)} (h : buildIndexes cs = .ok idx) :
    ∀ e ∈ idx, e.2 < cs.length := fun e he =>
  let ⟨_, hc, _⟩ := P8.buildIndexes_entries h e he
  (List.getElem?_eq_some_iff.1 hc).1

theorem hasDupValues_iff (cs : List Node) :
    hasDupValues cs = false ↔ cs.Pairwise (fun a b => a.seg.value ≠ b.seg.value) := by
  induction cs with
  | nil => simp [hasDupValues]
  | cons c cs ih =>
    simp only [hasDupValues, Bool.or_eq_false_iff, List.any_eq_false, decide_eq_true_eq, ih, List.pairwise_cons]
    exact and_congr_left' ⟨fun h d hd e => h d hd e.symm, fun h d hd e => h d hd e.symm⟩

theorem sortNode_eq (n : Node) :
    sortNode n =
      if hasDupValues n.children = true then .error .unsupported
      else buildIndexes (sortChildren n.children) >>= fun idx => pure (n.setChildren (sortChildren n.children) idx) := by
  unfold sortNode
  split <;> rfl

theorem sortNode_ok_iff {n n1 : Node} :
    sortNode n = .ok n1 ↔ hasDupValues n.children = false ∧
      ∃ idx, buildIndexes (sortChildren n.children) = .ok idx ∧ n1 = n.setChildren (sortChildren n.children) idx := by
  rw [sortNode_eq, ite_error_eq_ok, Bool.not_eq_true, bind_ok_iff]
  exact and_congr_right fun _ => exists_congr fun _ => and_congr_right fun _ => pure_ok_iff.trans eq_comm

theorem sortNode_ok {n n1 : Node} (h : sortNode n = .ok n1) :
    ∃ idx, buildIndexes (sortChildren n.children) = .ok idx ∧
      n1 = n.setChildren (sortChildren n.children) idx :=
  (sortNode_ok_iff.1 h).2

/-- `node.sort` refuses siblings with equal texts. -/
theorem sortNode_distinct {n n1 : Node} (h : sortNode n = .ok n1) :
    n.children.Pairwise (fun a b => a.seg.value ≠ b.seg.value) :=
  (hasDupValues_iff _).1 (sortNode_ok_iff.1 h).1

theorem sortNode_IdxOk {n n1 : Node} (h : sortNode n = .ok n1) : IdxOk n1 := by
  obtain ⟨idx, hidx, rfl⟩ := sortNode_ok h
  intro e he
  exact buildIndexes_range hidx e he

/-- A node with one child is sorted already, and too small for an index. -/
theorem sortNode_single (s : Seg) (p : Bytes) (lower : Node) :
    sortNode (.mk s p 0 [] [] [lower]) = .ok (.mk s p 0 [] [] [lower]) := by
  rw [sortNode_ok_iff, Node.children_mk, sortChildren_singleton]
  exact ⟨rfl, [], rfl, rfl⟩

theorem sortNode_append_pos {n n1 p : Node} {cs : List Node} {idx : List (UInt8 × Nat)} {j : Nat}
    (hs : sortNode (n.setChildren (cs ++ [p]) idx) = .ok n1) (hj : childPos n1.children p.seg.value = some j) :
    n1.children[j]? = some p := by
  have hd := sortNode_distinct hs
  obtain ⟨_, _, rfl⟩ := sortNode_ok hs
  obtain ⟨d, hd', hv⟩ := childPos_spec hj
  rw [hd']
  simp only [setChildren_children] at hd hd'
  rcases List.mem_append.1 ((sortChildren_perm _).mem_iff.1 (List.mem_of_getElem? hd')) with hm | hm
  · exact absurd hv ((List.pairwise_append.1 hd).2.2 d hm p (List.mem_singleton_self p))
  · rw [List.mem_singleton.1 hm]

theorem buildIndexesLoop_ok (cs : List Node) (h : ∀ c ∈ cs, c.seg.value ≠ []) (i : Nat) (acc : List (UInt8 × Nat)) :
    ∃ idx, buildIndexesLoop cs i acc = .ok idx := by
  fun_induction buildIndexesLoop cs i acc with
  | case1 i acc => exact ⟨acc, rfl⟩
  | case2 c cs i acc hk hv => exact absurd hv (h c List.mem_cons_self)
  | case3 c cs i acc hk b r hv ih => exact ih fun d hd => h d (List.mem_cons_of_mem _ hd)
  | case4 c cs i acc hk ih => exact ih fun d hd => h d (List.mem_cons_of_mem _ hd)

theorem buildIndexes_ok {cs : List Node} (h : ∀ c ∈ cs, c.seg.value ≠ []) : ∃ idx, buildIndexes cs = .ok idx := by
  unfold buildIndexes
  split
  · exact ⟨[], rfl⟩
  · exact buildIndexesLoop_ok cs h 0 []

/-- The handler map after `addMethodsLoop` has accepted `m`: `m` is set, and HEAD along with GET. -/
def addMethodStep (t : Tree) (h : Handler) (pattern : Bytes) (ms : List Nat) (hs : AMap Handler) (m : Bytes) :
    AMap Handler :=
  (if m = mGET then hs.set mHEAD (wrapWith h mHEAD pattern t.name ms) else hs).set m (wrapWith h m pattern t.name ms)

theorem addMethodsLoop_cons (t : Tree) (h : Handler) (p : Bytes) (ms : List Nat) (m : Bytes) (rest : List Bytes)
    (hs : AMap Handler) :
    addMethodsLoop t h p ms (m :: rest) hs =
      if m = mOPTIONS ∨ m = mHEAD ∨ (t.hasTrace = true ∧ m = mTRACE) then .error .reserved
      else if isKnownMethod m = false then .error .unknownMethod
      else if hs.contains m = true then .error .dupMethod
      else addMethodsLoop t h p ms rest (addMethodStep t h p ms hs m) := by
  simp only [addMethodsLoop, addMethodStep, bind, Except.bind, throw, throwThe, MonadExceptOf.throw, Bool.not_eq_true]

theorem addMethodsLoop_cons_ok {t : Tree} {h : Handler} {p : Bytes} {ms : List Nat} {m : Bytes} {rest : List Bytes}
    {hs hs' : AMap Handler} :
    addMethodsLoop t h p ms (m :: rest) hs = .ok hs' ↔
      ¬ (m = mOPTIONS ∨ m = mHEAD ∨ (t.hasTrace = true ∧ m = mTRACE)) ∧ isKnownMethod m = true ∧
        hs.contains m = false ∧ addMethodsLoop t h p ms rest (addMethodStep t h p ms hs m) = .ok hs' := by
  rw [addMethodsLoop_cons]
  simp only [ite_error_eq_ok, Bool.not_eq_false, Bool.not_eq_true]

/-- The automatic OPTIONS and 405 entries `addMethodsNode` installs where they are missing. -/
def addAuto (t : Tree) (pattern : Bytes) (ms : List Nat) (hs : AMap Handler) : AMap Handler :=
  let hs := if hs.contains mOPTIONS then hs
    else hs.set mOPTIONS (wrapWith { base := t.optionsBase } mOPTIONS pattern t.name ms)
  if hs.contains mNotAllowed then hs
  else hs.set mNotAllowed (wrapWith { base := t.notAllowedBase } mNotAllowed pattern t.name ms)

theorem addMethodsNode_ok_iff {t : Tree} {h : Handler} {p : Bytes} {ms : List Nat} {methods : List Bytes} {n n' : Node} :
    t.addMethodsNode h p ms methods n = .ok n' ↔
      ∃ hs, addMethodsLoop t h p ms methods n.handlers = .ok hs ∧
        n' = n.setHandlers (addAuto t p ms hs) (nodeMethodIndex t.hasTrace (addAuto t p ms hs)) := by
  rw [Tree.addMethodsNode, bind_ok_iff]
  exact exists_congr fun hs => and_congr_right fun _ => pure_ok_iff.trans eq_comm

end Mux
