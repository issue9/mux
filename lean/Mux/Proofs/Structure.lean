/-
  The structural node invariant `SOk` (I-seg: pattern and segment part, I-sort, I-index of DESIGN §4.4) and the
  invariant `StructInv` of a tree, which holds of every reachable tree.  `SOk ic n` only looks at `n.pattern`,
  `n.indexes` and, of every child, at `(seg, pattern)`; it is closed and `sortNode` establishes it, so it goes through
  `getNode` by the rule of GnStep.lean and through every operation of a history by `step_closed`.
-/
import Mux.Proofs.TreeReach
import Mux.Proofs.Syntax
import Mux.Proofs.Priority
import Mux.Proofs.TreeOps
import Mux.Proofs.CutPoint
namespace Mux.P8
open Mux Mux.P9

/-- What `SOk` asks of one child of a node whose pattern is `pp`. -/
def ChildOk (ic : Interceptors) (pp : Bytes) (c : Node) : Prop :=
  c.pattern = pp ++ c.seg.value ∧ c.seg.value ≠ [] ∧ newSegment ic c.seg.value = .ok c.seg

/-- Children ordered by kind: literal, interceptor, regexp, named. -/
def RankSorted (cs : List Node) : Prop := cs.Pairwise (fun a b => a.seg.kind.rank ≤ b.seg.kind.rank)

structure SOk (ic : Interceptors) (n : Node) : Prop where
  child : ∀ c ∈ n.children, ChildOk ic n.pattern c
  sorted : RankSorted n.children
  index : buildIndexes n.children = .ok n.indexes

theorem buildIndexesLoop_congr (cs cs' : List Node) (i : Nat) (acc : List (UInt8 × Nat))
    (h : cs.map (·.seg) = cs'.map (·.seg)) : buildIndexesLoop cs i acc = buildIndexesLoop cs' i acc := by
  induction cs generalizing cs' i acc with
  | nil => cases List.map_eq_nil_iff.1 h.symm; rfl
  | cons c cs ih =>
    obtain ⟨c', cs', rfl⟩ := List.exists_cons_of_ne_nil (l := cs') (by rintro rfl; cases h)
    obtain ⟨hc, h⟩ := List.cons.inj h
    simp only [buildIndexesLoop, hc, fun i acc => ih cs' i acc h]

theorem buildIndexes_congr {cs cs' : List Node} (h : cs.map sigc = cs'.map sigc) :
    buildIndexes cs = buildIndexes cs' := by
  have h1 : cs.map (·.seg) = cs'.map (·.seg) := by
    have := congrArg (List.map Prod.fst) h
    simpa [List.map_map, sigc, Function.comp_def] using this
  have hl : cs.length = cs'.length := by
    have := congrArg List.length h1
    simpa using this
  unfold buildIndexes
  rw [hl, buildIndexesLoop_congr cs cs' 0 [] h1]

/-- `priority = 10 · rank + e` with `e ≤ 2`. -/
theorem rank_le_of_priority_le {a b : Node} (h : a.priority ≤ b.priority) : a.seg.kind.rank ≤ b.seg.kind.rank := by
  unfold Node.priority at h
  have hb : (if b.children.isEmpty then 1 else 0) + (if b.seg.endpoint then 1 else 0) ≤ 2 := by
    split <;> split <;> omega
  omega

theorem rankSorted_sortChildren (cs : List Node) : RankSorted (sortChildren cs) := by
  unfold RankSorted sortChildren
  have := List.pairwise_mergeSort (le := fun a b : Node => decide (a.priority ≤ b.priority))
    (by intro a b c h1 h2; simp only [decide_eq_true_eq] at *; omega)
    (by intro a b; simp only [Bool.or_eq_true, decide_eq_true_eq]; omega) cs
  refine this.imp ?_
  intro a b h
  exact rank_le_of_priority_le (by simpa using h)

theorem RankSorted.of_map_sublist {cs cs' : List Node} (hs : (cs'.map sigc).Sublist (cs.map sigc))
    (h : RankSorted cs) : RankSorted cs' :=
  pairwise_of_map_sublist (R := fun x y => x.1.kind.rank ≤ y.1.kind.rank) hs h

theorem SOk.of_sortNode {ic : Interceptors} {m n1 : Node} (hc : ∀ c ∈ m.children, ChildOk ic m.pattern c)
    (hs : sortNode m = .ok n1) : SOk ic n1 := by
  obtain ⟨idx, hidx, rfl⟩ := sortNode_ok hs
  refine ⟨?_, ?_, ?_⟩
  · intro c hcm
    exact hc c ((sortChildren_perm m.children).mem_iff.1 (by simpa [Node.setChildren] using hcm))
  · simpa [Node.setChildren] using rankSorted_sortChildren m.children
  · simpa [Node.setChildren] using hidx

theorem kind_str_of_rank_le {k k' : Kind} (h : k.rank ≤ k'.rank) (hk : k' = .str) : k = .str := by
  subst hk
  cases k <;> simp [Kind.rank] at h ⊢

theorem SOk.closed (ic : Interceptors) : Closed (SOk ic) := by
  have sub : ∀ {n m : Node}, SOk ic n → m.pattern = n.pattern → (m.children.map sigc).Sublist (n.children.map sigc) →
      buildIndexes m.children = .ok m.indexes → SOk ic m := fun h hp hs hi =>
    ⟨hp ▸ forall_of_map_sublist (S := fun x => x.2 = _ ++ x.1.value ∧ x.1.value ≠ [] ∧ newSegment ic x.1.value = .ok x.1)
      hs h.child, h.sorted.of_map_sublist hs, hi⟩
  exact ⟨fun h hp hi hs => sub h hp (hs ▸ List.Sublist.refl _) (by rw [hi, buildIndexes_congr hs]; exact h.index),
    sub, fun _ _ _ _ => ⟨by intro c hc; simp at hc, by simp [RankSorted], by simp [buildIndexes, indexesSize]⟩⟩

variable {ic : Interceptors}

theorem gnPrep_cont_ne {n : Node} {v : Bytes} {rest : List Bytes} {s : GStep} (h : gnPrep ic n v rest = .ok s)
    (hrest : ∀ x ∈ rest, x ≠ []) {v' : Bytes} {rest' : List Bytes} (hc : s.cont = some (v', rest')) :
    v' ≠ [] ∧ ∀ x ∈ rest', x ≠ [] := by
  rcases gnPrep_cont h with h1 | ⟨l, _, hl, h1⟩
  · rw [h1] at hc
    rw [restCont_some hc] at hrest
    exact ⟨hrest v' List.mem_cons_self, fun x hx => hrest x (List.mem_cons_of_mem _ hx)⟩
  · rw [h1] at hc
    cases hc
    exact ⟨List.ne_nil_of_length_pos (by rw [List.length_drop]; omega), hrest⟩

/-- The two facts of `SOk`: the children of a sorted node are the old ones, which keep `ChildOk`, and the new one. -/
theorem SOk.gnLocal (ic : Interceptors) :
    GnLocal ic (SOk ic) (fun v rest => v ≠ [] ∧ ∀ x ∈ rest, x ≠ []) (fun _ => True) :=
  (SOk.closed ic).gnLocal
    (leaf := by
      intro n n1 v rest seg l i hn ht hseg _ _ hn1
      have hsv := newSegment_value _ _ _ hseg
      refine SOk.of_sortNode (ic := ic) (fun c hc => ?_) hn1
      rcases List.mem_append.1 hc with hc | hc
      · exact hn.head.child c hc
      · rw [List.mem_singleton.1 hc]
        exact ⟨rfl, by rw [← hsv] at ht; exact ht.1, by rw [← hsv] at hseg; exact hseg⟩)
    (split := by
      intro n c ret n1 v rest seg s1 s2 l i hn _ _ _ hl hc hlen hss hret hn1
      have hcC := hn.head.child c (List.mem_of_getElem? hc)
      obtain ⟨hv1, hv2, hns1, hns2, rfl, _⟩ := split_built hss hret hn1
      -- the cut lies inside `c`'s text
      have hv1ne : s1.value ≠ [] := List.ne_nil_of_length_pos (by rw [hv1, List.length_take]; omega)
      have hv2ne : s2.value ≠ [] := List.ne_nil_of_length_pos (by rw [hv2, List.length_drop]; omega)
      -- the lower half keeps `c`'s pattern, indexes and children
      have hlow : ChildOk ic (n.pattern ++ s1.value) (c.setSeg s2) :=
        ⟨by show c.pattern = (n.pattern ++ s1.value) ++ s2.value
            rw [hcC.1, List.append_assoc, hv1, hv2, List.take_append_drop], hv2ne, hns2⟩
      refine ⟨⟨fun x hx => by rw [List.mem_singleton.1 hx]; exact hlow, List.pairwise_singleton _ _, rfl⟩,
        SOk.of_sortNode (ic := ic) (fun x hx => ?_) hn1⟩
      rcases List.mem_append.1 hx with hx | hx
      · exact hn.head.child x ((removeNodes_sublist _ _).subset hx)
      · rw [List.mem_singleton.1 hx]; exact ⟨rfl, hv1ne, hns1⟩)
    (cont := fun _ ht hs hc => gnPrep_cont_ne hs ht.2 hc)

structure StructInv (t : Tree) : Prop where
  all : Node.All (SOk t.ic) t.root
  rootPat : t.root.pattern = []

theorem struct_new (name : Bytes) (ic : Interceptors) (nf : Handler) (tr : Option Handler)
    (ob : Base := .options) (nb : Base := .notAllowed) : StructInv (Tree.new name ic nf tr ob nb) :=
  ⟨⟨(SOk.closed ic).empty _ _ _ _, trivial⟩, rfl⟩

theorem struct_step {t : Tree} (hinv : StructInv t) (op : TOp) : StructInv (t.step op) := by
  obtain ⟨hic, hpat, ha⟩ := step_closed (SOk.closed t.ic) t op (fun _ _ _ _ v _ _ _ hpieces _ hg =>
    getNode_localK (SOk.gnLocal t.ic) hinv.all
      ⟨hpieces v List.mem_cons_self, fun x hx => hpieces x (List.mem_cons_of_mem _ hx)⟩ hg)
    hinv.all
  exact ⟨by rw [hic]; exact ha, by rw [hpat]; exact hinv.rootPat⟩

theorem struct_run {t : Tree} (hinv : StructInv t) (ops : List TOp) : StructInv (t.run ops) :=
  Tree.run_inv (I := StructInv) (fun _ op _ h => struct_step h op) hinv

theorem struct_reach {t : Tree} (h : t.Reach) : StructInv t := by
  obtain ⟨name, ic, nf, tr, ob, nb, ops, rfl⟩ := h
  exact struct_run (struct_new name ic nf tr ob nb) ops

end Mux.P8
