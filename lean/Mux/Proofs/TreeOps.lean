/-
  The operations on a tree as relations.  `modifyAt`, `removeAt`, `Node.clean` and `Node.applyMw` are edits of a
  subtree (`Node.Edit`), so an invariant goes through all of them by one induction on the relation; one operation of a
  history is `getNode` (successful `Add` only) followed by an edit of the root.
-/
import Mux.Proofs.FoldRules
import Mux.Proofs.GnStep
namespace Mux

variable {Q : Nat → AMap Handler → Prop}

@[simp] theorem Node.modifyAt_nil (f : Node → Except Err Node) (n : Node) : n.modifyAt f [] = f n := by
  cases n; rfl

theorem modifyAtL_eq (f : Node → Except Err Node) (path : List Nat) : ∀ (cs : List Node) (i : Nat),
    modifyAtL f cs i path =
      match cs[i]? with
      | none => .error (.fault 240)
      | some c => c.modifyAt f path >>= fun c' => pure (cs.set i c')
  | [], _ => rfl
  | c :: cs, 0 => rfl
  | c :: cs, i + 1 => by
    simp only [modifyAtL, modifyAtL_eq f path cs i, List.getElem?_cons_succ, List.set_cons_succ]
    cases cs[i]? with
    | none => rfl
    | some d =>
      dsimp only
      cases d.modifyAt f path <;> rfl

theorem Node.modifyAt_cons (f : Node → Except Err Node) (n : Node) (i : Nat) (path : List Nat) :
    n.modifyAt f (i :: path) =
      match n.children[i]? with
      | none => .error (.fault 240)
      | some c => c.modifyAt f path >>= fun c' => pure (n.setChildren (n.children.set i c') n.indexes) := by
  cases n with
  | mk s p mi hs idx cs =>
    rw [Node.modifyAt, modifyAtL_eq, Node.children_mk]
    cases cs[i]? with
    | none => rfl
    | some c =>
      dsimp only
      cases c.modifyAt f path <;> rfl

theorem Node.modifyAt_cons_iff {f : Node → Except Err Node} {n n' : Node} {i : Nat} {path : List Nat} :
    n.modifyAt f (i :: path) = .ok n' ↔ ∃ c c', n.children[i]? = some c ∧ c.modifyAt f path = .ok c' ∧
      n' = n.setChildren (n.children.set i c') n.indexes := by
  rw [Node.modifyAt_cons]
  cases n.children[i]? with
  | none => exact ⟨nofun, fun ⟨_, _, h, _⟩ => nomatch h⟩
  | some c =>
    exact bind_ok_iff.trans ⟨fun ⟨c', h, e⟩ => ⟨c, c', rfl, h, (pure_ok_iff.1 e).symm⟩,
      fun ⟨_, c', hc, h, e⟩ => by cases hc; exact ⟨c', h, pure_ok_iff.2 e.symm⟩⟩

@[simp] theorem Node.removeAt_nil (f : Node → Node) (n : Node) : n.removeAt f [] = .ok (f n) := by
  cases n; rfl

theorem removeAtL_eq (f : Node → Node) (path : List Nat) : ∀ (cs : List Node) (i : Nat),
    removeAtL f cs i path =
      match cs[i]? with
      | none => .error (.fault 241)
      | some c => (c.removeAt f path).map fun c' =>
          if c'.size = 0 ∧ c'.children.isEmpty then (cs.eraseIdx i, true) else (cs.set i c', false)
  | [], _ => rfl
  | c :: cs, 0 => by
    simp only [removeAtL, List.getElem?_cons_zero, List.set_cons_zero, List.eraseIdx_cons_zero]
    cases c.removeAt f path with
    | error e => rfl
    | ok c' => simp only [bind, Except.bind, pure, Except.pure, Except.map]; split <;> rfl
  | c :: cs, i + 1 => by
    simp only [removeAtL, removeAtL_eq f path cs i, List.getElem?_cons_succ, List.set_cons_succ,
      List.eraseIdx_cons_succ]
    cases cs[i]? with
    | none => rfl
    | some d =>
      simp only []
      cases d.removeAt f path with
      | error e => rfl
      | ok d' => simp only [bind, Except.bind, pure, Except.pure, Except.map]; split <;> rfl

theorem Node.removeAt_cons_iff {f : Node → Node} {n n' : Node} {i : Nat} {path : List Nat} :
    n.removeAt f (i :: path) = .ok n' ↔ ∃ c c', n.children[i]? = some c ∧ c.removeAt f path = .ok c' ∧
      if c'.size = 0 ∧ c'.children.isEmpty then
        ∃ idx', buildIndexes (n.children.eraseIdx i) = .ok idx' ∧ n' = n.setChildren (n.children.eraseIdx i) idx'
      else n' = n.setChildren (n.children.set i c') n.indexes := by
  cases n with
  | mk s p mi hs idx cs =>
    simp only [Node.removeAt, removeAtL_eq, Node.children_mk, Node.setChildren, Node.seg_mk, Node.pattern_mk,
      Node.methodIndex_mk, Node.handlers_mk, Node.indexes_mk, bind, Except.bind, pure, Except.pure]
    cases cs[i]? with
    | none => simp
    | some c =>
      cases hm : c.removeAt f path with
      | error e => simp [Except.map, hm]
      | ok c' =>
        simp only [Except.map, hm, Option.some.injEq, Except.ok.injEq, exists_and_left, exists_eq_left']
        split
        · cases buildIndexes (cs.eraseIdx i) with
          | error e => simp
          | ok idx' => simp only [if_true, Except.ok.injEq, exists_eq_left']; exact eq_comm
        · simp only [Bool.false_eq_true, if_false, Except.ok.injEq]; exact eq_comm

theorem foldl_removeNodes_cons {c : Node} (ds : List Bytes) (h : c.seg.value ∉ ds) (cs : List Node) :
    ds.foldl removeNodes (c :: cs) = c :: ds.foldl removeNodes cs := by
  induction ds generalizing cs with
  | nil => rfl
  | cons d ds ih =>
    simp only [List.mem_cons, not_or] at h
    simp only [List.foldl_cons, removeNodes, h.1, if_false]
    exact ih h.2 _

/-- The deletion loop of `clean` is a filter. -/
theorem foldl_removeNodes_filter (P : Bytes → Bool) (cs : List Node) :
    ((cs.filter (fun c => P c.seg.value)).map (·.seg.value)).foldl removeNodes cs =
      cs.filter (fun c => !(P c.seg.value)) := by
  induction cs with
  | nil => rfl
  | cons c cs ih =>
    by_cases hc : P c.seg.value = true
    · simp only [List.filter_cons, hc, if_true, List.map_cons, List.foldl_cons, removeNodes, Bool.not_true,
        Bool.false_eq_true, if_false]
      exact ih
    · have hc' : P c.seg.value = false := by simpa using hc
      simp only [List.filter_cons, hc', Bool.false_eq_true, if_false, Bool.not_false, if_true]
      rw [foldl_removeNodes_cons, ih]
      intro hm
      rw [List.mem_map] at hm
      obtain ⟨d, hd, e⟩ := hm
      have := (List.mem_filter.1 hd).2
      rw [e] at this
      exact hc this

theorem cleanL_nil_prefix (cs : List Node) : cleanL cs [] = .ok cs := by
  induction cs with
  | nil => rfl
  | cons c cs ih => rw [cleanL, if_neg (fun h => Nat.not_lt_zero _ h.1), ih]; rfl

/-- The empty prefix is no special case: no child is entered, every text has the prefix, all children go. -/
theorem Node.clean_ok {n n' : Node} {pre : Bytes} :
    n.clean pre = .ok n' ↔ ∃ cs1 idx', cleanL n.children pre = .ok cs1 ∧
      buildIndexes (cs1.filter (fun c => !(hasPrefix c.seg.value pre))) = .ok idx' ∧
      n' = n.setChildren (cs1.filter (fun c => !(hasPrefix c.seg.value pre))) idx' := by
  cases n with
  | mk s p mi hs idx cs =>
    rw [Node.clean]
    by_cases hp : pre = []
    · subst hp
      have hall : cs.filter (fun c => !(hasPrefix c.seg.value [])) = [] :=
        List.filter_eq_nil_iff.2 fun c _ => by simp [(hasPrefix_iff c.seg.value []).2 List.nil_prefix]
      constructor
      · intro h
        exact ⟨cs, [], cleanL_nil_prefix cs, by rw [hall]; rfl, by rw [hall]; exact (Except.ok.inj h).symm⟩
      · rintro ⟨cs1, idx', h1, h2, rfl⟩
        cases (cleanL_nil_prefix cs).symm.trans h1
        rw [hall] at h2 ⊢
        cases h2
        rfl
    · have hp' : pre.isEmpty = false := by simpa using hp
      rw [if_neg (by simp [hp']), bind_ok_iff]
      simp only [foldl_removeNodes_filter (fun v => hasPrefix v pre), bind_ok_iff, pure_ok_iff]
      exact ⟨fun ⟨cs1, h1, idx', h2, e⟩ => ⟨cs1, idx', h1, h2, e.symm⟩,
        fun ⟨cs1, idx', h1, h2, e⟩ => ⟨cs1, h1, idx', h2, e.symm⟩⟩

theorem cleanL_cons_ok {c : Node} {cs : List Node} {pre : Bytes} {r : List Node} :
    cleanL (c :: cs) pre = .ok r ↔ ∃ c' cs',
      (if c.seg.value.length < pre.length ∧ hasPrefix pre c.seg.value = true
        then c.clean (pre.drop c.seg.value.length) = .ok c' else c' = c) ∧
      cleanL cs pre = .ok cs' ∧ r = c' :: cs' := by
  rw [cleanL]
  by_cases hcond : c.seg.value.length < pre.length ∧ hasPrefix pre c.seg.value = true
  · simp only [if_pos hcond, bind_ok_iff, pure_ok_iff]
    exact ⟨fun ⟨c', hc', cs', hcs', e⟩ => ⟨c', cs', hc', hcs', e.symm⟩,
      fun ⟨c', cs', hc', hcs', e⟩ => ⟨c', hc', cs', hcs', e.symm⟩⟩
  · simp only [if_neg hcond, bind_ok_iff, pure_ok_iff]
    exact ⟨fun ⟨c', hc', cs', hcs', e⟩ => ⟨c', cs', hc'.symm, hcs', e.symm⟩,
      fun ⟨c', cs', hc', hcs', e⟩ => ⟨c', hc'.symm, cs', hcs', e.symm⟩⟩

theorem Node.clean_own {n n' : Node} {pre : Bytes} (h : n.clean pre = .ok n') : n'.own = n.own := by
  obtain ⟨_, _, _, _, rfl⟩ := Node.clean_ok.1 h
  rfl

theorem hasPrefix_of_length_lt {v pre : Bytes} (h : v.length < pre.length) : hasPrefix v pre = false :=
  Bool.eq_false_iff.2 fun hp => Nat.not_le_of_lt h ((hasPrefix_iff _ _).1 hp).length_le

/-- What `clean pre` leaves of a forest (`cleanL`, then the deletion of the children whose text has the prefix),
child by child: a child whose text is a proper prefix of `pre` is cleaned with the rest of `pre` (and stays, its text
being shorter than `pre`), a child whose text has the prefix `pre` goes with its subtree, any other child stays as it is. -/
theorem cleanL_kept_cons {c : Node} {cs cs1 : List Node} {pre : Bytes} (h : cleanL (c :: cs) pre = .ok cs1) :
    ∃ cs2, cleanL cs pre = .ok cs2 ∧
      (((c.seg.value.length < pre.length ∧ hasPrefix pre c.seg.value = true) ∧
          ∃ c', c.clean (pre.drop c.seg.value.length) = .ok c' ∧
            cs1.filter (fun c => !(hasPrefix c.seg.value pre)) =
              c' :: cs2.filter (fun c => !(hasPrefix c.seg.value pre))) ∨
        (hasPrefix c.seg.value pre = true ∧
          cs1.filter (fun c => !(hasPrefix c.seg.value pre)) = cs2.filter (fun c => !(hasPrefix c.seg.value pre))) ∨
        (¬ (c.seg.value.length < pre.length ∧ hasPrefix pre c.seg.value = true) ∧ hasPrefix c.seg.value pre = false ∧
          cs1.filter (fun c => !(hasPrefix c.seg.value pre)) =
            c :: cs2.filter (fun c => !(hasPrefix c.seg.value pre)))) := by
  obtain ⟨c', cs2, hc', hcs2, rfl⟩ := cleanL_cons_ok.1 h
  refine ⟨cs2, hcs2, ?_⟩
  rw [List.filter_cons]
  split at hc'
  · rename_i hcond
    rw [(Node.own_eq_iff.1 (Node.clean_own hc')).1, hasPrefix_of_length_lt hcond.1]
    exact .inl ⟨hcond, c', hc', rfl⟩
  · rename_i hcond
    subst hc'
    cases hdel : hasPrefix c'.seg.value pre with
    | true => exact .inr (.inl ⟨rfl, rfl⟩)
    | false => exact .inr (.inr ⟨hcond, rfl, rfl⟩)

/-- Two lists of nodes related one by one. -/
inductive RelL (R : Node → Node → Prop) : List Node → List Node → Prop
  | nil : RelL R [] []
  | cons {c c' : Node} {cs cs' : List Node} : R c c' → RelL R cs cs' → RelL R (c :: cs) (c' :: cs')

/-- `clean` succeeds when no text below the node is empty: its only error site is `buildIndexes`. -/
theorem Node.clean_succeeds : ∀ (n : Node) (pre : Bytes), AllL (fun c => c.seg.value ≠ []) n.children →
    ∃ n', n.clean pre = .ok n' := by
  intro n
  induction n using Node.rec (motive_2 := fun cs => ∀ pre, AllL (fun c => c.seg.value ≠ []) cs →
      ∃ cs1, cleanL cs pre = .ok cs1 ∧ ∀ c1 ∈ cs1, c1.seg.value ≠ []) with
  | mk s p mi hs idx cs ih =>
    intro pre hne
    obtain ⟨cs1, hcs1, hv⟩ := ih pre hne
    obtain ⟨idx', hidx'⟩ := buildIndexes_ok (cs := cs1.filter (fun c => !(hasPrefix c.seg.value pre)))
      (fun c hc => hv c (List.mem_filter.1 hc).1)
    exact ⟨_, Node.clean_ok.2 ⟨cs1, idx', hcs1, hidx', rfl⟩⟩
  | nil => exact ⟨[], rfl, fun _ h => nomatch h⟩
  | cons c cs ih1 ih2 =>
    rename_i pre hne
    obtain ⟨cs2, hcs2, hv2⟩ := ih2 pre hne.2
    have hc : ∃ c', (if c.seg.value.length < pre.length ∧ hasPrefix pre c.seg.value = true
        then c.clean (pre.drop c.seg.value.length) = .ok c' else c' = c) ∧ c'.seg = c.seg := by
      split
      · obtain ⟨c', hc'⟩ := ih1 (pre.drop c.seg.value.length) hne.1.tail
        exact ⟨c', hc', (Node.own_eq_iff.1 (Node.clean_own hc')).1⟩
      · exact ⟨c, rfl, rfl⟩
    obtain ⟨c', hc', hseg⟩ := hc
    refine ⟨c' :: cs2, cleanL_cons_ok.2 ⟨c', cs2, hc', hcs2, rfl⟩, fun c1 hc1 => ?_⟩
    rcases List.mem_cons.1 hc1 with rfl | hc1
    · rw [hseg]; exact hne.1.head
    · exact hv2 c1 hc1

theorem applyMwL_eq_map (router : Bytes) (ms : List Nat) (cs : List Node) :
    applyMwL router ms cs = cs.map (Node.applyMw router ms) := by
  induction cs with
  | nil => rfl
  | cons c cs ih => simp [applyMwL, ih]

theorem applyMwL_length (router : Bytes) (ms : List Nat) (cs : List Node) :
    (applyMwL router ms cs).length = cs.length := by
  rw [applyMwL_eq_map, List.length_map]

theorem applyMw_fields (router : Bytes) (ms : List Nat) (n : Node) :
    (n.applyMw router ms).seg = n.seg ∧ (n.applyMw router ms).pattern = n.pattern ∧
    (n.applyMw router ms).methodIndex = n.methodIndex ∧
    (n.applyMw router ms).handlers = n.handlers.map (fun e => (e.1, wrapWith e.2 e.1 n.pattern router ms)) ∧
    (n.applyMw router ms).indexes = n.indexes ∧
    (n.applyMw router ms).children = applyMwL router ms n.children := by
  cases n; simp [Node.applyMw]

/-- What `modifyAt`, `removeAt`, `clean` and `applyMw` can do to a subtree: the handler map of a node (and its method
index) is replaced, where `H` says which replacements may occur; a child is edited in place; children are dropped and
the index rebuilt. -/
inductive Node.Edit (H : Node → Node → Prop) : Node → Node → Prop
  | refl (n : Node) : Edit H n n
  | own {n n' : Node} : H n n' → n.SameShape n' → Edit H n n'
  | child {n c c' : Node} {i : Nat} : n.children[i]? = some c → Edit H c c' →
      Edit H n (n.setChildren (n.children.set i c') n.indexes)
  | prune {n : Node} {kept : List Node} {idx : List (UInt8 × Nat)} : kept.Sublist n.children →
      buildIndexes kept = .ok idx → Edit H n (n.setChildren kept idx)
  | trans {a b c : Node} : Edit H a b → Edit H b c → Edit H a c

namespace Node.Edit
variable {H : Node → Node → Prop}

theorem top {n n' : Node} (h : Edit H n n') :
    n'.seg = n.seg ∧ n'.pattern = n.pattern ∧ (n.children = [] → n'.children = []) := by
  induction h with
  | refl => exact ⟨rfl, rfl, id⟩
  | own _ hs => exact ⟨hs.1, hs.2.1, fun e => hs.2.2.2.trans e⟩
  | @child n _ _ _ hc _ _ => exact ⟨rfl, rfl, fun e => by rw [e] at hc; cases hc⟩
  | prune hs _ => exact ⟨rfl, rfl, fun e => List.eq_nil_of_sublist_nil (e ▸ hs)⟩
  | trans _ _ ih1 ih2 =>
    exact ⟨ih2.1.trans ih1.1, ih2.2.1.trans ih1.2.1, fun e => ih2.2.2 (ih1.2.2 e)⟩

theorem mono {H' : Node → Node → Prop} (hH : ∀ n n', H n n' → H' n n') {n n' : Node} (h : Edit H n n') :
    Edit H' n n' := by
  induction h with
  | refl n => exact .refl n
  | own hh hs => exact .own (hH _ _ hh) hs
  | child hc _ ih => exact .child hc ih
  | prune hs hi => exact .prune hs hi
  | trans _ _ ih1 ih2 => exact ih1.trans ih2

theorem children {n : Node} {cs' : List Node} (h : RelL (Edit H) n.children cs') :
    Edit H n (n.setChildren cs' n.indexes) := by
  -- edit the children one by one from the left: after `k` of them the list is `done ++ todo`
  suffices ∀ (done todo todo' : List Node), RelL (Edit H) todo todo' →
      Edit H (n.setChildren (done ++ todo) n.indexes) (n.setChildren (done ++ todo') n.indexes) by
    have := this [] n.children cs' h
    rwa [List.nil_append, List.nil_append, show n.setChildren n.children n.indexes = n from by cases n; rfl] at this
  intro done todo todo' h
  induction h generalizing done with
  | nil => exact .refl _
  | @cons c c' cs cs' hc _ ih =>
    have h1 : Edit H (n.setChildren (done ++ c :: cs) n.indexes) (n.setChildren (done ++ c' :: cs) n.indexes) := by
      have := Edit.child (H := H) (n := n.setChildren (done ++ c :: cs) n.indexes) (i := done.length) (c := c)
        (by simp) hc
      simpa using this
    have h2 := ih (done ++ [c'])
    simp only [List.append_assoc, List.singleton_append] at h2
    exact h1.trans h2

/-- **An invariant of single nodes goes through every edit**, given its three one-node facts.  The node the edit
is applied to need not satisfy it (the root of a tree is special for some invariants): what holds below it goes on
holding below it. -/
theorem forest {L : Node → Prop}
    (own : ∀ {n n'}, H n n' → n.SameShape n' → Node.All L n → L n')
    (child : ∀ {n c c' i}, L n → n.children[i]? = some c → Edit H c c' →
      L (n.setChildren (n.children.set i c') n.indexes))
    (prune : ∀ {n kept idx}, L n → kept.Sublist n.children → buildIndexes kept = .ok idx →
      L (n.setChildren kept idx))
    {n n' : Node} (h : Edit H n n') : AllL L n.children → (L n → L n') ∧ AllL L n'.children := by
  induction h with
  | refl => exact fun ha => ⟨id, ha⟩
  | own hh hs => exact fun ha => ⟨fun hn => own hh hs ((Node.All_iff _ _).2 ⟨hn, ha⟩), hs.2.2.2 ▸ ha⟩
  | child hc he ih =>
    intro ha
    have hc' := AllL_getElem? ha hc
    have ih := ih hc'.tail
    exact ⟨fun hn => child hn hc he, AllL_set ha ((Node.All_iff _ _).2 ⟨ih.1 hc'.head, ih.2⟩)⟩
  | prune hs hi => exact fun ha => ⟨fun hn => prune hn hs hi, AllL_sublist hs ha⟩
  | trans _ _ ih1 ih2 => exact fun ha => ⟨fun hn => (ih2 (ih1 ha).2).1 ((ih1 ha).1 hn), (ih2 (ih1 ha).2).2⟩

theorem all {L : Node → Prop}
    (own : ∀ {n n'}, H n n' → n.SameShape n' → Node.All L n → L n')
    (child : ∀ {n c c' i}, L n → n.children[i]? = some c → Edit H c c' →
      L (n.setChildren (n.children.set i c') n.indexes))
    (prune : ∀ {n kept idx}, L n → kept.Sublist n.children → buildIndexes kept = .ok idx →
      L (n.setChildren kept idx))
    {n n' : Node} (h : Edit H n n') (hn : Node.All L n) : Node.All L n' :=
  have hb := h.forest own child prune hn.tail
  (Node.All_iff _ _).2 ⟨hb.1 hn.head, hb.2⟩

theorem sigc {n n' : Node} (h : Edit H n n') : P8.sigc n' = P8.sigc n := Prod.ext h.top.1 h.top.2.1

theorem closed {P : Node → Prop} (hP : P8.Closed P) {n n' : Node} (h : Edit H n n') (hn : Node.All P n) :
    Node.All P n' :=
  h.all (fun _ hs hn => hP.congr hn.head hs.2.1 hs.2.2.1 (by rw [hs.2.2.2]))
    (fun hn hc he => hP.congr hn rfl rfl (P8.map_sigc_set hc he.sigc))
    (fun hn hs hi => hP.sublist hn rfl (hs.map _) hi) hn

theorem ownQ {Q : Nat → AMap Handler → Bytes → Prop}
    (hH : ∀ n n', H n n' → n.SameShape n' → P9.OwnQ Q n → P9.OwnQ Q n') {n n' : Node} (h : Edit H n n') :
    AllL (P9.OwnQ Q) n.children → (P9.OwnQ Q n → P9.OwnQ Q n') ∧ AllL (P9.OwnQ Q) n'.children :=
  h.forest (fun hh hs hn => hH _ _ hh hs hn.head) (fun hn _ _ => hn) (fun hn _ _ => hn)

end Node.Edit

/-- `modifyAt` applies `f` to the node the path leads to, and to no other. -/
theorem modifyAt_edit_at {f : Node → Except Err Node} (hf : ∀ m m', f m = .ok m' → m.SameShape m') :
    ∀ {path : List Nat} {n n' : Node}, n.modifyAt f path = .ok n' →
      ∃ m m', n.getAt path = some m ∧ f m = .ok m' ∧ n'.getAt path = some m' ∧
        Node.Edit (fun x x' => x = m ∧ x' = m') n n' := by
  intro path
  induction path with
  | nil =>
    intro n n' h
    rw [Node.modifyAt_nil] at h
    exact ⟨n, n', Node.getAt_nil n, h, Node.getAt_nil n', .own ⟨rfl, rfl⟩ (hf _ _ h)⟩
  | cons i path ih =>
    intro n n' h
    obtain ⟨c, c', hc, hmod, rfl⟩ := Node.modifyAt_cons_iff.1 h
    obtain ⟨m, m', hm, hm', hget, he⟩ := ih hmod
    refine ⟨m, m', Node.getAt_cons_some.2 ⟨c, hc, hm⟩, hm', ?_, .child hc he⟩
    rw [Node.getAt_cons, setChildren_children, List.getElem?_set_self (List.getElem?_eq_some_iff.1 hc).1]
    exact hget

theorem modifyAt_edit {H : Node → Node → Prop} {f : Node → Except Err Node}
    (hf : ∀ m m', f m = .ok m' → H m m' ∧ m.SameShape m') {path : List Nat} {n n' : Node}
    (h : n.modifyAt f path = .ok n') : Node.Edit H n n' := by
  obtain ⟨m, m', _, hm, _, he⟩ := modifyAt_edit_at (fun m m' h => (hf m m' h).2) h
  exact he.mono fun _ _ ⟨e1, e2⟩ => e1 ▸ e2 ▸ (hf m m' hm).1

theorem removeAt_edit {H : Node → Node → Prop} {f : Node → Node} (hf : ∀ m, H m (f m) ∧ m.SameShape (f m)) :
    ∀ {path : List Nat} {n n' : Node}, n.removeAt f path = .ok n' → Node.Edit H n n' := by
  intro path
  induction path with
  | nil =>
    intro n n' h
    cases (Node.removeAt_nil f n).symm.trans h
    exact .own (hf n).1 (hf n).2
  | cons i path ih =>
    intro n n' h
    obtain ⟨c, c', hc, hrem, h⟩ := Node.removeAt_cons_iff.1 h
    split at h
    · obtain ⟨idx', hidx', rfl⟩ := h
      exact .prune (List.eraseIdx_sublist ..) hidx'
    · subst h
      exact .child hc (ih hrem)

/-- `clean` cleans children in place and then drops some of them. -/
theorem clean_edit {H : Node → Node → Prop} {n n' : Node} {pre : Bytes} (h : n.clean pre = .ok n') : Node.Edit H n n' := by
  induction n using Node.rec (motive_2 := fun cs => ∀ pre cs', cleanL cs pre = .ok cs' →
      RelL (Node.Edit H) cs cs') generalizing pre n' with
  | mk s p mi hs idx cs ih =>
    obtain ⟨cs1, idx', hcs1, hidx', rfl⟩ := Node.clean_ok.1 h
    exact (Node.Edit.children (ih pre cs1 hcs1)).trans (.prune (n := .mk s p mi hs idx cs1) List.filter_sublist hidx')
  | nil =>
    rename_i pre cs' h
    cases h; exact .nil
  | cons c cs ih1 ih2 =>
    rename_i pre cs' h
    obtain ⟨c', cs1, hc', hcs1, rfl⟩ := cleanL_cons_ok.1 h
    refine .cons ?_ (ih2 pre cs1 hcs1)
    split at hc'
    · exact ih1 hc'
    · rw [hc']; exact .refl c

/-- What `applyMw` does to one node. -/
def mwOwn (router : Bytes) (ms : List Nat) (m m' : Node) : Prop :=
  m' = m.setHandlers (m.handlers.map fun e => (e.1, wrapWith e.2 e.1 m.pattern router ms)) m.methodIndex

theorem applyMw_edit (router : Bytes) (ms : List Nat) (n : Node) :
    Node.Edit (mwOwn router ms) n (n.applyMw router ms) := by
  induction n using Node.rec (motive_2 := fun cs => RelL (Node.Edit (mwOwn router ms)) cs (applyMwL router ms cs)) with
  | mk s p mi hs idx cs ih =>
    have h : mwOwn router ms (.mk s p mi hs idx cs) _ := rfl
    exact (Node.Edit.own h ⟨rfl, rfl, rfl, rfl⟩).trans (Node.Edit.children ih)
  | nil => exact .nil
  | cons c cs ih1 ih2 => exact .cons ih1 ih2

theorem Node.modifyAt_cons_own {f : Node → Except Err Node} {n n' : Node} {i : Nat} {path : List Nat}
    (h : n.modifyAt f (i :: path) = .ok n') : n'.own = n.own := by
  obtain ⟨_, _, _, _, rfl⟩ := Node.modifyAt_cons_iff.1 h; rfl

theorem Node.removeAt_cons_own {f : Node → Node} {n n' : Node} {i : Nat} {path : List Nat}
    (h : n.removeAt f (i :: path) = .ok n') : n'.own = n.own := by
  obtain ⟨_, c', _, _, h⟩ := Node.removeAt_cons_iff.1 h
  split at h
  · obtain ⟨_, _, rfl⟩ := h; rfl
  · subst h; rfl

theorem Node.Edit.nodeOk {H : Node → Node → Prop}
    (hH : ∀ n n', H n n' → Q n.methodIndex n.handlers → Q n'.methodIndex n'.handlers) {n n' : Node}
    (h : Node.Edit H n n') (hidx : IdxOk n) (hall : AllL (NodeOk Q) n.children) :
    (Q n.methodIndex n.handlers → Q n'.methodIndex n'.handlers) ∧ IdxOk n' ∧ AllL (NodeOk Q) n'.children := by
  obtain ⟨hq, hi⟩ := AllL_and.1 hall
  have hi' := h.closed IdxOk.closed ((Node.All_iff _ _).2 ⟨hidx, hi⟩)
  obtain ⟨hq1, hq2⟩ := h.ownQ (Q := fun mi hs _ => Q mi hs) (fun _ _ hh _ => hH _ _ hh) hq
  exact ⟨hq1, hi'.head, AllL_and.2 ⟨hq2, hi'.tail⟩⟩

theorem Node.Edit.allNodeOk {H : Node → Node → Prop}
    (hH : ∀ n n', H n n' → Q n.methodIndex n.handlers → Q n'.methodIndex n'.handlers) {n n' : Node}
    (h : Node.Edit H n n') (hn : Node.All (NodeOk Q) n) : Node.All (NodeOk Q) n' :=
  have ⟨hq, hi, ha⟩ := h.nodeOk hH hn.head.2 hn.tail
  (Node.All_iff _ _).2 ⟨⟨hq hn.head.1, hi⟩, ha⟩

/-- The method list `Tree.add` works with. -/
def effMethods (methods : List Bytes) : List Bytes := if methods.isEmpty then anyMethods else methods

theorem effMethods_ne_nil (methods : List Bytes) : effMethods methods ≠ [] := by
  unfold effMethods
  split
  · decide
  · rename_i h; intro e; rw [e] at h; simp at h

theorem effMethods_of_ne {methods : List Bytes} (h : methods ≠ []) : effMethods methods = methods := by
  unfold effMethods
  cases methods with
  | nil => exact absurd rfl h
  | cons _ _ => simp

theorem mem_effMethods {methods : List Bytes} {m : Bytes} (h : m ∈ methods) : m ∈ effMethods methods := by
  rw [effMethods_of_ne (List.ne_nil_of_mem h)]; exact h

theorem effMethods_of_not_nodup {methods : List Bytes} (h : ¬ methods.Nodup) : effMethods methods = methods := by
  apply effMethods_of_ne
  intro e; subst e; exact h List.nodup_nil

/-- The last two stages of `Tree.add`: restructure, then install the handlers. -/
def addTail (t : Tree) (p : Bytes) (h : Handler) (ms : List Nat) (methods : List Bytes) : Except Err Tree :=
  match splitString p with
  | [] => .error (.fault 260)
  | v :: rest => do
    let r ← getNode t.ic t.root v rest
    let root2 ← r.1.modifyAt (t.addMethodsNode h p ms methods) r.2
    pure (({ t with root := root2 }).bumpMethods methods)

/-- `splitString` never answers `[]`, so this is `addTail` for every pattern. -/
theorem addTail_cons {p v : Bytes} {rest : List Bytes} (hsp : splitString p = v :: rest) (t : Tree) (h : Handler)
    (ms : List Nat) (methods : List Bytes) :
    addTail t p h ms methods =
      getNode t.ic t.root v rest >>= fun r =>
        r.1.modifyAt (t.addMethodsNode h p ms methods) r.2 >>= fun root2 =>
          pure (({ t with root := root2 }).bumpMethods methods) := by
  rw [addTail, hsp]

/-- `Tree.add` as the chain of its stages, for `bind_ok_iff` and `bind_eq_error`. -/
theorem Tree.add_bind (t : Tree) (p : Bytes) (h : Handler) (ms : List Nat) (methods : List Bytes) :
    t.add p h ms methods =
      t.root.checkAmb t.ic p false >>= fun a =>
        if a = some true then .error .ambiguous else
          split t.ic p >>= fun _ => t.checkMethods p (effMethods methods) [] >>= fun _ =>
            addTail t p h ms (effMethods methods) := by
  unfold Tree.add addTail effMethods
  cases t.root.checkAmb t.ic p false with
  | error e => rfl
  | ok a => rcases a with _ | _ | _ <;> rfl

theorem Tree.add_eq (t : Tree) (p : Bytes) (h : Handler) (ms : List Nat) (methods : List Bytes) :
    t.add p h ms methods =
      match t.root.checkAmb t.ic p false with
      | .error e => .error e
      | .ok a =>
        if a = some true then .error .ambiguous else
        match split t.ic p with
        | .error e => .error e
        | .ok _ =>
          match t.checkMethods p (effMethods methods) [] with
          | .error e => .error e
          | .ok _ => addTail t p h ms (effMethods methods) := by
  rw [Tree.add_bind]
  cases t.root.checkAmb t.ic p false with
  | error e => rfl
  | ok a =>
    cases split t.ic p with
    | error e => rfl
    | ok segs => cases t.checkMethods p (effMethods methods) [] <;> rfl

theorem Tree.add_of_valid {t : Tree} {p : Bytes} (h : Handler) (ms : List Nat) (methods : List Bytes) {a : Option Bool}
    {segs : List Seg} (hamb : t.root.checkAmb t.ic p false = .ok a) (ha : a ≠ some true)
    (hs : split t.ic p = .ok segs) :
    t.add p h ms methods =
      match t.checkMethods p (effMethods methods) [] with
      | .error e => .error e
      | .ok _ => addTail t p h ms (effMethods methods) := by
  simp only [Tree.add_eq, hamb, if_neg ha, hs]

theorem Tree.add_ok {t t' : Tree} {p : Bytes} {h : Handler} {ms : List Nat} {methods : List Bytes}
    (he : t.add p h ms methods = .ok t') :
    ∃ segs v rest root1 path root2,
      split t.ic p = .ok segs ∧
      t.checkMethods p (effMethods methods) [] = .ok () ∧
      splitString p = v :: rest ∧
      getNode t.ic t.root v rest = .ok (root1, path) ∧
      root1.modifyAt (t.addMethodsNode h p ms (effMethods methods)) path = .ok root2 ∧
      t' = ({ t with root := root2 }).bumpMethods (effMethods methods) := by
  obtain ⟨v, rest, hsp⟩ := List.exists_cons_of_ne_nil (splitString_ne_nil p)
  simp only [Tree.add_bind, addTail_cons hsp, bind_ok_iff, ite_error_eq_ok, pure_ok_iff] at he
  obtain ⟨_, _, _, segs, hs, _, hcm, ⟨root1, path⟩, hget, root2, hmod, rfl⟩ := he
  exact ⟨segs, v, rest, root1, path, root2, hs, hcm, hsp, hget, hmod, rfl⟩

theorem Tree.add_ne_nil {t t' : Tree} {p : Bytes} {h : Handler} {ms : List Nat} {methods : List Bytes}
    (he : t.add p h ms methods = .ok t') : p ≠ [] := by
  obtain ⟨segs, _, _, _, _, _, hs, _⟩ := Tree.add_ok he
  rintro rfl
  rw [split, if_pos rfl] at hs
  cases hs

theorem Tree.remove_inv {t t' : Tree} {p : Bytes} {methods : List Bytes} (he : t.remove p methods = .ok t') :
    (t' = t ∧ t.root.findPath p = none) ∨ ∃ path root1, t.root.findPath p = some path ∧
      t.root.removeAt (removeMethods t.hasTrace methods) path = .ok root1 ∧
      t' = ({ t with root := root1 }).recount := by
  unfold Tree.remove at he
  split at he
  · rename_i hnone
    exact .inl ⟨(Except.ok.inj he).symm, hnone⟩
  · rename_i path hpath
    obtain ⟨root1, hroot1, he⟩ := bind_ok_iff.1 he
    exact .inr ⟨path, root1, hpath, hroot1, (pure_ok_iff.1 he).symm⟩

theorem Tree.clean_ok {t t' : Tree} {pre : Bytes} (he : t.clean pre = .ok t') :
    ∃ root1, t.root.clean pre = .ok root1 ∧ t' = ({ t with root := root1 }).recount := by
  obtain ⟨root1, hroot1, he⟩ := bind_ok_iff.1 he
  exact ⟨root1, hroot1, (pure_ok_iff.1 he).symm⟩

theorem Tree.run_inv {I : Tree → Prop} {ops : List TOp} (step : ∀ t, ∀ op ∈ ops, I t → I (t.step op)) :
    ∀ {t : Tree}, I t → I (t.run ops) := List.foldl_inv step

/-- How a successful `Add`, `Remove` or `Clean` arrives at the new root (before the root's method index is
recomputed) and at the new counters. -/
inductive TOp.Yields (t : Tree) : TOp → Node → AMap Nat → Prop
  | add {p h ms methods v rest root1 path root2 segs} : p ≠ [] → t.checkMethods p (effMethods methods) [] = .ok () →
      splitString p = v :: rest → getNode t.ic t.root v rest = .ok (root1, path) →
      root1.modifyAt (t.addMethodsNode h p ms (effMethods methods)) path = .ok root2 → split t.ic p = .ok segs →
      Yields t (.add p h ms methods) root2
        ((effMethods methods).foldl (fun a m => a.set m ((a.get? m).getD 0 + 1)) t.counts)
  | remove {p methods path root1} : t.root.findPath p = some path →
      t.root.removeAt (removeMethods t.hasTrace methods) path = .ok root1 →
      Yields t (.remove p methods) root1 (root1.countMethods [])
  | clean {pre root1} : t.root.clean pre = .ok root1 → Yields t (.clean pre) root1 (root1.countMethods [])

theorem Tree.step_cases (t : Tree) (op : TOp) :
    t.step op = t ∨ (∃ ms, op = .use ms) ∨ ∃ root' counts', op.Yields t root' counts' ∧
      t.step op =
        { t with counts := counts', root := root'.setHandlers root'.handlers (rootMethodIndex t.hasTrace counts') } := by
  cases op with
  | add p h ms methods =>
    simp only [Tree.step]
    split
    · next t' he =>
      obtain ⟨segs, v, rest, root1, path, root2, hsplit, hcm, hsp, hget, hmod, rfl⟩ := Tree.add_ok he
      exact .inr (.inr ⟨_, _, .add (Tree.add_ne_nil he) hcm hsp hget hmod hsplit, rfl⟩)
    · exact .inl rfl
  | remove p methods =>
    simp only [Tree.step]
    split
    · next t' he =>
      rcases Tree.remove_inv he with ⟨rfl, _⟩ | ⟨path, root1, hpath, hrem, rfl⟩
      · exact .inl rfl
      · exact .inr (.inr ⟨_, _, .remove hpath hrem, rfl⟩)
    · exact .inl rfl
  | clean pre =>
    simp only [Tree.step]
    split
    · next t' he =>
      obtain ⟨root1, hclean, rfl⟩ := Tree.clean_ok he
      exact .inr (.inr ⟨_, _, .clean hclean, rfl⟩)
    · exact .inl rfl
  | use ms => exact .inr (.inl ⟨ms, rfl⟩)

theorem addMethodsNode_shape {t : Tree} {h : Handler} {p : Bytes} {ms : List Nat} {methods : List Bytes} {n n' : Node}
    (he : t.addMethodsNode h p ms methods n = .ok n') : n.SameShape n' := by
  obtain ⟨_, _, rfl⟩ := addMethodsNode_ok_iff.1 he
  exact ⟨rfl, rfl, rfl, rfl⟩

theorem removeMethods_shape (ht : Bool) (methods : List Bytes) (n : Node) : n.SameShape (removeMethods ht methods n) :=
  ⟨rfl, rfl, rfl, rfl⟩

/-- The node an operation edits: the root, or for a successful `Add` what `getNode` has made of the root for the pieces
of the registered pattern. -/
inductive TOp.Grows (t : Tree) : TOp → Node → Prop
  | root (op : TOp) : Grows t op t.root
  | add {p h ms methods v rest root1 path segs} : (∀ x ∈ v :: rest, x ≠ []) → split t.ic p = .ok segs →
      splitString p = v :: rest → getNode t.ic t.root v rest = .ok (root1, path) →
      Grows t (.add p h ms methods) root1

theorem TOp.Grows.own {t : Tree} {op : TOp} {root1 : Node} (hg : op.Grows t root1) : root1.own = t.root.own := by
  cases hg with
  | root => rfl
  | add _ _ _ hget => exact (P9.getNode_top _ _ _ _ _ hget).1

/-- The replacement of a node's handler map that `op` performs on the tree `t` (`Clean` performs none). -/
def TOp.own (t : Tree) : TOp → Node → Node → Prop
  | .add p h ms methods, m, m' => t.addMethodsNode h p ms (effMethods methods) m = .ok m'
  | .remove _ methods, m, m' => m' = removeMethods t.hasTrace methods m
  | .clean _, _, _ => False
  | .use ms, m, m' => mwOwn t.name ms m m'

theorem TOp.Yields.edit {t : Tree} {op : TOp} {root' : Node} {counts' : AMap Nat} (hy : op.Yields t root' counts') :
    ∃ root1, op.Grows t root1 ∧ Node.Edit (op.own t) root1 root' ∧ root'.own = t.root.own := by
  cases hy with
  | @add p h ms methods v rest root1 path _ _ hp _ hsp hget hmod hsplit =>
    have hg : (TOp.add p h ms methods).Grows t root1 := .add (hsp ▸ splitString_pieces_nonempty p hp) hsplit hsp hget
    obtain ⟨i, path, rfl⟩ := List.exists_cons_of_ne_nil (P9.getNode_top _ _ _ _ _ hget).2.1
    exact ⟨root1, hg, modifyAt_edit (fun _ _ h => ⟨h, addMethodsNode_shape h⟩) hmod,
      (Node.modifyAt_cons_own hmod).trans hg.own⟩
  | @remove p methods path _ hpath hrem =>
    obtain ⟨i, path, rfl⟩ := List.exists_cons_of_ne_nil (findPath_ne_nil _ _ _ hpath)
    exact ⟨_, .root _, removeAt_edit (H := (TOp.remove p methods).own t) (fun m => ⟨rfl, removeMethods_shape _ _ m⟩) hrem,
      Node.removeAt_cons_own hrem⟩
  | clean hclean => exact ⟨_, .root _, clean_edit hclean, Node.clean_own hclean⟩

/-- **Every operation of a history is an edit of the root**, for a successful `Add` after `getNode` has restructured
it: a failed operation is the empty edit, `Use` is `applyMw`, and the recount after `Add`, `Remove` and `Clean` replaces
the root's method index.  Which handler maps are replaced is forgotten (`TOp.Yields.edit` says it). -/
theorem Tree.step_edit (t : Tree) (op : TOp) :
    ∃ root1, op.Grows t root1 ∧ Node.Edit (fun _ _ => True) root1 (t.step op).root ∧ (t.step op).ic = t.ic := by
  rcases t.step_cases op with h | ⟨ms, rfl⟩ | ⟨root', counts', hy, h⟩
  · rw [h]; exact ⟨_, .root _, .refl _, rfl⟩
  · exact ⟨_, .root _, (applyMw_edit t.name ms t.root).mono fun _ _ _ => trivial, rfl⟩
  · obtain ⟨root1, h1, he, _⟩ := hy.edit
    rw [h]
    exact ⟨root1, h1, (he.mono fun _ _ _ => trivial).trans (.own trivial ⟨rfl, rfl, rfl, rfl⟩), rfl⟩

theorem P8.step_closed {P : Node → Prop} (hP : P8.Closed P) (t : Tree) (op : TOp)
    (hget : ∀ p h ms methods v rest r, op = .add p h ms methods → (∀ x ∈ v :: rest, x ≠ []) →
      splitString p = v :: rest → getNode t.ic t.root v rest = .ok r → Node.All P r.1)
    (ha : Node.All P t.root) :
    (t.step op).ic = t.ic ∧ (t.step op).root.pattern = t.root.pattern ∧ Node.All P (t.step op).root := by
  obtain ⟨root1, h1, he, hic⟩ := t.step_edit op
  refine ⟨hic, he.top.2.1.trans (Node.own_eq_iff.1 h1.own).2.1, he.closed hP ?_⟩
  cases h1 with
  | root => exact ha
  | add hp _ hsp hg => exact hget _ _ _ _ _ _ _ rfl hp hsp hg

/-- The update that `op` makes to the handler map of the node it addresses keeps `Q`. -/
def TOp.Keeps (t : Tree) (Q : Nat → AMap Handler → Prop) : TOp → Prop
  | .add p h ms methods => ∀ n n', Q n.methodIndex n.handlers →
      t.addMethodsNode h p ms (effMethods methods) n = .ok n' → Q n'.methodIndex n'.handlers
  | .remove _ methods => ∀ n, Q n.methodIndex n.handlers →
      Q (removeMethods t.hasTrace methods n).methodIndex (removeMethods t.hasTrace methods n).handlers
  | .clean _ => True
  | .use ms => ∀ mi hs p, Q mi hs → Q mi (hs.map fun e => (e.1, wrapWith e.2 e.1 p t.name ms))

theorem TOp.Keeps.own {t : Tree} {op : TOp} (hop : op.Keeps t Q) (n n' : Node) (h : op.own t n n')
    (hq : Q n.methodIndex n.handlers) : Q n'.methodIndex n'.handlers := by
  cases op with
  | add => exact hop n n' hq h
  | remove => exact h ▸ hop n hq
  | clean => exact h.elim
  | use => exact h ▸ hop _ _ _ hq

theorem TOp.Yields.below (h0 : Q 0 []) {t : Tree} {op : TOp} {root' : Node} {counts' : AMap Nat}
    (hy : op.Yields t root' counts') (hop : op.Keeps t Q) (hi : IdxOk t.root) (ha : AllL (NodeOk Q) t.root.children) :
    root'.handlers = t.root.handlers ∧ IdxOk root' ∧ AllL (NodeOk Q) root'.children := by
  obtain ⟨root1, h1, he, ho⟩ := hy.edit
  refine ⟨(Node.own_eq_iff.1 ho).2.2.2, ?_⟩
  cases h1 with
  | root => exact (he.nodeOk hop.own hi ha).2
  | add _ _ _ hget =>
    obtain ⟨hi1, ha1⟩ := getNode_below t.ic h0 t.root _ _ _ hi ha hget
    exact (he.nodeOk hop.own hi1 ha1).2

/-- `Q` must not look at the method index: the root's is recomputed from the counters. -/
theorem step_All (hmi : ∀ mi mi' hs, Q mi hs → Q mi' hs) (h0 : Q 0 []) {t : Tree} {op : TOp} (hop : op.Keeps t Q)
    (hv : Node.All (NodeOk Q) t.root) : Node.All (NodeOk Q) (t.step op).root := by
  rcases t.step_cases op with h | ⟨ms, rfl⟩ | ⟨root', counts', hy, h⟩
  · rw [h]; exact hv
  · exact (applyMw_edit t.name ms t.root).allNodeOk (TOp.Keeps.own (op := .use ms) hop) hv
  · obtain ⟨hh, hi, ha⟩ := hy.below h0 hop hv.head.2 hv.tail
    rw [h]
    exact (Node.All_iff _ _).2 ⟨⟨hmi _ _ _ (hh ▸ hv.head.1), hi⟩, ha⟩

end Mux
