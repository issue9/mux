/-
  Mux.Proofs.HostsReach — the private tree of a `Hosts` matcher satisfies all tree invariants (`AllInv`) after every
  history of `Add` (domains passing the brace check), `Delete` and `RegisterInterceptor` in which no interceptor is
  registered under a rule text that a regexp segment ALREADY STORED in the tree uses (`HostsReachWf`); in particular
  when all interceptors are registered before the first domain (`HostsReachWf.of_regsFirst`: then the tree is even
  the tree of a well-formed `Tree` history, `regsFirst_reachAll`).

  Why the side condition on `RegisterInterceptor`: it changes the table under which the stored segments were
  parsed — `{a:rule}` stored as a REGEXP segment would now parse as an INTERCEPTOR segment —, so the invariant
  "every segment is `newSegment ic` of its text" of `StructInv`/`WellFormedTree`/`TInv` survives exactly when no
  stored regexp segment has that rule (`RuleFree`, `AllInv.setIc`: every stored segment is then still what `newSegment`
  under the extended table makes of its text).
-/
import Mux.Proofs.ReachAll
import Mux.Proofs.Hosts
namespace Mux.P14
open Mux

def RuleFree (rule : Bytes) (cs : List Node) : Prop := ∀ n ∈ nodesL cs, n.seg.kind = .rx → n.seg.rule ≠ rule

theorem RuleFree.child {rule : Bytes} {cs : List Node} (h : RuleFree rule cs) {c : Node} (hc : c ∈ cs) :
    (c.seg.kind = .rx → c.seg.rule ≠ rule) ∧ RuleFree rule c.children := by
  refine ⟨h c (mem_nodesL_iff.2 ⟨c, hc, by rw [Node.nodes_eq]; exact List.mem_cons_self⟩), fun n hn => ?_⟩
  exact h n (mem_nodesL_iff.2 ⟨c, hc, by rw [Node.nodes_eq]; exact List.mem_cons_of_mem _ hn⟩)

/-- A property of single nodes that depends on the table only through the segments of the children survives at
every node. -/
theorem all_setIc {P P' : Node → Prop} {rule : Bytes}
    (hP : ∀ n : Node, (∀ c ∈ n.children, c.seg.kind = .rx → c.seg.rule ≠ rule) → P n → P' n) :
    ∀ n : Node, RuleFree rule n.children → Node.All P n → Node.All P' n := by
  intro n
  induction n using Node.induction with
  | step n ih =>
    intro hf h
    rw [Node.All_iff, AllL_iff] at h ⊢
    exact ⟨hP n (fun c hc => (hf.child hc).1) h.1, fun c hc => ih c hc (hf.child hc).2 (h.2 c hc)⟩

theorem wfL_setIc {ic : Interceptors} {rule : Bytes} (id : IcptId) (n : Node) :
    ∀ used, RuleFree rule n.children → P9.WfL ic used n.children → P9.WfL (ic ++ [(rule, id)]) used n.children := by
  induction n using Node.induction with
  | step n ih =>
    intro used hf h
    rw [P9.WfL_iff] at h ⊢
    refine ⟨fun c hc => ?_, h.2⟩
    obtain ⟨hs, hfr, hend, hch⟩ := (P9.Node.wf_iff ic used c).1 (h.1 c hc)
    exact (P9.Node.wf_iff _ used c).2
      ⟨⟨newSegment_mono id hs.seg (hf.child hc).1, hs.wf, hs.ne⟩, hfr, hend, ih c hc _ (hf.child hc).2 hch⟩

theorem AllInv.setIc {t : Tree} (h : AllInv t) (id : IcptId) {rule : Bytes} (hf : RuleFree rule t.root.children) :
    AllInv { t with ic := t.ic ++ [(rule, id)] } := by
  refine ⟨⟨all_setIc (fun n hk h => ⟨⟨fun c hc => ?_, h.1.sorted, h.1.index⟩, h.2⟩) t.root hf h.s2.all, h.s2.rootPat⟩,
    wfL_setIc id t.root [] hf h.wf,
    ⟨⟨h.ti.inv2.toTreeInv.setIc _, h.ti.inv2.counts⟩, h.ti.gq,
      all_setIc (fun n hk h => ⟨fun c hc => ?_, h.2⟩) t.root hf h.ti.sh, h.ti.rootPat⟩⟩
  · obtain ⟨h1, h2, h3⟩ := h.1.child c hc
    exact ⟨h1, h2, newSegment_mono id h3 (hk c hc)⟩
  · obtain ⟨h1, h2, h3⟩ := h.1 c hc
    exact ⟨h1, newSegment_mono id h2 (hk c hc), h3⟩

open Mux.P12

def HOp.isReg : HOp → Prop
  | .registerInterceptor _ _ => True
  | _ => False

/-- `Add` of a domain whose lower-cased text has balanced, non-nested braces; any `Delete`. -/
def HOp.domainOk : HOp → Prop
  | .add d => WfPattern (toLower d) = true
  | .delete _ => True
  | .registerInterceptor _ _ => False

/-- What a history step must satisfy: `Add` registers a domain with balanced, non-nested braces; `Delete` is
arbitrary; `RegisterInterceptor(rule)` happens when no regexp segment stored in the tree uses `rule`. -/
def hostsOpOk (hs : Hosts) : HOp → Prop
  | .add d => WfPattern (toLower d) = true
  | .delete _ => True
  | .registerInterceptor _ rule => RuleFree rule hs.tree.root.children

theorem HOp.domainOk.opOk {op : HOp} (h : HOp.domainOk op) (hs : Hosts) : hostsOpOk hs op := by
  cases op with
  | add d => exact h
  | delete d => trivial
  | registerInterceptor id rule => exact h.elim

theorem HOp.isReg.opOk {op : HOp} (h : HOp.isReg op) {hs : Hosts} (h0 : hs.tree.root.children = []) : hostsOpOk hs op := by
  cases op with
  | registerInterceptor id rule =>
    show RuleFree rule hs.tree.root.children
    rw [h0]
    exact fun n hn => absurd hn List.not_mem_nil
  | add d => exact h.elim
  | delete d => exact h.elim

def hostsRunOk : Hosts → List HOp → Prop
  | _, [] => True
  | hs, op :: ops => hostsOpOk hs op ∧ hostsRunOk (hostsStep hs op) ops

/-- A matcher made by `NewHosts` and such a history. -/
def HostsReachWf (hs : Hosts) : Prop := ∃ ops, hostsRunOk Hosts.empty ops ∧ hs = hostsRun Hosts.empty ops

def hostName : Bytes := bytesOfString "host"

/-- The tree of `NewHosts` with interceptor table `ic`. -/
def hostTree0 (ic : Interceptors) : Tree := Tree.new hostName ic { base := .nil } (some { base := .nil }) .nil .nil

theorem reg_step_tree (hs : Hosts) {op : HOp} (h : HOp.isReg op) :
    ∃ ic, (hostsStep hs op).tree = { hs.tree with ic := ic } := by
  cases op with
  | registerInterceptor id rule =>
    rw [hostsStep_tree]
    dsimp only
    split
    · exact ⟨hs.tree.ic, rfl⟩
    · exact ⟨_, rfl⟩
  | add d => exact h.elim
  | delete d => exact h.elim

theorem regs_tree {regs : List HOp} (hregs : ∀ op ∈ regs, HOp.isReg op) (hs : Hosts) :
    ∃ ic, (hostsRun hs regs).tree = { hs.tree with ic := ic } :=
  List.foldl_inv (I := fun hs' : Hosts => ∃ ic, hs'.tree = { hs.tree with ic := ic })
    (fun hs' op hop ⟨ic, h⟩ => by
      obtain ⟨ic', h'⟩ := reg_step_tree hs' (hregs op hop)
      exact ⟨ic', by rw [h', h]⟩)
    ⟨hs.tree.ic, rfl⟩

/-- The `Tree` operation an `Add` or a `Delete` stands for (`RegisterInterceptor` is none: its value is never used). -/
def topOf : HOp → TOp
  | .add d => .add (toLower d) { base := .hostEmpty, wraps := [] } [] [mGET]
  | .delete d => .remove (toLower d) []
  | .registerInterceptor _ _ => .use []

theorem topOf_wf {op : HOp} (h : HOp.domainOk op) : (topOf op).wf = true := by
  cases op with
  | add d => exact h
  | delete d => rfl
  | registerInterceptor id rule => exact h.elim

theorem hostsRun_tree : ∀ (ops : List HOp) (hs : Hosts), (∀ op ∈ ops, HOp.domainOk op) →
    (hostsRun hs ops).tree = hs.tree.run (ops.map topOf)
  | [], _, _ => rfl
  | op :: ops, hs, hr => by
    have hstep : (hostsStep hs op).tree = hs.tree.step (topOf op) := by
      cases op with
      | add d => exact hostsStep_tree hs (.add d)
      | delete d => exact hostsStep_tree hs (.delete d)
      | registerInterceptor id rule => exact (hr _ List.mem_cons_self).elim
    show (hostsRun (hostsStep hs op) ops).tree = (hs.tree.step (topOf op)).run (ops.map topOf)
    rw [hostsRun_tree ops _ fun o ho => hr o (List.mem_cons_of_mem _ ho), hstep]

theorem hostsRun_ic (ops : List HOp) (hs : Hosts) (h : ∀ op ∈ ops, HOp.domainOk op) :
    (hostsRun hs ops).tree.ic = hs.tree.ic := by
  rw [hostsRun_tree ops hs h]
  exact (sameCfg_run _ _).2.2.1

theorem regsFirst_tree {regs ops : List HOp} (hregs : ∀ op ∈ regs, HOp.isReg op) (hops : ∀ op ∈ ops, HOp.domainOk op) :
    ∃ ic, (hostsRun (hostsRun Hosts.empty regs) ops).tree = (hostTree0 ic).run (ops.map topOf) := by
  obtain ⟨ic, hic⟩ := regs_tree hregs Hosts.empty
  exact ⟨ic, by rw [hostsRun_tree ops _ hops, hic]; rfl⟩

theorem regsFirst_reachAll {regs ops : List HOp} (hregs : ∀ op ∈ regs, HOp.isReg op) (hops : ∀ op ∈ ops, HOp.domainOk op) :
    ReachAll (hostsRun (hostsRun Hosts.empty regs) ops).tree := by
  obtain ⟨ic, h⟩ := regsFirst_tree hregs hops
  exact ⟨hostName, ic, _, _, _, _, ops.map topOf, List.forall_mem_map.2 fun op ho => topOf_wf (hops op ho), h⟩

/-! ## Guarded histories

`hostsRunOk` asks the guard `hostsOpOk` of each operation in the state it is applied to.  Two rules: an invariant
need only be kept by guarded steps (`hostsRunOk_inv`), and a history is guarded when an invariant implies the guard
(`hostsRunOk_of`). -/

theorem hostsRunOk_inv {I : Hosts → Prop} (step : ∀ hs op, I hs → hostsOpOk hs op → I (hostsStep hs op)) :
    ∀ (ops : List HOp) {hs : Hosts}, I hs → hostsRunOk hs ops → I (hostsRun hs ops)
  | [], _, h, _ => h
  | op :: ops, _, h, hok => hostsRunOk_inv step ops (step _ op h hok.1) hok.2

theorem hostsRunOk_of {I : Hosts → Prop} : ∀ {ops : List HOp},
    (∀ hs, ∀ op ∈ ops, I hs → hostsOpOk hs op ∧ I (hostsStep hs op)) → ∀ {hs : Hosts}, I hs → hostsRunOk hs ops
  | [], _, _, _ => trivial
  | op :: _, step, hs, h =>
    ⟨(step hs op List.mem_cons_self h).1,
      hostsRunOk_of (fun hs' o ho => step hs' o (List.mem_cons_of_mem _ ho)) (step hs op List.mem_cons_self h).2⟩

theorem hostsRunOk_append : ∀ (a b : List HOp) (hs : Hosts), hostsRunOk hs a → hostsRunOk (hostsRun hs a) b →
    hostsRunOk hs (a ++ b)
  | [], _, _, _, h => h
  | _ :: a, b, _, h1, h2 => ⟨h1.1, hostsRunOk_append a b _ h1.2 h2⟩

theorem HostsReachWf.empty : HostsReachWf Hosts.empty := ⟨[], trivial, rfl⟩

theorem HostsReachWf.step {hs : Hosts} (h : HostsReachWf hs) {op : HOp} (hop : hostsOpOk hs op) :
    HostsReachWf (hostsStep hs op) := by
  obtain ⟨ops, hok, rfl⟩ := h
  exact ⟨ops ++ [op], hostsRunOk_append ops [op] _ hok ⟨hop, trivial⟩, (hostsRun_snoc _ ops op).symm⟩

theorem HostsReachWf.induction {I : Hosts → Prop} (h0 : I Hosts.empty)
    (step : ∀ hs op, HostsReachWf hs → hostsOpOk hs op → I hs → I (hostsStep hs op)) {hs : Hosts}
    (h : HostsReachWf hs) : I hs := by
  obtain ⟨ops, hok, rfl⟩ := h
  exact (hostsRunOk_inv (I := fun hs => HostsReachWf hs ∧ I hs)
    (fun hs op h hop => ⟨h.1.step hop, step hs op h.1 hop h.2⟩) ops ⟨.empty, h0⟩ hok).2

theorem hostsStep_inv {hs : Hosts} (h : AllInv hs.tree) {op : HOp} (hop : hostsOpOk hs op) :
    AllInv (hostsStep hs op).tree := by
  rw [hostsStep_tree]
  cases op with
  | add d => exact h.step (op := .add _ _ _ _) hop
  | delete d => exact h.step (op := .remove _ _) rfl
  | registerInterceptor id rule => dsimp only; split; exact h; exact h.setIc id hop

theorem HostsReachWf.inv {hs : Hosts} (h : HostsReachWf hs) : AllInv hs.tree :=
  h.induction (I := fun hs => AllInv hs.tree) (AllInv.new _ _ _ _ _ _) fun _ _ _ hop hi => hostsStep_inv hi hop

theorem HostsReachWf.reach {hs : Hosts} (h : HostsReachWf hs) : HostsReach hs := by
  obtain ⟨ops, _, rfl⟩ := h
  exact ⟨ops, rfl⟩

/-- The simple sufficient condition: all interceptors are registered before the first domain (while the tree has no
node, every rule is free; afterwards the guard of `Add` and `Delete` does not look at the state). -/
theorem HostsReachWf.of_regsFirst {regs ops : List HOp} (hregs : ∀ op ∈ regs, HOp.isReg op)
    (hops : ∀ op ∈ ops, HOp.domainOk op) : HostsReachWf (hostsRun (hostsRun Hosts.empty regs) ops) := by
  refine ⟨regs ++ ops, hostsRunOk_append regs ops _ ?_ ?_, (hostsRun_append _ regs ops).symm⟩
  · refine hostsRunOk_of (I := fun hs => hs.tree.root.children = []) (fun hs op hop h0 => ?_) rfl
    obtain ⟨ic, h1⟩ := reg_step_tree hs (hregs op hop)
    exact ⟨(hregs op hop).opOk h0, by rw [h1]; exact h0⟩
  · exact hostsRunOk_of (I := fun _ => True) (fun hs op hop _ => ⟨(hops op hop).opOk hs, trivial⟩) trivial

end Mux.P14
