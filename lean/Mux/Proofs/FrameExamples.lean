/-
  Mux.Proofs.FrameExamples — a REACHED tree (history evaluated through the fuel version of `getNode`)
  for the non-vacuity examples of `C03_frame_*` and `C03_witness*`:
  `Handle("/u/", h1, GET); Handle("/u/{id}", h2, GET)`.
-/
import Mux.Proofs.Frame
import Mux.Proofs.WitnessVals
import Mux.Proofs.StructExamples
import Mux.Proofs.RunFuel
import Mux.Proofs.DecEq
namespace Mux.P14
open Mux Mux.P10

/-- `/u/` -/
def exU : Bytes := [47, 117, 47]
/-- `/u/{id}` -/
def exUid : Bytes := [47, 117, 47, 123, 105, 100, 125]
/-- `/u/5` -/
def exReq : Bytes := [47, 117, 47, 53]

def exOps : List TOp := [.add exU { base := .user 1 } [] [mGET], .add exUid { base := .user 2 } [] [mGET]]
def exT : Tree := exT0.run exOps

theorem exOps_wf : ∀ op ∈ exOps, op.wf = true := by decide +kernel

theorem exT_reach : ReachAll exT := ⟨_, _, _, _, _, _, exOps, exOps_wf, rfl⟩

def exSegU : Seg := { value := exU }
def exSegId : Seg := { value := [123, 105, 100, 125], kind := .named, name := [105, 100], endpoint := true }
/-- the witness chain: `/u/` (literal, value unused) and `{id}` with the value `5` -/
def exChain : List (Seg × Bytes) := [(exSegU, []), (exSegId, [53])]

/-- The history is evaluated once: the answer to `GET /u/5`, the node of `/u/{id}` with its chain, the table. -/
theorem exT_eval :
    (patOf (exT.handler exEnv exReq [] mGET) = some exUid ∧
      handlerOf (exT.handler exEnv exReq [] mGET) = some { base := .user 2, wraps := [] } ∧
      okOf (exT.handler exEnv exReq [] mGET) = some true ∧
      paramsOf (exT.handler exEnv exReq [] mGET) = some [([105, 100], [53])]) ∧
    (exT.root.getAt [0, 0] = some (.mk exSegId exUid 385 (getHandlers { base := .user 2 }) [] []) ∧
      exT.root.segsAt [0, 0] = some [exSegU, exSegId]) ∧
    tableOf exT = [(exU, [mGET]), (exUid, [mGET])] := by
  rw [exT, Tree.run_eq_F]; decide +kernel

/-- `GET /u/5` is dispatched to `/u/{id}` with `id = 5`. -/
theorem exT_answer : ∃ f q, exT.handler exEnv exReq [] mGET = .res f ∧ f.node = some q ∧ q.pattern = exUid ∧
    f.handler = { base := .user 2, wraps := [] } ∧ f.ok = true ∧ f.params = [([105, 100], [53])] :=
  view_spec exT_eval.1

theorem exT_chain : ∃ x, Chain exT.root (exChain.map (·.1)) x ∧ x.handlers ≠ [] :=
  ⟨_, chain_of_segsAt _ _ _ _ exT_eval.2.1.1 exT_eval.2.1.2, List.cons_ne_nil _ _⟩

theorem exChain_simple : ∀ sv ∈ exChain, SimpleVal exEnv exT.ic sv.1 sv.2 := by
  intro sv hsv
  simp only [exChain, List.mem_cons, List.not_mem_nil, or_false] at hsv
  rcases hsv with rfl | rfl
  · exact ⟨by decide, trivial, by simp⟩
  · exact ⟨by decide, trivial, by simp [exSegId]⟩

theorem exChain_inst : instChain exChain = exReq := by decide +kernel

theorem exT_live_pair : (tableOf exT).has exUid mGET := ⟨[mGET], by rw [exT_eval.2.2]; decide, by decide⟩

/-! ## A node WITH a first-byte index: `/a /b /c /d /e /{id}` (`P8.exS`)

The hypotheses of the node-level frame lemma `P11.removeAt_match` hold of it: removing `/a` (one of five literal
siblings, the index stays in use) leaves `/x` dispatched to `/{id}` — the D3 scenario. -/

theorem exS_tidy : Node.All (fun m => ∀ c ∈ m.children, P8.Tidy c.seg.value) P8.exS.root := by
  rw [(All_iff_nodes _).1]
  have key : ∀ m ∈ P8.exS.root.nodes, ∀ c ∈ m.children,
      (startByte ∉ c.seg.value ∧ endByte ∉ c.seg.value) ∨ c.seg.value = [123, 105, 100, 125] := by decide +kernel
  intro m hm c hc
  rcases key m hm c hc with h | h
  · exact .inl h
  · rw [h]; exact .inr ⟨[105, 100], [], rfl, by decide, by decide⟩

theorem exS_s2 : Node.All (P8.SOk2 []) P8.exS.root := by
  rw [(All_iff_nodes _).1]
  intro m hm
  exact ⟨((All_iff_nodes _).1 _).1 P8.exS_struct.all m hm,
    ((All_iff_nodes _).1 _).1 exS_tidy m hm, P8.exS_distinct m hm⟩

def isOkNode : Except Err Node → Bool
  | .ok _ => true
  | .error _ => false

/-- `/x` -/
def exReqX : Bytes := [47, 120]

theorem exS_frame : ∃ n' x, P8.exS.root.getAt [0, 0] = some x ∧ x.pattern = [47, 97] ∧
    P8.exS.root.removeAt (removeMethods false []) [0, 0] = .ok n' ∧
    P11.FrameMR x.pattern (P8.exS.root.matchChildren exEnv [] exReqX []) (n'.matchChildren exEnv [] exReqX []) := by
  have hx : P8.exS.root.getAt [0, 0] = some (P8.exLit 97) := rfl
  have hok : isOkNode (P8.exS.root.removeAt (removeMethods false []) [0, 0]) = true := by decide +kernel
  cases hr : P8.exS.root.removeAt (removeMethods false []) [0, 0] with
  | error e => rw [hr] at hok; cases hok
  | ok n' =>
    exact ⟨n', _, hx, rfl, rfl, P11.frameP_iff.2 (P11.removeAt_match (scanned_sok2 []) exEnv [] _
      (P11.removeMethods_frameF false []) [0, 0] P8.exS.root n' _ exS_s2 hx hr exReqX [] List.nodup_nil).frame⟩

def hitPattern : MR → Option Bytes
  | .hit m _ => some m.pattern
  | _ => none
/-- `/x` is dispatched to `/{id}` before the removal (through the scan after the index missed). -/
theorem exS_before : hitPattern (P8.exS.root.matchChildren exEnv [] exReqX []) = some P8.exPat := by decide +kernel

end Mux.P14
