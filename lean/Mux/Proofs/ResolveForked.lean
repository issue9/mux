/-
  C02 part B4 (`C02_canonical` in `C02resolve.lean`), the dynamic half: `getNode` (`addSegment`/`splitNode`) keeps every
  node below the root *forked or live* (`TL live x`: a node whose pattern is not in `live`, the registered patterns with
  the one being registered, has a parameter child or two children starting with different bytes).  A fresh leaf is forked
  or live only once the search below it has returned, so this is a postcondition (`FPost`) with its own induction along
  `getNode`, not an invariant of single steps.  The only arithmetical fact needed beyond `getNode_shape` is that
  `longestPrefix` is EXACT on well-formed texts: right after the cut point the two texts differ (`lp_exact`).
-/
import Mux.Proofs.ResolveStatic
import Mux.Proofs.TableGetNode
import Mux.Proofs.GnStep
namespace Mux.P15
open Mux Mux.P11

theorem lcp_exact : ∀ a b : Bytes, P11.lcp a b < a.length → P11.lcp a b < b.length →
    (a.drop (P11.lcp a b)).head? ≠ (b.drop (P11.lcp a b)).head?
  | [], _, h, _ => by simp at h
  | _ :: _, [], _, h => by simp at h
  | x :: a, y :: b, ha, hb => by
    rw [lcp_cons] at ha hb ⊢
    by_cases hxy : x = y
    · simp only [hxy, if_true, List.length_cons, List.drop_succ_cons] at ha hb ⊢
      exact lcp_exact a b (by omega) (by omega)
    · simp [hxy]

theorem lp_exact {a b : Bytes} {l : Nat} (ha : WfVal a) (hb : WfVal b) (h : longestPrefix a b = (l : Int))
    (hl : 0 < l) (hla : l < a.length) (hlb : l < b.length) : (a.drop l).head? ≠ (b.drop l).head? := by
  rcases ha with ⟨_, hap⟩ | ⟨ia, sa, rfl, hia, hsa⟩
  · rw [lp_plain a b hap] at h
    have : l = P11.lcp a b := by omega
    subst this
    exact lcp_exact a b hla hlb
  · rcases hb with ⟨hbne, hbp⟩ | ⟨ib, sb, rfl, hib, hsb⟩
    · rw [longestPrefix_comm, lp_plain b _ hbp] at h
      cases b with
      | nil => exact absurd rfl hbne
      | cons y b =>
        rw [lcp_cons, if_neg hbp.cons.1] at h
        omega
    · rw [lp_tok ia ib sa sb hia hib.2 hsa] at h
      split at h
      · rename_i hc
        obtain ⟨rfl, _⟩ := hc
        obtain rfl : l = ia.length + 2 + P11.lcp sa sb := by omega
        show ((P9.tok ia sa).drop _).head? ≠ ((P9.tok ia sb).drop _).head?
        rw [P9.tok_drop, P9.tok_drop]
        simp only [List.length_cons, List.length_append] at hla hlb
        exact lcp_exact sa sb (by omega) (by omega)
      · omega

def TL (live : List Bytes) (x : Node) : Prop := x.pattern ∈ live ∨ Forked x.children

theorem TL_mono {live live' : List Bytes} (h : ∀ p ∈ live, p ∈ live') :
    (∀ n, Node.All (TL live) n → Node.All (TL live') n) ∧ (∀ cs, AllL (TL live) cs → AllL (TL live') cs) :=
  AllL_mono (fun _ hx => hx.imp (h _) id)

theorem Forked_of_heads {cs cs' : List Node}
    (h : ∀ d ∈ cs, ∃ d' ∈ cs', d'.seg.value.head? = d.seg.value.head?) (hf : Forked cs) : Forked cs' := by
  rcases hf with ⟨d, hd, hs⟩ | ⟨d1, hd1, d2, hd2, hne⟩
  · obtain ⟨d', hd', e⟩ := h d hd
    exact .inl ⟨d', hd', e.trans hs⟩
  · obtain ⟨d1', hd1', e1⟩ := h d1 hd1
    obtain ⟨d2', hd2', e2⟩ := h d2 hd2
    exact .inr ⟨d1', hd1', d2', hd2', by rw [e1, e2]; exact hne⟩

theorem TL_setSeg {live : List Bytes} {c : Node} (s : Seg) (h : Node.All (TL live) c) : Node.All (TL live) (c.setSeg s) := by
  rw [Node.All_iff] at h ⊢
  exact ⟨by simpa [TL, Node.setSeg] using h.1, by simpa [Node.setSeg] using h.2⟩

/-- What is proved of a `getNode` result: every node below the result is forked or live, the child on
the returned path starts like `v`, and every old child still has a child starting like it. -/
structure FPost (live : List Bytes) (n : Node) (v : Bytes) (r : Node × List Nat) : Prop where
  all : AllL (TL live) r.1.children
  has : ∃ d ∈ r.1.children, d.seg.value.head? = v.head?
  keep : ∀ d ∈ n.children, ∃ d' ∈ r.1.children, d'.seg.value.head? = d.seg.value.head?

theorem head_take {v : Bytes} {l : Nat} (hl : 0 < l) : (v.take l).head? = v.head? := by
  rw [List.head?_take, if_neg (Nat.ne_of_gt hl)]

theorem setChildren_children (n : Node) (cs : List Node) (idx : List (UInt8 × Nat)) :
    (n.setChildren cs idx).children = cs := rfl

/-- Pieces after the first one start with `{`. -/
def HeadsOk (rest : List Bytes) : Prop := ∀ p ∈ rest, p.head? = some startByte

/-- What the continuation of a step into `parent` has to satisfy: the hypotheses of the next step, and a
reason why the node that comes back in the place of `parent` is forked or live — `parent` was, or the next
piece starts with `{`, or `parent` has a child that starts differently from the next piece. -/
def ContOk (live : List Bytes) (parent : Node) : Option (Bytes × List Bytes) → Prop
  | none => parent.pattern ∈ live
  | some (v', rest') => PiecesOk v' rest' ∧ HeadsOk rest' ∧ parent.pattern ++ v' ++ rest'.flatten ∈ live ∧
      (TL live parent ∨ v'.head? = some startByte ∨ ∃ d ∈ parent.children, d.seg.value.head? ≠ v'.head?)

/-- The piece is used up: the step goes on with the next piece, which starts with `{`. -/
theorem contOk_rest {live : List Bytes} {parent : Node} {v : Bytes} {rest : List Bytes} (hpc : PiecesOk v rest)
    (hh : HeadsOk rest) (htgt : parent.pattern ++ rest.flatten ∈ live) : ContOk live parent (P9.restCont rest) := by
  cases rest with
  | nil =>
    rw [List.flatten_nil, List.append_nil] at htgt
    exact htgt
  | cons v' rest' =>
    rw [List.flatten_cons, ← List.append_assoc] at htgt
    exact ⟨hpc.next.2, fun p hp => hh p (List.mem_cons_of_mem _ hp), htgt, .inr (.inl (hh v' List.mem_cons_self))⟩

/-- What one step leaves around the child `parent` it selects in the restructured node `n1`: the other children `O` are
forked or live, every old child still has a child starting like it, `parent` starts like `v`, and the continuation
satisfies `ContOk`. -/
structure Around (live : List Bytes) (n : Node) (v : Bytes) (n1 parent : Node) (cont : Option (Bytes × List Bytes))
    (O : List Node) : Prop where
  perm : n1.children.Perm (parent :: O)
  others : AllL (TL live) O
  keep : ∀ d ∈ n.children, ∃ d0 ∈ n1.children, d0.seg.value.head? = d.seg.value.head?
  head : parent.seg.value.head? = v.head?
  below : AllL (TL live) parent.children
  cont : ContOk live parent cont

/-- The most similar child `c` shares `l > 0` bytes with the piece (`splitNode(c, l)`): the node the step goes on in
carries `v.take l`; when it is new and `v` is not used up, its one child (the rest of `c`) starts differently from the
rest of `v`, `longestPrefix` being exact. -/
theorem gnSplit_forked {ic : Interceptors} {live : List Bytes} {n c : Node} {v : Bytes} {rest : List Bytes} {seg : Seg}
    {l : Int} {i : Nat} {r : Node × Nat × Node} (hn : Node.All (Sh ic) n) (hT : AllL (TL live) n.children)
    (hpc : PiecesOk v rest) (hh : HeadsOk rest) (htgt : n.pattern ++ v ++ rest.flatten ∈ live)
    (hseg : newSegment ic v = .ok seg) (hsc : scanChildren seg n.children 0 0 0 = .best l i) (hl : 0 < l)
    (hc : n.children[i]? = some c) (h : P9.gnSplit ic n c i l.toNat = .ok r) :
    ∃ O, Around live n v r.1 r.2.2 (if v.length ≤ l.toNat then P9.restCont rest else some (v.drop l.toNat, rest)) O := by
  have hcm := List.mem_of_getElem? hc
  have hcT : Node.All (TL live) c := AllL_getElem? hT hc
  have L : LpPos c.seg.value v l.toNat :=
    lpPos_of_sim (hn.head.1 c hcm) hpc.wf hseg (scan_similar hsc hl hc) (by omega)
  obtain ⟨others, p1, _⟩ := set_perm hc
  -- the continuation below a node `p` that carries `v.take l`
  have cont : ∀ p : Node, p.pattern = n.pattern ++ v.take l.toNat →
      (¬ v.length ≤ l.toNat → TL live p ∨ ∃ d ∈ p.children, d.seg.value.head? ≠ (v.drop l.toNat).head?) →
      ContOk live p (if v.length ≤ l.toNat then P9.restCont rest else some (v.drop l.toNat, rest)) := by
    intro p hpat hdrop
    by_cases hvl : v.length ≤ l.toNat
    · rw [if_pos hvl]
      refine contOk_rest hpc hh ?_
      rw [hpat, List.take_of_length_le hvl]
      exact htgt
    · rw [if_neg hvl]
      refine ⟨hpc.dropped L.dropB hvl, hh, ?_, (hdrop hvl).imp id .inr⟩
      rw [hpat, List.append_assoc n.pattern, List.take_append_drop]
      exact htgt
  rcases P9.gnSplit_ok_iff.1 h with ⟨hcl, rfl⟩ | ⟨hcl, s1, s2, ret, n1, j, hss, hret, hn1, hj, rfl⟩
  · have hpv : c.seg.value = v.take l.toNat := by rw [← L.takeEq, List.take_of_length_le hcl]
    exact ⟨others, p1, ((AllL_perm p1).1 hT).2, fun d hd => ⟨d, hd, rfl⟩, by rw [hpv]; exact head_take L.lpos, hcT.tail,
      cont c (by rw [(hn.head.1 c hcm).2.2.1, hpv]) fun _ => .inl hcT.head⟩
  · -- the upper half, with the lower half as its only child, stands in the place of `c`
    obtain ⟨hv1, hv2, _, _, rfl, hperm⟩ := P9.split_built hss hret hn1
    replace hperm := hperm.trans (List.Perm.cons _ (removeNodes_perm_of hn.head p1))
    have hv1' : s1.value = v.take l.toNat := hv1.trans L.takeEq
    refine ⟨others, hperm, ((AllL_perm p1).1 hT).2, fun d hd => ?_, (congrArg List.head? hv1').trans (head_take L.lpos),
      AllL_cons_iff.2 ⟨TL_setSeg _ hcT, AllL_nil _⟩, cont _ (congrArg (n.pattern ++ ·) hv1')
        fun hvl => .inr ⟨c.setSeg s2, List.mem_cons_self, ?_⟩⟩
    · rcases List.mem_cons.1 (p1.mem_iff.1 hd) with rfl | hm
      · exact ⟨_, hperm.mem_iff.2 List.mem_cons_self, (congrArg List.head? hv1).trans (head_take L.lpos)⟩
      · exact ⟨d, hperm.mem_iff.2 (List.mem_cons_of_mem _ hm), rfl⟩
    · show s2.value.head? ≠ _
      rw [hv2]
      have hlp := (similar_lp hsc hl hc).2.2
      rw [newSegment_value ic v seg hseg] at hlp
      exact lp_exact (hn.head.1 c hcm).1 hpc.wf hlp L.lpos (by omega) (by omega)

/-- **One step keeps "forked or live"**: around the child `parent` the step selects, the restructured node is
as `FPost` wants it, and the continuation satisfies `ContOk`. -/
theorem gnPrep_forked {ic : Interceptors} {live : List Bytes} {n : Node} {v : Bytes} {rest : List Bytes} {s : P9.GStep}
    (hn : Node.All (Sh ic) n) (hT : AllL (TL live) n.children) (hpc : PiecesOk v rest) (hh : HeadsOk rest)
    (htgt : n.pattern ++ v ++ rest.flatten ∈ live) (h : P9.gnPrep ic n v rest = .ok s) :
    s.n1.children[s.j]? = some s.parent ∧ Node.All (Sh ic) s.parent ∧ ∃ O, Around live n v s.n1 s.parent s.cont O := by
  refine ⟨(P9.gnPrep_top h).2, (P9.gnPrep_localK (Sh.gnLocal ic) hn hpc h).2, ?_⟩
  obtain ⟨seg, hseg, hcase⟩ := P9.gnPrep_ok_iff.1 h
  have hval := newSegment_value ic v seg hseg
  cases hcase with
  | @identical i c hsc hc =>
    have hcv : c.seg.value = v := by rw [← hval]; exact (scan_identical hsc hc).symm
    obtain ⟨others, p1, _⟩ := set_perm hc
    refine ⟨others, p1, ((AllL_perm p1).1 hT).2, fun d hd => ⟨d, hd, rfl⟩, by rw [hcv],
      (AllL_getElem? hT hc).tail, contOk_rest hpc hh ?_⟩
    rw [(hn.head.1 c (List.mem_of_getElem? hc)).2.2.1, hcv]
    exact htgt
  | @leaf l i j n1 hsc hl hn1 _ =>
    -- no child shares anything with the piece: a new leaf
    have hperm := P9.sortNode_append_perm hn1
    refine ⟨n.children, hperm, hT, fun d hd => ⟨d, hperm.mem_iff.2 (List.mem_cons_of_mem _ hd), rfl⟩,
      congrArg List.head? hval, AllL_nil _, contOk_rest hpc hh ?_⟩
    show n.pattern ++ seg.value ++ rest.flatten ∈ live
    rw [hval]
    exact htgt
  | descend hsc hl hc hlen =>
    exact gnSplit_forked hn hT hpc hh htgt hseg hsc hl hc (P9.gnSplit_ok_iff.2 (.inl ⟨hlen, rfl⟩))
  | split hsc hl hc hlen hss hret hn1 hj' =>
    exact gnSplit_forked hn hT hpc hh htgt hseg hsc hl hc
      (P9.gnSplit_ok_iff.2 (.inr ⟨hlen, _, _, _, _, _, hss, hret, hn1, hj', rfl⟩))

/-- With `p'`, forked or live all through and starting like `parent`, in the place of `parent`, the node is as `FPost`
wants it. -/
theorem Around.fpost {live : List Bytes} {n n1 parent p' : Node} {v : Bytes} {cont : Option (Bytes × List Bytes)}
    {O : List Node} (A : Around live n v n1 parent cont O) {r : Node × List Nat} (hp : r.1.children.Perm (p' :: O))
    (hT : Node.All (TL live) p') (hh : p'.seg.value.head? = parent.seg.value.head?) : FPost live n v r := by
  have hmem : p' ∈ r.1.children := hp.mem_iff.2 List.mem_cons_self
  refine ⟨(AllL_perm hp).2 (AllL_cons_iff.2 ⟨hT, A.others⟩), ⟨p', hmem, hh.trans A.head⟩, fun d hd => ?_⟩
  obtain ⟨d0, hd0, e0⟩ := A.keep d hd
  rcases List.mem_cons.1 (A.perm.mem_iff.1 hd0) with rfl | hd0
  · exact ⟨p', hmem, hh.trans e0⟩
  · exact ⟨d0, hp.mem_iff.2 (List.mem_cons_of_mem _ hd0), e0⟩

theorem getNode_forked (ic : Interceptors) (live : List Bytes) (n : Node) (v : Bytes) (rest : List Bytes) :
    ∀ r, Node.All (Sh ic) n → AllL (TL live) n.children → PiecesOk v rest → HeadsOk rest →
      (n.pattern ++ v ++ rest.flatten) ∈ live → getNode ic n v rest = .ok r → FPost live n v r := by
  induction n, v, rest using P9.getNode_induction ic with
  | step n v rest ih =>
    intro r hn hT hpc hh htgt h
    obtain ⟨s, hs, hfin⟩ := P9.getNode_ok_iff.1 h
    obtain ⟨hj, hP, O, A⟩ := gnPrep_forked hn hT hpc hh htgt hs
    have hcont := A.cont
    rcases hfin with ⟨hc, rfl⟩ | ⟨v', rest', p', path, hc, hres, rfl⟩
    · -- the step stops at `parent`, whose pattern is the registered one
      rw [hc] at hcont
      exact A.fpost A.perm ((Node.All_iff _ _).2 ⟨.inl hcont, A.below⟩) rfl
    · -- the step descends into `parent` and puts what comes back, `p'`, in its place
      rw [hc] at hcont
      obtain ⟨hpc', hh', htgt', hwhy⟩ := hcont
      have hf := ih s v' rest' hs hc _ hP A.below hpc' hh' htgt' hres
      have hg := getNode_shape ic s.parent v' rest' _ hP hpc' hres
      obtain ⟨d1, hd1, e1⟩ := hf.has
      have hresT : TL live p' := by
        rcases hwhy with (hl | hfk) | hstart | ⟨d, hd, hne⟩
        · exact .inl (by rw [hg.pat]; exact hl)
        · exact .inr (Forked_of_heads hf.keep hfk)
        · exact .inr (.inl ⟨d1, hd1, e1.trans hstart⟩)
        · obtain ⟨d2, hd2, e2⟩ := hf.keep d hd
          exact .inr (.inr ⟨d2, hd2, d1, hd1, by rw [e1, e2]; exact hne⟩)
      obtain ⟨rest0, p1, p2⟩ := set_perm hj
      exact A.fpost ((p2 p').trans (.cons _ (p1.symm.trans A.perm).cons_inv)) ((Node.All_iff _ _).2 ⟨hresT, hf.all⟩)
        (by rw [hg.seg])

end Mux.P15
