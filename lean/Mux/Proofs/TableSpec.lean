/-
  Mux.Proofs.TableSpec — the abstract table is an association list keyed by pattern and `Spec.Table.methodsOf` its
  `get?`: what `Spec.add/remove/clean` do to the methods of each pattern (`methodsOf_add/_remove/_clean`; the live pairs
  `Spec.Table.has` are read off by `has_iff_methodsOf`), to the well-formedness of a table (`TableOk`) and to the number
  of patterns that have a method (`Spec.count`: `count_agree`, `count_add`).  The refinement `Refines`: under every
  pattern the hand-registered keys of the tree's handler map (`Tree.handlersAt`) follow the methods of the abstract table
  step by step (`Refines.step`), hence `tableOf (t0.run ops)` and `specRun t0 ops` have the same live pairs.
-/
import Mux.Proofs.TableTree
namespace Mux.P11
open Mux

/-- Unique patterns, non-empty method lists. -/
structure TableOk (tb : Spec.Table) : Prop where
  nodup : tb.patterns.Nodup
  nonempty : ∀ e ∈ tb, e.2 ≠ []

theorem TableOk.nil : TableOk [] := ⟨by simp [Spec.Table.patterns], by simp⟩

theorem effMethods_eq (methods : List Bytes) :
    (if methods.isEmpty = true then anyMethods else methods) = effMethods methods := rfl

theorem patterns_map_same {tb : Spec.Table} (g : Bytes × List Bytes → Bytes × List Bytes)
    (hg : ∀ e, (g e).1 = e.1) : Spec.Table.patterns (tb.map g) = tb.patterns := by
  unfold Spec.Table.patterns
  rw [List.map_map]
  apply List.map_congr_left
  intro e _; exact hg e

theorem methodsOf_eq (tb : Spec.Table) (q : Bytes) : tb.methodsOf q = (AMap.get? tb q).getD [] := rfl

theorem has_iff_methodsOf {tb : Spec.Table} (hnd : tb.patterns.Nodup) (q m : Bytes) : tb.has q m ↔ m ∈ tb.methodsOf q := by
  unfold Spec.Table.has
  rw [methodsOf_eq]
  constructor
  · rintro ⟨ms, hmem, hm⟩; rwa [(AMap.mem_iff_get? tb q ms hnd).1 hmem]
  · intro hm
    cases hg : AMap.get? tb q with
    | none => rw [hg] at hm; cases hm
    | some ms => rw [hg] at hm; exact ⟨ms, AMap.mem_of_get? _ _ _ hg, hm⟩

theorem methodsOf_of_mem {tb : Spec.Table} (hnd : tb.patterns.Nodup) {p : Bytes} {ms : List Bytes} (h : (p, ms) ∈ tb) :
    tb.methodsOf p = ms := by
  rw [methodsOf_eq, (AMap.mem_iff_get? tb p ms hnd).1 h]; rfl

theorem add_eq_upd (tb : Spec.Table) (p : Bytes) (methods : List Bytes) :
    Spec.add tb p methods = AMap.upd tb p fun o => o.getD [] ++ effMethods methods := by
  unfold Spec.add AMap.upd AMap.contains
  simp only [effMethods_eq]
  split
  · exact List.map_congr_left fun e _ => by split <;> simp_all
  · rfl

theorem methodsOf_add (tb : Spec.Table) (p : Bytes) (methods : List Bytes) (q : Bytes) :
    (Spec.add tb p methods).methodsOf q = if q = p then tb.methodsOf p ++ effMethods methods else tb.methodsOf q := by
  rw [methodsOf_eq, add_eq_upd, AMap.get?_upd]
  split <;> rfl

theorem methodsOf_clean (tb : Spec.Table) (pre : Bytes) (q : Bytes) :
    (Spec.clean tb pre).methodsOf q = if pre <+: q then [] else tb.methodsOf q :=
  getD_filter_prefix tb pre q

theorem patterns_remove_map (tb : Spec.Table) (p : Bytes) (methods : List Bytes) :
    Spec.Table.patterns (tb.map fun e => if e.1 = p then (e.1, e.2.filter fun m => !methods.contains m) else e) =
      tb.patterns :=
  patterns_map_same _ fun e => by split <;> rfl

/-- For `methodsOf` an entry that is dropped because it has no methods is the same as one that stays. -/
theorem getD_filter_nonempty {α : Type} (o : Option (List α)) :
    (o.filter fun ms => !ms.isEmpty).getD [] = o.getD [] := by
  cases o with
  | none => rfl
  | some ms => cases ms <;> rfl

theorem methodsOf_remove {tb : Spec.Table} (hnd : tb.patterns.Nodup) (p : Bytes) (methods : List Bytes) (q : Bytes) :
    (Spec.remove tb p methods).methodsOf q =
      if q = p then (if methods = [] then [] else (tb.methodsOf p).filter fun m => !methods.contains m)
      else tb.methodsOf q := by
  unfold Spec.remove
  by_cases hm : methods = []
  · rw [methodsOf_eq, if_pos (by simp [hm]), if_pos hm]
    refine (congrArg (·.getD []) (AMap.get?_filterKeys tb (fun k => decide (k ≠ p)) q)).trans ?_
    by_cases hq : q = p <;> simp [hq, methodsOf_eq]
  · have hfv := AMap.get?_filterVals _ (fun ms : List Bytes => !ms.isEmpty) (patterns_remove_map tb p methods ▸ hnd) q
    rw [methodsOf_eq, if_neg (by simpa using hm), if_neg hm, hfv, getD_filter_nonempty, AMap.get?_mapAt,
      methodsOf_eq, methodsOf_eq]
    split
    · next hq => subst hq; cases AMap.get? tb q <;> rfl
    · cases AMap.get? tb q <;> rfl

theorem mem_patterns_add (tb : Spec.Table) (p : Bytes) (methods : List Bytes) (q : Bytes) :
    q ∈ (Spec.add tb p methods).patterns ↔ q ∈ tb.patterns ∨ q = p := by
  change q ∈ AMap.keys (Spec.add tb p methods) ↔ q ∈ AMap.keys tb ∨ q = p
  rw [← AMap.get?_isSome_iff, ← AMap.get?_isSome_iff, add_eq_upd, AMap.get?_upd]
  by_cases hqp : q = p <;> simp [hqp]

theorem mem_patterns_filter {g : Bytes × List Bytes → Bool} {tb : Spec.Table} {q : Bytes}
    (h : q ∈ Spec.Table.patterns (tb.filter g)) : q ∈ tb.patterns :=
  (List.filter_sublist.map _).subset h

theorem patterns_remove_sub (tb : Spec.Table) (p : Bytes) (methods : List Bytes) :
    ∀ q ∈ (Spec.remove tb p methods).patterns, q ∈ tb.patterns := by
  intro q hq
  unfold Spec.remove at hq
  split at hq
  · exact mem_patterns_filter hq
  · have := mem_patterns_filter hq
    rwa [patterns_remove_map] at this

theorem patterns_clean_sub (tb : Spec.Table) (pre : Bytes) :
    ∀ q ∈ (Spec.clean tb pre).patterns, q ∈ tb.patterns :=
  fun _ hq => mem_patterns_filter hq

theorem TableOk.add {tb : Spec.Table} (h : TableOk tb) (p : Bytes) (methods : List Bytes) :
    TableOk (Spec.add tb p methods) := by
  rw [add_eq_upd]
  refine ⟨AMap.nodup_keys_upd tb p _ h.nodup, fun e he => ?_⟩
  rcases AMap.mem_upd he with he | ⟨o, rfl⟩
  · exact h.nonempty e he
  · exact fun h0 => effMethods_ne_nil methods (List.append_eq_nil_iff.1 h0).2

theorem TableOk.filter {tb : Spec.Table} (h : TableOk tb) (g : Bytes × List Bytes → Bool) : TableOk (tb.filter g) :=
  ⟨h.nodup.sublist (List.filter_sublist.map _), fun e he => h.nonempty e (List.mem_filter.1 he).1⟩

theorem TableOk.remove {tb : Spec.Table} (h : TableOk tb) (p : Bytes) (methods : List Bytes) :
    TableOk (Spec.remove tb p methods) := by
  unfold Spec.remove
  split
  · exact h.filter _
  · refine ⟨?_, ?_⟩
    · have hnd := h.nodup
      rw [← patterns_remove_map tb p methods] at hnd
      exact hnd.sublist (List.filter_sublist.map _)
    · intro e he
      have := (List.mem_filter.1 he).2
      simpa using this

theorem TableOk.clean {tb : Spec.Table} (h : TableOk tb) (pre : Bytes) : TableOk (Spec.clean tb pre) :=
  h.filter _

theorem mem_patterns_iff {tb : Spec.Table} (h : TableOk tb) (q : Bytes) :
    q ∈ tb.patterns ↔ ∃ m, tb.has q m := by
  unfold Spec.Table.patterns Spec.Table.has
  rw [List.mem_map]
  constructor
  · rintro ⟨e, he, rfl⟩
    have hne := h.nonempty e he
    cases hms : e.2 with
    | nil => exact absurd hms hne
    | cons m ms => exact ⟨m, e.2, he, by simp [hms]⟩
  · rintro ⟨m, ms, hmem, _⟩
    exact ⟨(q, ms), hmem, rfl⟩

theorem mem_count_list (tb : Spec.Table) (m p : Bytes) :
    p ∈ (tb.filter (fun e => e.2.contains m)).map (·.1) ↔ tb.has p m := by
  unfold Spec.Table.has
  rw [List.mem_map]
  constructor
  · rintro ⟨e, he, rfl⟩
    rw [List.mem_filter] at he
    exact ⟨e.2, he.1, by simpa using he.2⟩
  · rintro ⟨ms, h1, h2⟩
    exact ⟨(p, ms), List.mem_filter.2 ⟨h1, by simpa using h2⟩, rfl⟩

/-- The patterns that have `m` are a duplicate-free list and `Spec.count` is its length: two tables count `m` alike when
the same patterns have it. -/
theorem count_agree {ta tb : Spec.Table} (ha : ta.patterns.Nodup) (hb : tb.patterns.Nodup) {m : Bytes}
    (h : ∀ q, ta.has q m ↔ tb.has q m) : Spec.count ta m = Spec.count tb m := by
  have n1 : ((ta.filter (fun e => e.2.contains m)).map (·.1)).Nodup := ha.sublist (List.filter_sublist.map _)
  have n2 : ((tb.filter (fun e => e.2.contains m)).map (·.1)).Nodup := hb.sublist (List.filter_sublist.map _)
  have hp := (List.perm_ext_iff_of_nodup n1 n2).2 (fun p => by rw [mem_count_list, mem_count_list, h])
  simpa [Spec.count] using hp.length_eq

/-- `Spec.add` counts one pattern more for each listed method that the pattern did not have. -/
theorem count_add {tb : Spec.Table} (hok : TableOk tb) (p : Bytes) (methods : List Bytes) (m : Bytes) :
    Spec.count (Spec.add tb p methods) m =
      Spec.count tb m + if m ∈ effMethods methods ∧ m ∉ tb.methodsOf p then 1 else 0 := by
  have hok' := hok.add p methods
  have hhas : ∀ q, (Spec.add tb p methods).has q m ↔ tb.has q m ∨ (q = p ∧ m ∈ effMethods methods) := fun q => by
    rw [has_iff_methodsOf hok'.nodup, has_iff_methodsOf hok.nodup, methodsOf_add]
    by_cases hq : q = p
    · subst hq; simp [List.mem_append]
    · simp [hq]
  split
  · next hm =>
    -- `p` is the one pattern more
    have n1 : (((Spec.add tb p methods).filter (fun e => e.2.contains m)).map (·.1)).Nodup :=
      hok'.nodup.sublist (List.filter_sublist.map _)
    have n2 : (p :: (tb.filter (fun e => e.2.contains m)).map (·.1)).Nodup :=
      List.nodup_cons.2 ⟨fun h => hm.2 ((has_iff_methodsOf hok.nodup p m).1 ((mem_count_list tb m p).1 h)),
        hok.nodup.sublist (List.filter_sublist.map _)⟩
    have hp := (List.perm_ext_iff_of_nodup n1 n2).2 fun q => by
      rw [mem_count_list, hhas, List.mem_cons, mem_count_list]
      exact ⟨fun h => h.elim .inr fun h => .inl h.1, fun h => h.elim (fun h => .inr ⟨h, hm.1⟩) .inl⟩
    simpa [Spec.count] using hp.length_eq
  · next hm =>
    refine count_agree hok'.nodup hok.nodup fun q => (hhas q).trans ⟨fun h => h.elim id fun ⟨hq, hmm⟩ => ?_, .inl⟩
    subst hq
    exact (has_iff_methodsOf hok.nodup q m).2 (Classical.not_not.1 fun hn => hm ⟨hmm, hn⟩)

theorem count_pos_iff (tb : Spec.Table) (m : Bytes) : 0 < Spec.count tb m ↔ ∃ p, tb.has p m := by
  unfold Spec.count
  rw [List.length_pos_iff_exists_mem]
  constructor
  · rintro ⟨e, he⟩
    exact ⟨e.1, (mem_count_list tb m e.1).1 (List.mem_map_of_mem he)⟩
  · rintro ⟨p, hp⟩
    have := (mem_count_list tb m p).2 hp
    rw [List.mem_map] at this
    obtain ⟨e, he, _⟩ := this
    exact ⟨e, he⟩

theorem regKeys_nil : regKeys [] = [] := rfl

/-- `tb` is the abstract table of the tree `t`. -/
structure Refines (t : Tree) (tb : Spec.Table) : Prop where
  inv : TInv t
  has : ∀ q m, (tableOf t).has q m ↔ tb.has q m
  ok : TableOk tb

theorem Refines.pointwise {t : Tree} {tb : Spec.Table} (h : Refines t tb) (q m : Bytes) :
    m ∈ regKeys (t.handlersAt q) ↔ m ∈ tb.methodsOf q := by
  rw [← has_at h.inv, h.has, has_iff_methodsOf h.ok.nodup]

theorem Refines.of_pointwise {t : Tree} {tb : Spec.Table} (hinv : TInv t) (hok : TableOk tb)
    (h : ∀ q m, m ∈ regKeys (t.handlersAt q) ↔ m ∈ tb.methodsOf q) : Refines t tb :=
  ⟨hinv, fun q m => by rw [has_at hinv, has_iff_methodsOf hok.nodup]; exact h q m, hok⟩

/-- One step: tree and table are updated at the same pattern, by `addMethodsNode`/`removeMethods` resp. `Spec.add`/
`Spec.remove`, whose effects on the hand-registered keys agree (`addMethodsNode_reg`, `removeMethods_reg`). -/
theorem Refines.step {t : Tree} {tb : Spec.Table} (h : Refines t tb) (op : TOp) (hw : op.wf = true) :
    Refines (t.step op) (Spec.stepWith t tb op) := by
  have hinv' := TInv_step h.inv op hw
  cases op with
  | add p hd ms methods =>
    simp only [Tree.step, Spec.stepWith] at hinv' ⊢
    cases he : t.add p hd ms methods with
    | error e => exact h
    | ok t' =>
      rw [he] at hinv'
      obtain ⟨x, x', hfx, hx, hat⟩ := at_add h.inv hw he
      refine .of_pointwise hinv' (h.ok.add p methods) fun q m => ?_
      rw [hat, methodsOf_add]
      split
      · rw [(addMethodsNode_reg hfx m).1, hx, List.mem_append, h.pointwise]
      · exact h.pointwise q m
  | remove p methods =>
    obtain ⟨x, hx, hat⟩ := at_remove h.inv (remove_step h.inv p methods)
    refine .of_pointwise hinv' (h.ok.remove p methods) fun q m => ?_
    simp only [Spec.stepWith]
    rw [hat, methodsOf_remove h.ok.nodup]
    split
    · rw [removeMethods_reg, hx, h.pointwise]
      by_cases hm : methods = [] <;> simp [hm]
    · exact h.pointwise q m
  | clean pre =>
    refine .of_pointwise hinv' (h.ok.clean pre) fun q m => ?_
    simp only [Spec.stepWith]
    rw [at_clean h.inv (clean_step h.inv pre), methodsOf_clean]
    split
    · exact .rfl
    · exact h.pointwise q m
  | use ms =>
    refine .of_pointwise hinv' h.ok fun q m => ?_
    simp only [Tree.step, Spec.stepWith]
    rw [at_use t ms, ← h.pointwise]
    exact iff_of_eq (congrArg (m ∈ ·) (regKeys_mwE t.name ms (q, t.handlersAt q)))

end Mux.P11
