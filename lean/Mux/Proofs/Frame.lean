/-
  Mux.Proofs.Frame — the frame clause of C03 (`C03_frame` in DESIGN.md) for `Clean` (`clean_match`: the scan argument of
  TableFrame for the three things `Clean` does to a child — clean it below, delete it with its subtree, leave it), and
  both frame clauses for ALL trees of well-formed histories: the index fast path is the linear scan at the tracking
  `P19.trackRestore` (`P8.matchChildren_eq_scan_of`), so the trees with `P8.SOk2` are an instance of `P11.Scanned`
  (`scanned_sok2`).  `Mux.P26`: `Remove(p, methods…)` seen from the node of `p` ITSELF: when `removeMethods` leaves it a
  non-empty handler map nothing is deleted and `matchChildren`, which only looks at `handlers.length > 0`, walks the tree
  as before; this and the frame clause (`P11.frame_remove_of`, which EXCLUDES the node of `p`) are read off
  `P11.remove_matched` by `P11.handler_mrel`.
-/
import Mux.Proofs.ReachAll
import Mux.Proofs.TableFrame
namespace Mux.P11
open Mux

theorem hit_prefix (env : Env) (ic ic' : Interceptors) {n q : Node} (hn : Node.All (Sh ic') n) {rp : Bytes}
    {ps ps1 : Params} (h : n.matchChildren env ic rp ps = .hit q ps1) : n.pattern <+: q.pattern :=
  P10.nodes_pattern_prefix n (patternOk_of_sh ic' n hn) q (hit_mem_nodes h).1

/-- **The frame property of `Node.clean`.**  On a tree matched by the scan, a request that was dispatched to a
node whose pattern does not have the cleaned prefix is dispatched as before. -/
theorem clean_match {P : Node → Prop} (hP : Scanned P) (env : Env) (ic ic' : Interceptors) :
    ∀ (n : Node), Node.All (Sh ic') n → Node.All P n → ∀ (rem : Bytes) (n' : Node), n.clean rem = .ok n' →
      ∀ (rp : Bytes) (ps : Params), ps.keys.Nodup →
      FrameRel (fun pt => (n.pattern ++ rem) <+: pt) (n.matchChildren env ic rp ps) (n'.matchChildren env ic rp ps) := by
  intro n
  induction n using Node.rec (motive_2 := fun cs => ∀ pp, ShL ic' pp cs → AllL (Sh ic') cs → AllL P cs →
      ∀ (rem : Bytes) (cs1 : List Node), cleanL cs rem = .ok cs1 →
      ∀ (rp : Bytes) (ps : Params), ps.keys.Nodup →
      FrameRel (fun pt => (pp ++ rem) <+: pt) (matchFrom env ic cs 0 rp ps)
        (matchFrom env ic (cs1.filter (fun c => !(hasPrefix c.seg.value rem))) 0 rp ps)) with
  | mk s p mi hs idx cs ih =>
    intro hn hall rem n' h rp ps hnd
    rw [hP.scan env ic hall hnd, hP.scan env ic ((clean_edit (H := fun _ _ => True) h).closed hP.closed hall) hnd]
    obtain ⟨cs1, idx', hcs1, _, rfl⟩ := Node.clean_ok.1 h
    exact (ih p hn.1 hn.2 hall.2 rem cs1 hcs1 rp ps hnd).self id (fun hne _ => ⟨hne, rfl, rfl⟩)
  | nil =>
    rename_i pp _ _ _ rem cs1 h rp ps _
    cases h
    exact FrameRel.refl _ _
  | cons c cs ih1 ih2 =>
    rename_i pp hsh hsa hall rem cs1 h rp ps hnd
    obtain ⟨hco, _, hsho⟩ := ShL_cons.1 hsh
    rw [AllL_cons_iff] at hsa hall
    have hquiet := hP.quiet (env := env) (ic := ic) (rp := rp) hall.1 hnd
    obtain ⟨cs2, hcs2, hcase⟩ := cleanL_kept_cons h
    have htail := ih2 pp hsho hsa.2 hall.2 rem cs2 hcs2 rp ps hnd
    rcases hcase with ⟨hcond, c', hc', hkept⟩ | ⟨hdel, hkept⟩ | ⟨_, _, hkept⟩
    · -- the child is cleaned recursively and stays
      rw [hkept]
      refine MRel.scan_cons hquiet (MRel.child (Node.own_eq_iff.1 (Node.clean_own hc')).1 (fun cap rs => ?_)) htail
      rw [← P10.deeper_pattern hco.2.2.1 hcond.2]
      exact ih1 hsa.1 hall.1 _ c' hc' rs _ (P19.nodup_record c.seg cap hnd)
    · -- the whole subtree goes: a hit in it lies below `c`, whose pattern has the prefix
      rw [hkept]
      refine MRel.scan_drop hquiet (fun q ps1 hq hg => hg ?_) htail
      obtain ⟨cap, rs, _, hr⟩ := (P8.tryChild_hit_iff env ic c rp ps q ps1).1 hq
      refine List.IsPrefix.trans ?_ (hit_prefix env ic ic' hsa.1 hr)
      rw [hco.2.2.1, List.prefix_append_right_inj]
      exact (hasPrefix_iff _ _).1 hdel
    · -- the subtree stays as it is
      rw [hkept]
      exact MRel.scan_cons hquiet (FrameRel.refl _ _) htail

theorem clean_matched {P : Node → Prop} (hP : Scanned P) {t t' : Tree} (hinv : TInv t) (hall : Node.All P t.root)
    {pre : Bytes} (he : t.clean pre = .ok t') :
    ∃ root1, t' = ({ t with root := root1 }).recount ∧ t'.root.pattern = t.root.pattern ∧
      t'.root.handlers = t.root.handlers ∧
      ∀ env rp, FrameRel (fun pt => pre <+: pt) (t.matched env rp []) (t'.matched env rp []) := by
  obtain ⟨root1, hclean, rfl⟩ := Tree.clean_ok he
  obtain ⟨_, hpat, _, hhs⟩ := Node.own_eq_iff.1 (Node.clean_own hclean)
  refine ⟨root1, rfl, hpat, hhs, fun env rp => ?_⟩
  refine recount_matched (fun _ _ _ h hp hh => ⟨hp.trans h.1, hh.trans h.2⟩) env rp (fun _ => ⟨hpat, hhs⟩) ?_
  have h1 := clean_match hP env t.ic t.ic t.root hinv.sh hall pre root1 hclean rp [] List.nodup_nil
  rw [hinv.rootPat, List.nil_append] at h1
  exact h1

/-- The frame clause of C03 for `Clean` on a tree matched by the scan. -/
theorem frame_clean_of {P : Node → Prop} (hP : Scanned P) {t t' : Tree} (hinv : TInv t) (hall : Node.All P t.root)
    {pre : Bytes} (he : t.clean pre = .ok t')
    {env : Env} {rp method : Bytes} {f : Found} {q : Node}
    (hres : t.handler env rp [] method = .res f) (hq : f.node = some q) (hne : ¬ pre <+: q.pattern) :
    ∃ f', t'.handler env rp [] method = .res f' ∧ SameAnswer f f' := by
  obtain ⟨root1, rfl, hpat1, hhs1, hm⟩ := clean_matched hP hinv hall he
  exact handler_frame (t := t) (E := fun pt => pre <+: pt) rfl (hm env rp) hpat1 hhs1 hres hq hne

theorem frame_clean {t t' : Tree} (hinv : TInv t) (hno : Node.All NoIdx t.root)
    {pre : Bytes} (he : t.clean pre = .ok t')
    {env : Env} {rp method : Bytes} {f : Found} {q : Node}
    (hres : t.handler env rp [] method = .res f) (hq : f.node = some q) (hne : ¬ pre <+: q.pattern) :
    ∃ f', t'.handler env rp [] method = .res f' ∧ SameAnswer f f' :=
  frame_clean_of scanned_noIdx hinv hno he hres hq hne

end Mux.P11

namespace Mux.P14
open Mux Mux.P11

theorem scanned_sok2 (ic0 : Interceptors) : Scanned (P8.SOk2 ic0) where
  closed := P8.SOk2.closed ic0
  idxLit := fun h => P8.All_idxLit_of_SOk _ (P8.SOk2.all_SOk _ h)
  scan := fun env ic _ _ _ h hnd =>
    P8.matchChildren_eq_scan_of env ic (P8.SOk2.all_SOk _ h) (fun _ => h.head.2.distinct) P19.trackRestore
      ⟨P8.AllL_idxLit_of_SOk _ (P8.SOk2.all_SOk _ h).tail, hnd⟩

/-- The frame clause of C03 for `Remove`, for every tree satisfying the invariants of well-formed histories. -/
theorem frame_remove' {t t' : Tree} (hinv : AllInv t) {p : Bytes} {methods : List Bytes}
    (he : t.remove p methods = .ok t') {env : Env} {rp method : Bytes} {f : Found} {q : Node}
    (hres : t.handler env rp [] method = .res f) (hq : f.node = some q) (hne : q.pattern ≠ p) :
    ∃ f', t'.handler env rp [] method = .res f' ∧ SameAnswer f f' :=
  frame_remove_of (scanned_sok2 t.ic) hinv.patternOk hinv.rootPat hinv.s2.all he hres hq hne

/-- The frame clause of C03 for `Clean`, for every tree satisfying the invariants of well-formed histories. -/
theorem frame_clean' {t t' : Tree} (hinv : AllInv t) {pre : Bytes} (he : t.clean pre = .ok t')
    {env : Env} {rp method : Bytes} {f : Found} {q : Node}
    (hres : t.handler env rp [] method = .res f) (hq : f.node = some q) (hne : ¬ pre <+: q.pattern) :
    ∃ f', t'.handler env rp [] method = .res f' ∧ SameAnswer f f' :=
  frame_clean_of (scanned_sok2 t.ic) hinv.ti hinv.s2.all he hres hq hne

end Mux.P14

namespace Mux.P26
open Mux Mux.P11 Mux.P14

/-- When a hand-registered key survives, the handler map is not collapsed to the empty map: it is the old one without
the erased keys. -/
theorem removeMethods_keep (ht : Bool) (methods : List Bytes) (x : Node) (hne : methods ≠ [])
    (k0 : Bytes) (hk0 : k0 ∈ regKeys x.handlers) (hk0m : k0 ∉ methods) :
    (removeMethods ht methods x).handlers = x.handlers.filter (fun e => !decide (Erased methods e.1)) ∧
      (removeMethods ht methods x).handlers ≠ [] := by
  have hk : k0 ∈ regKeys (removeMethods ht methods x).handlers :=
    (removeMethods_reg ht methods x k0).2 ⟨hk0, fun h => h.elim hne hk0m⟩
  have hne' : (removeMethods ht methods x).handlers ≠ [] := fun h0 => by rw [h0] at hk; cases hk
  rcases removeMethods_eq ht methods x with ⟨h0, _⟩ | ⟨_, h0⟩
  · exact absurd h0 hne'
  · exact ⟨h0, hne'⟩

/-- The two answers agree in everything a caller sees: handler, `ok`, parameters, and the pattern of the answering
node (none for a 404). -/
def SameServed (f f' : Found) : Prop :=
  f'.handler = f.handler ∧ f'.ok = f.ok ∧ f'.params = f.params ∧
    (∀ q, f.node = some q → ∃ q', f'.node = some q' ∧ q'.pattern = q.pattern) ∧ (f.node = none → f'.node = none)

theorem SameServed.of_foundRel {H : Node → Node → Prop} {f f' : Found}
    (hH : ∀ q q', H q q' → q'.pattern = q.pattern) (h : FoundRel H f f') : SameServed f f' :=
  ⟨h.1, h.2.1, h.2.2.1, fun q hq => let ⟨q', e, hq'⟩ := h.2.2.2.2 q hq; ⟨q', e, hH q q' hq'⟩, h.2.2.2.1⟩

theorem handler_keep {env : Env} {t t1 : Tree} {x : Node} {hs' : AMap Handler} {rp method : Bytes} {f : Found}
    (htr : t1.trace = t.trace) (hnf : t1.notFound = t.notFound)
    (hfr : RemMR x hs' (t.matched env rp []) (t1.matched env rp []))
    (hp : t1.root.pattern = t.root.pattern) (hh : t1.root.handlers = t.root.handlers)
    (hne : hs' ≠ []) (hxne : x.handlers ≠ [])
    (hget : method ≠ mNotAllowed → hs'.get? method = x.handlers.get? method)
    (hget0 : hs'.get? mNotAllowed = x.handlers.get? mNotAllowed)
    (hres : t.handler env rp [] method = .res f) :
    ∃ f', t1.handler env rp [] method = .res f' ∧ SameServed f f' := by
  obtain ⟨f', h1, h2⟩ := handler_mrel htr ⟨hp, .inl hh⟩ hfr (fun _ _ _ _ _ => hne)
    (fun q q' h => by
      -- the handler map of `q'` answers `method` and the 405 key as the one of `q`, and is empty iff that one is
      rcases h.2 with hq | ⟨rfl, hq⟩
      · rw [hq]; exact ⟨Iff.rfl, fun _ => rfl, rfl⟩
      · rw [hq]
        exact ⟨⟨fun h0 => absurd h0 hne, fun h0 => absurd h0 hxne⟩, hget, hget0⟩)
    (fun _ => hnf) hres
  exact ⟨f', h1, .of_foundRel (fun _ _ h => h.1) h2⟩

/-- **The frame property of `Remove(p, methods…)` for requests with another method**, for every tree satisfying
the invariants of well-formed histories: when the node of `p` keeps a hand-registered method `k0`, every request
whose method is not in the list (and is not HEAD while GET is in the list) is answered exactly as before —
whichever node answered it, the node of `p` included. -/
theorem keep_remove {t t' : Tree} (hinv : AllInv t) {p : Bytes} {methods : List Bytes}
    (he : t.remove p methods = .ok t') (hne : methods ≠ [])
    (hkeep : ∀ x ∈ nodesL t.root.children, x.pattern = p → ∃ k0 ∈ regKeys x.handlers, k0 ∉ methods)
    {env : Env} {rp method : Bytes} (hm : method ∉ methods) (hhead : method = mHEAD → mGET ∉ methods)
    {f : Found} (hres : t.handler env rp [] method = .res f) :
    ∃ f', t'.handler env rp [] method = .res f' ∧ SameServed f f' := by
  rcases remove_matched (scanned_sok2 t.ic) hinv.patternOk hinv.rootPat hinv.s2.all he with
    rfl | ⟨x, hxmem, hxp, root1, rfl, hpat1, hhs1, hmatch⟩
  · exact ⟨f, hres, rfl, rfl, rfl, fun q0 h0 => ⟨q0, h0, rfl⟩, fun h => h⟩
  · obtain ⟨k0, hk0, hk0m⟩ := hkeep x hxmem hxp
    obtain ⟨hhs, hhsne⟩ := removeMethods_keep t.hasTrace methods x hne k0 hk0 hk0m
    have hxne : x.handlers ≠ [] := by
      intro h0
      rw [h0] at hk0
      cases hk0
    have hget : method ≠ mNotAllowed → (removeMethods t.hasTrace methods x).handlers.get? method =
        x.handlers.get? method := fun _ => by
      rw [hhs]; exact get?_notErased methods x.handlers (not_erased_of_not_mem hm hhead)
    have hget0 : (removeMethods t.hasTrace methods x).handlers.get? mNotAllowed = x.handlers.get? mNotAllowed := by
      rw [hhs]; exact get?_notErased methods x.handlers (not_erased_auto methods).2
    exact handler_keep (t := t) (x := x) rfl rfl (hmatch env rp) hpat1 hhs1 hhsne hxne hget hget0 hres

end Mux.P26
