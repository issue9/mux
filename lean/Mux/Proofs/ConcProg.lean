/-
  Mux.Proofs.ConcProg — program order is real-time order in the abstract readers/writer semantics
  (`Mux.Proofs.RWLock`), for any system `S` (`seqInv_reachable`): the completed operations of one
  thread, in order of return, followed by its operation in flight, followed by the rest of its
  program, ARE its program (`Reachable.program`, which holds without the lock as well); and an operation
  of a thread returned before the next one of the same thread was invoked.  (Needed to apply the
  real-time clause of `atomic_reachable` to two operations of one thread.)
-/
import Mux.Proofs.RWLockFree
namespace Mux.RWLock
variable {S : Sys}

def SeqInv (progs : Nat → List S.Op) (c : Config S) : Prop :=
  (∀ j, (c.doneOf j).map (·.call.op) ++ ((c.thr j).ph.call?.toList.map (·.op)) ++ (c.thr j).prog = progs j) ∧
  (∀ r ∈ c.done, r.tEnd < c.now ∧ ∀ v, (c.thr r.tid).ph.call? = some v → r.tEnd ≤ v.tStart) ∧
  c.done.Pairwise (fun A B => A.tid = B.tid → A.tEnd ≤ B.call.tStart)

section
variable {s0 : S.σ} {progs : Nat → List S.Op} {c c' : Config S}

/-- The real-time part of `SeqInv`; that a thread's operations are its program holds of every run, with or without
the lock (`Reachable.program`). -/
theorem seqInv_step (h : SeqInv progs c) (hs : Step c c') :
    (∀ r ∈ c'.done, r.tEnd < c'.now ∧ ∀ v, (c'.thr r.tid).ph.call? = some v → r.tEnd ≤ v.tStart) ∧
    c'.done.Pairwise (fun A B => A.tid = B.tid → A.tEnd ≤ B.call.tStart) := by
  obtain ⟨-, h2, h3⟩ := h
  rw [hs.now]
  rcases hs.calls with ⟨hd, hcall⟩ | ⟨i, v, r, k, hv, hd, hcall⟩
  · rw [hd]
    refine ⟨fun r hr => ⟨Nat.lt_succ_of_lt (h2 r hr).1, fun v hv => ?_⟩, h3⟩
    rcases hcall r.tid v hv with hv | hv
    · exact (h2 r hr).2 v hv
    · rw [hv.2]; exact Nat.le_of_lt (h2 r hr).1
  · rw [hd]
    refine ⟨fun x hx => ?_, ?_⟩
    · rcases List.mem_append.1 hx with hx | hx
      · exact ⟨Nat.lt_succ_of_lt (h2 x hx).1, fun v' hv' => (h2 x hx).2 v' (hcall _ v' hv').2⟩
      · rw [List.mem_singleton.1 hx]
        exact ⟨Nat.lt_succ_self _, fun v' hv' => absurd rfl (hcall i v' hv').1⟩
    · -- the thread that returns had its call in flight after every operation it had completed
      refine List.pairwise_append.2 ⟨h3, List.pairwise_singleton _ _, fun A hA' B hB hAB => ?_⟩
      rw [List.mem_singleton.1 hB] at hAB ⊢
      exact (h2 A hA').2 v (by rw [hAB]; exact hv)

theorem seqInv_reachable
    (h : Reachable s0 progs c) : SeqInv progs c := by
  induction h with
  | init => exact ⟨fun _ => rfl, fun _ h => (nomatch h), .nil⟩
  | step hc hs ih => exact ⟨(hc.step hs).program, seqInv_step ih hs⟩

end

/-- Two completed operations of ONE thread, `A` returned first: `A` returned before `B` was invoked. -/
theorem SeqInv.ordered {progs : Nat → List S.Op} {c : Config S} (h : SeqInv progs c) {j : Nat} {A B : Rec S}
    {l1 l2 l3 : List (Rec S)} (hd : c.doneOf j = l1 ++ A :: l2 ++ B :: l3) : A.tEnd ≤ B.call.tStart := by
  have hp : (c.doneOf j).Pairwise (fun A B => A.tid = B.tid → A.tEnd ≤ B.call.tStart) :=
    h.2.2.sublist List.filter_sublist
  have hA : A ∈ c.doneOf j := hd ▸ List.mem_append_left _ (List.mem_append_right _ (List.mem_cons_self ..))
  have hB : B ∈ c.doneOf j := hd ▸ List.mem_append_right _ (List.mem_cons_self ..)
  have hAB : A.tid = B.tid :=
    (of_decide_eq_true (List.mem_filter.1 hA).2).trans (of_decide_eq_true (List.mem_filter.1 hB).2).symm
  rw [hd, List.append_assoc, List.pairwise_append] at hp
  exact (List.pairwise_cons.1 hp.2.1).1 B (List.mem_append_right _ (List.mem_cons_self ..)) hAB

section
variable {s0 : S.σ} {progs : Nat → List S.Op} {c : Config S}

theorem two_ops_ordered (h : Reachable s0 progs c)
    {j : Nat} {a b : S.Op} (hp : progs j = [a, b]) (hab : a ≠ b) {A B : Rec S}
    (hA : A ∈ c.done) (hB : B ∈ c.done) (hAj : A.tid = j) (hBj : B.tid = j)
    (hAo : A.call.op = a) (hBo : B.call.op = b) : A.tEnd ≤ B.call.tStart := by
  have hS := seqInv_reachable h
  have h1 := hS.1 j
  have hA' : A ∈ c.doneOf j := List.mem_filter.2 ⟨hA, decide_eq_true hAj⟩
  have hB' : B ∈ c.doneOf j := List.mem_filter.2 ⟨hB, decide_eq_true hBj⟩
  -- the completed operations of thread j are a prefix of [a, b] that contains both: they are [A, B]
  match hd : c.doneOf j with
  | [] => rw [hd] at hA'; cases hA'
  | [X] =>
    rw [hd] at hA' hB'
    rw [List.mem_singleton.1 hA'] at hAo
    rw [List.mem_singleton.1 hB'] at hBo
    exact absurd (hAo.symm.trans hBo) hab
  | X :: Y :: l =>
    rw [hd, hp] at h1
    injection h1 with hX h1
    injection h1 with hY h1
    have hl : l = [] := by
      cases l with
      | nil => rfl
      | cons _ _ => cases h1
    subst hl
    rw [hd] at hA' hB'
    have hAX : A = X := by
      rcases List.mem_cons.1 hA' with e | e
      · exact e
      · rw [List.mem_singleton.1 e] at hAo; exact absurd (hAo.symm.trans hY) hab
    have hBY : B = Y := by
      rcases List.mem_cons.1 hB' with e | e
      · rw [e] at hBo; exact absurd (hX.symm.trans hBo) hab
      · exact List.mem_singleton.1 e
    rw [hAX, hBY]
    exact hS.ordered (j := j) (l1 := []) (l2 := []) (l3 := []) hd

end

end Mux.RWLock
