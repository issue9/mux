/-
  Mux.Proofs.RWLock — an abstract small-step semantics of threads that run API operations, each as ONE critical
  section of a readers/writer lock (`Step`), and the same without the lock (`NoLock`, for `WithLock(false)`): for
  any system `S`, any number of threads (indexed by `Nat`; a thread whose program is `[]` never moves, so `N`
  threads are the case `progs i = []` for `i ≥ N`) and any scheduler (ANY enabled thread may move).

  What is trusted and not modelled (DESIGN §10): `sync.RWMutex` implements the lock below; and the
  step from "data-race free" to "a critical section behaves as if it was executed atomically at
  one instant while the lock is held" is the DRF-SC guarantee of the Go memory model.  The
  semantics below builds that guarantee in: the `commit` step applies the sequential meaning
  `sem op` of the operation to the shared state at one (arbitrary) instant between `acquire` and
  `release`, while the micro-accesses (`access` steps) only serve to state race freedom.

  The side condition "every API call is one critical section of the right mode, and reads/writes
  only inside it" is what `Mux.Ties.C06_discipline` / `C06_modes` check on the regenerated facts.
-/
namespace Mux.RWLock

/-- A shared state, a set of API operations with a lock mode (`true` = writer), their sequential
meaning, and the micro-accesses (location, is-write) each performs inside its critical section.
Reader operations neither change the state nor perform write accesses. -/
structure Sys where
  σ : Type
  Op : Type
  Resp : Type
  Loc : Type
  mode : Op → Bool
  sem : Op → σ → σ × Resp
  accs : Op → List (Loc × Bool)
  reader_pure : ∀ op s, mode op = false → (sem op s).1 = s
  reader_accs : ∀ op, mode op = false → ∀ a ∈ accs op, a.2 = false

def run (S : Sys) (s : S.σ) (ops : List S.Op) : S.σ := ops.foldl (fun s op => (S.sem op s).1) s

theorem run_append (S : Sys) (s : S.σ) (a b : List S.Op) : run S s (a ++ b) = run S (run S s a) b := by
  simp [run]

inductive Lock where
  | free
  | readers (n : Nat)
  | writer (i : Nat)
  deriving DecidableEq, Repr

/-- `RLock` is enabled iff the lock is free or read-held; `Lock` iff it is free. -/
def Lock.canAcq : Lock → Bool → Bool
  | .free, _ => true
  | .readers _, false => true
  | _, _ => false

def Lock.acq : Lock → Bool → Nat → Lock
  | .free, true, i => .writer i
  | .free, false, _ => .readers 1
  | .readers n, false, _ => .readers (n + 1)
  | l, _, _ => l

/-- `Unlock` frees the lock, `RUnlock` decrements the reader count. -/
def Lock.rel : Lock → Bool → Lock
  | .readers (n + 2), false => .readers (n + 1)
  | _, _ => .free

/-- An invoked operation with two ghost stamps taken at invocation: how many writer operations had
taken effect, and the global clock. -/
structure Call (S : Sys) where
  op : S.Op
  start : Nat
  tStart : Nat

/-- Where a thread is in its current operation. `inside v todo lp`: holds the lock for `v.op`,
`todo` are the micro-accesses still to perform, `lp = some (resp, k)` once the linearization point
has passed (ghost `k` = number of writer operations that had taken effect before it). -/
inductive Phase (S : Sys) where
  | idle
  | waiting (v : Call S)
  | inside (v : Call S) (todo : List (S.Loc × Bool)) (lp : Option (S.Resp × Nat))

def Phase.held {S : Sys} : Phase S → Option Bool
  | .inside v _ _ => some (S.mode v.op)
  | _ => none

def Phase.call? {S : Sys} : Phase S → Option (Call S)
  | .idle => none
  | .waiting v => some v
  | .inside v _ _ => some v

def Phase.next? {S : Sys} : Phase S → Option (S.Loc × Bool)
  | .inside _ (a :: _) _ => some a
  | _ => none

structure Thread (S : Sys) where
  prog : List S.Op
  ph : Phase S

/-- Ghost record of a completed operation: thread, call, published response, `lin` = number of
writer operations that had taken effect at its linearization point, `fin` = the same number at its
return, `tEnd` = clock at its return. -/
structure Rec (S : Sys) where
  tid : Nat
  call : Call S
  resp : S.Resp
  lin : Nat
  fin : Nat
  tEnd : Nat

structure Config (S : Sys) where
  st : S.σ
  lock : Lock
  thr : Nat → Thread S
  /-- ghost: writer operations in the order in which they took effect -/
  wlog : List S.Op
  /-- ghost: writer operations in the order in which they acquired the lock -/
  wacq : List S.Op
  /-- ghost: completed operations in the order of their return -/
  done : List (Rec S)
  /-- ghost: global clock, one tick per step -/
  now : Nat

def upd {α : Type} (f : Nat → α) (i : Nat) (x : α) : Nat → α := fun j => if j = i then x else f j

@[simp] theorem upd_same {α : Type} (f : Nat → α) (i : Nat) (x : α) : upd f i x i = x := if_pos rfl
theorem upd_other {α : Type} (f : Nat → α) (i j : Nat) (x : α) (h : j ≠ i) : upd f i x j = f j := if_neg h

/-- The frame rule for `upd`: what holds of the new entry and of the old entries holds of all entries.
Every step replaces one thread, so each invariant on threads is stepped with this rule. -/
theorem forall_upd_ne {α : Type} {P : Nat → α → Prop} {f : Nat → α} {i : Nat} {x : α}
    (hx : P i x) (hf : ∀ j, j ≠ i → P j (f j)) (j : Nat) : P j (upd f i x j) := by
  by_cases h : j = i
  · rw [h, upd_same]; exact hx
  · rw [upd_other f i j x h]; exact hf j h

theorem forall_upd {α : Type} {P : Nat → α → Prop} {f : Nat → α} {i : Nat} {x : α}
    (hx : P i x) (hf : ∀ j, P j (f j)) : ∀ j, P j (upd f i x j) :=
  forall_upd_ne hx fun j _ => hf j

theorem upd_upd {α : Type} (f : Nat → α) (i : Nat) (x y : α) : upd (upd f i x) i y = upd f i y :=
  funext fun j => by by_cases h : j = i <;> simp [upd, h]

theorem upd_self {α : Type} (f : Nat → α) (i : Nat) : upd f i (f i) = f :=
  funext fun j => by by_cases h : j = i <;> simp [upd, h]

theorem map_upd {α β : Type} (g : α → β) (f : Nat → α) (i : Nat) (x : α) :
    (fun j => g (upd f i x j)) = upd (fun j => g (f j)) i (g x) :=
  funext fun j => by by_cases h : j = i <;> simp [upd, h]

theorem filter_concat_pos {α : Type} {p : α → Bool} {a : α} (l : List α) (h : p a = true) :
    (l ++ [a]).filter p = l.filter p ++ [a] := by
  rw [List.filter_append, List.filter_cons_of_pos h, List.filter_nil]

theorem filter_concat_neg {α : Type} {p : α → Bool} {a : α} (l : List α) (h : p a = false) :
    (l ++ [a]).filter p = l.filter p := by
  rw [List.filter_append, List.filter_cons_of_neg (by rw [h]; exact Bool.false_ne_true), List.filter_nil,
    List.append_nil]

variable {S : Sys}

def Config.init (s0 : S.σ) (progs : Nat → List S.Op) : Config S :=
  { st := s0, lock := .free, thr := fun i => ⟨progs i, .idle⟩, wlog := [], wacq := [], done := [], now := 0 }

/-- One step of one thread; the scheduler is arbitrary (any thread whose step is enabled may move). -/
inductive Step : Config S → Config S → Prop where
  /-- the API call starts (it may then have to wait for the lock) -/
  | invoke (c : Config S) (i : Nat) (op : S.Op) (rest : List S.Op)
      (h : c.thr i = ⟨op :: rest, .idle⟩) :
      Step c { c with thr := upd c.thr i ⟨rest, .waiting ⟨op, c.wlog.length, c.now⟩⟩, now := c.now + 1 }
  /-- `RLock`/`Lock` according to the mode of the operation; enabled only if the lock admits it -/
  | acquire (c : Config S) (i : Nat) (p : List S.Op) (v : Call S)
      (h : c.thr i = ⟨p, .waiting v⟩) (en : c.lock.canAcq (S.mode v.op) = true) :
      Step c { c with lock := c.lock.acq (S.mode v.op) i,
                      thr := upd c.thr i ⟨p, .inside v (S.accs v.op) none⟩,
                      wacq := if S.mode v.op then c.wacq ++ [v.op] else c.wacq,
                      now := c.now + 1 }
  /-- one micro-access inside the critical section -/
  | access (c : Config S) (i : Nat) (p : List S.Op) (v : Call S) (a : S.Loc × Bool) (todo : List (S.Loc × Bool))
      (lp : Option (S.Resp × Nat)) (h : c.thr i = ⟨p, .inside v (a :: todo) lp⟩) :
      Step c { c with thr := upd c.thr i ⟨p, .inside v todo lp⟩, now := c.now + 1 }
  /-- the linearization point: at some instant while the lock is held the operation takes effect -/
  | commit (c : Config S) (i : Nat) (p : List S.Op) (v : Call S) (todo : List (S.Loc × Bool))
      (h : c.thr i = ⟨p, .inside v todo none⟩) :
      Step c { c with st := (S.sem v.op c.st).1,
                      thr := upd c.thr i ⟨p, .inside v todo (some ((S.sem v.op c.st).2, c.wlog.length))⟩,
                      wlog := if S.mode v.op then c.wlog ++ [v.op] else c.wlog,
                      now := c.now + 1 }
  /-- `RUnlock`/`Unlock`; the response is published -/
  | release (c : Config S) (i : Nat) (p : List S.Op) (v : Call S) (r : S.Resp) (k : Nat)
      (h : c.thr i = ⟨p, .inside v [] (some (r, k))⟩) :
      Step c { c with lock := c.lock.rel (S.mode v.op),
                      thr := upd c.thr i ⟨p, .idle⟩,
                      done := c.done ++ [⟨i, v, r, k, c.wlog.length, c.now⟩],
                      now := c.now + 1 }

inductive Reachable (s0 : S.σ) (progs : Nat → List S.Op) : Config S → Prop where
  | init : Reachable s0 progs (Config.init s0 progs)
  | step {c c' : Config S} : Reachable s0 progs c → Step c c' → Reachable s0 progs c'

theorem Step.now {c c' : Config S} (hs : Step c c') : c'.now = c.now + 1 := by
  cases hs <;> rfl

/-- What a step does to the completed operations and the calls in flight. Either nothing returns, and a call in
flight afterwards was so before or is invoked now, with the present stamps; or thread `i` returns from its call,
which is recorded with the present stamps, and the calls in flight afterwards are those of the other threads.
The invariants that compare stamps (`RTInv`, `SeqInv`) are stepped with this. -/
theorem Step.calls {c c' : Config S} (hs : Step c c') :
    (c'.done = c.done ∧ ∀ j v, (c'.thr j).ph.call? = some v →
      (c.thr j).ph.call? = some v ∨ v.start = c.wlog.length ∧ v.tStart = c.now) ∨
    ∃ i v r k, (c.thr i).ph.call? = some v ∧ c'.done = c.done ++ [⟨i, v, r, k, c.wlog.length, c.now⟩] ∧
      ∀ j v', (c'.thr j).ph.call? = some v' → j ≠ i ∧ (c.thr j).ph.call? = some v' := by
  have frame : ∀ {i : Nat} {t : Thread S},
      (∀ v, t.ph.call? = some v → (c.thr i).ph.call? = some v ∨ v.start = c.wlog.length ∧ v.tStart = c.now) →
      ∀ j v, (upd c.thr i t j).ph.call? = some v →
        (c.thr j).ph.call? = some v ∨ v.start = c.wlog.length ∧ v.tStart = c.now :=
    fun ht => forall_upd (P := fun j (t : Thread S) => ∀ v, t.ph.call? = some v →
      (c.thr j).ph.call? = some v ∨ v.start = c.wlog.length ∧ v.tStart = c.now) ht fun _ _ e => .inl e
  cases hs with
  | invoke i op rest hi =>
    exact .inl ⟨rfl, frame fun v e => .inr (by injection e with e; rw [← e]; exact ⟨rfl, rfl⟩)⟩
  | acquire i p v hi en | access i p v a todo lp hi | commit i p v todo hi =>
    exact .inl ⟨rfl, frame fun v e => .inl (by rw [hi]; exact e)⟩
  | release i p v r k hi =>
    exact .inr ⟨i, v, r, k, by rw [hi]; rfl, rfl,
      forall_upd_ne (P := fun j (t : Thread S) => ∀ v', t.ph.call? = some v' → j ≠ i ∧ (c.thr j).ph.call? = some v')
        (fun _ e => nomatch e) fun j hj v' e => ⟨hj, e⟩⟩

def Config.doneOf (c : Config S) (j : Nat) : List (Rec S) := c.done.filter (fun r => r.tid = j)

theorem Phase.inside_of_held {ph : Phase S} {m : Bool} (h : ph.held = some m) :
    ∃ v todo lp, ph = .inside v todo lp ∧ S.mode v.op = m := by
  cases ph with
  | idle => cases h
  | waiting v => cases h
  | inside v todo lp => exact ⟨v, todo, lp, rfl, Option.some.inj h⟩

theorem Phase.inside_of_next? {ph : Phase S} {a : S.Loc × Bool} (h : ph.next? = some a) :
    ∃ v todo lp, ph = .inside v (a :: todo) lp := by
  match ph, h with
  | .inside v (_ :: todo) lp, h => exact ⟨v, todo, lp, by rw [Option.some.inj h]⟩

def Conflict (a b : S.Loc × Bool) : Prop := a.1 = b.1 ∧ (a.2 = true ∨ b.2 = true)

def ReadOnly (progs : Nat → List S.Op) : Prop := ∀ i, ∀ op ∈ progs i, S.mode op = false

/-! The variant without any lock (`WithLock(false)`).  No acquire/release at all: a thread starts an operation,
performs its micro-accesses, takes effect at some instant in between, and returns.  Nothing excludes anything — with a
writer operation a conflicting pair of accesses is reachable (`toy_nolock_race` below) — but if no operation writes,
there is no conflicting pair and every response is the sequential one. -/
namespace NoLock

inductive NPhase (S : Sys) where
  | idle
  | running (op : S.Op) (todo : List (S.Loc × Bool)) (resp : Option S.Resp)

def NPhase.next? {S : Sys} : NPhase S → Option (S.Loc × Bool)
  | .running _ (a :: _) _ => some a
  | _ => none

structure NThread (S : Sys) where
  prog : List S.Op
  ph : NPhase S

structure NRec (S : Sys) where
  tid : Nat
  op : S.Op
  resp : S.Resp

structure NConfig (S : Sys) where
  st : S.σ
  thr : Nat → NThread S
  done : List (NRec S)

def NConfig.init (s0 : S.σ) (progs : Nat → List S.Op) : NConfig S :=
  { st := s0, thr := fun i => ⟨progs i, .idle⟩, done := [] }

inductive NStep : NConfig S → NConfig S → Prop where
  | start (c : NConfig S) (i : Nat) (op : S.Op) (rest : List S.Op) (h : c.thr i = ⟨op :: rest, .idle⟩) :
      NStep c { c with thr := upd c.thr i ⟨rest, .running op (S.accs op) none⟩ }
  | access (c : NConfig S) (i : Nat) (p : List S.Op) (op : S.Op) (a : S.Loc × Bool) (todo : List (S.Loc × Bool))
      (resp : Option S.Resp) (h : c.thr i = ⟨p, .running op (a :: todo) resp⟩) :
      NStep c { c with thr := upd c.thr i ⟨p, .running op todo resp⟩ }
  | effect (c : NConfig S) (i : Nat) (p : List S.Op) (op : S.Op) (todo : List (S.Loc × Bool))
      (h : c.thr i = ⟨p, .running op todo none⟩) :
      NStep c { c with st := (S.sem op c.st).1, thr := upd c.thr i ⟨p, .running op todo (some (S.sem op c.st).2)⟩ }
  | finish (c : NConfig S) (i : Nat) (p : List S.Op) (op : S.Op) (r : S.Resp)
      (h : c.thr i = ⟨p, .running op [] (some r)⟩) :
      NStep c { c with thr := upd c.thr i ⟨p, .idle⟩, done := c.done ++ [⟨i, op, r⟩] }

inductive NReachable (s0 : S.σ) (progs : Nat → List S.Op) : NConfig S → Prop where
  | init : NReachable s0 progs (NConfig.init s0 progs)
  | step {c c' : NConfig S} : NReachable s0 progs c → NStep c c' → NReachable s0 progs c'

theorem NPhase.running_of_next? {ph : NPhase S} {a : S.Loc × Bool} (h : ph.next? = some a) :
    ∃ op todo r, ph = .running op (a :: todo) r := by
  match ph, h with
  | .running op (_ :: todo) r, h => exact ⟨op, todo, r, by rw [Option.some.inj h]⟩

/-- The completed operations of thread `j`, in order of return. -/
def NConfig.doneOf (c : NConfig S) (j : Nat) : List (NRec S) := c.done.filter (fun r => r.tid = j)

end NoLock

section
variable {s0 : S.σ} {progs : Nat → List S.Op} {c : Config S}

theorem Lock.rel_acq_free (m : Bool) (i : Nat) : (Lock.free.acq m i).rel m = .free := by cases m <;> rfl

theorem drain (todo : List (S.Loc × Bool))
    (h : Reachable s0 progs c) {i : Nat} {p : List S.Op} {v : Call S} {lp : Option (S.Resp × Nat)}
    (hi : c.thr i = ⟨p, .inside v todo lp⟩) :
    Reachable s0 progs { c with thr := upd c.thr i ⟨p, .inside v [] lp⟩, now := c.now + todo.length } := by
  induction todo generalizing c with
  | nil => rw [← hi, upd_self]; exact h
  | cons a todo ih =>
    have := ih (h.step (.access c i p v a todo lp hi)) (upd_same ..)
    rw [upd_upd, Nat.add_right_comm] at this
    exact this

/-- From a reachable configuration in which the lock is free and thread `i` is idle with `op` next in
its program, the configuration in which `op` has completed — invoked, lock acquired, all
micro-accesses performed, committed, released, with no other thread moving in between — is reachable. -/
theorem solo (h : Reachable s0 progs c)
    {i : Nat} {op : S.Op} {rest : List S.Op} (hi : c.thr i = ⟨op :: rest, .idle⟩) (hl : c.lock = .free) :
    Reachable s0 progs
      { st := (S.sem op c.st).1, lock := .free, thr := upd c.thr i ⟨rest, .idle⟩,
        wlog := if S.mode op then c.wlog ++ [op] else c.wlog,
        wacq := if S.mode op then c.wacq ++ [op] else c.wacq,
        done := c.done ++ [⟨i, ⟨op, c.wlog.length, c.now⟩, (S.sem op c.st).2, c.wlog.length,
          (if S.mode op then c.wlog ++ [op] else c.wlog).length, c.now + 1 + 1 + (S.accs op).length + 1⟩],
        now := c.now + 1 + 1 + (S.accs op).length + 1 + 1 } := by
  have h2 := (h.step (.invoke c i op rest hi)).step
    (.acquire _ i rest ⟨op, c.wlog.length, c.now⟩ (upd_same ..) (hl ▸ rfl : c.lock.canAcq (S.mode op) = true))
  have h5 := ((drain (S.accs op) h2 (upd_same ..)).step (.commit _ i rest _ [] (upd_same ..))).step
    (.release _ i rest _ _ _ (upd_same ..))
  dsimp only at h5
  rw [hl, Lock.rel_acq_free, upd_upd, upd_upd, upd_upd, upd_upd] at h5
  exact h5

end

section
open NoLock
variable {s0 : S.σ} {progs : Nat → List S.Op} {c : NConfig S}

theorem ndrain (todo : List (S.Loc × Bool))
    (h : NReachable s0 progs c) {i : Nat} {p : List S.Op} {op : S.Op} {r : Option S.Resp}
    (hi : c.thr i = ⟨p, .running op todo r⟩) :
    NReachable s0 progs { c with thr := upd c.thr i ⟨p, .running op [] r⟩ } := by
  induction todo generalizing c with
  | nil => rw [← hi, upd_self]; exact h
  | cons a todo ih =>
    have := ih (h.step (.access c i p op a todo r hi)) (upd_same ..)
    rw [upd_upd] at this
    exact this

theorem nsolo_run (h : NReachable s0 progs c)
    {i : Nat} {op : S.Op} {rest : List S.Op} (hi : c.thr i = ⟨op :: rest, .idle⟩) :
    NReachable s0 progs
      { st := (S.sem op c.st).1, thr := upd c.thr i ⟨rest, .idle⟩, done := c.done ++ [⟨i, op, (S.sem op c.st).2⟩] } := by
  have h2 := (h.step (.start c i op rest hi)).step (.effect _ i rest op (S.accs op) (upd_same ..))
  have h4 := (ndrain (S.accs op) h2 (upd_same ..)).step (.finish _ i rest op _ (upd_same ..))
  dsimp only at h4
  rw [upd_upd, upd_upd, upd_upd] at h4
  exact h4

end

open NoLock in
theorem nsolo {s0 : S.σ} {progs : Nat → List S.Op} {c : NConfig S} (h : NReachable s0 progs c)
    {i : Nat} {op : S.Op} {rest : List S.Op} (hi : c.thr i = ⟨op :: rest, .idle⟩) :
    ∃ c', NReachable s0 progs c' ∧ c'.st = (S.sem op c.st).1 ∧
      (∀ j, c'.thr j = upd c.thr i ⟨rest, .idle⟩ j) ∧
      c'.done = c.done ++ [⟨i, op, (S.sem op c.st).2⟩] :=
  ⟨_, nsolo_run h hi, rfl, fun _ => rfl, rfl⟩

/-- A counter: `true` = increment (writer, one write to the only location), `false` = read it. -/
def toy : Sys where
  σ := Nat
  Op := Bool
  Resp := Nat
  Loc := Unit
  mode := fun op => op
  sem := fun op s => if op then (s + 1, s) else (s, s)
  accs := fun op => [((), op)]
  reader_pure := by intro op s h; simp [h]
  reader_accs := by intro op h a ha; simp at ha; simp [ha, h]

/-- Thread 0 increments, thread 1 reads. -/
def toyProgs : Nat → List Bool := fun i => if i = 0 then [true] else if i = 1 then [false] else []

/-- A reachable configuration in which the reader (thread 1) is inside its critical section, the
writer (thread 0) waits, and the writer's `acquire` is NOT enabled. -/
example : ∃ c : Config toy, Reachable (S := toy) (0 : Nat) toyProgs c ∧ (c.thr 1).ph.held = some false ∧
    (∃ p v, c.thr 0 = ⟨p, .waiting v⟩ ∧ toy.mode v.op = true ∧ c.lock.canAcq (toy.mode v.op) = false) ∧
    c.lock = .readers 1 := by
  refine ⟨_, .step (.step (.step .init (.invoke _ 1 false [] rfl)) (.acquire _ 1 [] ⟨false, 0, 0⟩ rfl rfl))
    (.invoke _ 0 true [] rfl), rfl, ⟨[], ⟨true, 0, 2⟩, rfl, rfl, rfl⟩, rfl⟩

/-- The hypothesis of `NoLock.readonly` is needed, and `Conflict` is not vacuous: without the lock,
a writer and a reader reach a configuration whose next micro-accesses conflict. -/
theorem toy_nolock_race : ∃ c : NoLock.NConfig toy, NoLock.NReachable (S := toy) (0 : Nat) toyProgs c ∧
    ∃ a b, (c.thr 0).ph.next? = some a ∧ (c.thr 1).ph.next? = some b ∧ Conflict (S := toy) a b :=
  ⟨_, .step (.step .init (.start _ 0 true [] rfl)) (.start _ 1 false [] rfl), ((), true), ((), false), rfl, rfl, rfl, Or.inl rfl⟩

/-- A complete run (so the statements about `done` are not vacuous): the reader is invoked first
(`start = 0`), then the writer runs its whole critical section, then the reader gets the lock: it
is linearized after the writer (`lin = 1`), answers `1`, and the final state is `1`. -/
example : ∃ c : Config toy, Reachable (S := toy) (0 : Nat) toyProgs c ∧ c.st = (1 : Nat) ∧ c.lock = .free ∧
    c.wlog = [true] ∧ c.done.map (fun r => (r.tid, r.call.start, r.lin, r.fin, r.resp)) = [(0, 0, 0, 1, (0 : Nat)), (1, 0, 1, 1, (1 : Nat))] := by
  have h0 : Reachable (S := toy) (0 : Nat) toyProgs _ := .init
  have h1 := h0.step (.invoke _ 1 false [] rfl)
  have h2 := h1.step (.invoke _ 0 true [] rfl)
  have h3 := h2.step (.acquire _ 0 [] ⟨true, 0, 1⟩ rfl rfl)
  have h4 := h3.step (.access _ 0 [] ⟨true, 0, 1⟩ ((), true) [] none rfl)
  have h5 := h4.step (.commit _ 0 [] ⟨true, 0, 1⟩ [] rfl)
  have h6 := h5.step (.release _ 0 [] ⟨true, 0, 1⟩ (0 : Nat) 0 rfl)
  have h7 := h6.step (.acquire _ 1 [] ⟨false, 0, 0⟩ rfl rfl)
  have h8 := h7.step (.access _ 1 [] ⟨false, 0, 0⟩ ((), false) [] none rfl)
  have h9 := h8.step (.commit _ 1 [] ⟨false, 0, 0⟩ [] rfl)
  have h10 := h9.step (.release _ 1 [] ⟨false, 0, 0⟩ (1 : Nat) 1 rfl)
  exact ⟨_, h10, rfl, rfl, rfl, rfl⟩

end Mux.RWLock
