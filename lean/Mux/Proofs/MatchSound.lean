/-
  Soundness of the matcher (C01 at the level of `Node.matchChildren`): on any tree a hit is a reaching index path
  (`P15.ReachesBy`, `matchChildren_walk`; `Walk.chain` reads it as a chain), and for any `Tracking` the reported parameters
  are that path's and a miss hands the parameters back.  The trackings here are `trackNames` (a hit leaves EXACTLY
  `ps ++ captures chain`, the D1 repair) and `trackNothing`; the one without a hypothesis on names (D30 repair) is in
  `RestoreMatch.lean`.
-/
import Mux.Proofs.MatchSpec
import Mux.Proofs.MatchHyps
namespace Mux

namespace P19
theorem restoreParam_fresh {before : Params} (after : Params) {name : Bytes} (h : name ∉ before.keys) :
    restoreParam before after name = after.erase name := by
  unfold restoreParam
  rw [(AMap.get?_eq_none_iff before name).2 h]

theorem get?_restoreParam (before after : Params) (x k : Bytes) :
    (restoreParam before after x).get? k = if k = x then before.get? x else after.get? k := by
  unfold restoreParam
  cases h : before.get? x with
  | some v =>
    simp only
    rw [AMap.get?_set]
  | none =>
    simp only
    rw [AMap.get?_erase]
end P19

theorem captures_single (s : Seg) (v : Bytes) :
    captures [(s, v)] = if s.kind ≠ .str ∧ ¬ s.ignoreName then [(s.name, v)] else [] := by
  simp only [captures]

theorem captures_cons (s : Seg) (v : Bytes) (rest : List (Seg × Bytes)) :
    captures ((s, v) :: rest) = captures [(s, v)] ++ captures rest := by
  simp only [captures]; split <;> rfl

theorem captures_append (a b : List (Seg × Bytes)) : captures (a ++ b) = captures a ++ captures b := by
  induction a with
  | nil => rfl
  | cons sv a ih =>
    obtain ⟨s, v⟩ := sv
    rw [List.cons_append, captures_cons, ih, captures_cons s v a, List.append_assoc]

theorem record_spec {s : Seg} (cap : Bytes) {ps : Params} {used : List Bytes}
    (hfresh : s.name ∉ used) (hsub : ∀ k ∈ ps.keys, k ∈ used) :
    s.record cap ps = ps ++ captures [(s, cap)] ∧
    (∀ k ∈ (s.record cap ps).keys, k ∈ (if s.kind ≠ .str ∧ ¬ s.ignoreName then s.name :: used else used)) ∧
    (s.record cap ps).erase s.name = ps := by
  have hk : s.name ∉ ps.keys := fun h => hfresh (hsub _ h)
  rw [captures_single]
  unfold Seg.record
  split
  · refine ⟨AMap.set_fresh cap hk, fun k hk' => ?_, AMap.erase_set_fresh cap hk⟩
    rw [AMap.set_fresh cap hk, AMap.keys_append] at hk'
    rcases List.mem_append.1 hk' with h | h
    · exact List.mem_cons_of_mem _ (hsub k h)
    · exact List.mem_singleton.1 h ▸ List.mem_cons_self
  · exact ⟨(List.append_nil ps).symm, hsub, AMap.erase_fresh hk⟩

namespace P19

/-- A conditional `set`: what the matcher (`Seg.record`) and both version matchers write. -/
theorem nodup_ite_set {ps : Params} (hnd : ps.keys.Nodup) (c : Prop) [Decidable c] (k v : Bytes) :
    (if c then ps.set k v else ps).keys.Nodup := by
  split
  · exact AMap.nodup_keys_set ps k v hnd
  · exact hnd

theorem nodup_record (s : Seg) (cap : Bytes) {ps : Params} (hnd : ps.keys.Nodup) : (s.record cap ps).keys.Nodup :=
  nodup_ite_set hnd _ _ _

/-- On parameters with one entry per key: recording the capture of a child's segment and then
restoring the child's name gives back the parameters exactly — also when the name was a key before (then the capture
had overwritten its value, and the undo writes the old value back). -/
theorem restoreParam_record (s : Seg) (cap : Bytes) {ps : Params} (hnd : ps.keys.Nodup) :
    restoreParam ps (s.record cap ps) s.name = ps := by
  unfold restoreParam
  cases h : ps.get? s.name with
  | some v =>
    simp only
    unfold Seg.record
    split
    · rw [AMap.set_set]; exact AMap.set_self hnd h
    · exact AMap.set_self hnd h
  | none =>
    simp only
    have hk : s.name ∉ ps.keys := (AMap.get?_eq_none_iff ps s.name).1 h
    unfold Seg.record
    split
    · exact AMap.erase_set_fresh cap hk
    · exact AMap.erase_fresh hk

end P19

/-- `v` is what `Segment.Match` of `s` captured on some path. -/
def P13.CapOk (env : Env) (ic : Interceptors) (s : Seg) (v : Bytes) : Prop :=
  ∃ path rest, s.match env ic path = .yes v rest

theorem P13.CapOk.satisfies {env : Env} {ic : Interceptors} {s : Seg} {v : Bytes} (h : P13.CapOk env ic s v) :
    s.Satisfies env ic v :=
  let ⟨path, rest, hm⟩ := h
  (Seg.match_sound env ic s path v rest hm).2.1

namespace P19
/-- The parameters a chain of captures leaves: the `set` fold (`Mux.P18.setAll` is this function). -/
def setCaps (ps : Params) (caps : List (Bytes × Bytes)) : Params := caps.foldl (fun a e => a.set e.1 e.2) ps

theorem setCaps_record (s : Seg) (cap : Bytes) (ps : Params) (rest : List (Seg × Bytes)) :
    setCaps (s.record cap ps) (captures rest) = setCaps ps (captures ((s, cap) :: rest)) := by
  rw [captures_cons, captures_single]
  unfold Seg.record setCaps
  split
  · rfl
  · rfl

theorem setCaps_fresh (caps : List (Bytes × Bytes)) : ∀ (ps : Params), (caps.map (·.1)).Nodup →
    (∀ k ∈ caps.map (·.1), k ∉ ps.keys) → setCaps ps caps = ps ++ caps := by
  induction caps with
  | nil => intro ps _ _; exact (List.append_nil ps).symm
  | cons e caps ih =>
    intro ps hnd hfresh
    simp only [List.map_cons, List.nodup_cons] at hnd
    have he : e.1 ∉ ps.keys := hfresh _ List.mem_cons_self
    show setCaps (ps.set e.1 e.2) caps = _
    rw [AMap.set_fresh e.2 he, ih _ hnd.2, List.append_assoc]
    · rfl
    · intro k hk hmem
      rw [AMap.keys_append] at hmem
      rcases List.mem_append.1 hmem with h | h
      · exact hfresh k (List.mem_cons_of_mem _ hk) h
      · have e' : k = e.1 := List.mem_singleton.1 h
        exact hnd.1 (e' ▸ hk)
end P19

namespace P15

/-- A chain of children, given by the positions in the child lists, each child's `Seg.match`
succeeding on what is left of the path, ending in a node with handlers when nothing is left. -/
inductive ReachesBy (env : Env) (ic : Interceptors) : Node → Bytes → Params → List Nat → Node → Params → Prop where
  | here {n : Node} {ps : Params} : n.handlers ≠ [] → ReachesBy env ic n [] ps [] n ps
  | child {n : Node} {path : Bytes} {ps : Params} {i : Nat} {c : Node} {cap rest : Bytes} {is : List Nat} {m : Node}
      {ps' : Params} :
      n.children[i]? = some c → c.seg.match env ic path = .yes cap rest →
      ReachesBy env ic c rest (c.seg.record cap ps) is m ps' → ReachesBy env ic n path ps (i :: is) m ps'

/-- `ReachesBy` without the positions. -/
inductive Reaches (env : Env) (ic : Interceptors) : Node → Bytes → Params → Node → Params → Prop where
  | here {n : Node} {ps : Params} : n.handlers ≠ [] → Reaches env ic n [] ps n ps
  | child {n : Node} {path : Bytes} {ps : Params} {c : Node} {cap rest : Bytes} {m : Node} {ps' : Params} :
      c ∈ n.children → c.seg.match env ic path = .yes cap rest →
      Reaches env ic c rest (c.seg.record cap ps) m ps' → Reaches env ic n path ps m ps'

theorem reaches_iff {env : Env} {ic : Interceptors} {n : Node} {path : Bytes} {ps : Params} {m : Node} {ps' : Params} :
    Reaches env ic n path ps m ps' ↔ ∃ is, ReachesBy env ic n path ps is m ps' := by
  constructor
  · intro h
    induction h with
    | here h => exact ⟨[], .here h⟩
    | child hc hm _ ih =>
      obtain ⟨is, his⟩ := ih
      obtain ⟨i, hi⟩ := List.getElem?_of_mem hc
      exact ⟨i :: is, .child hi hm his⟩
  · rintro ⟨is, h⟩
    induction h with
    | here h => exact .here h
    | child hi hm _ ih => exact .child (List.mem_of_getElem? hi) hm ih

/-- An index path through position `i` goes on below the child there, from what that child's segment leaves. -/
theorem ReachesBy.cons_inv {env : Env} {ic : Interceptors} {n : Node} {path : Bytes} {ps : Params} {i : Nat} {is : List Nat}
    {m : Node} {ps' : Params} (h : ReachesBy env ic n path ps (i :: is) m ps') {c : Node} {cap rest : Bytes}
    (hi : n.children[i]? = some c) (hm : c.seg.match env ic path = .yes cap rest) :
    ReachesBy env ic c rest (c.seg.record cap ps) is m ps' := by
  cases h with
  | child hi' hm' hr =>
    rw [hi] at hi'; cases hi'
    rw [hm] at hm'; cases hm'
    exact hr

theorem ReachesBy.deterministic {env : Env} {ic : Interceptors} {n : Node} {path : Bytes} {ps : Params} {is : List Nat}
    {m m' : Node} {ps' ps'' : Params} (h : ReachesBy env ic n path ps is m ps') (h' : ReachesBy env ic n path ps is m' ps'') :
    m' = m ∧ ps'' = ps' := by
  induction h with
  | here _ => cases h'; exact ⟨rfl, rfl⟩
  | child hi hm _ ih => exact ih (h'.cons_inv hi hm)

theorem ReachesBy.handlers {env : Env} {ic : Interceptors} {n : Node} {path : Bytes} {ps : Params} {is : List Nat}
    {m : Node} {ps' : Params} (h : ReachesBy env ic n path ps is m ps') : m.handlers ≠ [] := by
  induction h with
  | here h => exact h
  | child _ _ _ ih => exact ih

theorem ReachesBy.getAt {env : Env} {ic : Interceptors} {n : Node} {path : Bytes} {ps : Params} {is : List Nat}
    {m : Node} {ps' : Params} (h : ReachesBy env ic n path ps is m ps') : n.getAt is = some m := by
  induction h with
  | here _ => exact Node.getAt_nil _
  | child hi _ _ ih => rw [Node.getAt_cons, hi]; exact ih

theorem ReachesBy.params {env : Env} {ic : Interceptors} {n : Node} {path : Bytes} {ps : Params} {is : List Nat}
    {m : Node} {ps' : Params} (h : ReachesBy env ic n path ps is m ps') :
    ∀ qs, ∃ qs', ReachesBy env ic n path qs is m qs' := by
  induction h with
  | here hh => exact fun qs => ⟨qs, .here hh⟩
  | child hi hm _ ih => exact fun qs => let ⟨qs', h⟩ := ih _; ⟨qs', .child hi hm h⟩

/-- The same index path from parameters `qs` that, under `P`, are the ones `h` starts from: it then ends in the same ones. -/
theorem ReachesBy.restart {env : Env} {ic : Interceptors} {n : Node} {path : Bytes} {ps : Params} {is : List Nat}
    {m : Node} {ps' : Params} (h : ReachesBy env ic n path ps is m ps') {P : Prop} {qs : Params} (h0 : P → ps = qs) :
    ∃ qs', ReachesBy env ic n path qs is m qs' ∧ (P → ps' = qs') := by
  obtain ⟨qs', hr⟩ := h.params qs
  refine ⟨qs', hr, fun hP => ?_⟩
  have := h0 hP
  subst this
  exact (hr.deterministic h).2

theorem ReachesBy.chain {env : Env} {ic : Interceptors} {n : Node} {path : Bytes} {ps : Params} {is : List Nat}
    {m : Node} {ps' : Params} (h : ReachesBy env ic n path ps is m ps') :
    ∃ chain : List (Seg × Bytes), Chain n (chain.map (·.1)) m ∧ path = instChain chain ∧
      (∀ sv ∈ chain, P13.CapOk env ic sv.1 sv.2) ∧ m.handlers ≠ [] ∧ ps' = P19.setCaps ps (captures chain) := by
  induction h with
  | here hh => exact ⟨[], .nil _, rfl, nofun, hh, rfl⟩
  | @child n path ps i c cap rest is m ps' hi hm _ ih =>
    obtain ⟨chain, h1, h2, h3, h4, h5⟩ := ih
    refine ⟨(c.seg, cap) :: chain, .cons (List.mem_of_getElem? hi) h1, ?_, ?_, h4, ?_⟩
    · rw [(Seg.match_sound env ic c.seg path cap rest hm).1, h2]
      rfl
    · exact List.forall_mem_cons.2 ⟨⟨path, rest, hm⟩, h3⟩
    · rw [h5, P19.setCaps_record]

end P15
open P15 (ReachesBy)

/-- `TN n ps` / `TL cs ps`: on the node `n` / the siblings `cs`, a miss hands the parameters `ps` back.  The fields are
the steps of the matcher that matter for that: into the children of a node (the fast path only at a literal), below a
child after recording its capture, and back out of a child whose subtree missed. -/
structure Tracking (TN : Node → Params → Prop) (TL : List Node → Params → Prop) : Prop where
  children : ∀ {n ps}, TN n ps → TL n.children ps
  idxLit : ∀ {n ps}, TN n ps → IdxLit n
  child : ∀ {cs ps c} (cap : Bytes), TL cs ps → c ∈ cs → TN c (c.seg.record cap ps)
  undo : ∀ {cs ps c} (cap : Bytes), TL cs ps → c ∈ cs → restoreParam ps (c.seg.record cap ps) c.seg.name = ps

/-- `n.matchChildren … path ps = .hit m ps'` is justified: an index path reaches `m`, and tracked parameters are the
ones that path leaves. -/
def Walk (env : Env) (ic : Interceptors) (TN : Node → Params → Prop) (n : Node) (path : Bytes) (ps : Params)
    (m : Node) (ps' : Params) : Prop :=
  ∃ is psR, ReachesBy env ic n path ps is m psR ∧ (TN n ps → ps' = psR)

/-- The same for a hit of `matchAt`/`matchFrom` on the siblings `cs`: one of them matched and an index path goes on
below it. -/
def WalkIn (env : Env) (ic : Interceptors) (TL : List Node → Params → Prop) (cs : List Node) (path : Bytes)
    (ps : Params) (m : Node) (ps' : Params) : Prop :=
  ∃ (i : Nat) (c : Node) (cap rest : Bytes) (is : List Nat) (psR : Params), cs[i]? = some c ∧
    c.seg.match env ic path = .yes cap rest ∧ ReachesBy env ic c rest (c.seg.record cap ps) is m psR ∧
    (TL cs ps → ps' = psR)

section
variable {env : Env} {ic : Interceptors} {TN : Node → Params → Prop} {TL : List Node → Params → Prop}

theorem Walk.chain {n : Node} {path : Bytes} {ps : Params} {m : Node} {ps' : Params}
    (h : Walk env ic TN n path ps m ps') :
    ∃ chain : List (Seg × Bytes), Chain n (chain.map (·.1)) m ∧ path = instChain chain ∧
      (∀ sv ∈ chain, P13.CapOk env ic sv.1 sv.2) ∧ m.handlers ≠ [] ∧
      (TN n ps → ps' = P19.setCaps ps (captures chain)) :=
  let ⟨_, _, hr, hp⟩ := h
  let ⟨chain, h1, h2, h3, h4, h5⟩ := hr.chain
  ⟨chain, h1, h2, h3, h4, fun ht => (hp ht).trans h5⟩

theorem WalkIn.chain {cs : List Node} {path : Bytes} {ps : Params} {m : Node} {ps' : Params}
    (h : WalkIn env ic TL cs path ps m ps') :
    ∃ c ∈ cs, ∃ (cap : Bytes) (chain : List (Seg × Bytes)),
      Chain c (chain.map (·.1)) m ∧ path = instChain ((c.seg, cap) :: chain) ∧
      (∀ sv ∈ (c.seg, cap) :: chain, P13.CapOk env ic sv.1 sv.2) ∧ m.handlers ≠ [] ∧
      (TL cs ps → ps' = P19.setCaps ps (captures ((c.seg, cap) :: chain))) := by
  obtain ⟨i, c, cap, rest, is, psR, hi, hm, hr, hp⟩ := h
  obtain ⟨chain, h1, h2, h3, h4, h5⟩ := hr.chain
  refine ⟨c, List.mem_of_getElem? hi, cap, chain, h1, ?_, List.forall_mem_cons.2 ⟨⟨path, rest, hm⟩, h3⟩, h4,
    fun ht => ?_⟩
  · rw [(Seg.match_sound env ic c.seg path cap rest hm).1, h2]
    rfl
  · rw [hp ht, h5, P19.setCaps_record]

/-- The descent into child `c` (shared by `matchAt` and `matchFrom`): a hit below `c` after `c.seg` matched, found with
parameters `ps0` that (tracked) are the original ones, is a hit on any sibling list containing `c`. -/
theorem WalkIn.ofChild {cs : List Node} {c : Node} (hc : c ∈ cs) {path cap rest : Bytes} {ps ps0 : Params}
    (hm : c.seg.match env ic path = .yes cap rest) {m : Node} {ps' : Params} (h0 : TL cs ps → ps0 = ps)
    (hchild : TL cs ps → TN c (c.seg.record cap ps))
    (h : Walk env ic TN c rest (c.seg.record cap ps0) m ps') : WalkIn env ic TL cs path ps m ps' := by
  obtain ⟨is, psR0, hr0, hp⟩ := h
  obtain ⟨i, hi⟩ := List.getElem?_of_mem hc
  obtain ⟨psR, hr, e⟩ := hr0.restart fun ht => congrArg (c.seg.record cap) (h0 ht)
  exact ⟨i, c, cap, rest, is, psR, hi, hm, hr, fun ht => (hp (h0 ht ▸ hchild ht)).trans (e ht)⟩

theorem WalkIn.toNode {n : Node} {path : Bytes} {ps ps0 : Params} {m : Node} {ps' : Params}
    (h0 : TN n ps → ps0 = ps) (hch : TN n ps → TL n.children ps)
    (h : WalkIn env ic TL n.children path ps0 m ps') : Walk env ic TN n path ps m ps' := by
  obtain ⟨i, c, cap, rest, is, psR0, hi, hm, hr0, hp⟩ := h
  obtain ⟨psR, hr, e⟩ := hr0.restart fun ht => congrArg (c.seg.record cap) (h0 ht)
  exact ⟨i :: is, psR, .child hi hm hr, fun ht => (hp (h0 ht ▸ hch ht)).trans (e ht)⟩

variable (env ic) (T : Tracking TN TL)
include T

/-- Trying the child `c` of `cs`, given soundness below it, from parameters `ps0` that (tracked) are `ps`: a miss of the
subtree is undone. -/
theorem tryChild_walk {cs : List Node} {c : Node} (hc : c ∈ cs)
    (hsub : ∀ path ps,
      MR.Post (Walk env ic TN c path ps) (fun ps' => TN c ps → ps' = ps) (c.matchChildren env ic path ps))
    {path : Bytes} {ps ps0 : Params} (h0 : TL cs ps → ps0 = ps) :
    MR.Post (WalkIn env ic TL cs path ps) (fun ps' => TL cs ps → ps' = ps) (tryChild env ic c path ps0) := by
  refine MR.Post.tryChild h0 fun cap rest hm => ?_
  refine (hsub rest _).imp (fun _ _ h => WalkIn.ofChild hc hm h0 (fun ht => T.child cap ht hc) h) fun ps2 h2 ht => ?_
  have := h0 ht
  subst this
  rw [h2 (T.child cap ht hc), T.undo cap ht hc]

/-- The siblings `cs`, given soundness below each of them: a hit is justified, a tracked miss hands the parameters back
(for `matchAt`, which undoes nothing, provided the selected child is a literal). -/
theorem siblings_walk {cs : List Node}
    (hcs : ∀ c ∈ cs, ∀ path ps,
      MR.Post (Walk env ic TN c path ps) (fun ps' => TN c ps → ps' = ps) (c.matchChildren env ic path ps))
    (path : Bytes) (ps : Params) :
    (∀ i, MR.Post (WalkIn env ic TL cs path ps)
      (fun ps' => TL cs ps → (∀ c, cs[i]? = some c → c.seg.kind = .str) → ps' = ps) (matchAt env ic cs i path ps)) ∧
    ∀ skip ps0, (TL cs ps → ps0 = ps) →
      MR.Post (WalkIn env ic TL cs path ps) (fun ps' => TL cs ps → ps' = ps) (matchFrom env ic cs skip path ps0) := by
  refine ⟨fun i => MR.Post.matchAt fun c hc => ?_,
    fun skip ps0 h0 => MR.Post.scan h0 fun c hc ps0 h0 => tryChild_walk env ic T hc (hcs c hc) h0⟩
  have hmem := List.mem_of_getElem? hc
  unfold descend
  cases hm : c.seg.match env ic path with
  | no => exact fun _ _ => rfl
  | unsupported => trivial
  | yes cap rest =>
    refine (hcs c hmem rest _).imp
      (fun _ _ h => WalkIn.ofChild hmem hm (fun _ => rfl) (fun ht => T.child cap ht hmem) h) fun ps2 h ht hlit => ?_
    have hc' := T.child cap ht hmem
    rw [Seg.record_str (hlit c hc)] at h hc'
    exact h hc'

/-- **Soundness of the matcher**, on any tree: a hit is a reaching index path, a tracked miss hands the parameters
back. -/
theorem matchChildren_walk (n : Node) : ∀ path ps,
    MR.Post (Walk env ic TN n path ps) (fun ps' => TN n ps → ps' = ps) (n.matchChildren env ic path ps) := by
  induction n using Node.induction with
  | step n ih =>
    intro path ps
    have hL := siblings_walk env ic T ih path
    refine MR.Post.node (mid := fun ps1 => TN n ps → ps1 = ps) ?_ (fun ps1 h1 => ?_) (fun ps2 h2 => ?_)
    · exact MR.Post.fast (fun _ => rfl) fun hidx b _ _ =>
        ((hL ps).1 _).imp (fun _ _ h => h.toNode (fun _ => rfl) T.children)
          fun _ h ht => h (T.children ht) (T.idxLit ht hidx b)
    · refine ((hL ps1).2 _ ps1 fun _ => rfl).imp (fun _ _ h => h.toNode h1 T.children) fun ps2 h2 ht => ?_
      have := h1 ht
      subst this
      exact h2 (T.children ht)
    · split
      · rename_i hc
        obtain ⟨rfl, hne⟩ := hc
        exact ⟨[], ps, .here hne, h2⟩
      · exact h2

theorem matchAt_walk (cs : List Node) (i : Nat) (path : Bytes) (ps : Params) :
    MR.Post (WalkIn env ic TL cs path ps)
      (fun ps' => TL cs ps → (∀ c, cs[i]? = some c → c.seg.kind = .str) → ps' = ps) (matchAt env ic cs i path ps) :=
  (siblings_walk env ic T (fun c _ => matchChildren_walk env ic T c) path ps).1 i

theorem matchFrom_walk (cs : List Node) (skip : Nat) (path : Bytes) (ps : Params) :
    MR.Post (WalkIn env ic TL cs path ps) (fun ps' => TL cs ps → ps' = ps) (matchFrom env ic cs skip path ps) :=
  (siblings_walk env ic T (fun c _ => matchChildren_walk env ic T c) path ps).2 skip ps fun _ => rfl

omit env ic in
theorem Tracking.tryChild_miss {env : Env} {ic : Interceptors} {cs : List Node} {c : Node} (hc : c ∈ cs) {path : Bytes}
    {ps ps' : Params} (ht : TL cs ps) (h : tryChild env ic c path ps = .miss ps') : ps' = ps :=
  (tryChild_walk env ic T hc (matchChildren_walk env ic T c) fun _ => rfl).of_miss h ht

omit env ic in
/-- Tracked, trying a literal child is descending into it: its subtree hands the parameters back on a miss, and
restoring the name of a literal changes nothing. -/
theorem Tracking.tryChild_lit {env : Env} {ic : Interceptors} {cs : List Node} {c : Node} (hc : c ∈ cs)
    (hstr : c.seg.kind = .str) {path : Bytes} {ps : Params} (ht : TL cs ps) :
    tryChild env ic c path ps = descend env ic c path ps := by
  rw [tryChild_eq]
  unfold descend
  cases c.seg.match env ic path with
  | no => rfl
  | unsupported => rfl
  | yes cap rest =>
    refine MR.onMiss_eq_self fun ps2 hr => ?_
    rw [(matchChildren_walk env ic T c rest _).of_miss hr (T.child cap ht hc), T.undo cap ht hc, Seg.record_str hstr]
end

/-- Nothing tracked: what `matchChildren_walk` says of every call. -/
theorem trackNothing : Tracking (fun _ _ => False) (fun _ _ => False) where
  children := False.elim
  idxLit := False.elim
  child := fun _ h _ => h
  undo := fun _ h _ => h.elim

theorem Node.matchChildren_hit_handlers {env : Env} {ic : Interceptors} {n : Node} {path : Bytes} {ps : Params}
    {m : Node} {ps' : Params} (h : n.matchChildren env ic path ps = .hit m ps') : m.handlers ≠ [] :=
  let ⟨_, _, hr, _⟩ := (matchChildren_walk env ic trackNothing n path ps).of_hit h
  hr.handlers

/-- The hypotheses under which parameters are tracked exactly (node level). -/
def TrackN (used : List Bytes) (n : Node) (ps : Params) : Prop :=
  Node.NamesOk used n ∧ Node.All IdxLit n ∧ ∀ k ∈ ps.keys, k ∈ used

/-- The same for a list of siblings. -/
def TrackL (used : List Bytes) (cs : List Node) (ps : Params) : Prop :=
  NamesOkL used cs ∧ AllL IdxLit cs ∧ ∀ k ∈ ps.keys, k ∈ used

/-- Under `NamesOk` (for some set `used` of live keys) and `IdxLit` every recorded name is fresh, so the undo of an
abandoned child is the deletion of what `set` appended. -/
theorem trackNames : Tracking (fun n ps => ∃ used, TrackN used n ps) (fun cs ps => ∃ used, TrackL used cs ps) where
  children := fun ⟨used, h⟩ => ⟨used, (Node.namesOk_iff used _).1 h.1, Node.All.tail h.2.1, h.2.2⟩
  idxLit := fun ⟨_, h⟩ => Node.All.head h.2.1
  child := fun cap ⟨_, h⟩ hc =>
    have hn := NamesOkL_mem h.1 hc
    ⟨_, hn.2, AllL_mem h.2.1 hc, (record_spec cap hn.1 h.2.2).2.1⟩
  undo := fun cap ⟨_, h⟩ hc => by
    have hfresh := (NamesOkL_mem h.1 hc).1
    rw [P19.restoreParam_fresh _ (fun hmem => hfresh (h.2.2 _ hmem)), (record_spec cap hfresh h.2.2).2.2]

theorem captures_keys (chain : List (Seg × Bytes)) :
    (captures chain).map (·.1) =
      (chain.filter (fun sv => decide (sv.1.kind ≠ .str ∧ ¬ sv.1.ignoreName))).map (·.1.name) := by
  fun_induction captures chain with
  | case1 => rfl
  | case2 s v rest hcap ih => rw [List.filter_cons, if_pos (decide_eq_true hcap), List.map_cons, List.map_cons, ih]
  | case3 s v rest hcap ih => rw [List.filter_cons, if_neg (fun h => hcap (of_decide_eq_true h)), ih]

theorem mem_captures {chain : List (Seg × Bytes)} {sv : Seg × Bytes} (h : sv ∈ chain)
    (hc : sv.1.kind ≠ .str ∧ ¬ sv.1.ignoreName) : (sv.1.name, sv.2) ∈ captures chain := by
  fun_induction captures chain with
  | case1 => cases h
  | case2 s v rest _ ih =>
    rcases List.mem_cons.1 h with rfl | h
    · exact List.mem_cons_self
    · exact List.mem_cons_of_mem _ (ih h)
  | case3 s v rest hcap ih =>
    rcases List.mem_cons.1 h with rfl | h
    · exact absurd hc hcap
    · exact ih h

/-- Induction along a chain that carries a value at every segment. -/
theorem Chain.vals_induction {x : Node}
    {motive : (n : Node) → (chain : List (Seg × Bytes)) → Chain n (chain.map fun sv : Seg × Bytes => sv.1) x → Prop}
    (nil : motive x [] (.nil x))
    (cons : ∀ {n c : Node} (v : Bytes) {rest : List (Seg × Bytes)} (hc : c ∈ n.children)
      (h : Chain c (rest.map fun sv : Seg × Bytes => sv.1) x), motive c rest h →
        motive n ((c.seg, v) :: rest) (.cons hc h))
    {n : Node} {chain : List (Seg × Bytes)} (h : Chain n (chain.map fun sv : Seg × Bytes => sv.1) x) :
    motive n chain h := by
  induction chain generalizing n with
  | nil => cases h; exact nil
  | cons sv rest ih =>
    obtain ⟨s, v⟩ := sv
    simp only [List.map_cons] at h
    cases h with
    | cons hc h => exact cons v hc h (ih h)

theorem chain_names {chain : List (Seg × Bytes)} {used : List Bytes} {n m : Node} (hn : Node.NamesOk used n)
    (hch : Chain n (chain.map (·.1)) m) :
    ((captures chain).map (·.1)).Nodup ∧ ∀ k ∈ (captures chain).map (·.1), k ∉ used := by
  induction hch using Chain.vals_induction generalizing used with
  | nil => simp [captures]
  | @cons n c v rest hc _ ih =>
    obtain ⟨hfresh, hok⟩ := NamesOkL_mem ((Node.namesOk_iff used n).1 hn) hc
    rw [captures]
    -- a capturing segment enters its name in `used` for the nodes below it: fresh, and not met again
    by_cases hcap : c.seg.kind ≠ .str ∧ ¬ c.seg.ignoreName
    · rw [if_pos hcap] at hok ⊢
      obtain ⟨hnd, hdis⟩ := ih hok
      rw [List.map_cons, List.nodup_cons, List.forall_mem_cons]
      exact ⟨⟨fun hmem => hdis _ hmem List.mem_cons_self, hnd⟩, hfresh,
        fun k hk hu => hdis k hk (List.mem_cons_of_mem _ hu)⟩
    · rw [if_neg hcap] at hok ⊢
      exact ih hok

theorem setCaps_names {chain : List (Seg × Bytes)} {used : List Bytes} {n m : Node} (hn : Node.NamesOk used n)
    (hc : Chain n (chain.map (·.1)) m) {ps : Params} (hk : ∀ k ∈ ps.keys, k ∈ used) :
    P19.setCaps ps (captures chain) = ps ++ captures chain :=
  let ⟨hnd, hdis⟩ := chain_names hn hc
  P19.setCaps_fresh _ ps hnd fun k hk' hmem => hdis k hk' (hk k hmem)

/-- The statement of `C01_match_hit`: `matchChildren_walk` at `trackNames`, read as a chain. -/
theorem Node.matchChildren_hit {env : Env} {ic : Interceptors} {n : Node} {path : Bytes} {ps : Params} {m : Node}
    {ps' : Params} (h : n.matchChildren env ic path ps = .hit m ps') :
    ∃ chain : List (Seg × Bytes),
      Chain n (chain.map (·.1)) m ∧ path = instChain chain ∧
      (∀ sv ∈ chain, sv.1.Satisfies env ic sv.2) ∧ m.handlers ≠ [] ∧
      (∀ used, Node.NamesOk used n → Node.All IdxLit n → (∀ k ∈ ps.keys, k ∈ used) → ps' = ps ++ captures chain) := by
  obtain ⟨chain, h1, h2, h3, h4, h5⟩ := ((matchChildren_walk env ic trackNames n path ps).of_hit h).chain
  exact ⟨chain, h1, h2, fun sv hsv => (h3 sv hsv).satisfies, h4,
    fun used a b c => (h5 ⟨used, a, b, c⟩).trans (setCaps_names a h1 c)⟩

end Mux
