/-
  Mux.Proofs.HostsLateNames — trees whose stored segments were parsed under DIFFERENT interceptor tables.
  `Hosts.RegisterInterceptor` may be called after domains were added; a stored segment `{a:rule}` then stays a REGEXP
  segment (the Go code never re-parses stored segments) although the current table would make an INTERCEPTOR segment of
  the same text.  The two parses of one text differ in nothing but the kind and what follows from it (`endpoint`, `re`):
  `newSegment_indep`.

  `WfXL`, the table-free part of `WfL ic` (`wfXL_of_wf`), gives `NamesOkL`, the hypothesis of the matcher-soundness
  theorems (`namesOk_of_wfX`), and `getNode ic` — run with the CURRENT table — keeps it (`getNode_wfX`).
-/
import Mux.Proofs.CutPoint
import Mux.Proofs.WfTree
import Mux.Proofs.AddAtomic
import Mux.Proofs.WOkOps

namespace Mux.P17
open Mux Mux.P9

/-- Two segments made of the same text under possibly different tables. -/
structure SameText (a b : Seg) : Prop where
  value : a.value = b.value
  name : a.name = b.name
  ign : a.ignoreName = b.ignoreName
  rule : a.rule = b.rule
  suffix : a.suffix = b.suffix
  str : a.kind = .str ↔ b.kind = .str
  eq_of_kind : a.kind = b.kind → a = b

theorem SameText.refl (a : Seg) : SameText a a := ⟨rfl, rfl, rfl, rfl, rfl, Iff.rfl, fun _ => rfl⟩

theorem finishRuled_indep {ic ic' : Interceptors} {v : Bytes} {st en sp : Nat} {a b : Seg}
    (ha : finishRuled ic v st en sp = .ok a) (hb : finishRuled ic' v st en sp = .ok b) : SameText a b := by
  rcases ruledSeg_ok_cases ha with ⟨_, _, rfl⟩ | ⟨_, _, re, hre, rfl⟩ <;>
    rcases ruledSeg_ok_cases hb with ⟨_, _, rfl⟩ | ⟨_, _, re', hre', rfl⟩
  · exact SameText.refl _
  · exact ⟨rfl, rfl, rfl, rfl, rfl, by simp, fun h => by simp at h⟩
  · exact ⟨rfl, rfl, rfl, rfl, rfl, by simp, fun h => by simp at h⟩
  · rw [hre] at hre'
    cases hre'
    exact SameText.refl _

theorem newSegment_indep {ic ic' : Interceptors} {v : Bytes} {a b : Seg}
    (ha : newSegment ic v = .ok a) (hb : newSegment ic' v = .ok b) : SameText a b := by
  obtain ⟨hl, hs⟩ := newSegment_ok_iff.1 ha
  -- the shapes without a rule do not mention the table: the other parse returns the same segment
  have same : SegShape ic' v a → SameText a b := fun hs' => by
    rw [newSegment_ok_iff.2 ⟨hl, hs'⟩] at hb
    cases hb
    exact SameText.refl _
  cases hs with
  | lit h => exact same (.lit h)
  | named st en hst hen hlt hsp => exact same (.named st en hst hen hlt hsp)
  | namedColon st en sp hst hen hsp h1 h2 => exact same (.namedColon st en sp hst hen hsp h1 h2)
  | ruled st en sp a hst hen hsp h1 h2 hf =>
    -- the positions of `{`, `:`, `}` decide the shape: the other parse is `finishRuled` at the same positions
    obtain ⟨_, ⟨_, hno⟩ | ⟨sp', hsp', _, ⟨h3, _⟩ | ⟨_, hf'⟩⟩⟩ := (newSegment_ok_iff.1 hb).2.of_braces hst hen
    · have := hno sp hsp
      omega
    · rw [hsp] at hsp'
      cases hsp'
      omega
    · rw [hsp] at hsp'
      cases hsp'
      exact finishRuled_indep hf hf'

theorem SameText.usedBelow {a b : Seg} (h : SameText a b) (used : List Bytes) : usedBelow used a = usedBelow used b := by
  unfold P9.usedBelow
  by_cases hk : a.kind = .str
  · rw [if_pos hk, if_pos (h.str.1 hk)]
  · rw [if_neg hk, if_neg (fun e => hk (h.str.2 e)), h.name]

/-- `P9.cutAt_of_wf` at two segments: of both only the text is used. -/
theorem cutAt_of_lpX {ica icb : Interceptors} {sa sb : Seg} (ha : SegOk ica sa) (hb : SegOk icb sb)
    (hk : sa.kind = sb.kind) {l : Nat} (hl : longestPrefix sa.value sb.value = (l : Int)) (h0 : 0 < l) :
    CutAt sa.value l := cutAt_of_wf ha.wf hb.wf hl h0

/-- I-seg for SOME table. -/
def SegOkX (s : Seg) : Prop := ∃ ic0, SegOk ic0 s

mutual
/-- `WfXL used cs`: every segment below `cs` is `newSegment ic₀` of its own well-formed, non-empty text for SOME table
`ic₀`, and parameter names are pairwise distinct along every chain. -/
def Node.WfX (used : List Bytes) : Node → Prop
  | .mk s _ _ _ _ cs => SegOkX s ∧ (s.kind = .str ∨ s.name ∉ used) ∧ WfXL (usedBelow used s) cs
def WfXL (used : List Bytes) : List Node → Prop
  | [] => True
  | c :: cs => Node.WfX used c ∧ WfXL used cs
end

theorem Node.wfX_iff (used : List Bytes) (n : Node) :
    Node.WfX used n ↔ SegOkX n.seg ∧ (n.seg.kind = .str ∨ n.seg.name ∉ used) ∧
      WfXL (usedBelow used n.seg) n.children := by
  cases n; simp [Node.WfX]

theorem WfXL_iff (used : List Bytes) (cs : List Node) : WfXL used cs ↔ ∀ c ∈ cs, Node.WfX used c := by
  induction cs with
  | nil => simp [WfXL]
  | cons c cs ih => simp [WfXL, ih]

theorem WfXL_nil (used : List Bytes) : WfXL used [] := by simp [WfXL]

theorem WfXL_perm {used : List Bytes} {as bs : List Node} (hp : as.Perm bs) : WfXL used as ↔ WfXL used bs := by
  rw [WfXL_iff, WfXL_iff]
  exact ⟨fun h c hc => h c (hp.mem_iff.2 hc), fun h c hc => h c (hp.mem_iff.1 hc)⟩

theorem WfXL.set {used : List Bytes} {cs : List Node} (h : WfXL used cs) {i : Nat} {c c' : Node}
    (hc : cs[i]? = some c) (hseg : c'.seg = c.seg) (hch : WfXL (usedBelow used c.seg) c'.children) :
    WfXL used (cs.set i c') := by
  rw [WfXL_iff] at h ⊢
  intro d hd
  rcases List.mem_or_eq_of_mem_set hd with hd | rfl
  · exact h d hd
  · obtain ⟨hs, hfr, _⟩ := (Node.wfX_iff used c).1 (h c (List.mem_of_getElem? hc))
    rw [Node.wfX_iff, hseg]
    exact ⟨hs, hfr, hch⟩

theorem WfXL.child {used : List Bytes} {cs : List Node} (h : WfXL used cs) {i : Nat} {c : Node}
    (hc : cs[i]? = some c) : WfXL (usedBelow used c.seg) c.children :=
  ((Node.wfX_iff used c).1 ((WfXL_iff used cs).1 h c (List.mem_of_getElem? hc))).2.2

theorem Node.wfX_segs (n : Node) : ∀ used, WfXL used n.children → AllL (fun c => SegOkX c.seg) n.children := by
  induction n using Node.induction with
  | step n ih =>
    intro used h
    refine (AllL_iff _ _).2 fun c hc => (Node.All_iff _ c).2 ?_
    obtain ⟨hs, _, hch⟩ := (Node.wfX_iff used c).1 ((WfXL_iff used _).1 h c hc)
    exact ⟨hs, ih c hc _ hch⟩

mutual
/-- `WfL ic` says more than `WfXL`: one table for all segments, no children below an endpoint, siblings kept apart —
in particular sibling texts differ at every node. -/
theorem wfX_of_wf (ic : Interceptors) : (n : Node) → (used : List Bytes) → WfL ic used n.children →
    WfXL used n.children ∧ AllL (fun m => m.children.Pairwise (fun a b => a.seg.value ≠ b.seg.value)) n.children
  | .mk _ _ _ _ _ cs, used, h => wfXL_of_wf ic cs used h
theorem wfXL_of_wf (ic : Interceptors) : (cs : List Node) → (used : List Bytes) → WfL ic used cs →
    WfXL used cs ∧ AllL (fun m => m.children.Pairwise (fun a b => a.seg.value ≠ b.seg.value)) cs
  | [], _, _ => by unfold WfXL AllL; exact ⟨trivial, trivial⟩
  | c :: cs, used, h => by
    unfold WfL at h
    obtain ⟨hc, _, hcs⟩ := h
    obtain ⟨h1, h2, _, h4⟩ := (Node.wf_iff ic used c).1 hc
    have ih1 := wfX_of_wf ic c (usedBelow used c.seg) h4
    have ih2 := wfXL_of_wf ic cs used hcs
    unfold WfXL AllL
    exact ⟨⟨(Node.wfX_iff used c).2 ⟨⟨ic, h1⟩, h2, ih1.1⟩, ih2.1⟩, (Node.All_iff _ _).2 ⟨WfL_values h4, ih1.2⟩, ih2.2⟩
end

mutual
theorem namesStrict_of_wfX : (n : Node) → (used : List Bytes) →
    WfXL used n.children → Node.NamesStrict used n ∧ AllL SegNameWf n.children
  | .mk _ _ _ _ _ cs, used, h => by
    unfold Node.NamesStrict
    exact namesStrictL_of_wfX cs used h
theorem namesStrictL_of_wfX : (cs : List Node) → (used : List Bytes) →
    WfXL used cs → NamesStrictL used cs ∧ AllL SegNameWf cs
  | [], _, _ => by unfold NamesStrictL AllL; exact ⟨trivial, trivial⟩
  | c :: cs, used, h => by
    unfold WfXL at h
    obtain ⟨hc, hcs⟩ := h
    have hcw := (Node.wfX_iff used c).1 hc
    have ih1 := namesStrict_of_wfX c (usedBelow used c.seg) hcw.2.2
    have ih2 := namesStrictL_of_wfX cs used hcs
    unfold NamesStrictL AllL
    refine ⟨⟨hcw.2.1, ih1.1, ih2.1⟩, ?_, ih2.2⟩
    rw [Node.All_iff]
    obtain ⟨ic0, hok⟩ := hcw.1
    exact ⟨hok.nameWf, ih1.2⟩
end

theorem namesOk_of_wfX {cs : List Node} (h : WfXL [] cs) : NamesOkL [] cs := by
  obtain ⟨h1, h2⟩ := namesStrictL_of_wfX cs [] h
  exact NamesOkL_of_strict _ [] [] h1 h2 (fun _ hk => hk) (by simp)

theorem gnPrep_contX {ic : Interceptors} {n : Node} {v : Bytes} {rest : List Bytes} {seg : Seg} {s : GStep}
    (hsegs : ∀ c ∈ n.children, SegOkX c.seg) (hseg : newSegment ic v = .ok seg) (hok : SegOk ic seg)
    (h : gnPrep ic n v rest = .ok s) : ContX v rest s := by
  rcases gnPrep_cut hseg h with ⟨_, hc⟩ | ⟨c, hcm, L, hL, hk, hlp, _, hc⟩
  · exact .inl hc
  · obtain ⟨ic0, hc0⟩ := hsegs c hcm
    rw [← newSegment_value ic v seg hseg] at hlp
    obtain ⟨_, hdv, _⟩ := cutPointX hc0 hok hk hlp hL
    rw [newSegment_value ic v seg hseg] at hdv
    by_cases hvl : v.length ≤ L
    · exact .inl (hc.trans (if_pos hvl))
    · exact .inr ⟨L, hL, Nat.lt_of_not_le hvl, hdv, hc.trans (if_neg hvl)⟩

theorem WfXL.segs {used : List Bytes} {cs : List Node} (h : WfXL used cs) : ∀ c ∈ cs, SegOkX c.seg :=
  fun c hc => ((Node.wfX_iff used c).1 ((WfXL_iff used cs).1 h c hc)).1

/-- **One level of `getNode`** on a sibling list satisfying `WfXL`, for a new segment parsed under the current
table: every child of the restructured node satisfies `WfX`, so does the node the search continues in, whose
segment contributes the same name as the new segment.  Unlike in `Mux/Proofs/WfTree.lean`, success of the step is a
hypothesis (the model refuses — `.unsupported` — to create two siblings with the same text, which a late registration
makes possible): it is analysed through the four ways it can succeed (`P9.GnCase`), with the cut-point lemma for two
tables (`P9.cutPointX`) where a child is similar to the new segment. -/
theorem gnPrep_wfX {ic : Interceptors} {used : List Bytes} {n : Node} {v : Bytes} {rest : List Bytes} {seg : Seg}
    {s : GStep} (hwf : WfXL used n.children) (hseg : newSegment ic v = .ok seg) (hok : SegOk ic seg)
    (hfresh : seg.kind = .str ∨ seg.name ∉ used) (h : gnPrep ic n v rest = .ok s) :
    (∀ d ∈ s.n1.children, Node.WfX used d) ∧ Node.WfX used s.parent ∧
      usedBelow used s.parent.seg = usedBelow used seg := by
  have hsv : seg.value = v := newSegment_value ic v seg hseg
  have hall := (WfXL_iff used n.children).1 hwf
  -- the children of `sortNode (n.setChildren (cs ++ [x]) _)` for a part `cs` of the old children
  have hsorted : ∀ {cs : List Node} {x n1 : Node}, cs.Sublist n.children → Node.WfX used x →
      sortNode (n.setChildren (cs ++ [x]) n.indexes) = .ok n1 → ∀ d ∈ n1.children, Node.WfX used d := by
    intro cs x n1 hsub hx hn1 d hd
    rcases List.mem_cons.1 ((sortNode_append_perm hn1).mem_iff.1 hd) with rfl | hd'
    · exact hx
    · exact hall d (hsub.subset hd')
  cases gnPrep_case hseg h with
  | @identical i c hsc hc =>
    have hval := scan_identical hsc hc
    have hcw := hall c (List.mem_of_getElem? hc)
    obtain ⟨ic0, hc0⟩ := ((Node.wfX_iff used c).1 hcw).1
    have hst : SameText c.seg seg := newSegment_indep (by have := hc0.seg; rwa [← hval, hsv] at this) hseg
    exact ⟨hall, hcw, hst.usedBelow used⟩
  | leaf _ _ hn1 _ =>
    have hleaf : Node.WfX used (newLeaf n.pattern seg) := (Node.wfX_iff _ _).2 ⟨⟨ic, hok⟩, hfresh, WfXL_nil _⟩
    exact ⟨hsorted (List.Sublist.refl _) hleaf hn1, hleaf, rfl⟩
  | @descend l i c hsc hl hc _ =>
    obtain ⟨hL, hk, hl⟩ := similar_lp hsc hl hc
    have hcw := hall c (List.mem_of_getElem? hc)
    obtain ⟨ic0, hc0⟩ := ((Node.wfX_iff used c).1 hcw).1
    obtain ⟨_, _, hname, _⟩ := cutPointX hc0 hok hk hl hL
    exact ⟨hall, hcw, usedBelow_congr used hk hname⟩
  | @split l i j c ret n1 s1 s2 hsc hl hc hlen hsp hret hn1 _ =>
    obtain ⟨hL, hk, hl⟩ := similar_lp hsc hl hc
    obtain ⟨⟨ic0, hc0⟩, hcfresh, hcch⟩ := (Node.wfX_iff used c).1 (hall c (List.mem_of_getElem? hc))
    obtain ⟨_, _, hname, _, _, s1', hu⟩ := cutPointX hc0 hok hk hl hL
    obtain ⟨hsp', hs1ok, hs2ok⟩ := hu.split (Nat.lt_of_not_le hlen)
    cases hsp.symm.trans hsp'
    obtain ⟨_, _, _, _, rfl, _⟩ := split_built hsp hret hn1
    have hub1 : usedBelow used s1 = usedBelow used c.seg := usedBelow_congr used hu.kind hu.name
    -- the lower half is a literal node with `c`'s children, below the names of `c`
    have hlower : Node.WfX (usedBelow used s1) (c.setSeg { value := c.seg.value.drop l.toNat }) :=
      (Node.wfX_iff _ _).2 ⟨⟨ic, hs2ok⟩, .inl rfl, by rw [hub1]; exact hcch⟩
    have hretw : Node.WfX used
        (.mk s1 (n.pattern ++ s1.value) 0 [] [] [c.setSeg { value := c.seg.value.drop l.toNat }]) :=
      ⟨⟨ic, hs1ok⟩, by rw [hu.kind, hu.name]; exact hcfresh, hlower, trivial⟩
    exact ⟨hsorted (removeNodes_sublist _ _) hretw hn1, hretw, hub1.trans (usedBelow_congr used hk hname)⟩

theorem getNode_wfX (ic : Interceptors) (n : Node) (v : Bytes) (rest : List Bytes) :
    ∀ used r, WfXL used n.children → PiecesOk ic used v rest → getNode ic n v rest = .ok r →
      WfXL used r.1.children := by
  induction n, v, rest using getNode_induction ic with
  | step n v rest ih =>
    intro used r hwf hp hget
    obtain ⟨flag, segs, hsplit⟩ := hp.split
    obtain ⟨hvne, _, seg, segs', hseg, hfresh, _, _⟩ := splitLoop_cons_inv hsplit
    have hok : SegOk ic seg := SegOk.of_newSegment hseg (hp.wf v (by simp)) hvne
    obtain ⟨s, hprep, hfin⟩ := getNode_ok_iff.1 hget
    obtain ⟨hmem, hpar, hub⟩ := gnPrep_wfX hwf hseg hok hfresh hprep
    rcases hfin with ⟨_, rfl⟩ | ⟨v', rest', p', path, hcont, hrec, rfl⟩
    · exact (WfXL_iff _ _).2 hmem
    · have hp' := piecesOk_contX hp hseg hub (gnPrep_contX hwf.segs hseg hok hprep) hcont
      obtain ⟨hps, hpfresh, hpch⟩ := (Node.wfX_iff used s.parent).1 hpar
      have hwf' := ih s v' rest' hprep hcont _ _ hpch hp' hrec
      have f1 : p'.seg = s.parent.seg := getNode_seg hrec
      refine (WfXL_iff _ _).2 fun d hd => ?_
      simp only [setChildren_children] at hd
      rcases List.mem_or_eq_of_mem_set hd with hd | rfl
      · exact hmem d hd
      · rw [Node.wfX_iff, f1]
        exact ⟨hps, hpfresh, hwf'⟩

/-- An edit keeps `WfXL` below the node it is applied to: it keeps segments and replaces children in place or drops
them (`modifyAt`, `removeAt`). -/
theorem _root_.Mux.Node.Edit.wfX {H : Node → Node → Prop} {n n' : Node} (h : Node.Edit H n n') (used : List Bytes)
    (hw : WfXL used n.children) : WfXL used n'.children := by
  induction h generalizing used with
  | refl => exact hw
  | own _ hs => rw [hs.2.2.2]; exact hw
  | child hc he ih => exact hw.set hc he.top.1 (ih _ (hw.child hc))
  | prune hs _ => exact (WfXL_iff _ _).2 fun d hd => (WfXL_iff _ _).1 hw d (hs.subset hd)
  | trans _ _ ih1 ih2 => exact ih2 _ (ih1 _ hw)

end Mux.P17
