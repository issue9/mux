/-
  On a well-formed tree, the node `getNode` arrives at is either new (no handlers) or the node `findPath` finds for the
  same pattern text in the tree before the call.  Hence the duplicate check of `checkMethods` (which looks the pattern up
  with `findPath`) covers the duplicate check that `addMethods` repeats on the node `getNode` returns.

  Where `getNode` arrives is known on any tree (`P10.getNode_spells`); what `WfL` adds is that `findPath` is complete
  (`det_of_wfL`): of two siblings one of which begins with the other, the shorter ends with `}` (`cmp_prefix`) and so has
  no children.
-/
import Mux.Proofs.WfTree
import Mux.Proofs.WOkGetNode
namespace Mux.P9
open Mux

theorem cmp_prefix {ic : Interceptors} {a b : Seg} (ha : SegOk ic a) (hb : SegOk ic b) (hd : SibDisj a b)
    (hp : a.value <+: b.value) : lastByte a.value = endByte := by
  obtain ⟨x, hx⟩ := hp
  have hbw := hb.wf
  rw [← hx] at hbw
  -- otherwise the two are of the same kind and `longestPrefix` would cut them
  refine (WfPiece.prefix_cases ha.wf hbw ha.ne).resolve_right fun h => ?_
  have hpos : a.kind = b.kind ∧ 0 < longestPrefix a.value b.value := by
    rcases h with ⟨c, a', hbn, hav⟩ | ⟨body, c, sa, hbody, hsx, hav⟩
    · have han : NoBrace a.value := ⟨fun h => hbn.1 (List.mem_append_left _ h), fun h => hbn.2 (List.mem_append_left _ h)⟩
      exact ⟨(ha.kind_str_iff.2 han).trans (hb.kind_str_iff.2 (hx ▸ hbn)).symm,
        (lp_str_pos_iff _ han).2 ⟨c, a', a' ++ x, hav, by rw [← hx, hav]; rfl⟩⟩
    · have hbv : b.value = tok body (c :: sa ++ x) := by rw [← hx, hav, tok_append_suffix]
      refine ⟨(newSegment_tok_fields hbody.2 (hav ▸ ha.seg)).2.2.2.2.2.trans
        (newSegment_tok_fields hbody.2 (hbv ▸ hb.seg)).2.2.2.2.2.symm, ?_⟩
      rw [hav, hbv]
      exact (lp_tok_pos_iff _ hbody hbody.2 ⟨fun h => hsx.1 (List.mem_append_left _ h),
        fun h => hsx.2 (List.mem_append_left _ h)⟩).2 ⟨rfl, c, sa, sa ++ x, rfl, rfl⟩
  have := hd.2 hpos.1
  omega

theorem det_of_wfL {ic : Interceptors} {n : Node} {used : List Bytes} (h : WfL ic used n.children) :
    Node.All Node.Det n := by
  induction n using Node.induction generalizing used with
  | step n ih =>
    refine (Node.All_iff _ _).2 ⟨⟨WfL_values h, fun c hc => ?_⟩, (AllL_iff _ _).2 fun c hc =>
      ih c hc ((Node.wf_iff ic used c).1 (WfL_mem h hc)).2.2.2⟩
    obtain ⟨hok, _, hend, _⟩ := (Node.wf_iff ic used c).1 (WfL_mem h hc)
    refine ⟨hok.ne, fun d hd hpre => ?_⟩
    by_cases e : c.seg.value = d.seg.value
    · exact .inl e
    · have hdis : SibDisj c.seg d.seg :=
        pairwise_mem_ne (R := fun a b : Node => SibDisj a.seg b.seg) (fun a b h => h.symm) ((WfL_iff ic used _).1 h).2
          hc hd (fun e' => e (by rw [e']))
      exact .inr (hend (cmp_prefix hok (WfL_mem h hd).segOk hdis hpre))

theorem getNode_agree {ic : Interceptors} {n : Node} {v : Bytes} {rest : List Bytes} {used : List Bytes}
    (hwf : WfL ic used n.children) {r : Node × List Nat} (h : getNode ic n v rest = .ok r) :
    ∃ tg, r.1.getAt r.2 = some tg ∧ (tg.handlers = [] ∨
      ∃ p m0, n.findPath (v ++ rest.flatten) = some p ∧ n.getAt p = some m0 ∧ m0.handlers = tg.handlers) := by
  obtain ⟨tg, htg, htw⟩ := P10.getNode_spells ic n v rest r h
  exact ⟨tg, htg.2.1, htw.imp_right fun ⟨p, m0, hp, hm⟩ =>
    ⟨p, m0, findPath_of_spells p n m0 _ (det_of_wfL hwf) hp, hp.2.1, hm⟩⟩

end Mux.P9
