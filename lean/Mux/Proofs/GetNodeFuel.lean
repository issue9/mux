/-
  Mux.Proofs.GetNodeFuel — what lets the kernel run a concrete history.  `getNode` is defined by well-founded
  recursion, which neither `decide` nor the kernel can unfold; `getNodeF` iterates the restructuring step `P9.gnPrep`
  instead, structurally in a fuel (`getNode_eq_F`), with `node.sort` a parameter: `sortNode` is a well-founded
  `mergeSort`, and `RunFuel.lean` instantiates the parameter with an insertion sort equal to it (`getNodeF_eq_I`)
  and states the evaluation of a whole history (`Tree.run_eq_F`, `Router.run_eq_F`).  `bytesOfString_eq_data` does the
  same for the string literals of such a history.
-/
import Mux.Proofs.GnStep

/-! `bytesOfString` goes through `ByteArray.toList`, a well-founded loop that the kernel is slow to unfold.
`Array.toList` is a projection: after `simp only [‹the definitions holding the string
literals›, bytesOfString_eq_data]` the kernel computes the UTF-8 encoding only. -/

theorem ByteArray.toList_loop_eq (bs : ByteArray) (i : Nat) (r : List UInt8) :
    ByteArray.toList.loop bs i r = r.reverse ++ bs.data.toList.drop i := by
  fun_induction ByteArray.toList.loop bs i r with
  | case1 i r h ih =>
    have hi : i < bs.data.toList.length := h
    have hg : bs.get! i = bs.data.toList[i] := by
      cases bs with
      | mk data => exact (getElem!_pos data i h).trans (Array.getElem_toList h).symm
    rw [ih, List.reverse_cons, List.append_assoc, List.drop_eq_getElem_cons hi, hg]
    rfl
  | case2 i r h =>
    rw [List.drop_eq_nil_of_le (Nat.le_of_not_lt h), List.append_nil]

theorem Mux.bytesOfString_eq_data (s : String) : Mux.bytesOfString s = s.toUTF8.data.toList := by
  unfold Mux.bytesOfString ByteArray.toList
  rw [ByteArray.toList_loop_eq]; rfl

namespace Mux.P10
open Mux

/-- `getNode` by structural recursion on a fuel: `P9.getNode_eq` with the recursive call replaced by the version
with one unit less, and `node.sort` a parameter. -/
def getNodeF (sort : Node → Except Err Node) (ic : Interceptors) :
    Nat → Node → Bytes → List Bytes → Except Err (Node × List Nat)
  | 0 => fun _ _ _ => .error (.fault 999)
  | k + 1 => fun n v rest =>
    match P9.gnPrep ic n v rest sort with
    | .error e => .error e
    | .ok s => P9.gnFinish s (getNodeF sort ic k)

/-- `gnFinish` calls its argument at most once, at the continuation of the step. -/
theorem gnFinish_congr {s : P9.GStep} {f g : Node → Bytes → List Bytes → Except Err (Node × List Nat)}
    (h : ∀ v' rest', s.cont = some (v', rest') → f s.parent v' rest' = g s.parent v' rest') :
    P9.gnFinish s f = P9.gnFinish s g := by
  unfold P9.gnFinish
  split
  · rfl
  · next v' rest' hc => rw [h v' rest' hc]

theorem getNode_eq_fuel (ic : Interceptors) : ∀ (fuel : Nat) (n : Node) (v : Bytes) (rest : List Bytes),
    P9.gnMeasure v rest < fuel → getNode ic n v rest = getNodeF sortNode ic fuel n v rest := by
  intro fuel
  induction fuel with
  | zero => intro n v rest h; omega
  | succ k ih =>
    intro n v rest h
    rw [P9.getNode_eq]
    simp only [getNodeF]
    cases hs : P9.gnPrep ic n v rest with
    | error e => rfl
    | ok s =>
      exact gnFinish_congr fun v' rest' hc => ih s.parent v' rest' (by have := P9.gnPrep_cont_lt hs hc; omega)

/-- Unconditional form, usable by `simp only` under binders. -/
theorem getNode_eq_F (ic : Interceptors) (n : Node) (v : Bytes) (rest : List Bytes) :
    getNode ic n v rest = getNodeF sortNode ic (P9.gnMeasure v rest + 1) n v rest :=
  getNode_eq_fuel ic _ n v rest (Nat.lt_succ_self _)

/-- The handler map of a node after `Handle(pattern, h, GET)` on a tree without middleware. -/
def getHandlers (h : Handler) : AMap Handler :=
  [(mHEAD, h), (mGET, h), (mOPTIONS, { base := .options }), (mNotAllowed, { base := .notAllowed })]

/-- Evaluate a concrete history: unfold the given definitions and the operations down to `getNode`,
replace `getNode` by its fuel version and let the kernel compute.  (`sortChildren` is a
well-founded `mergeSort`, which the kernel evaluates on lists of length ≤ 1 only: the histories
used in examples build chain-shaped trees.) -/
macro "mux_eval" "[" ids:ident,* "]" : tactic =>
  `(tactic| (simp only [$[$ids:ident],*, Router.run, Tree.run, Tree.step, List.foldl_cons, List.foldl_nil, Router.step,
      Router.handle, Tree.add, getNode_eq_F]; decide +kernel))

end Mux.P10
