/-
  Mux.Proofs.RWLockDrf — exclusion: in every run of the locked semantics the lock state describes exactly who is
  inside a critical section (`LockOK`, an invariant of lock and held modes alone, with one lemma per lock
  operation; `lockInv_reachable`), so two threads are inside together only as readers (`drf_modes`) and no two
  next micro-accesses conflict (`drf`); with readers only the lock is never write-held (`readonly`).
-/
import Mux.Proofs.RWLockFree
namespace Mux.RWLock
variable {S : Sys}

/-- The lock state describes exactly who is inside, `H j` being the mode in which thread `j` is
inside, if it is: `free` — nobody; `writer i` — thread `i`, in write mode, and nobody else;
`readers n` — exactly `n ≥ 1` threads (the list `ins` enumerates them without repetition), all in
read mode. -/
def LockOK (l : Lock) (H : Nat → Option Bool) : Prop :=
  match l with
  | .free => ∀ j, H j = none
  | .writer i => H i = some true ∧ ∀ j, j ≠ i → H j = none
  | .readers n => 0 < n ∧ (∃ ins : List Nat, ins.Nodup ∧ ins.length = n ∧ ∀ j, j ∈ ins ↔ H j = some false) ∧
      ∀ j, H j ≠ some true

namespace LockOK
variable {l : Lock} {H : Nat → Option Bool} {i : Nat} {m : Bool}

theorem acquire (h : LockOK l H) (en : l.canAcq m = true) (hi : H i = none) :
    LockOK (l.acq m i) (upd H i (some m)) := by
  cases l with
  | free =>
    cases m with
    | true => exact ⟨upd_same .., fun j hj => (upd_other H i j _ hj).trans (h j)⟩
    | false =>
      exact ⟨Nat.one_pos,
        ⟨[i], List.pairwise_singleton _ _, rfl, forall_upd_ne (P := fun j o => j ∈ [i] ↔ o = some false)
          ⟨fun _ => rfl, fun _ => List.mem_singleton.2 rfl⟩
          fun j hj => by rw [h j, List.mem_singleton]; exact ⟨fun e => absurd e hj, fun e => nomatch e⟩⟩,
        forall_upd (P := fun _ o => o ≠ some true) (fun e => nomatch e) fun j => by rw [h j]; exact fun e => nomatch e⟩
  | writer k => cases m <;> cases en
  | readers n =>
    cases m with
    | true => cases en
    | false =>
      obtain ⟨_, ⟨ins, hnd, hlen, hins⟩, hnw⟩ := h
      have hni : i ∉ ins := fun hmem => by rw [hins, hi] at hmem; cases hmem
      exact ⟨Nat.succ_pos n,
        ⟨i :: ins, List.nodup_cons.2 ⟨hni, hnd⟩, congrArg (· + 1) hlen,
          forall_upd_ne (P := fun j o => j ∈ i :: ins ↔ o = some false) ⟨fun _ => rfl, fun _ => List.mem_cons_self ..⟩
            fun j hj => by rw [List.mem_cons, hins]; exact ⟨fun h => h.resolve_left hj, .inr⟩⟩,
        forall_upd (P := fun _ o => o ≠ some true) (fun e => nomatch e) hnw⟩

theorem release (h : LockOK l H) (hi : H i = some m) : LockOK (l.rel m) (upd H i none) := by
  cases l with
  | free => rw [h i] at hi; cases hi
  | writer k =>
    have hik : i = k := Decidable.byContradiction fun hne => by rw [h.2 i hne] at hi; cases hi
    subst hik
    exact forall_upd_ne (P := fun _ o => o = none) rfl h.2
  | readers n =>
    obtain ⟨hn, ⟨ins, hnd, hlen, hins⟩, hnw⟩ := h
    have hm : m = false := by cases m; rfl; exact absurd hi (hnw i)
    subst hm
    have hmem : i ∈ ins := (hins i).2 hi
    -- the readers that remain
    have hins' : ∀ j, j ∈ ins.erase i ↔ upd H i none j = some false :=
      forall_upd_ne (P := fun j o => j ∈ ins.erase i ↔ o = some false)
        ⟨fun h => absurd rfl (hnd.mem_erase_iff.1 h).1, fun e => nomatch e⟩
        fun j hj => by rw [hnd.mem_erase_iff, hins j]; exact ⟨fun h => h.2, fun h => ⟨hj, h⟩⟩
    have hnw' : ∀ j, upd H i none j ≠ some true :=
      forall_upd (P := fun _ o => o ≠ some true) (fun e => nomatch e) hnw
    have hlen' : (ins.erase i).length + 1 = n := by
      rw [List.length_erase_of_mem hmem, hlen]; exact Nat.sub_add_cancel hn
    match n, hlen' with
    | 1, hlen' =>
      have hnil : ins.erase i = [] := List.eq_nil_of_length_eq_zero (Nat.succ.inj hlen')
      intro j
      match h : upd H i none j with
      | none => rfl
      | some false => rw [← hins', hnil] at h; cases h
      | some true => exact absurd h (hnw' j)
    | n + 2, hlen' => exact ⟨Nat.succ_pos n, ⟨ins.erase i, hnd.erase i, Nat.succ.inj hlen', hins'⟩, hnw'⟩

theorem of_writer (h : LockOK l H) (hi : H i = some true) : l = .writer i ∧ ∀ j, j ≠ i → H j = none := by
  cases l with
  | free => rw [h i] at hi; cases hi
  | readers n => exact absurd hi (h.2.2 i)
  | writer k =>
    have hik : i = k := Decidable.byContradiction fun hne => by rw [h.2 i hne] at hi; cases hi
    subst hik; exact ⟨rfl, h.2⟩

theorem of_reader (h : LockOK l H) (hi : H i = some false) (k : Nat) : l ≠ .writer k := by
  intro hl
  subst hl
  by_cases hik : i = k
  · rw [hik, h.1] at hi; cases hi
  · rw [h.2 i hik] at hi; cases hi

end LockOK

/-- A thread in read mode has only reads left to do, and `LockOK` holds of the lock and the modes in
which the threads are inside. -/
def LockInv (c : Config S) : Prop :=
  (∀ j v todo lp, (c.thr j).ph = .inside v todo lp → S.mode v.op = false → ∀ a ∈ todo, a.2 = false) ∧
  match c.lock with
  | .free => ∀ j, (c.thr j).ph.held = none
  | .writer i => (c.thr i).ph.held = some true ∧ ∀ j, j ≠ i → (c.thr j).ph.held = none
  | .readers n => 0 < n ∧ (∃ ins : List Nat, ins.Nodup ∧ ins.length = n ∧ ∀ j, j ∈ ins ↔ (c.thr j).ph.held = some false) ∧
      ∀ j, (c.thr j).ph.held ≠ some true

section
variable {s0 : S.σ} {progs : Nat → List S.Op} {c c' : Config S}

theorem LockInv.lockOK (h : LockInv c) : LockOK c.lock fun j => (c.thr j).ph.held := h.2

theorem lockOK_step (hL : LockOK c.lock fun j => (c.thr j).ph.held) (hs : Step c c') :
    LockOK c'.lock fun j => (c'.thr j).ph.held := by
  -- the modes in which the threads are inside, after thread `i` was replaced
  have held : ∀ (i : Nat) (t : Thread S),
      (fun j => (upd c.thr i t j).ph.held) = upd (fun j => (c.thr j).ph.held) i t.ph.held :=
    map_upd (fun t : Thread S => t.ph.held) c.thr
  cases hs with
  | invoke i op rest h | access i p v a todo lp h | commit i p v todo h =>
    -- inside as before
    show LockOK c.lock fun j => (upd c.thr i _ j).ph.held
    rw [held, show Phase.held _ = (c.thr i).ph.held by rw [h]; rfl, upd_self]; exact hL
  | acquire i p v h en =>
    show LockOK _ fun j => (upd c.thr i _ j).ph.held
    rw [held]; exact hL.acquire en (by rw [h]; rfl)
  | release i p v r k h =>
    show LockOK _ fun j => (upd c.thr i _ j).ph.held
    rw [held]; exact hL.release (by rw [h]; rfl)

/-- The pending accesses of a reader are accesses of its operation (`Reachable.todo_accs`), hence reads; the lock
state is an invariant of its own. -/
theorem lockInv_reachable
    (h : Reachable s0 progs c) : LockInv c := by
  refine ⟨fun j v todo lp hp hm a ha => S.reader_accs _ hm a (h.todo_accs hp a ha), ?_⟩
  induction h with
  | init => exact fun _ => rfl
  | step _ hs ih => exact lockOK_step ih hs

theorem LockInv.of_writer (h : LockInv c) {i : Nat} {p : List S.Op} {v : Call S} {todo : List (S.Loc × Bool)}
    {lp : Option (S.Resp × Nat)} (hi : c.thr i = ⟨p, .inside v todo lp⟩) (hm : S.mode v.op = true) :
    c.lock = .writer i ∧ ∀ j, j ≠ i → (c.thr j).ph.held = none :=
  h.lockOK.of_writer (by rw [hi]; exact congrArg some hm)

theorem LockInv.of_reader (h : LockInv c) {i : Nat} {p : List S.Op} {v : Call S} {todo : List (S.Loc × Bool)}
    {lp : Option (S.Resp × Nat)} (hi : c.thr i = ⟨p, .inside v todo lp⟩) (hm : S.mode v.op = false) (k : Nat) :
    c.lock ≠ .writer k :=
  h.lockOK.of_reader (i := i) (by rw [hi]; exact congrArg some hm) k

theorem drf_modes (h : Reachable s0 progs c)
    {i j : Nat} (hij : i ≠ j) {mi mj : Bool}
    (hi : (c.thr i).ph.held = some mi) (hj : (c.thr j).ph.held = some mj) : mi = false ∧ mj = false := by
  have hinv := (lockInv_reachable h).lockOK
  cases mi with
  | true => rw [(hinv.of_writer hi).2 j (Ne.symm hij)] at hj; cases hj
  | false =>
    cases mj with
    | true => rw [(hinv.of_writer hj).2 i hij] at hi; cases hi
    | false => exact ⟨rfl, rfl⟩

theorem drf (h : Reachable s0 progs c)
    {i j : Nat} (hij : i ≠ j) {a b : S.Loc × Bool}
    (hi : (c.thr i).ph.next? = some a) (hj : (c.thr j).ph.next? = some b) : ¬ Conflict a b := by
  have hinv := lockInv_reachable h
  obtain ⟨vi, ti, li, hpi⟩ := Phase.inside_of_next? hi
  obtain ⟨vj, tj, lj, hpj⟩ := Phase.inside_of_next? hj
  -- both are inside, hence both in read mode, with reads only
  have hm := drf_modes h hij (by rw [hpi]; rfl) (by rw [hpj]; rfl)
  intro hc
  rcases hc.2 with e | e
  · rw [hinv.1 i vi _ li hpi hm.1 a (List.mem_cons_self ..)] at e; cases e
  · rw [hinv.1 j vj _ lj hpj hm.2 b (List.mem_cons_self ..)] at e; cases e

end

theorem readonly {s0 : S.σ} {progs : Nat → List S.Op} (hro : ReadOnly progs) {c : Config S}
    (h : Reachable s0 progs c) :
    (c.lock = .free ∨ ∃ n, c.lock = .readers n) ∧ c.st = s0 ∧ ∀ r ∈ c.done, r.resp = (S.sem r.call.op s0).2 := by
  have hN := NoLock.readonly hro h.forget
  refine ⟨?_, hN.1, fun r hr => hN.2.1 r.forget (List.mem_map_of_mem hr)⟩
  cases hl : c.lock with
  | free => exact .inl rfl
  | readers n => exact .inr ⟨n, rfl⟩
  | writer i =>
    -- the thread inside in write mode would run a writer of its program
    have hK := (lockInv_reachable h).lockOK
    rw [hl] at hK
    obtain ⟨v, todo, lp, hp, hm⟩ := Phase.inside_of_held hK.1
    rw [hro i v.op (h.call_mem (by rw [hp]; rfl))] at hm
    cases hm

/-- With the lock the two programs of `toy_nolock_race` never reach a configuration with conflicting next micro-accesses. -/
example (c : Config toy) (h : Reachable (S := toy) (0 : Nat) toyProgs c) (a b : Unit × Bool)
    (ha : (c.thr 0).ph.next? = some a) (hb : (c.thr 1).ph.next? = some b) : ¬ Conflict (S := toy) a b :=
  drf h (by decide) ha hb

end Mux.RWLock
