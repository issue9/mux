/-
  The matcher is PARAMETRIC in the incoming parameters: which children are tried, which node is reported and where the
  search faults depend on the path only; the parameter map is only written (`set name capture`, and `restoreParam` for an
  abandoned child).  Hence every relation between two parameter maps that a simultaneous `set` / `restoreParam` preserves
  (`Closed`) is preserved by `matchChildren` and by `Tree.handler` (`matchChildren_rel`, `handler_rel`).  It is used at
  equal lookups (`SameGet`, `GroupLiftParams.lean`), at `fun a _ => a.keys.Nodup` (`RestoreMatcher.lean`) and at `True`
  (node, handler and faults do not depend on the parameters, `C01_params_irrelevant`); `R1`/`R2` are closed as well.
-/
import Mux.Proofs.HandlerSound
import Mux.Proofs.Params
namespace Mux.P18
open Mux

/-- Two results of the matcher agree up to `R` on the parameters. -/
def MRRel (R : Params → Params → Prop) : MR → MR → Prop
  | .fault s, .fault s' => s = s'
  | .unsupported, .unsupported => True
  | .miss a, .miss b => R a b
  | .hit m a, .hit m' b => m = m' ∧ R a b
  | _, _ => False

/-- `R` is preserved by the two updates the matcher performs. -/
structure Closed (R : Params → Params → Prop) : Prop where
  set : ∀ a b x v, R a b → R (a.set x v) (b.set x v)
  restore : ∀ a b a2 b2 x, R a b → R a2 b2 → R (restoreParam a a2 x) (restoreParam b b2 x)

theorem Closed.record {R : Params → Params → Prop} (hR : Closed R) (s : Seg) (cap : Bytes) {a b : Params}
    (h : R a b) : R (if s.kind ≠ .str ∧ ¬ s.ignoreName then a.set s.name cap else a)
      (if s.kind ≠ .str ∧ ¬ s.ignoreName then b.set s.name cap else b) := by
  split
  · exact hR.set a b _ _ h
  · exact h

theorem MRRel.onMiss {R : Params → Params → Prop} {x y : MR} {f g : Params → MR} (h : MRRel R x y)
    (hfg : ∀ a b, R a b → MRRel R (f a) (g b)) : MRRel R (x.onMiss f) (y.onMiss g) := by
  cases x <;> cases y <;> first | exact h.elim | exact h | exact hfg _ _ h

section
variable {env : Env} {ic : Interceptors} {R : Params → Params → Prop}

theorem MRRel.matchAt {path : Bytes} (cs : List Node) (i : Nat) {a b : Params}
    (h : ∀ c ∈ cs, MRRel R (descend env ic c path a) (descend env ic c path b)) :
    MRRel R (Mux.matchAt env ic cs i path a) (Mux.matchAt env ic cs i path b) := by
  rw [matchAt_eq, matchAt_eq]
  cases hc : cs[i]? with
  | none => exact rfl
  | some c => exact h c (List.mem_of_getElem? hc)

theorem MRRel.scan {path : Bytes} (cs : List Node)
    (h : ∀ c ∈ cs, ∀ a b, R a b → MRRel R (tryChild env ic c path a) (tryChild env ic c path b)) :
    ∀ k a b, R a b → MRRel R (matchFrom env ic cs k path a) (matchFrom env ic cs k path b) := by
  induction cs with
  | nil =>
    intro k a b hab
    rw [matchFrom_nil, matchFrom_nil]
    exact hab
  | cons c cs ih =>
    have ih := ih fun d hd => h d (List.mem_cons_of_mem _ hd)
    intro k a b hab
    cases k with
    | succ k =>
      rw [matchFrom_succ, matchFrom_succ]
      exact ih k a b hab
    | zero =>
      rw [matchFrom_zero, matchFrom_zero]
      exact (h c List.mem_cons_self a b hab).onMiss (ih 0)

theorem MRRel.selfStep (n : Node) (path : Bytes) {x y : MR} (h : MRRel R x y) :
    MRRel R (P8.selfStep n path x) (P8.selfStep n path y) := by
  rw [P8.selfStep_eq, P8.selfStep_eq]
  refine h.onMiss fun a b hab => ?_
  split
  · exact ⟨rfl, hab⟩
  · exact hab

/-- Below a child after its segment matched, for both runs: what `matchAt` and one step of the scan share. -/
theorem descend_rel (hR : Closed R) {c : Node}
    (hc : ∀ path a b, R a b → MRRel R (c.matchChildren env ic path a) (c.matchChildren env ic path b))
    (path : Bytes) {a b : Params} (hab : R a b) :
    MRRel R (descend env ic c path a) (descend env ic c path b) ∧
      MRRel R (tryChild env ic c path a) (tryChild env ic c path b) := by
  rw [tryChild_eq, tryChild_eq]
  unfold descend
  cases c.seg.match env ic path with
  | no => exact ⟨hab, hab⟩
  | unsupported => exact ⟨trivial, trivial⟩
  | yes cap rest =>
    have h := hc rest _ _ (hR.record c.seg cap hab)
    exact ⟨h, h.onMiss fun a2 b2 h2 => hR.restore a b a2 b2 _ hab h2⟩
end

theorem matchChildren_rel (env : Env) (ic : Interceptors) {R : Params → Params → Prop} (hR : Closed R) (n : Node) :
    ∀ (path : Bytes) (a b : Params), R a b →
      MRRel R (n.matchChildren env ic path a) (n.matchChildren env ic path b) := by
  induction n using Node.induction with
  | step n ih =>
    intro path a b hab
    rw [matchChildren_spec, matchChildren_spec]
    refine MRRel.onMiss ?_ fun a1 b1 h1 =>
      MRRel.selfStep n path (MRRel.scan _ (fun c hc a b hab => (descend_rel hR (ih c hc) path hab).2) _ a1 b1 h1)
    cases n.indexes with
    | nil => exact hab
    | cons e idx =>
      cases path with
      | nil => exact hab
      | cons p tl =>
        rw [fast_cons, fast_cons]
        exact MRRel.matchAt _ _ fun c hc => (descend_rel hR (ih c hc) _ hab).1

theorem matchAt_rel (env : Env) (ic : Interceptors) {R : Params → Params → Prop} (hR : Closed R) :
    (cs : List Node) → (i : Nat) → (path : Bytes) → (a b : Params) → R a b →
      MRRel R (matchAt env ic cs i path a) (matchAt env ic cs i path b) :=
  fun cs i path _ _ hab => MRRel.matchAt cs i fun c _ => (descend_rel hR (matchChildren_rel env ic hR c) path hab).1

theorem matchFrom_rel (env : Env) (ic : Interceptors) {R : Params → Params → Prop} (hR : Closed R) :
    (cs : List Node) → (skip : Nat) → (path : Bytes) → (a b : Params) → R a b →
      MRRel R (matchFrom env ic cs skip path a) (matchFrom env ic cs skip path b) :=
  fun cs skip path => MRRel.scan cs (fun c _ _ _ hab => (descend_rel hR (matchChildren_rel env ic hR c) path hab).2) skip

/-- Two answers of `Tree.handler` agree up to `R` on the parameters. -/
def HRRel (R : Params → Params → Prop) : HR → HR → Prop
  | .fault s, .fault s' => s = s'
  | .unsupported, .unsupported => True
  | .res f, .res f' => f.node = f'.node ∧ f.handler = f'.handler ∧ f.ok = f'.ok ∧ R f.params f'.params
  | _, _ => False

theorem handlerNoTrace_rel (env : Env) (t : Tree) {R : Params → Params → Prop} (hR : Closed R) (path method : Bytes)
    (a b : Params) (hab : R a b) :
    HRRel R (Tree.handler.Tree.handlerNoTrace env t path a method) (Tree.handler.Tree.handlerNoTrace env t path b method) := by
  have hm : MRRel R (t.matched env path a) (t.matched env path b) := by
    unfold Tree.matched
    split
    · exact ⟨rfl, hab⟩
    · exact matchChildren_rel env t.ic hR t.root path a b hab
  rw [handlerNoTrace_eq, handlerNoTrace_eq]
  generalize t.matched env path a = x at hm
  generalize t.matched env path b = y at hm
  cases x <;> cases y <;> try exact hm.elim
  · exact hm
  · trivial
  · exact ⟨rfl, rfl, rfl, hm⟩
  · obtain ⟨rfl, hr⟩ := hm
    simp only [Tree.answer]
    split
    · exact ⟨rfl, rfl, rfl, hr⟩
    · unfold Node.answer
      split <;> exact ⟨rfl, rfl, rfl, hr⟩

theorem handler_rel (env : Env) (t : Tree) {R : Params → Params → Prop} (hR : Closed R) (path method : Bytes)
    (a b : Params) (hab : R a b) : HRRel R (t.handler env path a method) (t.handler env path b method) := by
  unfold Tree.handler
  split
  · split
    · exact ⟨rfl, rfl, rfl, hab⟩
    · exact handlerNoTrace_rel env t hR path method a b hab
  · exact handlerNoTrace_rel env t hR path method a b hab

theorem HRRel.fault_left {R : Params → Params → Prop} {s : Nat} {y : HR} (h : HRRel R (.fault s) y) : y = .fault s := by
  cases y <;> simp only [HRRel] at h
  rw [h]

theorem HRRel.unsupported_left {R : Params → Params → Prop} {y : HR} (h : HRRel R .unsupported y) :
    y = .unsupported := by
  cases y <;> simp only [HRRel] at h
  rfl

theorem HRRel.res_left {R : Params → Params → Prop} {f : Found} {y : HR} (h : HRRel R (.res f) y) :
    ∃ f', y = .res f' ∧ f.node = f'.node ∧ f.handler = f'.handler ∧ f.ok = f'.ok ∧ R f.params f'.params := by
  cases y <;> simp only [HRRel] at h
  exact ⟨_, rfl, h⟩

/-- `R1 D a b`: `a` agrees with `b` on every key outside `D` and on every key that `b` has. -/
def R1 (D : List Bytes) (a b : Params) : Prop :=
  ∀ k, (k ∉ D ∨ (b.get? k).isSome = true) → a.get? k = b.get? k

theorem R1.closed (D : List Bytes) : Closed (R1 D) where
  set := by
    intro a b x v h k hk
    by_cases hx : k = x
    · subst hx; rw [get?_set_self, get?_set_self]
    · rw [get?_set_other _ _ hx, get?_set_other _ _ hx]
      rw [get?_set_other _ _ hx] at hk
      exact h k hk
  restore := by
    intro a b a2 b2 x h h2 k hk
    rw [P19.get?_restoreParam, P19.get?_restoreParam]
    rw [P19.get?_restoreParam] at hk
    by_cases hx : k = x
    · subst hx
      rw [if_pos rfl, if_pos rfl]
      rw [if_pos rfl] at hk
      exact h k hk
    · rw [if_neg hx, if_neg hx]
      rw [if_neg hx] at hk
      exact h2 k hk

/-- `R2 ps a b`: every key of `a` has the value it has in `ps`, or none, or the value it has in `b`. -/
def R2 (ps : Params) (a b : Params) : Prop :=
  ∀ k, a.get? k = ps.get? k ∨ a.get? k = none ∨ a.get? k = b.get? k

theorem R2.closed (ps : Params) : Closed (R2 ps) where
  set := by
    intro a b x v h k
    by_cases hx : k = x
    · subst hx; rw [get?_set_self, get?_set_self]; exact .inr (.inr rfl)
    · rw [get?_set_other _ _ hx, get?_set_other _ _ hx]; exact h k
  restore := by
    intro a b a2 b2 x h h2 k
    rw [P19.get?_restoreParam, P19.get?_restoreParam]
    by_cases hx : k = x
    · subst hx
      rw [if_pos rfl, if_pos rfl]
      exact h k
    · rw [if_neg hx, if_neg hx]; exact h2 k

end Mux.P18
