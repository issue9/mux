/-
  Mux.Proofs.MatchCap — the hits of the matcher under the tracking by names, keeping for every segment of the
  justifying chain the call of `Segment.Match` that produced its value (`CapOk`).  Consequence: a value captured by
  dispatch at a regexp segment passes `Segment.Valid`.
-/
import Mux.Proofs.HandlerSound
import Mux.Proofs.RxStable
import Mux.Proofs.Url
namespace Mux.P13
open Mux

/-- A hit on the siblings `cs` under the tracking by names, with the call of `Segment.Match` behind every value. -/
def HitL2 (env : Env) (ic : Interceptors) (cs : List Node) (path : Bytes) (ps : Params) (m : Node) (ps' : Params) : Prop :=
  ∃ c ∈ cs, ∃ (cap : Bytes) (chain : List (Seg × Bytes)),
    Chain c (chain.map (·.1)) m ∧ path = instChain ((c.seg, cap) :: chain) ∧
    (∀ sv ∈ (c.seg, cap) :: chain, sv.1.Satisfies env ic sv.2 ∧ CapOk env ic sv.1 sv.2) ∧ m.handlers ≠ [] ∧
    (∀ used, TrackL used cs ps → ps' = ps ++ captures ((c.seg, cap) :: chain))

theorem HitL2.ofWalkIn {env : Env} {ic : Interceptors} {cs : List Node} {path : Bytes} {ps : Params} {m : Node}
    {ps' : Params} (h : WalkIn env ic (fun cs ps => ∃ used, TrackL used cs ps) cs path ps m ps') :
    HitL2 env ic cs path ps m ps' := by
  obtain ⟨c, hc, cap, chain, h1, h2, h3, h4, h5⟩ := h.chain
  refine ⟨c, hc, cap, chain, h1, h2, fun sv hsv => ⟨(h3 sv hsv).satisfies, h3 sv hsv⟩, h4, fun used ht => ?_⟩
  -- every recorded name is fresh: the `set` fold appends, first the capture of `c`, then those below it
  obtain ⟨hfresh, hok⟩ := NamesOkL_mem ht.1 hc
  obtain ⟨r1, r2, _⟩ := record_spec (s := c.seg) cap hfresh ht.2.2
  rw [h5 ⟨used, ht⟩, ← P19.setCaps_record, setCaps_names hok h1 r2, r1, List.append_assoc, ← captures_cons]

theorem matchAt_hit2 (env : Env) (ic : Interceptors) : (cs : List Node) → (i : Nat) → (path : Bytes) → (ps : Params) →
    (m : Node) → (ps' : Params) → matchAt env ic cs i path ps = .hit m ps' → HitL2 env ic cs path ps m ps' := by
  intro cs i path ps m ps' h
  exact .ofWalkIn ((matchAt_walk env ic trackNames cs i path ps).of_hit h)

theorem matchFrom_hit2 (env : Env) (ic : Interceptors) : (cs : List Node) → (skip : Nat) → (path : Bytes) → (ps : Params) →
    (m : Node) → (ps' : Params) → matchFrom env ic cs skip path ps = .hit m ps' → HitL2 env ic cs path ps m ps' := by
  intro cs skip path ps m ps' h
  exact .ofWalkIn ((matchFrom_walk env ic trackNames cs skip path ps).of_hit h)

/-- **Dispatch ⇒ `Valid`.** A value that `Segment.Match` captured (on any path) passes `Segment.Valid`: trivially
for named segments, by the interceptor for interceptor segments, and for regexp segments because the leftmost-first
match is stable under cutting off the rest of the path (`rxMatch_stable`). -/
theorem valid_of_capOk {env : Env} {ic : Interceptors} {s : Seg} {v : Bytes} (h : CapOk env ic s v) :
    s.valid env ic v = some true := by
  obtain ⟨path, rest, hm⟩ := h
  cases hk : s.kind with
  | str => exact Seg.valid_str env ic s v hk
  | named => exact Seg.valid_named env ic s v hk
  | icpt =>
    rw [Seg.valid_icpt env ic s v hk]
    have := (Seg.match_sound env ic s path v rest hm).2.1
    simp only [Seg.Satisfies, hk] at this
    rw [this]
  | rx =>
    rw [Seg.valid_rx_eq env ic s v hk]
    obtain ⟨hdom, hx⟩ := (Seg.match_rx_yes_iff env ic s path v rest hk).1 hm
    obtain ⟨hpath, _⟩ := rxMatch_sound _ _ _ _ _ hx
    subst hpath
    have hdom' : ¬ ((s.re.wide = true ∧ ¬ isAscii v = true) ∨ ¬ isAscii s.suffix = true) := by
      rintro (⟨hw, ha⟩ | ha)
      · exact hdom (.inl ⟨hw, fun hasc => ha (isAscii_of_prefix ⟨s.suffix ++ rest, (List.append_assoc ..).symm⟩ hasc)⟩)
      · exact hdom (.inr ha)
    rw [if_neg hdom', rxMatch_stable s.re s.suffix v rest hx]

end Mux.P13
