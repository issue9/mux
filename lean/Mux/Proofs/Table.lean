/-
  Mux.Proofs.Table — C03/C04: the route table of a tree is the abstract table of its history.
  The lemmas behind `Mux.Properties.C03` (`C03_table`, `C03_routes`, `C03_removed`, `C04_star`): the invariant `Sim` carried
  along a history is the refinement `Refines` with I-count, the tree-wide counter of a method is the number of entries
  (nodes with handlers) on which the method is registered by hand.
-/
import Mux.Proofs.TableSpec
import Mux.Proofs.MatchHyps
import Mux.Proofs.TreeServe
namespace Mux.P11
open Mux

/-- Number of entries on which `m` is registered by hand. -/
def cntE (m : Bytes) (es : List (Bytes × AMap Handler)) : Nat :=
  (es.filter (fun e => decide (m ∈ regKeys e.2))).length

theorem cntE_nil (m : Bytes) : cntE m [] = 0 := rfl

/-- I-count. -/
def CountInv (t : Tree) : Prop := ∀ m, (t.counts.get? m).getD 0 = cntE m (liveL t.root.children)

theorem good_keys_nodup {ht : Bool} {n : Node} (h : Good ht n) : n.handlers.keys.Nodup := by
  rcases h.1.2 with h0 | h0
  · rw [h0]; simp [AMap.keys]
  · exact h0.nodup

theorem count_spec (ht : Bool) (m : Bytes) (n : Node) (hg : AllL (Good ht) n.children) (acc : AMap Nat) :
    ((n.countMethods acc).get? m).getD 0 = (acc.get? m).getD 0 + cntE m (liveL n.children) := by
  rw [countMethods_eq, incrAll_get]
  congr 1
  -- node by node: a key occurs at most once among the hand-registered keys of a node
  have hall : ∀ x ∈ nodesL n.children, x.handlers.keys.Nodup :=
    fun x hx => good_keys_nodup (((All_iff_nodes _).2 _).1 hg x hx)
  unfold regKeysL liveL cntE
  generalize nodesL n.children = l at hall
  induction l with
  | nil => rfl
  | cons x l ih =>
    rw [List.flatMap_cons, List.count_append, ih (fun y hy => hall y (by simp [hy])),
      show x.registered = regKeys x.handlers from rfl,
      List.Nodup.count (show (regKeys x.handlers).Nodup from (hall x (by simp)).filter _), List.filter_cons]
    by_cases hne : x.handlers = []
    · simp [hne, regKeys_nil]
    · have : x.handlers.isEmpty = false := by simpa using hne
      simp only [this, Bool.not_false, if_true, List.map_cons, List.filter_cons]
      by_cases hm : m ∈ regKeys x.handlers
      · simp [hm]; omega
      · simp [hm]

theorem CountInv_new (name : Bytes) (ic : Interceptors) (nf : Handler) (tr : Option Handler)
    (ob : Base := .options) (nb : Base := .notAllowed) : CountInv (Tree.new name ic nf tr ob nb) := by
  intro m
  simp [Tree.new, liveL_nil, cntE_nil, AMap.get?]

theorem CountInv_recount {t : Tree} {root1 : Node} (hinv : TInv ({ t with root := root1 }).recount) :
    CountInv ({ t with root := root1 }).recount := by
  intro m
  have hgood : AllL (Good t.hasTrace) root1.children := by
    have := allGQ_good hinv.gq
    simpa [Tree.recount, Node.setHandlers, Tree.hasTrace] using this
  have := count_spec t.hasTrace m root1 hgood []
  simpa [Tree.recount, Node.setHandlers, AMap.get?] using this

/-- The invariant carried along a history: refinement plus I-count. -/
structure Sim (t : Tree) (tb : Spec.Table) : Prop extends Refines t tb where
  count : CountInv t

theorem Sim.new (name : Bytes) (ic : Interceptors) (nf : Handler) (tr : Option Handler)
    (ob : Base := .options) (nb : Base := .notAllowed) : Sim (Tree.new name ic nf tr ob nb) [] := by
  refine ⟨⟨TInv_new name ic nf tr ob nb, ?_, TableOk.nil⟩, CountInv_new name ic nf tr ob nb⟩
  intro q m
  rw [has_tableOf]
  simp [Tree.new, liveL_nil, Spec.Table.has]

theorem tableOf_patterns (t : Tree) : (tableOf t).patterns = (liveL t.root.children).map (·.1) := by
  unfold tableOf Spec.Table.patterns
  rw [List.map_map]; rfl

/-- A node with handlers has a hand-registered method (`RegQ`). -/
theorem exists_regKey {t : Tree} (hinv : TInv t) {y : Node} (hy : y ∈ nodesL t.root.children) (hne : y.handlers ≠ []) :
    ∃ k, k ∈ regKeys y.handlers :=
  ((((All_iff_nodes _).2 _).1 hinv.gq y hy).1.2.resolve_left hne).elim fun k hk => ⟨k, mem_regKeys.2 hk⟩

theorem tableOf_ok {t : Tree} (hinv : TInv t) : TableOk (tableOf t) ∧ ∀ e ∈ tableOf t, e.2.Nodup := by
  have hent : ∀ e ∈ tableOf t, e.2 ≠ [] ∧ e.2.Nodup := by
    intro e he
    unfold tableOf at he
    rw [List.mem_map] at he
    obtain ⟨e0, he0, rfl⟩ := he
    obtain ⟨y, hy, hyne, rfl⟩ := mem_liveL.1 he0
    obtain ⟨k, hk⟩ := exists_regKey hinv hy hyne
    exact ⟨List.ne_nil_of_mem hk, (good_keys_nodup (hinv.inv2.toTreeInv.good hy)).filter _⟩
  refine ⟨⟨?_, fun e he => (hent e he).1⟩, fun e he => (hent e he).2⟩
  rw [tableOf_patterns]; exact liveL_patterns_nodup hinv.sh

/-- Two well-formed tables with the same live pairs are equal as finite maps. -/
theorem tables_agree {ta tb : Spec.Table} (ha : TableOk ta) (hb : TableOk tb)
    (h : ∀ q m, ta.has q m ↔ tb.has q m) :
    (∀ p, p ∈ ta.patterns ↔ p ∈ tb.patterns) ∧
    (∀ p ms ms', (p, ms) ∈ ta → (p, ms') ∈ tb → ∀ m, m ∈ ms ↔ m ∈ ms') := by
  refine ⟨?_, ?_⟩
  · intro p
    rw [mem_patterns_iff ha, mem_patterns_iff hb]
    exact ⟨fun ⟨m, hm⟩ => ⟨m, (h p m).1 hm⟩, fun ⟨m, hm⟩ => ⟨m, (h p m).2 hm⟩⟩
  · intro p ms ms' h1 h2 m
    -- the two lists are the methods of `p` in the two tables
    rw [← methodsOf_of_mem ha.nodup h1, ← methodsOf_of_mem hb.nodup h2, ← has_iff_methodsOf ha.nodup, h,
      has_iff_methodsOf hb.nodup]

theorem Refines.patterns {t : Tree} {tb : Spec.Table} (h : Refines t tb) (p : Bytes) :
    p ∈ (tableOf t).patterns ↔ p ∈ tb.patterns :=
  (tables_agree (tableOf_ok h.inv).1 h.ok h.has).1 p

theorem refines_self {t : Tree} (hinv : TInv t) : Refines t (tableOf t) :=
  ⟨hinv, fun _ _ => Iff.rfl, (tableOf_ok hinv).1⟩

theorem tableOf_remove {t t' : Tree} (hinv : TInv t) {p : Bytes} (he : t.remove p [] = .ok t') (q : Bytes) :
    q ∈ (tableOf t').patterns ↔ q ∈ (tableOf t).patterns ∧ q ≠ p := by
  have hstep : t.step (.remove p []) = t' := by simp [Tree.step, he]
  have hr := (refines_self hinv).step (.remove p []) rfl
  rw [hstep] at hr
  rw [hr.patterns q]
  simp only [Spec.stepWith, Spec.remove, List.isEmpty_nil, if_true, Spec.Table.patterns, List.mem_map, List.mem_filter]
  constructor
  · rintro ⟨e, ⟨he1, he2⟩, rfl⟩
    exact ⟨⟨e, he1, rfl⟩, by simpa using he2⟩
  · rintro ⟨⟨e, he1, rfl⟩, hne⟩
    exact ⟨e, ⟨he1, by simpa using hne⟩, rfl⟩

theorem tableOf_add {t : Tree} (hinv : TInv t) {p : Bytes} (hw : WfPattern p = true) (h : Handler) (ms : List Nat)
    (methods : List Bytes) (q : Bytes) :
    q ∈ (tableOf (t.step (.add p h ms methods))).patterns ↔
      q ∈ (tableOf t).patterns ∨ (q = p ∧ ∃ t', t.add p h ms methods = .ok t') := by
  have hr := (refines_self hinv).step (.add p h ms methods) hw
  rw [hr.patterns q]
  simp only [Spec.stepWith]
  cases he : t.add p h ms methods with
  | error e => simp
  | ok t' =>
    simp only [mem_patterns_add]
    exact ⟨fun h => h.elim .inl (fun e => .inr ⟨e, t', rfl⟩), fun h => h.elim .inl (fun e => .inr e.1)⟩

theorem Refines.node_has {t : Tree} {tb : Spec.Table} (h : Refines t tb) {n : Node}
    (hn : n ∈ nodesL t.root.children) (m : Bytes) : m ∈ regKeys n.handlers ↔ tb.has n.pattern m := by
  rw [← at_node h.inv hn, ← has_at h.inv, h.has]

theorem Refines.has_iff_node {t : Tree} {tb : Spec.Table} (h : Refines t tb) (p m : Bytes) :
    tb.has p m ↔ ∃ n ∈ nodesL t.root.children, n.pattern = p ∧ m ∈ regKeys n.handlers := by
  rw [← h.has, P11.has_iff_node]

/-- The nodes with handlers and the entries of the table correspond: same pattern, same hand-registered methods. -/
theorem Refines.node_entry {t : Tree} {tb : Spec.Table} (h : Refines t tb) {n : Node}
    (hn : n ∈ nodesL t.root.children) (hne : n.handlers ≠ []) :
    ∃ ms, (n.pattern, ms) ∈ tb ∧ ∀ m, m ∈ regKeys n.handlers ↔ m ∈ ms := by
  obtain ⟨k, hk⟩ := exists_regKey h.inv hn hne
  obtain ⟨ms, hmem, _⟩ := (h.node_has hn k).1 hk
  exact ⟨ms, hmem, fun m => by rw [h.node_has hn, has_iff_methodsOf h.ok.nodup, methodsOf_of_mem h.ok.nodup hmem]⟩

theorem Refines.entry_node {t : Tree} {tb : Spec.Table} (h : Refines t tb) {e : Bytes × List Bytes} (he : e ∈ tb) :
    ∃ n ∈ nodesL t.root.children, n.handlers ≠ [] ∧ n.pattern = e.1 ∧ ∀ m, m ∈ regKeys n.handlers ↔ m ∈ e.2 := by
  obtain ⟨k, hk⟩ := List.exists_mem_of_ne_nil _ (h.ok.nonempty e he)
  obtain ⟨n, hn, hp, hm⟩ := (h.has_iff_node e.1 k).1 ⟨e.2, he, hk⟩
  refine ⟨n, hn, fun h0 => (by rw [h0] at hm; cases hm), hp, fun m => ?_⟩
  rw [h.node_has hn, hp, has_iff_methodsOf h.ok.nodup, methodsOf_of_mem h.ok.nodup he]

/-! Under the refinement I-count says that the counters are `Spec.count` of the abstract table.  That is how a step keeps it:
`Add` increments the counters of the listed methods, for which `Spec.add` counts one pattern more (`count_add`); `Remove`
and `Clean` recount from the tree; `Use` changes neither side. -/

theorem count_tableOf (t : Tree) (m : Bytes) : Spec.count (tableOf t) m = cntE m (liveL t.root.children) := by
  unfold Spec.count tableOf cntE
  rw [List.filter_map, List.length_map]
  congr 1
  apply List.filter_congr
  intro e _
  simp

theorem Refines.countInv_iff {t : Tree} {tb : Spec.Table} (h : Refines t tb) :
    CountInv t ↔ ∀ m, (t.counts.get? m).getD 0 = Spec.count tb m :=
  forall_congr' fun m => by
    rw [← count_tableOf, count_agree (tableOf_ok h.inv).1.nodup h.ok.nodup fun q => h.has q m]

theorem counts_eq {t : Tree} {tb : Spec.Table} (h : Sim t tb) (m : Bytes) :
    (t.counts.get? m).getD 0 = Spec.count tb m :=
  h.toRefines.countInv_iff.1 h.count m

theorem Sim.step {t : Tree} {tb : Spec.Table} (h : Sim t tb) (op : TOp) (hw : op.wf = true) :
    Sim (t.step op) (Spec.stepWith t tb op) := by
  have R := h.toRefines.step op hw
  refine ⟨R, ?_⟩
  have hc := h.toRefines.countInv_iff.1 h.count
  cases op with
  | add p hd ms methods =>
    simp only [Tree.step, Spec.stepWith] at R ⊢
    cases he : t.add p hd ms methods with
    | error e => exact h.count
    | ok t' =>
      rw [he] at R
      refine R.countInv_iff.2 fun m => ?_
      obtain ⟨x, x', hfx, hx, _⟩ := at_add h.inv hw he
      obtain ⟨_, _, _, _, _, _, _, hcm, _, _, _, rfl⟩ := Tree.add_ok he
      -- no listed method was registered at the pattern (`addMethodsNode` refuses one that is), and `checkMethods` has
      -- accepted the list, so its methods are distinct: each is counted once more
      have hfresh := (addMethodsNode_reg hfx m).2
      rw [hx, h.toRefines.pointwise] at hfresh
      rw [count_add h.ok, ← hc m]
      refine (incrAll_get m (effMethods methods) t.counts).trans ?_
      rw [(checkMethods_full t p _ _ hcm).1.count]
      by_cases hmm : m ∈ effMethods methods
      · simp [hmm, hfresh hmm]
      · simp [hmm]
  | remove p methods =>
    rcases Tree.remove_inv (remove_step h.inv p methods) with ⟨e, _⟩ | ⟨_, root1, _, _, e⟩
    · rw [e]; exact h.count
    · rw [e] at R ⊢; exact CountInv_recount R.inv
  | clean pre =>
    obtain ⟨root1, _, e⟩ := Tree.clean_ok (clean_step h.inv pre)
    rw [e] at R ⊢
    exact CountInv_recount R.inv
  | use ms => exact R.countInv_iff.2 hc

/-- `Tree.run_inv` for a relation between the tree and the abstract table replayed beside it. -/
theorem _root_.Mux.specRun_inv {I : Tree → Spec.Table → Prop} {ops : List TOp}
    (step : ∀ t tb, ∀ op ∈ ops, I t tb → I (t.step op) (Spec.stepWith t tb op)) {t : Tree} {tb : Spec.Table}
    (h : I t tb) : I (t.run ops) (specRunFrom t tb ops) := by
  unfold Tree.run
  induction ops generalizing t tb with
  | nil => exact h
  | cons op ops ih =>
    exact ih (fun t tb o ho => step t tb o (List.mem_cons_of_mem _ ho)) (step t tb op List.mem_cons_self h)

theorem Sim.run {t : Tree} {tb : Spec.Table} (h : Sim t tb) (ops : List TOp) (hw : ∀ op ∈ ops, op.wf = true) :
    Sim (t.run ops) (specRunFrom t tb ops) :=
  specRun_inv (I := Sim) (fun _ _ op ho h => h.step op (hw op ho)) h

theorem sim_history (name : Bytes) (ic : Interceptors) (nf : Handler) (tr : Option Handler)
    (ob : Base) (nb : Base) (ops : List TOp) (hw : ∀ op ∈ ops, op.wf = true) :
    Sim ((Tree.new name ic nf tr ob nb).run ops) (specRun (Tree.new name ic nf tr ob nb) ops) :=
  (Sim.new name ic nf tr ob nb).run ops hw

theorem registered_eq (n : Node) : n.registered = regKeys n.handlers := rfl

/-- The method set of a node with handlers is `Spec.methodSet` of its hand-registered methods (or of
any list with the same members). -/
theorem node_methods_eq {ht : Bool} {n : Node} (hg : Good ht n) (hne : n.handlers ≠ []) {ms : List Bytes}
    (hms : ∀ m, m ∈ regKeys n.handlers ↔ m ∈ ms) : n.methods = Spec.methodSet ht ms := by
  have hshape : KeyShape ht n.handlers := hg.1.2.resolve_left hne
  rw [(good_methods hg hne).1]
  unfold Spec.methodSet
  congr 1
  apply List.filter_congr
  intro m _
  -- the two tests are the same proposition, up to the bracketing of the disjunction
  rw [Bool.eq_iff_iff, decide_eq_true_iff, mem_maskKeys, keys_registered hshape m, registered_eq, hms m, hms mGET]
  simp only [Bool.or_eq_true, Bool.and_eq_true, List.contains_iff_mem, beq_iff_eq, or_assoc]

theorem routes_patterns_nodup {t : Tree} (hinv : TInv t) : ((routesL t.root.children).map (·.1)).Nodup := by
  rw [routesL_eq, List.map_map]
  exact (patterns_nodup t.ic t.root hinv.sh).sublist (List.filter_sublist.map _)

theorem routes_iff {t : Tree} {tb : Spec.Table} (h : Sim t tb) (x : Bytes × List Bytes) :
    x ∈ t.routes ↔ x ∈ Spec.routes t.hasTrace tb := by
  have hinv := h.inv.inv2.toTreeInv
  unfold Spec.routes
  rw [hinv.mem_routes, List.mem_cons, List.mem_map]
  apply or_congr Iff.rfl
  -- a node with handlers answers with the method set of the table's entry for its pattern
  constructor
  · rintro ⟨n, hn, hne, rfl⟩
    obtain ⟨ms, he, hms⟩ := h.node_entry hn hne
    exact ⟨(n.pattern, ms), he, by rw [node_methods_eq (hinv.good hn) hne hms]⟩
  · rintro ⟨e, he, rfl⟩
    obtain ⟨n, hn, hne, hp, hms⟩ := h.entry_node he
    exact ⟨n, hn, hne, by rw [node_methods_eq (hinv.good hn) hne hms, hp]⟩

theorem served_live {t : Tree} {tb : Spec.Table} (h : Sim t tb) {env : Env} {path method : Bytes} {f : Found}
    {n : Node} (hres : t.handler env path [] method = .res f) (hok : f.ok = true) (hn : f.node = some n)
    (hroot : n ≠ t.root) :
    n.pattern ∈ tb.patterns ∧
      (method ≠ mOPTIONS → tb.has n.pattern (if method = mHEAD then mGET else method)) := by
  have hinv := h.inv.inv2.toTreeInv
  rcases (handler_foundSpec hinv hres).of_served hok hn with ⟨h0, _⟩ | ⟨h2, h3, h4, h5⟩
  · exact absurd h0 hroot
  · have hshape : KeyShape t.hasTrace n.handlers := (hinv.keyShape_all h2).resolve_left h3
    rw [Node.nodes_eq] at h2
    have hmem : n ∈ nodesL t.root.children := (List.mem_cons.1 h2).resolve_left hroot
    have hkey : method ∈ n.handlers.keys := (AMap.get?_isSome_iff _ _).1 (by rw [h5]; rfl)
    have hlive : ∀ k, k ∈ regKeys n.handlers → tb.has n.pattern k := fun k => (h.node_has hmem k).1
    refine ⟨?_, ?_⟩
    · obtain ⟨ms, he, _⟩ := h.node_entry hmem h3
      exact List.mem_map.2 ⟨_, he, rfl⟩
    · intro hno
      have := (keys_registered hshape method).1 ⟨hkey, h4⟩
      rw [registered_eq] at this
      rcases this with h' | ⟨h', h''⟩ | h'
      · have hnh : method ≠ mHEAD := (mem_regKeys.1 h').2.1
        simp only [hnh, if_false]
        exact hlive _ h'
      · simp only [h', if_true]
        exact hlive _ h''
      · exact absurd h' hno

theorem mem_liveMethods {counts : AMap Nat} (hnd : counts.keys.Nodup) (m : Bytes) :
    m ∈ liveMethods counts ↔ 0 < (counts.get? m).getD 0 := by
  unfold liveMethods AMap.keys
  rw [List.mem_map]
  constructor
  · rintro ⟨e, he, rfl⟩
    rw [List.mem_filter] at he
    have : counts.get? e.1 = some e.2 := (AMap.mem_iff_get? _ _ _ hnd).1 he.1
    rw [this]
    simpa using he.2
  · intro hpos
    cases hg : counts.get? m with
    | none => rw [hg] at hpos; simp at hpos
    | some v =>
      rw [hg] at hpos
      exact ⟨(m, v), List.mem_filter.2 ⟨AMap.mem_of_get? _ _ _ hg, by simpa using hpos⟩, rfl⟩

/-- The root's `Methods()` (the answer to `OPTIONS *`) against the abstract table. -/
theorem star_methods {t : Tree} {tb : Spec.Table} (h : Sim t tb) (m : Bytes) :
    m ∈ t.root.methods ↔ m = mOPTIONS ∨ (t.hasTrace = true ∧ m = mTRACE) ∨ ∃ p, tb.has p m := by
  rw [root_methods h.inv.inv2 m, mem_liveMethods h.inv.inv2.counts.nodup, counts_eq h, count_pos_iff]

/-- `OPTIONS *` against `Routes()`: the root's methods are OPTIONS, TRACE when configured, and exactly the methods that
some entry of `Routes()` lists and that are not automatic. -/
theorem star_routes {t : Tree} {tb : Spec.Table} (h : Sim t tb) (m : Bytes) :
    m ∈ t.root.methods ↔ m = mOPTIONS ∨ (t.hasTrace = true ∧ m = mTRACE) ∨
      ∃ x ∈ t.routes, m ∈ x.2 ∧ m ≠ mHEAD ∧ m ≠ mOPTIONS ∧ ¬ (t.hasTrace = true ∧ m = mTRACE) := by
  have hinv := h.inv.inv2.toTreeInv
  rw [star_methods h m]
  refine or_congr Iff.rfl (or_congr Iff.rfl ⟨?_, ?_⟩)
  · rintro ⟨p, hp⟩
    obtain ⟨n, hn, rfl, hm⟩ := (h.has_iff_node p m).1 hp
    have hne : n.handlers ≠ [] := fun h0 => by rw [h0] at hm; cases hm
    exact ⟨(n.pattern, n.methods), (hinv.mem_routes _).2 (.inr ⟨n, hn, hne, rfl⟩), ((hinv.good hn).registered_iff hne m).1 hm⟩
  · rintro ⟨x, hx, hm⟩
    rcases (hinv.mem_routes x).1 hx with rfl | ⟨n, hn, hne, rfl⟩
    · -- the entry of `*` lists automatic methods only
      obtain ⟨hmx, _, ho, ht⟩ := hm
      rcases List.mem_cons.1 hmx with hmx | hmx
      · exact absurd hmx ho
      · cases htr : t.hasTrace with
        | false => simp [htr] at hmx
        | true =>
          simp only [htr, if_true, List.mem_singleton] at hmx
          exact absurd ⟨htr, hmx⟩ ht
    · exact ⟨n.pattern, (h.has_iff_node _ m).2 ⟨n, hn, rfl, ((hinv.good hn).registered_iff hne m).2 hm⟩⟩

theorem tableOf_clean {t t' : Tree} {pre : Bytes} (hinv : TInv t) (he : t.clean pre = .ok t') :
    tableOf t' = Spec.clean (tableOf t) pre := by
  unfold tableOf Spec.clean
  rw [clean_effect hinv he, List.filter_map]
  rfl

end Mux.P11
