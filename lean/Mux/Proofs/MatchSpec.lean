/-
  What `Node.matchChildren` / `matchAt` / `matchFrom` compute, as equations without the mutual recursion (`descend`,
  `tryChild`, `MR.onMiss`, `fast`, `selfStep`), and two sets of rules over them, each used by one induction on the node:
  `MR.Post` (what a hit and a miss satisfy) and `MR.Abn` (which faults, and whether `unsupported`, can come out).
-/
import Mux.Proofs.SegMatch
import Mux.Proofs.TreeBasic
namespace Mux

/-- The parameter update `matchAt`/`matchFrom` perform after a successful `Seg.match`. -/
def Seg.record (s : Seg) (cap : Bytes) (ps : Params) : Params :=
  if s.kind ≠ .str ∧ ¬ s.ignoreName then ps.set s.name cap else ps

theorem Seg.record_str {s : Seg} (h : s.kind = .str) (cap : Bytes) (ps : Params) : s.record cap ps = ps :=
  if_neg fun hc => hc.1 h

def MR.onMiss (r : MR) (k : Params → MR) : MR :=
  match r with
  | .miss ps => k ps
  | r => r

@[simp] theorem MR.onMiss_miss (ps : Params) (k : Params → MR) : (MR.miss ps).onMiss k = k ps := rfl
@[simp] theorem MR.onMiss_hit (m : Node) (ps : Params) (k : Params → MR) : (MR.hit m ps).onMiss k = .hit m ps := rfl
@[simp] theorem MR.onMiss_fault (s : Nat) (k : Params → MR) : (MR.fault s).onMiss k = .fault s := rfl
@[simp] theorem MR.onMiss_unsupported (k : Params → MR) : MR.unsupported.onMiss k = .unsupported := rfl

theorem MR.onMiss_eq_hit {r : MR} {k : Params → MR} {m : Node} {ps : Params} :
    r.onMiss k = .hit m ps ↔ r = .hit m ps ∨ ∃ ps1, r = .miss ps1 ∧ k ps1 = .hit m ps := by
  cases r <;> simp

theorem MR.onMiss_eq_self {r : MR} {k : Params → MR} (h : ∀ ps, r = .miss ps → k ps = .miss ps) : r.onMiss k = r := by
  cases r with
  | miss ps => exact h ps rfl
  | _ => rfl

theorem MR.onMiss_eq_miss {r : MR} {k : Params → MR} {ps : Params} :
    r.onMiss k = .miss ps ↔ ∃ ps1, r = .miss ps1 ∧ k ps1 = .miss ps := by
  cases r <;> simp

/-- What `matchAt` does with the child it selected: match the child's own segment and descend. -/
def descend (env : Env) (ic : Interceptors) (c : Node) (path : Bytes) (ps : Params) : MR :=
  match c.seg.match env ic path with
  | .no => .miss ps
  | .unsupported => .unsupported
  | .yes cap rest => c.matchChildren env ic rest (c.seg.record cap ps)

/-- What the `LOOP:` body does with one child: match the child's own segment, descend, and on a
miss of the subtree restore the parameter of the child's name (D30 repair). -/
def tryChild (env : Env) (ic : Interceptors) (c : Node) (path : Bytes) (ps : Params) : MR :=
  match c.seg.match env ic path with
  | .no => .miss ps
  | .unsupported => .unsupported
  | .yes cap rest =>
    match Node.matchChildren env ic c rest (c.seg.record cap ps) with
    | .miss ps2 => .miss (restoreParam ps ps2 c.seg.name)
    | r => r

/-- The index fast path of a node with index `idx` and children `cs`. -/
def fast (env : Env) (ic : Interceptors) (idx : List (UInt8 × Nat)) (cs : List Node) (path : Bytes) (ps : Params) : MR :=
  match idx, path with
  | _ :: _, b :: _ => matchAt env ic cs ((idxLookup idx b).getD 0) path ps
  | _, _ => .miss ps

namespace P8
/-- The last step of `matchChildren`: when no child hit and the path is used up, the node itself
is the result if it has handlers. -/
def selfStep (n : Node) (path : Bytes) : MR → MR
  | .miss ps2 => if path.isEmpty ∧ n.handlers.length > 0 then .hit n ps2 else .miss ps2
  | r => r

theorem selfStep_of_miss (n : Node) (path : Bytes) (ps : Params) :
    selfStep n path (.miss ps) = if path = [] ∧ n.handlers ≠ [] then .hit n ps else .miss ps := by
  simp only [selfStep, List.isEmpty_iff, gt_iff_lt, List.length_pos_iff]

theorem selfStep_eq (n : Node) (path : Bytes) (r : MR) :
    selfStep n path r =
      r.onMiss (fun ps2 => if path.isEmpty ∧ n.handlers.length > 0 then .hit n ps2 else .miss ps2) := by
  cases r <;> rfl
end P8

section
variable (env : Env) (ic : Interceptors)

theorem matchAt_eq (cs : List Node) (i : Nat) (path : Bytes) (ps : Params) :
    matchAt env ic cs i path ps =
      match cs[i]? with
      | none => .fault 220
      | some c => descend env ic c path ps := by
  induction cs generalizing i with
  | nil => rw [matchAt]; rfl
  | cons d cs ih =>
    cases i with
    | zero => rw [matchAt]; rfl
    | succ i => rw [matchAt, ih]; rfl

theorem fast_nil_path (idx : List (UInt8 × Nat)) (cs : List Node) (ps : Params) : fast env ic idx cs [] ps = .miss ps := by
  cases idx <;> rfl

theorem fast_cons (e : UInt8 × Nat) (idx : List (UInt8 × Nat)) (cs : List Node) (b : UInt8) (tl : Bytes) (ps : Params) :
    fast env ic (e :: idx) cs (b :: tl) ps = matchAt env ic cs ((idxLookup (e :: idx) b).getD 0) (b :: tl) ps := rfl

theorem tryChild_eq (c : Node) (path : Bytes) (ps : Params) :
    tryChild env ic c path ps =
      match c.seg.match env ic path with
      | .no => .miss ps
      | .unsupported => .unsupported
      | .yes cap rest => (c.matchChildren env ic rest (c.seg.record cap ps)).onMiss
          (fun ps2 => .miss (restoreParam ps ps2 c.seg.name)) := rfl

theorem matchFrom_nil (k : Nat) (path : Bytes) (ps : Params) : matchFrom env ic [] k path ps = .miss ps := by
  rw [matchFrom]

theorem matchFrom_succ (c : Node) (cs : List Node) (k : Nat) (path : Bytes) (ps : Params) :
    matchFrom env ic (c :: cs) (k + 1) path ps = matchFrom env ic cs k path ps := by
  rw [matchFrom]

theorem matchFrom_zero (c : Node) (cs : List Node) (path : Bytes) (ps : Params) :
    matchFrom env ic (c :: cs) 0 path ps =
      (tryChild env ic c path ps).onMiss (fun ps' => matchFrom env ic cs 0 path ps') := by
  rw [matchFrom, tryChild_eq]
  unfold Seg.record
  cases c.seg.match env ic path with
  | no => rfl
  | unsupported => rfl
  | yes cap rest =>
    simp only
    cases Node.matchChildren env ic c rest
      (if c.seg.kind ≠ .str ∧ ¬ c.seg.ignoreName then ps.set c.seg.name cap else ps) <;> rfl

theorem matchFrom_eq_drop (cs : List Node) (k : Nat) (path : Bytes) (ps : Params) :
    matchFrom env ic cs k path ps = matchFrom env ic (cs.drop k) 0 path ps := by
  induction cs generalizing k with
  | nil => rw [List.drop_nil, matchFrom_nil, matchFrom_nil]
  | cons c cs ih =>
    cases k with
    | zero => rfl
    | succ k => rw [matchFrom_succ, List.drop_succ_cons]; exact ih k

theorem matchChildren_spec (n : Node) (path : Bytes) (ps : Params) :
    n.matchChildren env ic path ps =
      (fast env ic n.indexes n.children path ps).onMiss fun ps1 =>
        P8.selfStep n path (matchFrom env ic n.children n.indexes.length path ps1) := by
  cases n with
  | mk seg pat mi hs idx cs =>
    rw [Node.matchChildren.eq_def]
    simp only [fast, MR.onMiss, P8.selfStep, Node.indexes_mk, Node.children_mk, Node.handlers_mk]
    rfl
end

/-- Post-condition of a matcher call: `hit` for a hit, `miss` for a miss, nothing for a fault or an
unsupported regexp. -/
def MR.Post (hit : Node → Params → Prop) (miss : Params → Prop) : MR → Prop
  | .hit m ps' => hit m ps'
  | .miss ps' => miss ps'
  | _ => True

section
variable {env : Env} {ic : Interceptors} {hit hit' : Node → Params → Prop} {miss miss' : Params → Prop}

theorem MR.Post.imp {r : MR} (h : MR.Post hit miss r) (hh : ∀ m ps, hit m ps → hit' m ps)
    (hm : ∀ ps, miss ps → miss' ps) : MR.Post hit' miss' r := by
  cases r with
  | hit m ps => exact hh m ps h
  | miss ps => exact hm ps h
  | fault s => trivial
  | unsupported => trivial

theorem MR.Post.of_hit {r : MR} (h : MR.Post hit miss r) {m : Node} {ps : Params} (e : r = .hit m ps) : hit m ps := by
  subst e
  exact h

theorem MR.Post.of_miss {r : MR} (h : MR.Post hit miss r) {ps : Params} (e : r = .miss ps) : miss ps := by
  subst e
  exact h

theorem MR.Post.onMiss {x : MR} {f : Params → MR} (hx : MR.Post hit miss x) (hh : ∀ m ps, hit m ps → hit' m ps)
    (hf : ∀ ps1, miss ps1 → MR.Post hit' miss' (f ps1)) : MR.Post hit' miss' (x.onMiss f) := by
  cases x with
  | hit m ps => exact hh m ps hx
  | miss ps1 => exact hf ps1 hx
  | fault s => trivial
  | unsupported => trivial

/-- The child `matchAt` selects (an index out of range is the fault 220, of which `MR.Post` says nothing). -/
theorem MR.Post.matchAt {cs : List Node} {i : Nat} {path : Bytes} {ps : Params}
    (h : ∀ c, cs[i]? = some c → MR.Post hit miss (descend env ic c path ps)) :
    MR.Post hit miss (Mux.matchAt env ic cs i path ps) := by
  rw [matchAt_eq]
  cases hc : cs[i]? with
  | none => trivial
  | some c => exact h c hc

theorem MR.Post.fast {idx : List (UInt8 × Nat)} {cs : List Node} {path : Bytes} {ps : Params} (h0 : miss ps)
    (h : idx ≠ [] → ∀ b tl, path = b :: tl →
      MR.Post hit miss (Mux.matchAt env ic cs ((idxLookup idx b).getD 0) path ps)) :
    MR.Post hit miss (Mux.fast env ic idx cs path ps) := by
  cases idx with
  | nil => exact h0
  | cons e idx =>
    cases path with
    | nil => exact h0
    | cons b tl => exact h (List.cons_ne_nil _ _) b tl rfl

theorem MR.Post.tryChild {c : Node} {path : Bytes} {ps : Params} (h0 : miss ps)
    (h : ∀ cap rest, c.seg.match env ic path = .yes cap rest →
      MR.Post hit (fun ps2 => miss (restoreParam ps ps2 c.seg.name))
        (c.matchChildren env ic rest (c.seg.record cap ps))) :
    MR.Post hit miss (Mux.tryChild env ic c path ps) := by
  rw [tryChild_eq]
  cases hm : c.seg.match env ic path with
  | no => exact h0
  | unsupported => trivial
  | yes cap rest => exact (h cap rest hm).onMiss (fun _ _ h => h) (fun _ h => h)

/-- The scan is a loop over the children with an invariant `I` on the parameters. -/
theorem MR.Post.scan {I : Params → Prop} {path : Bytes} : ∀ {cs : List Node} {k : Nat} {ps : Params}, I ps →
    (∀ c ∈ cs, ∀ ps0, I ps0 → MR.Post hit I (Mux.tryChild env ic c path ps0)) →
    MR.Post hit I (matchFrom env ic cs k path ps)
  | [], k, ps, h0, _ => by rw [matchFrom_nil]; exact h0
  | c :: cs, k + 1, ps, h0, h => by
    rw [matchFrom_succ]
    exact MR.Post.scan h0 fun d hd => h d (List.mem_cons_of_mem _ hd)
  | c :: cs, 0, ps, h0, h => by
    rw [matchFrom_zero]
    exact (h c List.mem_cons_self ps h0).onMiss (fun _ _ h => h)
      fun ps1 h1 => MR.Post.scan h1 fun d hd => h d (List.mem_cons_of_mem _ hd)

theorem MR.Post.selfStep {n : Node} {path : Bytes} {r : MR} {mid : Params → Prop} (hr : MR.Post hit mid r)
    (hself : ∀ ps2, mid ps2 → if path = [] ∧ n.handlers ≠ [] then hit n ps2 else miss ps2) :
    MR.Post hit miss (P8.selfStep n path r) := by
  cases r with
  | miss ps2 =>
    rw [P8.selfStep_of_miss]
    have := hself ps2 hr
    split <;> rename_i hc
    · rwa [if_pos hc] at this
    · rwa [if_neg hc] at this
  | hit m ps => exact hr
  | fault s => trivial
  | unsupported => trivial

theorem MR.Post.node {n : Node} {path : Bytes} {ps : Params} {mid : Params → Prop}
    (hfast : MR.Post hit mid (Mux.fast env ic n.indexes n.children path ps))
    (hscan : ∀ ps1, mid ps1 → MR.Post hit mid (matchFrom env ic n.children n.indexes.length path ps1))
    (hself : ∀ ps2, mid ps2 → if path = [] ∧ n.handlers ≠ [] then hit n ps2 else miss ps2) :
    MR.Post hit miss (n.matchChildren env ic path ps) := by
  rw [matchChildren_spec]
  exact hfast.onMiss (fun _ _ h => h) fun ps1 h1 => (hscan ps1 h1).selfStep hself
end

/-! The loop makes a fault at one place only (the fast path indexing past the children, site 220) and `unsupported` at one
place only (`Seg.match` of a child); everywhere else it passes them on.  So which of them can come out is decided node by
node, whatever the order of the children and whatever happens to the parameters. -/

/-- What an answer that is neither a hit nor a miss may be: a fault at a site that `F` admits, `unsupported` when `U`. -/
def MR.Abn (F : Nat → Prop) (U : Prop) : MR → Prop
  | .fault s => F s
  | .unsupported => U
  | _ => True

section
variable {env : Env} {ic : Interceptors} {F : Nat → Prop} {U : Prop}

theorem MR.Abn.onMiss {x : MR} {f : Params → MR} (hx : x.Abn F U) (hf : ∀ ps, (f ps).Abn F U) :
    (x.onMiss f).Abn F U := by
  cases x with
  | miss ps => exact hf ps
  | hit m ps => trivial
  | fault s => exact hx
  | unsupported => exact hx

theorem MR.Abn.descend {c : Node} {path : Bytes} {ps : Params} (hm : c.seg.match env ic path = .unsupported → U)
    (h : ∀ cap rest, c.seg.match env ic path = .yes cap rest → ∀ ps1, (c.matchChildren env ic rest ps1).Abn F U) :
    (Mux.descend env ic c path ps).Abn F U := by
  unfold Mux.descend
  cases hc : c.seg.match env ic path with
  | no => trivial
  | unsupported => exact hm hc
  | yes cap rest => exact h cap rest hc _

theorem MR.Abn.tryChild {c : Node} {path : Bytes} {ps : Params} (hm : c.seg.match env ic path = .unsupported → U)
    (h : ∀ cap rest, c.seg.match env ic path = .yes cap rest → ∀ ps1, (c.matchChildren env ic rest ps1).Abn F U) :
    (Mux.tryChild env ic c path ps).Abn F U := by
  rw [tryChild_eq]
  cases hc : c.seg.match env ic path with
  | no => trivial
  | unsupported => exact hm hc
  | yes cap rest => exact (h cap rest hc _).onMiss fun _ => trivial

theorem MR.Abn.scan {path : Bytes} : ∀ {cs : List Node} {k : Nat} {ps : Params},
    (∀ c ∈ cs, ∀ ps0, (Mux.tryChild env ic c path ps0).Abn F U) → (matchFrom env ic cs k path ps).Abn F U
  | [], k, ps, _ => by rw [matchFrom_nil]; trivial
  | c :: cs, k + 1, ps, h => by
    rw [matchFrom_succ]
    exact MR.Abn.scan fun d hd => h d (List.mem_cons_of_mem _ hd)
  | c :: cs, 0, ps, h => by
    rw [matchFrom_zero]
    exact (h c List.mem_cons_self ps).onMiss fun _ => MR.Abn.scan fun d hd => h d (List.mem_cons_of_mem _ hd)

theorem MR.Abn.node {n : Node} {path : Bytes} {ps : Params}
    (hidx : n.indexes ≠ [] → ∀ b, n.children[(idxLookup n.indexes b).getD 0]? = none → F 220)
    (hc : ∀ c ∈ n.children, (c.seg.match env ic path = .unsupported → U) ∧
      ∀ cap rest, c.seg.match env ic path = .yes cap rest → ∀ ps1, (c.matchChildren env ic rest ps1).Abn F U) :
    (n.matchChildren env ic path ps).Abn F U := by
  rw [matchChildren_spec]
  refine MR.Abn.onMiss ?_ fun ps1 => ?_
  · cases hi : n.indexes with
    | nil => trivial
    | cons e idx =>
      cases path with
      | nil => trivial
      | cons b tl =>
        rw [fast_cons, ← hi, matchAt_eq]
        cases hg : n.children[(idxLookup n.indexes b).getD 0]? with
        | none => exact hidx (by rw [hi]; exact List.cons_ne_nil _ _) b hg
        | some c => exact MR.Abn.descend (hc c (List.mem_of_getElem? hg)).1 (hc c (List.mem_of_getElem? hg)).2
  · rw [P8.selfStep_eq]
    refine (MR.Abn.scan fun c hm _ => MR.Abn.tryChild (hc c hm).1 (hc c hm).2).onMiss fun _ => ?_
    split <;> trivial
end

theorem idxLookup_lt {idx : List (UInt8 × Nat)} {N : Nat} (h : ∀ e ∈ idx, e.2 < N) (hne : idx ≠ [])
    (b : UInt8) : (idxLookup idx b).getD 0 < N := by
  have hN : 0 < N := by
    cases idx with
    | nil => exact absurd rfl hne
    | cons e _ => exact Nat.lt_of_le_of_lt (Nat.zero_le _) (h e (by simp))
  unfold idxLookup
  cases hf : idx.find? (·.1 = b) with
  | none => simpa using hN
  | some e => simpa using h e (List.mem_of_find?_eq_some hf)

/-- The matcher does not fault when every stored index position is in range: `n.children[i]` of the fast path is
the only indexing it does. -/
theorem matchChildren_no_fault (env : Env) (ic : Interceptors) (n : Node) :
    Node.All IdxOk n → ∀ path ps s, n.matchChildren env ic path ps ≠ .fault s := by
  suffices h : Node.All IdxOk n → ∀ path ps, (n.matchChildren env ic path ps).Abn (fun _ => False) True by
    intro hall path ps s e
    have := h hall path ps
    rwa [e] at this
  induction n using Node.induction with
  | step n ih =>
    intro hall path ps
    refine MR.Abn.node (fun hne b hg => ?_) fun c hc =>
      ⟨fun _ => trivial, fun _ rest _ ps1 => ih c hc ((AllL_iff _ _).1 hall.tail c hc) rest ps1⟩
    rw [List.getElem?_eq_none_iff] at hg
    exact Nat.not_le.2 (idxLookup_lt hall.head hne b) hg

/-- The literal text after the parameter of every regexp child is ASCII (`newSegment` accepts no other). -/
def RxAscii (n : Node) : Prop := ∀ c ∈ n.children, c.seg.kind = .rx → isAscii c.seg.suffix = true

/-- On an ASCII path the matcher never answers `unsupported`: every segment is applied to a suffix of the path. -/
theorem matchChildren_supported (env : Env) (ic : Interceptors) (n : Node) :
    Node.All RxAscii n → ∀ path ps, isAscii path = true → n.matchChildren env ic path ps ≠ .unsupported := by
  suffices h : Node.All RxAscii n → ∀ path ps, isAscii path = true →
      (n.matchChildren env ic path ps).Abn (fun _ => True) False by
    intro hall path ps hp e
    have := h hall path ps hp
    rwa [e] at this
  induction n using Node.induction with
  | step n ih =>
    intro hall path ps hp
    refine MR.Abn.node (fun _ _ _ => trivial) fun c hc =>
      ⟨Seg.match_supported env ic c.seg path hp (hall.head c hc), fun cap rest hm ps1 => ?_⟩
    exact ih c hc ((AllL_iff _ _).1 hall.tail c hc) rest ps1
      (isAscii_of_suffix (Seg.match_rest_suffix env ic c.seg path cap rest hm) hp)

end Mux
