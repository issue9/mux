/-
  The decision logic of `Tree.add` (for C17): the stages of the validation in closed form, the error classes of every
  stage, what `checkMethods` guarantees about duplicates, and — on a well-formed tree and pattern — that nothing after
  the validation fails; last, the verdicts at the level of the whole operation that `Mux/Properties/C17.lean` uses.
-/
import Mux.Proofs.TreeHead
import Mux.Proofs.TreeReach
import Mux.Proofs.MatchHyps
import Mux.Proofs.FindAgree
import Mux.Proofs.AmbCheck
namespace Mux.P9
open Mux

theorem add_error_cases {t : Tree} {p : Bytes} {h : Handler} {ms : List Nat} {methods : List Bytes} {e : Err}
    (he : t.add p h ms methods = .error e) :
    t.root.checkAmb t.ic p false = .error e ∨ (t.root.checkAmb t.ic p false = .ok (some true) ∧ e = .ambiguous) ∨
      split t.ic p = .error e ∨ t.checkMethods p (effMethods methods) [] = .error e ∨
      ∃ segs, split t.ic p = .ok segs ∧ t.checkMethods p (effMethods methods) [] = .ok () ∧
        addTail t p h ms (effMethods methods) = .error e := by
  rw [Tree.add_bind] at he
  rcases bind_eq_error he with h1 | ⟨a, h1, he⟩
  · exact .inl h1
  rcases ite_error_eq_error.1 he with ⟨ha, rfl⟩ | ⟨_, he⟩
  · exact .inr (.inl ⟨ha ▸ h1, rfl⟩)
  rcases bind_eq_error he with h2 | ⟨segs, h2, he⟩
  · exact .inr (.inr (.inl h2))
  rcases bind_eq_error he with h3 | ⟨_, h3, he⟩
  · exact .inr (.inr (.inr (.inl h3)))
  · exact .inr (.inr (.inr (.inr ⟨segs, h2, h3, he⟩)))

/-- The errors of the method list. -/
def MethErr (e : Err) : Prop := e = .reserved ∨ e = .unknownMethod ∨ e = .dupMethod

/-- What `getNode` can fail with: an error of `NewSegment`, `unsupported` (duplicate sibling texts,
outside the modelled domain) or a fault. -/
def GnErr (e : Err) : Prop := SynErr e ∨ ∃ k, e = .fault k

theorem buildIndexesLoop_error {cs : List Node} {i : Nat} {acc : List (UInt8 × Nat)} {e : Err}
    (h : buildIndexesLoop cs i acc = .error e) : e = .fault 210 := by
  fun_induction buildIndexesLoop cs i acc with
  | case1 i acc => cases h
  | case2 c cs i acc hk hv => cases h; rfl
  | case3 c cs i acc hk b v hv ih => exact ih h
  | case4 c cs i acc hk ih => exact ih h

theorem sliceE_error {site : Nat} {s : Bytes} {lo hi : Nat} {e : Err} (h : sliceE site s lo hi = .error e) :
    GnErr e := by
  unfold sliceE at h
  split at h
  · cases h
  · cases h; exact .inr ⟨_, rfl⟩

theorem sortNode_error {n : Node} {e : Err} (h : sortNode n = .error e) : GnErr e := by
  rw [sortNode_eq] at h
  rcases ite_error_eq_error.1 h with ⟨_, rfl⟩ | ⟨_, h⟩
  · exact .inl (.inr (.inr (.inr (.inr (.inr (.inr rfl))))))
  rcases bind_eq_error h with he | ⟨_, _, h⟩
  · unfold buildIndexes at he
    split at he
    · cases he
    · exact .inr ⟨_, buildIndexesLoop_error he⟩
  · cases h

theorem splitAt_error {ic : Interceptors} {seg : Seg} {pos : Nat} {e : Err} (h : seg.splitAt ic pos = .error e) :
    GnErr e := by
  unfold Seg.splitAt at h
  rcases bind_eq_error h with h | ⟨_, _, h⟩
  · exact sliceE_error h
  rcases bind_eq_error h with h | ⟨_, _, h⟩
  · exact newSegment_error h
  rcases bind_eq_error h with h | ⟨_, _, h⟩
  · exact sliceE_error h
  rcases bind_eq_error h with h | ⟨_, _, h⟩
  · exact newSegment_error h
  · cases h

theorem gnSplit_error {ic : Interceptors} {n c : Node} {i l : Nat} {e : Err} (h : gnSplit ic n c i l = .error e) :
    GnErr e := by
  unfold gnSplit at h
  split at h
  · cases h
  rcases bind_eq_error h with h | ⟨_, _, h⟩
  · exact splitAt_error h
  rcases bind_eq_error h with h | ⟨_, _, h⟩
  · exact sortNode_error h
  rcases bind_eq_error h with h | ⟨_, _, h⟩
  · exact sortNode_error h
  split at h
  · cases h; exact .inr ⟨_, rfl⟩
  · cases h

theorem gnPrep_error {ic : Interceptors} {n : Node} {v : Bytes} {rest : List Bytes} {e : Err}
    (h : gnPrep ic n v rest = .error e) : GnErr e := by
  unfold gnPrep at h
  rcases bind_eq_error h with h | ⟨_, _, h⟩
  · exact newSegment_error h
  split at h
  · split at h
    · cases h; exact .inr ⟨_, rfl⟩
    · cases h
  · split at h
    · rcases bind_eq_error h with h | ⟨_, _, h⟩
      · exact sortNode_error h
      split at h
      · cases h; exact .inr ⟨_, rfl⟩
      · cases h
    · split at h
      · cases h; exact .inr ⟨_, rfl⟩
      · rcases bind_eq_error h with h | ⟨_, _, h⟩
        · exact gnSplit_error h
        · cases h

theorem getNode_error (ic : Interceptors) (n : Node) (v : Bytes) (rest : List Bytes) :
    ∀ e, getNode ic n v rest = .error e → GnErr e := by
  induction n, v, rest using getNode_induction ic with
  | step n v rest ih =>
    intro e h
    rcases getNode_error_cases h with hp | ⟨s, v', rest', hp, hc, h⟩
    · exact gnPrep_error hp
    · exact ih s v' rest' hp hc _ h

theorem modifyAt_error (f : Node → Except Err Node) : ∀ (path : List Nat) (n : Node) (e : Err),
    n.modifyAt f path = .error e →
      (n.getAt path = none ∧ e = .fault 240) ∨ ∃ m, n.getAt path = some m ∧ f m = .error e
  | [], n, e, h => .inr ⟨n, Node.getAt_nil n, by rwa [Node.modifyAt_nil] at h⟩
  | i :: path, n, e, h => by
    rw [Node.modifyAt_cons] at h
    rw [Node.getAt_cons]
    cases hc : n.children[i]? with
    | none => rw [hc] at h; cases h; exact .inl ⟨rfl, rfl⟩
    | some c =>
      rw [hc] at h
      rcases bind_eq_error h with hm | ⟨_, _, h⟩
      · exact modifyAt_error f path c _ hm
      · cases h

theorem modifyAt_ok {f : Node → Except Err Node} {path : List Nat} {n tg tg' : Node} (hg : n.getAt path = some tg)
    (hf : f tg = .ok tg') : ∃ n', n.modifyAt f path = .ok n' := by
  cases h : n.modifyAt f path with
  | ok n' => exact ⟨n', rfl⟩
  | error e =>
    rcases modifyAt_error f path n e h with ⟨hn, _⟩ | ⟨m, hm, he⟩
    · rw [hg] at hn; cases hn
    · rw [hg] at hm; cases hm; rw [hf] at he; cases he

theorem addMethodsLoop_error (t : Tree) (h : Handler) (p : Bytes) (ms : List Nat) :
    ∀ (methods : List Bytes) (hs : AMap Handler) (e : Err),
      addMethodsLoop t h p ms methods hs = .error e → MethErr e
  | [], _, _, he => by cases he
  | m :: rest, hs, e, he => by
    rw [addMethodsLoop_cons] at he
    simp only [ite_error_eq_error] at he
    rcases he with ⟨_, rfl⟩ | ⟨_, ⟨_, rfl⟩ | ⟨_, ⟨_, rfl⟩ | ⟨_, he⟩⟩⟩
    · exact .inl rfl
    · exact .inr (.inl rfl)
    · exact .inr (.inr rfl)
    · exact addMethodsLoop_error t h p ms rest _ e he

theorem addMethodsNode_error {t : Tree} {h : Handler} {p : Bytes} {ms : List Nat} {methods : List Bytes}
    {n : Node} {e : Err} (he : t.addMethodsNode h p ms methods n = .error e) : MethErr e := by
  rcases bind_eq_error he with hl | ⟨_, _, he⟩
  · exact addMethodsLoop_error t h p ms methods _ _ hl
  · cases he

/-- Where the last two stages fail: in `getNode` on the pieces of the pattern, or in the handler stage with an error of the
method list (`modifyAt` itself cannot fail: the path `getNode` returns is valid, whatever the tree). -/
theorem addTail_error {t : Tree} {p : Bytes} {h : Handler} {ms : List Nat} {methods : List Bytes} {e : Err}
    (he : addTail t p h ms methods = .error e) :
    (∃ v rest, splitString p = v :: rest ∧ getNode t.ic t.root v rest = .error e) ∨ MethErr e := by
  obtain ⟨v, rest, hv⟩ := List.exists_cons_of_ne_nil (splitString_ne_nil p)
  rw [addTail_cons hv] at he
  rcases bind_eq_error he with hg | ⟨r, hg, he⟩
  · exact .inl ⟨v, rest, hv, hg⟩
  rcases bind_eq_error he with hm | ⟨_, _, he⟩
  · rcases modifyAt_error _ r.2 r.1 _ hm with ⟨hn, _⟩ | ⟨m, _, hm'⟩
    · have := (getNode_top t.ic _ _ _ _ hg).2.2
      rw [hn] at this
      cases this
    · exact .inr (addMethodsNode_error hm')
  · cases he

theorem checkMethods_dup (t : Tree) (p : Bytes) (methods seen : List Bytes) (h : ¬ methods.Nodup) :
    t.checkMethods p methods seen ≠ .ok () := fun hok => h (checkMethods_full t p methods seen hok).1

theorem checkMethods_live (t : Tree) (p : Bytes) (methods seen : List Bytes) {m : Bytes} (hm : m ∈ methods)
    (h : t.hasMethodAt p m = true) : t.checkMethods p methods seen ≠ .ok () := by
  intro hok
  have := ((checkMethods_full t p methods seen hok).2 m hm).2
  rw [h] at this
  cases this

theorem addMethodsLoop_ok (t : Tree) (h : Handler) (p : Bytes) (ms : List Nat) :
    ∀ (methods : List Bytes) (hs : AMap Handler), (∀ m ∈ methods, ¬ BadMethod t.hasTrace m) → methods.Nodup →
      (∀ m ∈ methods, hs.contains m = false) → ∃ hs', addMethodsLoop t h p ms methods hs = .ok hs'
  | [], hs, _, _, _ => ⟨hs, rfl⟩
  | m :: rest, hs, hbad, hnd, hfree => by
    obtain ⟨hres, hkn⟩ := not_badMethod_iff.1 (hbad m (by simp))
    rw [List.nodup_cons] at hnd
    obtain ⟨hs', h'⟩ := addMethodsLoop_ok t h p ms rest (addMethodStep t h p ms hs m)
      (fun x hx => hbad x (by simp [hx])) hnd.2 (by
        -- the step sets `m` and perhaps HEAD; the methods still to come are neither
        intro x hx
        have hxh : x ≠ mHEAD := fun e => hbad x (by simp [hx]) (.inr (.inl e))
        have hxf : x ∉ hs.keys := (AMap.contains_false_iff hs x).1 (hfree x (by simp [hx]))
        rw [AMap.contains_false_iff, mem_keys_addMethodStep]
        rintro (h1 | rfl | ⟨h1, _⟩)
        · exact hxf h1
        · exact hnd.1 hx
        · exact hxh h1)
    exact ⟨hs', addMethodsLoop_cons_ok.2 ⟨hres, hkn, hfree m (by simp), h'⟩⟩

theorem addMethodsNode_ok (t : Tree) (h : Handler) (p : Bytes) (ms : List Nat) (methods : List Bytes) (n : Node)
    (hbad : ∀ m ∈ methods, ¬ BadMethod t.hasTrace m) (hnd : methods.Nodup)
    (hfree : ∀ m ∈ methods, n.handlers.contains m = false) :
    ∃ n', t.addMethodsNode h p ms methods n = .ok n' := by
  obtain ⟨hs', hl⟩ := addMethodsLoop_ok t h p ms methods n.handlers hbad hnd hfree
  exact ⟨_, addMethodsNode_ok_iff.2 ⟨hs', hl, rfl⟩⟩

/-- The structural invariant of a tree: `WfL` below the root, with no parameter name in use at the
root. -/
def WellFormedTree (t : Tree) : Prop := WfL t.ic [] t.root.children

theorem wellFormed_new (name : Bytes) (ic : Interceptors) (nf : Handler) (tr : Option Handler) (ob nb : Base) :
    WellFormedTree (Tree.new name ic nf tr ob nb) := by
  simp [WellFormedTree, Tree.new, WfL]

/-- An edit keeps `WfL` below the node it is applied to: it keeps every segment, leaves a node without children
without children, replaces children in place or drops them. -/
theorem _root_.Mux.Node.Edit.wfL {ic : Interceptors} {H : Node → Node → Prop} {n n' : Node} (h : Node.Edit H n n')
    (used : List Bytes) (hw : WfL ic used n.children) : WfL ic used n'.children := by
  induction h generalizing used with
  | refl => exact hw
  | own _ hs => rw [hs.2.2.2]; exact hw
  | @child n c c' i hc he ih =>
    obtain ⟨h1, h2, h3, h4⟩ := (Node.wf_iff ic used c).1 (WfL_of_getElem? hw hc)
    refine WfL_set hw hc he.top.1 ((Node.wf_iff ic used c').2 ?_)
    rw [he.top.1]
    exact ⟨h1, h2, fun hl => he.top.2.2 (h3 hl), ih _ h4⟩
  | prune hs _ => exact WfL_sublist hs hw
  | trans _ _ ih1 ih2 => exact ih2 _ (ih1 _ hw)

theorem piecesOk_of_split {ic : Interceptors} {p : Bytes} {segs : List Seg} (hp : WfPattern p)
    (hs : split ic p = .ok segs) {v : Bytes} {rest : List Bytes} (hv : splitString p = v :: rest) :
    PiecesOk ic [] v rest := by
  exact ⟨⟨false, segs, hv ▸ (split_ok_iff.1 hs).2⟩, fun x hx => hp x (hv ▸ hx), splitString_tail_heads hv⟩

theorem addTail_ok {t : Tree} {p : Bytes} {segs : List Seg} (h : Handler) (ms : List Nat) {methods : List Bytes}
    (hwf : WellFormedTree t) (hp : WfPattern p) (hs : split t.ic p = .ok segs)
    (hm : t.checkMethods p methods [] = .ok ()) :
    ∃ t', addTail t p h ms methods = .ok t' ∧ WellFormedTree t' := by
  obtain ⟨v, rest, hv⟩ := List.exists_cons_of_ne_nil (splitString_ne_nil p)
  have hpo := piecesOk_of_split hp hs hv
  obtain ⟨r, hr, hwf1⟩ := getNode_wf t.ic t.root v rest [] hwf hpo
  obtain ⟨tg, htg, hag⟩ := getNode_agree hwf hr
  rw [splitString_cons_join hv] at hag
  obtain ⟨hnd, hfull⟩ := checkMethods_full t p methods [] hm
  have hbad := checkMethods_ok t p methods [] hm
  have hfree : ∀ m ∈ methods, tg.handlers.contains m = false := by
    intro m hmm
    rcases hag with h0 | ⟨path, m0, h1, h2, h3⟩
    · rw [h0]; rfl
    · have := (hfull m hmm).2
      simp only [Tree.hasMethodAt, h1, h2] at this
      rw [← h3]; exact this
  obtain ⟨tg', htg'⟩ := addMethodsNode_ok t h p ms methods tg hbad hnd hfree
  obtain ⟨root2, hmod⟩ := modifyAt_ok htg htg'
  refine ⟨({ t with root := root2 }).bumpMethods methods, ?_, ?_⟩
  · rw [addTail_cons hv]
    exact bind_ok_iff.2 ⟨r, hr, bind_ok_iff.2 ⟨root2, hmod, rfl⟩⟩
  · -- the handler stage is an edit of the restructured root
    simp only [WellFormedTree, Tree.bumpMethods, Node.setHandlers, Node.children_mk]
    exact (modifyAt_edit (H := fun _ _ => True) (fun _ _ hm' => ⟨trivial, addMethodsNode_shape hm'⟩) hmod).wfL []
      hwf1

/-- For C17 and C05.  On a well-formed tree, for a well-formed pattern: once the
ambiguity check, `Split` and the method validation have passed, `Tree.add` succeeds (no late error,
no fault), and the new tree is well-formed. -/
theorem add_validated_ok {t : Tree} {p : Bytes} {segs : List Seg} (h : Handler) (ms : List Nat) {methods : List Bytes}
    {a : Option Bool} (hwf : WellFormedTree t) (hp : WfPattern p)
    (hamb : t.root.checkAmb t.ic p false = .ok a) (ha : a ≠ some true)
    (hs : split t.ic p = .ok segs) (hm : t.checkMethods p (effMethods methods) [] = .ok ()) :
    ∃ t', t.add p h ms methods = .ok t' ∧ WellFormedTree t' := by
  obtain ⟨t', ht', hw'⟩ := addTail_ok h ms hwf hp hs hm
  exact ⟨t', by rw [Tree.add_of_valid h ms methods hamb ha hs, hm]; exact ht', hw'⟩

theorem add_error_stage {t : Tree} {p : Bytes} {h : Handler} {ms : List Nat} {methods : List Bytes} {e : Err}
    (he : t.add p h ms methods = .error e) :
    (e = .ambiguous ∧ t.root.checkAmb t.ic p false = .ok (some true)) ∨ SynErr e ∨ MethErr e ∨
      ∃ k, e = .fault k := by
  rcases add_error_cases he with h1 | ⟨h1, rfl⟩ | h1 | h1 | ⟨_, _, _, h1⟩
  · exact .inr (.inl (checkAmb_error _ _ _ _ _ h1))
  · exact .inl ⟨rfl, h1⟩
  · exact .inr (.inl (split_error h1))
  · exact .inr (.inr (.inl (checkMethods_error t p _ _ _ h1)))
  · rcases addTail_error h1 with ⟨v, rest, _, hg⟩ | h2
    · exact (getNode_error _ _ _ _ _ hg).elim (fun h2 => .inr (.inl h2)) fun h2 => .inr (.inr (.inr h2))
    · exact .inr (.inr (.inl h2))

theorem add_dup_list (t : Tree) (p : Bytes) (h : Handler) (ms : List Nat) (methods : List Bytes)
    (hdup : ¬ methods.Nodup) :
    (∃ e, t.add p h ms methods = .error e) ∧ t.step (.add p h ms methods) = t :=
  Tree.add_rejected h ms (by rw [effMethods_of_not_nodup hdup]; exact checkMethods_dup t p methods [] hdup)

/-- The companion of `Tree.add_rejected` for the error class: once the pattern itself is accepted and no method of the
call is reserved or unknown, a failing method check fails with `dupMethod`. -/
theorem add_dup_class {t : Tree} {p : Bytes} (h : Handler) (ms : List Nat) {methods : List Bytes}
    (hgood : ∀ m ∈ effMethods methods, ¬ BadMethod t.hasTrace m)
    {a : Option Bool} (hamb : t.root.checkAmb t.ic p false = .ok a) (ha : a ≠ some true)
    {segs : List Seg} (hsp : split t.ic p = .ok segs)
    (hc : t.checkMethods p (effMethods methods) [] ≠ .ok ()) : t.add p h ms methods = .error .dupMethod := by
  cases hm : t.checkMethods p (effMethods methods) [] with
  | ok u => exact absurd hm hc
  | error e =>
    cases checkMethods_error_dup t p _ [] e hgood hm
    rw [Tree.add_of_valid h ms methods hamb ha hsp, hm]

theorem add_dup_list_class (t : Tree) (p : Bytes) (h : Handler) (ms : List Nat) (methods : List Bytes)
    (hdup : ¬ methods.Nodup) (hgood : ∀ m ∈ methods, ¬ BadMethod t.hasTrace m)
    {a : Option Bool} (hamb : t.root.checkAmb t.ic p false = .ok a) (ha : a ≠ some true)
    {segs : List Seg} (hsp : split t.ic p = .ok segs) :
    t.add p h ms methods = .error .dupMethod := by
  have heff := effMethods_of_not_nodup hdup
  exact add_dup_class h ms (heff.symm ▸ hgood) hamb ha hsp (heff.symm ▸ checkMethods_dup t p methods [] hdup)

/-- The pattern is live with method `m` (the node `findPath` finds for it has `m`) and `m` is among the methods the
call registers (listed, or in the default set when the list is empty): never accepted, the tree is unchanged. -/
theorem add_dup_live (t : Tree) (p : Bytes) (h : Handler) (ms : List Nat) (methods : List Bytes)
    (path : List Nat) (n : Node) (m : Bytes)
    (hpath : t.root.findPath p = some path) (hn : t.root.getAt path = some n)
    (hm : m ∈ effMethods methods) (hlive : n.handlers.contains m = true) :
    (∃ e, t.add p h ms methods = .error e) ∧ t.step (.add p h ms methods) = t :=
  Tree.add_rejected h ms
    (checkMethods_live t p (effMethods methods) [] hm (by simp [Tree.hasMethodAt, hpath, hn, hlive]))

theorem add_dup_live_class (t : Tree) (p : Bytes) (h : Handler) (ms : List Nat) (methods : List Bytes)
    (path : List Nat) (n : Node) (m : Bytes)
    (hpath : t.root.findPath p = some path) (hn : t.root.getAt path = some n)
    (hm : m ∈ effMethods methods) (hlive : n.handlers.contains m = true)
    (hgood : ∀ m ∈ effMethods methods, ¬ BadMethod t.hasTrace m)
    {a : Option Bool} (hamb : t.root.checkAmb t.ic p false = .ok a) (ha : a ≠ some true)
    {segs : List Seg} (hsp : split t.ic p = .ok segs) :
    t.add p h ms methods = .error .dupMethod :=
  add_dup_class h ms hgood hamb ha hsp
    (checkMethods_live t p (effMethods methods) [] hm (by simp [Tree.hasMethodAt, hpath, hn, hlive]))

/-- **No false `ambiguous`.** If `Tree.add` answers `ambiguous`, the check found a node: there is a walk (`AmbPath`)
along existing nodes from the root to a node WITH HANDLERS that consumes the new pattern, and at least one of its steps
is a parameter step (`isAmbiguous`, or the `isAmbiguousPrefix` of the D33 repair). -/
theorem add_ambiguous_sound (t : Tree) (p : Bytes) (h : Handler) (ms : List Nat) (methods : List Bytes)
    (he : t.add p h ms methods = .error .ambiguous) :
    t.root.checkAmb t.ic p false = .ok (some true) ∧
      ∃ (m : Node) (steps : List (Seg × Bool)),
        AmbPath t.ic t.root p m steps ∧ Chain t.root (steps.map (·.1)) m ∧ m.handlers ≠ [] ∧
        steps.any (·.2) = true := by
  have hamb : t.root.checkAmb t.ic p false = .ok (some true) := by
    rcases add_error_stage he with ⟨_, h1⟩ | h1 | h1 | ⟨_, h1⟩
    · exact h1
    · simp [SynErr] at h1
    · simp [MethErr] at h1
    · cases h1
  refine ⟨hamb, ?_⟩
  obtain ⟨m, steps, hp, hb⟩ := checkAmb_sound t.ic t.root p false true hamb
  exact ⟨m, steps, hp, hp.chain.1, hp.chain.2, by simpa using hb.symm⟩

end Mux.P9
