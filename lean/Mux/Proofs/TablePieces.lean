/-
  Mux.Proofs.TablePieces — the "key" of a segment text (`vkey`): the part of the text that decides whether
  `addSegment` treats two sibling texts as similar; the kind of a segment is a function of the key of its text;
  the pieces of a well-formed accepted pattern are well-formed texts, and only the last piece may end with `}`.
-/
import Mux.Proofs.CutPoint
import Mux.Spec.Table
namespace Mux.P11
open Mux

/-- The rest of a key: up to and including the first `}`, plus one more byte. -/
def keyTail : Bytes → Bytes
  | [] => []
  | c :: r => if c = endByte then c :: r.take 1 else c :: keyTail r

/-- The key of a segment text: the first byte of a literal; `{inner}` plus the first byte of the
suffix for a parameter. -/
def vkey : Bytes → Bytes
  | [] => []
  | c :: r => if c = startByte then c :: keyTail r else [c]

theorem keyTail_append (ia sa : Bytes) (h : endByte ∉ ia) :
    keyTail (ia ++ endByte :: sa) = ia ++ endByte :: sa.take 1 := by
  induction ia with
  | nil => simp [keyTail]
  | cons c ia ih =>
    simp only [List.mem_cons, not_or] at h
    have : c ≠ endByte := fun e => h.1 e.symm
    simp [keyTail, this, ih h.2]

theorem vkey_plain {c : UInt8} {r : Bytes} (h : Plain (c :: r)) : vkey (c :: r) = [c] := by
  simp [vkey, h.cons.1]

theorem vkey_param (ia sa : Bytes) (h : Plain ia) :
    vkey (startByte :: (ia ++ endByte :: sa)) = startByte :: (ia ++ endByte :: sa.take 1) := by
  simp [vkey, keyTail_append ia sa h.2]

theorem vkey_take_of_cutAt {v : Bytes} {L : Nat} (h : P9.CutAt v L) : vkey (v.take L) = vkey v := by
  obtain ⟨_, ⟨hn, h0⟩ | ⟨body, suf, k, rfl, hb, _, rfl⟩⟩ := h
  · cases v with
    | nil => rw [List.take_nil]
    | cons c r =>
      obtain ⟨L, rfl⟩ : ∃ L', L = L' + 1 := ⟨L - 1, by omega⟩
      rw [vkey_plain hn]
      exact vkey_plain (hn.take (L + 1))
  · rw [P9.tok_take]
    unfold P9.tok
    rw [vkey_param _ _ hb, vkey_param _ _ hb, List.take_take, Nat.min_eq_left (Nat.le_add_left 1 k)]

theorem lastByte_closed {v : Bytes} (h : v ≠ []) : lastByte v = endByte ↔ Closed v := by
  unfold lastByte Closed
  rw [List.getLast?_eq_getElem?]
  cases hv : v[v.length - 1]? with
  | none =>
    rw [List.getElem?_eq_none_iff] at hv
    have : 0 < v.length := List.length_pos_iff.2 h
    omega
  | some x => simp

/-- What a positive `longestPrefix` of two well-formed texts gives. -/
structure LpPos (a b : Bytes) (l : Nat) : Prop where
  lpos : 0 < l
  la : l ≤ a.length
  lb : l ≤ b.length
  takeEq : a.take l = b.take l
  keyEq : vkey a = vkey b
  wfTake : WfVal (a.take l)
  keyTake : vkey (a.take l) = vkey a
  notClosed : ¬ Closed (a.take l)
  dropA : Plain (a.drop l)
  dropB : Plain (b.drop l)

theorem lpPos_of_wf {a b : Bytes} {l : Nat} (ha : WfVal a) (hb : WfVal b)
    (h : longestPrefix a b = (l : Int)) (hl : 0 < l) : LpPos a b l := by
  obtain ⟨hla, hlb, hpre⟩ := longestPrefix_nat h
  have ca := P9.cutAt_of_wf ha.piece hb.piece h hl
  have cb := P9.cutAt_of_wf hb.piece ha.piece (by rw [longestPrefix_comm]; exact h) hl
  have hw : WfVal (a.take l) := ca.take_wf.elim (fun hn => .inl ⟨ca.last.2, hn⟩) .inr
  refine ⟨hl, hla, hlb, hpre, ?_, hw, vkey_take_of_cutAt ca, ?_, ca.drop_noBrace, cb.drop_noBrace⟩
  · rw [← vkey_take_of_cutAt ca, ← vkey_take_of_cutAt cb]
    exact congrArg vkey hpre
  · exact fun hc => ca.last.1 ((lastByte_closed hw.ne_nil).2 hc)

/-- The two forms of a well-formed text, each with its key. -/
theorem WfVal.vkey_cases {a : Bytes} (ha : WfVal a) :
    (∃ c r, a = c :: r ∧ Plain a ∧ vkey a = [c]) ∨
      ∃ ia sa, a = startByte :: (ia ++ endByte :: sa) ∧ Plain ia ∧ Plain sa ∧
        vkey a = startByte :: (ia ++ endByte :: sa.take 1) := by
  rcases ha with ⟨hne, hp⟩ | ⟨ia, sa, rfl, hia, hsa⟩
  · obtain ⟨c, r, rfl⟩ := List.exists_cons_of_ne_nil hne
    exact .inl ⟨c, r, rfl, hp, vkey_plain hp⟩
  · exact .inr ⟨ia, sa, rfl, hia, hsa, vkey_param ia sa hia⟩

theorem vkey_eq_cases {a b : Bytes} (ha : WfVal a) (hb : WfVal b) (hk : vkey a = vkey b) :
    (Plain a ∧ Plain b ∧ ∃ c ra rb, a = c :: ra ∧ b = c :: rb) ∨
      ∃ ia sa sb, a = startByte :: (ia ++ endByte :: sa) ∧ b = startByte :: (ia ++ endByte :: sb) ∧
        Plain ia ∧ Plain sa ∧ Plain sb ∧ sa.take 1 = sb.take 1 := by
  rcases ha.vkey_cases with ⟨c, ra, rfl, hap, ka⟩ | ⟨ia, sa, rfl, hia, hsa, ka⟩ <;>
    rcases hb.vkey_cases with ⟨d, rb, rfl, hbp, kb⟩ | ⟨ib, sb, rfl, hib, hsb, kb⟩
  · rw [ka, kb] at hk
    cases hk
    exact .inl ⟨hap, hbp, c, ra, rb, rfl, rfl⟩
  · rw [ka, kb] at hk
    exact absurd (List.cons.inj hk).1 hap.cons.1
  · rw [ka, kb] at hk
    exact absurd (List.cons.inj hk).1.symm hbp.cons.1
  · rw [ka, kb] at hk
    obtain ⟨rfl, e⟩ := append_end_inj hia.2 hib.2 (List.cons.inj hk).2
    exact .inr ⟨ia, sa, sb, rfl, rfl, hia, hsa, hsb, e⟩

/-- Different texts that `addSegment` does not consider similar have different keys. -/
theorem vkey_ne_of_lp_le {a b : Bytes} (ha : WfVal a) (hb : WfVal b) (hne : a ≠ b)
    (h : longestPrefix a b ≤ 0) : vkey a ≠ vkey b := by
  intro hk
  rcases vkey_eq_cases ha hb hk with ⟨hap, _, c, ra, rb, rfl, rfl⟩ | ⟨ia, sa, sb, rfl, rfl, hia, hsa, hsb, e⟩
  · rw [lp_plain _ _ hap, lcp_cons, if_pos rfl] at h
    omega
  · rw [lp_tok ia ia sa sb hia hia.2 hsa] at h
    split at h
    · omega
    · rename_i hc
      -- the suffixes have no common first byte, yet begin alike: both are empty
      apply hne
      cases sa with
      | nil =>
        cases sb with
        | nil => rfl
        | cons d sb => cases e
      | cons c sa =>
        cases sb with
        | nil => cases e
        | cons d sb =>
          cases (List.cons.inj e).1
          exact absurd ⟨rfl, by rw [lcp_cons, if_pos rfl]; omega⟩ hc

theorem closed_of_prefix {a b : Bytes} (ha : WfVal a) (hb : WfVal b) (hk : vkey a ≠ vkey b)
    (hp : a <+: b) : Closed a := by
  obtain ⟨x, rfl⟩ := hp
  -- otherwise the two have the same key
  refine (lastByte_closed ha.ne_nil).1 ((P9.WfPiece.prefix_cases ha.piece hb.piece ha.ne_nil).resolve_right fun h => hk ?_)
  rcases h with ⟨c, a', hbn, rfl⟩ | ⟨body, c, sa, hbody, _, rfl⟩
  · have hc : c ≠ startByte := (P9.NoBrace.cons hbn).1
    simp [vkey, hc]
  · rw [← P9.tok_append_suffix]
    unfold P9.tok
    rw [vkey_param _ _ hbody, vkey_param _ _ hbody]
    rfl

theorem ne_of_vkey_ne {a b : Bytes} (h : vkey a ≠ vkey b) : a ≠ b := fun e => h (e ▸ rfl)

theorem kind_of_vkey (ic : Interceptors) {a b : Bytes} {sa sb : Seg} (ha : WfVal a) (hb : WfVal b)
    (h1 : newSegment ic a = .ok sa) (h2 : newSegment ic b = .ok sb) (hk : vkey a = vkey b) :
    sa.kind = sb.kind := by
  rcases vkey_eq_cases ha hb hk with ⟨hap, hbp, _⟩ | ⟨ia, ta, tb, rfl, rfl, hia, _⟩
  · rw [P9.newSegment_str_of_noStart h1 hap.1, P9.newSegment_str_of_noStart h2 hbp.1]
  · exact (P9.newSegment_tok_fields hia.2 h1).2.2.2.2.2.trans (P9.newSegment_tok_fields hia.2 h2).2.2.2.2.2.symm

/-- Accumulator of `splitAux` outside a token. -/
def OkOut (cur : Bytes) : Prop := cur = [] ∨ WfVal cur
/-- Accumulator of `splitAux` inside a token. -/
def OkIn (cur : Bytes) : Prop := ∃ ia, cur = startByte :: ia ∧ Plain ia

theorem OkOut.snoc {cur : Bytes} {b : UInt8} (h : OkOut cur) (h1 : b ≠ startByte) (h2 : b ≠ endByte) :
    OkOut (cur ++ [b]) := by
  have hb : Plain [b] := P9.NoBrace.of_cons h1 h2 P9.NoBrace.nil
  right
  rcases h with rfl | ⟨_, hp⟩ | ⟨ia, sa, rfl, hia, hsa⟩
  · exact .inl ⟨by simp, hb⟩
  · exact .inl ⟨by simp, hp.append hb⟩
  · exact .inr ⟨ia, sa ++ [b], by simp, hia, hsa.append hb⟩

/-- The scan of `splitString` and the check `wfBraces` run through the same states: outside a token the piece in progress
is empty or well-formed, inside it is `{` and brace-free text. -/
theorem splitString_wf {p : Bytes} (hw : wfBraces false p = true) : ∀ v ∈ splitString p, v = [] ∨ WfVal v := by
  refine splitAux_pieces
    (I := fun st cur rest => (if st = true then OkIn cur else OkOut cur) ∧ wfBraces st rest = true)
    ?_ ?_ ?_ ?_ ?_ false [] p ⟨Or.inl rfl, hw⟩
  · intro st cur h
    cases st
    · exact h.1
    · cases h.2
  · intro cur rest h
    exact ⟨fun _ => h.1, ⟨[], rfl, P9.NoBrace.nil⟩, by simpa [wfBraces] using h.2⟩
  · intro cur b rest hb h
    have hw := h.2
    rw [wfBraces, if_neg hb] at hw
    have he : b ≠ endByte := fun e => by rw [if_pos e] at hw; cases hw
    exact ⟨OkOut.snoc h.1 hb he, by rwa [if_neg he] at hw⟩
  · intro cur rest h
    obtain ⟨ia, rfl, hia⟩ := (h.1 : OkIn cur)
    exact ⟨.inr (.inr ⟨ia, [], by simp, hia, P9.NoBrace.nil⟩), by simpa [wfBraces] using h.2⟩
  · intro cur b rest he h
    obtain ⟨ia, rfl, hia⟩ := (h.1 : OkIn cur)
    have hw := h.2
    rw [wfBraces, if_neg he] at hw
    have hb : b ≠ startByte := fun e => by rw [if_pos e] at hw; cases hw
    exact ⟨⟨ia ++ [b], by simp, hia.append (P9.NoBrace.of_cons hb he P9.NoBrace.nil)⟩, by rwa [if_neg hb] at hw⟩

theorem wfBraces_plain {v : Bytes} (hv : Plain v) (st : Bool) (rest : Bytes) :
    wfBraces st (v ++ rest) = wfBraces st rest := by
  induction v with
  | nil => rfl
  | cons b v ih =>
    obtain ⟨hs, he, hv⟩ := hv.cons
    cases st <;> simp only [List.cons_append, wfBraces, hs, he, if_false, ih hv]

theorem wfBraces_piece {v : Bytes} (h : P9.WfPiece v) (rest : Bytes) :
    wfBraces false (v ++ rest) = wfBraces false rest := by
  rcases h with hn | ⟨body, suf, rfl, hb, hs⟩
  · exact wfBraces_plain hn false rest
  · simp only [P9.tok, List.cons_append, List.append_assoc, wfBraces, if_true]
    rw [wfBraces_plain hb]
    simp only [wfBraces, if_true]
    exact wfBraces_plain hs false rest

theorem wfBraces_flatten : ∀ (l : List Bytes), (∀ v ∈ l, P9.WfPiece v) → wfBraces false l.flatten = true
  | [], _ => rfl
  | v :: l, h => by
    rw [List.flatten_cons, wfBraces_piece (h v List.mem_cons_self)]
    exact wfBraces_flatten l (fun w hw => h w (List.mem_cons_of_mem _ hw))

theorem wfPattern_iff_P9 (p : Bytes) : WfPattern p = true ↔ P9.WfPattern p := by
  constructor
  · intro h v hv
    rcases splitString_wf h v hv with rfl | hw
    · exact .inl P9.NoBrace.nil
    · exact hw.piece
  · intro h
    unfold WfPattern
    rw [← splitString_join p]
    exact wfBraces_flatten _ h

/-- What `getNode` is called with: well-formed texts, and only the last one may end with `}`. -/
def PiecesOk : Bytes → List Bytes → Prop
  | v, [] => WfVal v
  | v, v' :: rest => WfVal v ∧ ¬ Closed v ∧ PiecesOk v' rest

theorem PiecesOk.wf {v : Bytes} {rest : List Bytes} (h : PiecesOk v rest) : WfVal v := by
  cases rest with
  | nil => exact h
  | cons _ _ => exact h.1

theorem PiecesOk.replace {v w : Bytes} {rest : List Bytes} (h : PiecesOk v rest) (hw : WfVal w)
    (hc : ¬ Closed w) : PiecesOk w rest := by
  cases rest with
  | nil => exact hw
  | cons _ _ => exact ⟨hw, hc, h.2.2⟩

theorem splitLoop_pieces (ic : Interceptors) :
    ∀ (ps : List Bytes) (flag : Bool) (names : List Bytes) (segs : List Seg),
      splitLoop ic ps flag names = .ok segs → (∀ p ∈ ps, WfVal p) →
      (∀ p ∈ ps.tail, p.head? = some startByte) →
      match ps with
      | [] => True
      | v :: rest => PiecesOk v rest := by
  intro ps
  induction ps with
  | nil => intros; trivial
  | cons v rest ih =>
    intro flag names segs h hwf hhead
    have hv : WfVal v := hwf v (by simp)
    obtain ⟨hvne, _, s, segs', _, _, hr, _⟩ := splitLoop_cons_inv h
    cases rest with
    | nil => exact hv
    | cons v' rest' =>
      have hrec := ih _ _ _ hr (fun p hp => hwf p (by simp [hp])) (fun p hp => hhead p (by simp at hp ⊢; exact .inr hp))
      -- a piece ending with `}` followed by a piece starting with `{` is refused as adjacent
      refine ⟨hv, fun hc => (splitLoop_cons_inv hr).2.1 ⟨?_, hhead v' (by simp)⟩, hrec⟩
      rw [(lastByte_closed hvne).2 hc]
      rfl

theorem split_pieces (ic : Interceptors) {p v : Bytes} {rest : List Bytes} {segs : List Seg}
    (hw : WfPattern p = true) (hs : split ic p = .ok segs) (hsp : splitString p = v :: rest) :
    PiecesOk v rest := by
  obtain ⟨hpne, hs⟩ := split_ok_iff.1 hs
  have hwf : ∀ q ∈ splitString p, WfVal q := fun q hq =>
    wfVal_iff.2 ⟨splitString_pieces_nonempty p hpne q hq, (wfPattern_iff_P9 p).1 hw q hq⟩
  have := splitLoop_pieces ic (splitString p) false [] segs hs hwf
    (by rw [hsp]; exact P9.splitString_tail_heads hsp)
  rw [hsp] at this
  exact this

end Mux.P11
