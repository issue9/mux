/-
  Facts for C08/C17/C18: removing OPTIONS/HEAD/"" by hand is a no-op; a `Handle` whose
  method check fails is rejected and leaves the tree as it was (`Tree.add_rejected`, `add_bad_rejected`), with the
  error of `checkMethods` once the pattern is accepted (`add_bad_class`).
-/
import Mux.Proofs.TreeReach
namespace Mux

theorem foldl_rmStep_noop (methods : List Bytes)
    (hm : ∀ m ∈ methods, m = mOPTIONS ∨ m = mHEAD ∨ m = mNotAllowed) (hs : AMap Handler) :
    methods.foldl rmStep hs = hs := by
  obtain ⟨c1, c2, c3, _⟩ := method_consts_ne
  rw [foldl_rmStep_eq]
  refine List.filter_eq_self.2 fun e _ => ?_
  -- nothing is erased: no listed method is hand-registrable, and GET is not listed
  have : ¬ Erased methods e.1 := by
    rintro (⟨h, h1, h2, h3⟩ | ⟨_, h⟩)
    · rcases hm _ h with h | h | h
      · exact h1 h
      · exact h2 h
      · exact h3 h
    · rcases hm _ h with h | h | h
      · exact c2 h
      · exact c1 h
      · exact c3 h
  simp [this]

/-- `Remove(p, OPTIONS)` (or HEAD, or "") does nothing to a node with other than two handlers (two is the size of a map
left with only the automatic OPTIONS and 405 entries, which `removeMethods` empties). -/
theorem removeMethods_noop {ht : Bool} {n : Node} (hg : Good ht n) (methods : List Bytes)
    (hne : methods ≠ []) (hm : ∀ m ∈ methods, m = mOPTIONS ∨ m = mHEAD ∨ m = mNotAllowed)
    (hlen : n.handlers.length ≠ 2) : removeMethods ht methods n = n := by
  have hh : (removeMethods ht methods n).handlers = n.handlers := by
    rw [removeMethods_handlers, foldl_rmStep_noop methods hm]
    have : methods.isEmpty = false := by cases methods <;> simp at hne ⊢
    simp [this, hlen]
  obtain ⟨h1, h2, h3, h4⟩ := removeMethods_shape ht methods n
  have h5 : (removeMethods ht methods n).methodIndex = nodeMethodIndex ht (removeMethods ht methods n).handlers := rfl
  rw [Node.eta (removeMethods ht methods n), h5, hh, ← hg.1.1, h1, h2, h3, h4]
  exact (Node.eta n).symm

/-- A `Handle` whose method check fails is rejected and the step leaves the tree as it was: the shape of every
"never accepted" clause (reserved or unknown method, duplicate in the list, duplicate of a live method). -/
theorem Tree.add_rejected {t : Tree} {p : Bytes} (h : Handler) (ms : List Nat) {methods : List Bytes}
    (hc : t.checkMethods p (effMethods methods) [] ≠ .ok ()) :
    (∃ e, t.add p h ms methods = .error e) ∧ t.step (.add p h ms methods) = t := by
  cases he : t.add p h ms methods with
  | ok t' =>
    obtain ⟨_, _, _, _, _, _, _, h4, _⟩ := Tree.add_ok he
    exact absurd h4 hc
  | error e => exact ⟨⟨e, rfl⟩, by simp only [Tree.step, he]⟩

theorem add_bad_rejected (t : Tree) (p : Bytes) (h : Handler) (ms : List Nat) (methods : List Bytes)
    (hbad : ∃ m ∈ methods, BadMethod t.hasTrace m) :
    (∃ e, t.add p h ms methods = .error e) ∧ t.step (.add p h ms methods) = t := by
  obtain ⟨m, hm, hb⟩ := hbad
  exact Tree.add_rejected h ms fun hc => checkMethods_ok t p _ [] hc m (mem_effMethods hm) hb

/-- With a refused method in the list, once the pattern itself is accepted, the error of `Tree.add` is `reserved`,
`unknownMethod` or `dupMethod` (the first refused entry decides which). -/
theorem add_bad_class (t : Tree) (p : Bytes) (h : Handler) (ms : List Nat) (methods : List Bytes)
    (hbad : ∃ m ∈ methods, BadMethod t.hasTrace m)
    {a : Option Bool} (hamb : t.root.checkAmb t.ic p false = .ok a) (ha : a ≠ some true)
    {segs : List Seg} (hsp : split t.ic p = .ok segs) :
    ∃ e, t.add p h ms methods = .error e ∧ (e = .reserved ∨ e = .unknownMethod ∨ e = .dupMethod) := by
  have hne : methods ≠ [] := by
    obtain ⟨m, hm, _⟩ := hbad
    intro h0; simp [h0] at hm
  obtain ⟨e, he⟩ := checkMethods_bad t p methods [] hbad
  exact ⟨e, by rw [Tree.add_of_valid h ms methods hamb ha hsp, effMethods_of_ne hne, he], checkMethods_error t p methods [] e he⟩

/-- "Another method remains": a key besides OPTIONS and `""`. -/
theorem length_ne_two_of_other {ht : Bool} {hs : AMap Handler} (h : KeyShape ht hs)
    (hother : ∃ k ∈ hs.keys, k ≠ mOPTIONS ∧ k ≠ mNotAllowed) : hs.length ≠ 2 := by
  obtain ⟨k, hk, h1, h2⟩ := hother
  intro hl
  exact (mem_of_length_two (by simpa [AMap.keys] using hl) h.options h.notAllowed
    method_consts_ne.2.2.2.2.2.2.2.1 k hk).elim h1 h2

end Mux
