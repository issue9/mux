/-
  Trees satisfying the structural invariant `SOk`: the named single-purpose invariants (`ValsNonEmpty`, `KindSorted`,
  `IndexExact`, `SegsParsed`, and what the two statements about faults and `unsupported` ask: `IdxOk`, `RxAscii`) read
  off it, and `matchChildren` on such a tree as the scan of the children one by one (`matchChildren_eq_scan_of`,
  `first_hit_wins`; the scan itself is characterised in `Priority.lean`).
-/
import Mux.Proofs.StructCons
namespace Mux.P8
open Mux

def ValsNonEmpty (n : Node) : Prop := ∀ c ∈ n.children, c.seg.value ≠ []
def KindSorted (n : Node) : Prop := RankSorted n.children
def IndexExact (n : Node) : Prop := buildIndexes n.children = .ok n.indexes
def SegsParsed (ic : Interceptors) (n : Node) : Prop := ∀ c ∈ n.children, newSegment ic c.seg.value = .ok c.seg

theorem SOk.valsNonEmpty {ic : Interceptors} {n : Node} (h : SOk ic n) : ValsNonEmpty n := fun c hc => (h.child c hc).2.1
theorem SOk.kindSorted {ic : Interceptors} {n : Node} (h : SOk ic n) : KindSorted n := h.sorted
theorem SOk.indexExact {ic : Interceptors} {n : Node} (h : SOk ic n) : IndexExact n := h.index
theorem SOk.segsParsed {ic : Interceptors} {n : Node} (h : SOk ic n) : SegsParsed ic n := fun c hc => (h.child c hc).2.2
theorem SOk.rxAscii {ic : Interceptors} {n : Node} (h : SOk ic n) : RxAscii n :=
  fun c hc hk => newSegment_rx_ascii (h.child c hc).2.2 hk
theorem SOk.idxOk {ic : Interceptors} {n : Node} (h : SOk ic n) : IdxOk n := buildIndexes_range h.index

theorem StructInv.named {t : Tree} (h : StructInv t) :
    Node.PatternOk t.root ∧ t.root.pattern = [] ∧ Node.All ValsNonEmpty t.root ∧ Node.All KindSorted t.root ∧
      Node.All IndexExact t.root ∧ Node.All (SegsParsed t.ic) t.root ∧ Node.All IdxLit t.root :=
  ⟨patternOk_of_SOk _ h.all, h.rootPat,
    (AllL_mono (fun _ h => SOk.valsNonEmpty h)).1 _ h.all,
    (AllL_mono (fun _ h => SOk.kindSorted h)).1 _ h.all,
    (AllL_mono (fun _ h => SOk.indexExact h)).1 _ h.all,
    (AllL_mono (fun _ h => SOk.segsParsed h)).1 _ h.all,
    All_idxLit_of_SOk _ h.all⟩

theorem IndexExact.spec {n : Node} (h : IndexExact n) :
    (n.children.length < indexesSize ∧ n.indexes = []) ∨
    (indexesSize ≤ n.children.length ∧
      (∀ e ∈ n.indexes, ∃ c, n.children[e.2]? = some c ∧ c.seg.kind = .str ∧ c.seg.value.head? = some e.1) ∧
      (∀ c ∈ n.children, c.seg.kind = .str → ∃ b, c.seg.value.head? = some b ∧ b ∈ n.indexes.map (·.1))) := by
  have hent := buildIndexes_entries h
  unfold IndexExact buildIndexes at h
  split at h
  · rename_i hlt
    simp only [Except.ok.injEq] at h
    exact .inl ⟨hlt, h.symm⟩
  · rename_i hge
    exact .inr ⟨by omega, hent, (buildIndexesLoop_spec h).2.2⟩

theorem matchChildren_eq_scan_of {ic0 : Interceptors} (env : Env) (ic : Interceptors) {n : Node}
    (h : Node.All (SOk ic0) n) (hd : n.indexes ≠ [] → DistinctFirstBytes n)
    {TN : Node → Params → Prop} {TL : List Node → Params → Prop} (T : Tracking TN TL)
    {path : Bytes} {ps : Params} (ht : TL n.children ps) :
    n.matchChildren env ic path ps = selfStep n path (matchFrom env ic n.children 0 path ps) :=
  matchChildren_eq_scan_idx env ic (fun hi => indexOk_of_SOk h.head (hd hi) hi) T ht

/-- **The first child that hits wins**, at a node whose subtree satisfies `SOk` and that has no index
or whose literal children start with distinct bytes; when every child misses, the node itself is the
result iff the path is used up and it has handlers. -/
theorem first_hit_wins {ic0 : Interceptors} (env : Env) (ic : Interceptors) {n : Node} (h : Node.All (SOk ic0) n)
    (hd : n.indexes ≠ [] → DistinctFirstBytes n) {path : Bytes} {ps : Params} {used : List Bytes}
    (hN : NamesOkL used n.children) (hk : ∀ k ∈ ps.keys, k ∈ used) :
    (∀ m ps', n.matchChildren env ic path ps = .hit m ps' ↔
      FirstHit env ic n.children path ps m ps' ∨
      (AllMiss env ic n.children path ps ∧ path = [] ∧ n.handlers ≠ [] ∧ m = n ∧ ps' = ps)) ∧
    (∀ ps', n.matchChildren env ic path ps = .miss ps' ↔
      ps' = ps ∧ AllMiss env ic n.children path ps ∧ ¬ (path = [] ∧ n.handlers ≠ [])) := by
  have ht : TrackL used n.children ps := ⟨hN, AllL_idxLit_of_SOk _ h.tail, hk⟩
  rw [matchChildren_eq_scan_of env ic h hd trackNames ⟨used, ht⟩]
  exact ⟨scan_hit_iff (trackNames.quiet ⟨used, ht⟩), scan_miss_iff (trackNames.quiet ⟨used, ht⟩)⟩

end Mux.P8
