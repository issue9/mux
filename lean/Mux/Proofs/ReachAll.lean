/-
  ONE reachability predicate for the three notions of "history whose registered patterns are well-formed" under which
  the invariants are proved: `P9.ReachWf` (`PatOk`, for `WellFormedTree`), `P8.ReachTidy` (`TidyOp`, for `StructInv2`),
  `C03.WfOps` / `P11.Sim` (`TOp.wf`: the executable brace check `Mux.WfPattern`, for the table refinement).  The three
  hypotheses on a pattern are EQUIVALENT (`P11.wfPattern_iff_P9`, `P9_iff_P8`); the executable one defines `ReachAll`, and
  a tree satisfying it has all invariants at once (`AllInv`).  The tree of a router made by `NewRouter` and a history
  whose registered patterns pass the brace check (`P18.ROp.wf`) satisfies it (`P18.reachAll_run`).
-/
import Mux.Proofs.Names
import Mux.Proofs.StructDistinct
import Mux.Proofs.ScanSpec
import Mux.Proofs.Table
namespace Mux.P14
open Mux

theorem P9_iff_P8 (p : Bytes) : P9.WfPattern p ↔ P8.TidyPattern p := by
  unfold P9.WfPattern P8.TidyPattern
  exact forall_congr' fun v => imp_congr_right fun _ => wfPiece_iff_tidy v

theorem wfPattern_P8 {p : Bytes} (h : WfPattern p = true) : P8.TidyPattern p :=
  (P9_iff_P8 p).1 ((P11.wfPattern_iff_P9 p).1 h)

theorem wfPattern_iff_P8 (p : Bytes) : WfPattern p = true ↔ P8.TidyPattern p :=
  (P11.wfPattern_iff_P9 p).trans (P9_iff_P8 p)

theorem wf_patOk {op : TOp} : op.wf = true ↔ P9.PatOk op := by
  cases op with
  | add p h ms methods => exact P11.wfPattern_iff_P9 p
  | _ => simp [TOp.wf, P9.PatOk]

theorem wf_tidyOp {op : TOp} : op.wf = true ↔ P8.TidyOp op := by
  cases op with
  | add p h ms methods => exact wfPattern_iff_P8 p
  | _ => simp [TOp.wf, P8.TidyOp]

/-- A tree produced from a fresh one by a history (`add`/`remove`/`clean`/`use`) whose REGISTERED
patterns pass the executable brace check `WfPattern` (balanced, non-nested `{…}`; the arguments of
`remove` and `clean` are arbitrary). -/
def ReachAll (t : Tree) : Prop :=
  ∃ name ic nf tr ob nb ops, (∀ op ∈ ops, TOp.wf op = true) ∧ t = (Tree.new name ic nf tr ob nb).run ops

theorem reachAll_iff_reachWf (t : Tree) : ReachAll t ↔ P9.ReachWf t := by
  simp only [ReachAll, P9.ReachWf, wf_patOk]

theorem reachAll_iff_reachTidy (t : Tree) : ReachAll t ↔ P8.ReachTidy t := by
  simp only [ReachAll, P8.ReachTidy, wf_tidyOp]

theorem ReachAll.reachWf {t : Tree} (h : ReachAll t) : P9.ReachWf t := (reachAll_iff_reachWf t).1 h
theorem ReachAll.reach {t : Tree} (h : ReachAll t) : t.Reach := h.reachWf.reach
theorem ReachAll.of_reachWf {t : Tree} (h : P9.ReachWf t) : ReachAll t := (reachAll_iff_reachWf t).2 h

theorem ReachAll.of_history (name : Bytes) (ic : Interceptors) (nf : Handler) (tr : Option Handler) (ob nb : Base)
    (ops : List TOp) (hw : ∀ op ∈ ops, op.wf = true) : ReachAll ((Tree.new name ic nf tr ob nb).run ops) :=
  ⟨name, ic, nf, tr, ob, nb, ops, hw, rfl⟩

theorem ReachAll.new (name : Bytes) (ic : Interceptors) (nf : Handler) (tr : Option Handler) (ob nb : Base) :
    ReachAll (Tree.new name ic nf tr ob nb) := ⟨name, ic, nf, tr, ob, nb, [], by simp, rfl⟩

theorem ReachAll.step {t : Tree} (h : ReachAll t) {op : TOp} (hop : op.wf = true) : ReachAll (t.step op) := by
  obtain ⟨name, ic, nf, tr, ob, nb, ops, hops, rfl⟩ := h
  exact ⟨name, ic, nf, tr, ob, nb, ops ++ [op], List.forall_mem_append.2 ⟨hops, List.forall_mem_singleton.2 hop⟩,
    by simp [Tree.run]⟩

theorem ReachAll.run {t : Tree} (h : ReachAll t) {ops : List TOp} (hops : ∀ op ∈ ops, op.wf = true) :
    ReachAll (t.run ops) :=
  Tree.run_inv (I := ReachAll) (fun _ op hop h => h.step (hops op hop)) h

/-- The invariants of trees of well-formed histories, each proved under its own hypothesis on the patterns
(`P8.TidyOp`, `P9.PatOk`, `TOp.wf`). -/
structure AllInv (t : Tree) : Prop where
  s2 : P8.StructInv2 t
  wf : P9.WellFormedTree t
  ti : P11.TInv t

theorem AllInv.new (name : Bytes) (ic : Interceptors) (nf : Handler) (tr : Option Handler) (ob nb : Base) :
    AllInv (Tree.new name ic nf tr ob nb) :=
  ⟨P8.struct2_new name ic nf tr ob nb, P9.wellFormed_new name ic nf tr ob nb, P11.TInv_new name ic nf tr ob nb⟩

/-- `WellFormedTree` says that sibling texts differ, so the structural part is the table-free `SX3` with `SOk`. -/
theorem AllInv.sok3 {t : Tree} (h : AllInv t) : Node.All (P8.SOk3 t.ic) t.root := by
  have hnd : Node.All (fun m => m.children.Pairwise (fun a b => a.seg.value ≠ b.seg.value)) t.root :=
    (Node.All_iff _ _).2 ⟨P9.WfL_values h.wf, (P17.wfXL_of_wf t.ic _ [] h.wf).2⟩
  exact (AllL_mono (fun n hn => (P8.SOk2_iff_SX3 hn.2).1 hn.1)).1 _ ((All_and _).2 ⟨h.s2.all, hnd⟩)

theorem AllInv.step {t : Tree} (h : AllInv t) {op : TOp} (hop : op.wf = true) : AllInv (t.step op) := by
  obtain ⟨hic, hpat, ha⟩ := P8.struct3_step h.sok3 op (wf_tidyOp.1 hop)
  exact ⟨⟨hic ▸ P8.SOk3.toSOk2 _ ha, hpat.trans h.s2.rootPat⟩, P9.wf_step h.wf (wf_patOk.1 hop), P11.TInv_step h.ti op hop⟩

theorem AllInv.run {t : Tree} (h : AllInv t) {ops : List TOp} (hops : ∀ op ∈ ops, op.wf = true) :
    AllInv (t.run ops) :=
  Tree.run_inv (I := AllInv) (fun _ op hop h => h.step (hops op hop)) h

theorem ReachAll.inv {t : Tree} (h : ReachAll t) : AllInv t := by
  obtain ⟨name, ic, nf, tr, ob, nb, ops, hops, rfl⟩ := h
  exact (AllInv.new name ic nf tr ob nb).run hops

theorem ReachAll.sim {t : Tree} (h : ReachAll t) : ∃ tb, P11.Sim t tb := by
  obtain ⟨name, ic, nf, tr, ob, nb, ops, hops, rfl⟩ := h
  exact ⟨_, P11.sim_history name ic nf tr ob nb ops hops⟩

namespace AllInv
variable {t : Tree} (h : AllInv t)
include h

theorem struct : P8.StructInv t := h.s2.toStructInv
theorem treeInv : TreeInv t := h.ti.inv2.toTreeInv
theorem treeInv2 : TreeInv2 t := h.ti.inv2
theorem names : NamesOkL [] t.root.children := P9.namesOk_of_wf h.wf
theorem namesRoot : Node.NamesOk [] t.root := (Node.namesOk_iff [] t.root).2 h.names
theorem idxLit : Node.All IdxLit t.root := P8.All_idxLit_of_SOk _ h.struct.all
theorem idxOk : Node.All IdxOk t.root := h.treeInv.allIdx
theorem distinct {n : Node} (hn : n ∈ t.root.nodes) : P8.DistinctFirstBytes n :=
  (((All_iff_nodes _).1 _).1 h.s2.all n hn).2.distinct
theorem patternOk : Node.PatternOk t.root := P8.patternOk_of_SOk _ h.struct.all
theorem rootPat : t.root.pattern = [] := h.ti.rootPat

end AllInv

theorem ReachAll.everything {t : Tree} (h : ReachAll t) :
    P8.StructInv t ∧ TreeInv t ∧ P9.WellFormedTree t ∧ NamesOkL [] t.root.children ∧
      (∀ n ∈ t.root.nodes, P8.DistinctFirstBytes n) ∧ Node.All IdxLit t.root ∧ ∃ tb, P11.Sim t tb :=
  ⟨h.inv.struct, h.inv.treeInv, h.inv.wf, h.inv.names, fun _ hn => h.inv.distinct hn, h.inv.idxLit, h.sim⟩

end Mux.P14

namespace Mux.P18
open Mux

/-- The pattern a `Handle` registers passes the executable brace check (balanced, non-nested `{…}`); the arguments of
`Remove`, `Clean` and `Use` are arbitrary. -/
def ROp.wf : ROp → Bool
  | .handle p _ _ _ => WfPattern p
  | _ => true

theorem topOf_wf (r : Router) (op : ROp) : (topOf r op).wf = ROp.wf op := by
  cases op <;> rfl

theorem _root_.Mux.Router.tops_wf (r : Router) {ops : List ROp} (hw : ∀ op ∈ ops, ROp.wf op = true) :
    ∀ top ∈ r.tops ops, top.wf = true :=
  Router.tops_forall (fun r op h => (topOf_wf r op).trans h) r hw

theorem reachAll_run {cfg : RouterCfg} {r0 : Router} (hnew : Router.new cfg = some r0) {ops : List ROp}
    (hops : ∀ op ∈ ops, ROp.wf op = true) : P14.ReachAll (r0.run ops).tree := by
  rw [Router.run_new hnew]
  exact ⟨_, _, _, _, _, _, _, r0.tops_wf hops, rfl⟩

end Mux.P18
