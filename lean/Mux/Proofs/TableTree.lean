/-
  Mux.Proofs.TableTree — the tree invariant `TInv` of C03 (`TreeInv2` of TreeCounts.lean, the handler-map
  invariant `GQ`, the structural invariant `Sh`), its preservation by one operation of a history (`TInv_step`, once,
  over `Tree.step_cases`), and apart from it the effect of each operation on the entries `liveL t.root.children`, read
  as a finite map from patterns to handler maps (`Tree.handlersAt`; `at_add`, `at_remove`, `at_clean`, `at_use`, from
  what `getNode`, `modifyAt`, `removeAt`, `clean` and `applyMw` do to the list); `findPath` computes the node of a
  pattern (`findPath_iff`); `Remove` and `Clean` do not fail (`remove_step`, `clean_step`).
-/
import Mux.Proofs.TableInv
import Mux.Proofs.RemoveNoFault
namespace Mux.P11
open Mux

/-- `GQ` is asked below the root only: the root's handler map holds just the automatic OPTIONS and 405 entries, so
`RegQ` fails there. -/
structure TInv (t : Tree) : Prop where
  inv2 : TreeInv2 t
  gq : AllL (NodeOk (GQ t.hasTrace)) t.root.children
  sh : Node.All (Sh t.ic) t.root
  rootPat : t.root.pattern = []

theorem TInv_new (name : Bytes) (ic : Interceptors) (nf : Handler) (tr : Option Handler)
    (ob : Base := .options) (nb : Base := .notAllowed) : TInv (Tree.new name ic nf tr ob nb) := by
  refine ⟨inv2_new name ic nf tr ob nb, ?_, ?_, rfl⟩
  · simp [Tree.new, AllL]
  · simp only [Tree.new, Node.All, AllL, and_true]
    exact ShL_nil _ _

theorem All_setHandlers {ic : Interceptors} {n : Node} (hs : AMap Handler) (mi : Nat)
    (h : Node.All (Sh ic) n) : Node.All (Sh ic) (n.setHandlers hs mi) := by
  rw [Node.All_iff] at h ⊢
  exact ⟨Sh_congr (by simp [Node.setHandlers]) (by simp [Node.setHandlers]) h.1,
    by simpa [Node.setHandlers] using h.2⟩

/-- `findPath p` followed by `getAt` is the partial map pattern ↦ node: it yields `x` exactly when `x` is the node below the
root with pattern `p` (there is at most one: `node_unique`). -/
theorem findPath_iff {t : Tree} (hinv : TInv t) {p : Bytes} {x : Node} :
    (∃ path, t.root.findPath p = some path ∧ t.root.getAt path = some x) ↔
      x ∈ nodesL t.root.children ∧ x.pattern = p := by
  rw [findPath_iff_below hinv.sh, hinv.rootPat, List.nil_append]

theorem findPath_node {t : Tree} (hinv : TInv t) {p : Bytes} {path : List Nat} (h : t.root.findPath p = some path) :
    ∃ x, t.root.getAt path = some x ∧ x ∈ nodesL t.root.children ∧ x.pattern = p := by
  obtain ⟨x, hx, _, _⟩ := findPath_sound t.ic t.root hinv.sh p path h
  exact ⟨x, hx, (findPath_iff hinv).1 ⟨path, h, hx⟩⟩

theorem findPath_none {t : Tree} (hinv : TInv t) {p : Bytes} (h : t.root.findPath p = none) :
    ∀ x ∈ nodesL t.root.children, x.pattern ≠ p := fun x hx hxp => by
  obtain ⟨path, hpath, _⟩ := (findPath_iff hinv).2 ⟨hx, hxp⟩
  rw [h] at hpath; cases hpath

theorem TInv.valsNonEmpty {t : Tree} (hinv : TInv t) : P9.ValsNonEmpty t :=
  AllL_children (fun _ hm c hc => (hm.1 c hc).1.ne_nil) t.root hinv.sh

theorem remove_step {t : Tree} (hinv : TInv t) (p : Bytes) (methods : List Bytes) :
    t.remove p methods = .ok (t.step (.remove p methods)) := by
  obtain ⟨t', h⟩ := P9.remove_ok hinv.valsNonEmpty p methods
  simp only [Tree.step, h]

theorem clean_step {t : Tree} (hinv : TInv t) (pre : Bytes) : t.clean pre = .ok (t.step (.clean pre)) := by
  obtain ⟨t', h⟩ := P9.treeClean_ok hinv.valsNonEmpty pre
  simp only [Tree.step, h]

/-- `inv2` is `inv2_step`, `gq` goes through `TOp.Yields.below` with `GQ_keeps`; the shape invariant and the root's
pattern go through the edit the operation is (`TOp.Yields.edit`), for an accepted `Add` after `getNode_shape` (`Split`
has accepted the pattern, so its pieces are not adjacent parameters). -/
theorem TInv_step {t : Tree} (hinv : TInv t) (op : TOp) (hw : op.wf = true) : TInv (t.step op) := by
  have h2 := inv2_step hinv.inv2 op
  rcases t.step_cases op with h | ⟨ms, rfl⟩ | ⟨root', counts', hy, h⟩
  · rw [h]; exact hinv
  · have hed := applyMw_edit t.name ms t.root
    refine ⟨h2, ?_, hed.sh hinv.sh, hed.top.2.1.trans hinv.rootPat⟩
    show AllL (NodeOk (GQ (t.applyMiddleware ms).hasTrace)) (t.root.applyMw t.name ms).children
    rw [hasTrace_applyMiddleware]
    exact (hed.nodeOk (TOp.Keeps.own (GQ_keeps t (.use ms))) hinv.inv2.rootIdx hinv.gq).2.2
  · obtain ⟨_, _, ha⟩ := hy.below (GQ_empty _) (GQ_keeps t op) hinv.inv2.rootIdx hinv.gq
    obtain ⟨root1, hg, hed, ho⟩ := hy.edit
    have hsh : Node.All (Sh t.ic) root1 := by
      cases hg with
      | root => exact hinv.sh
      | add _ hsplit hsp hget =>
        exact (getNode_shape t.ic t.root _ _ _ hinv.sh (split_pieces t.ic hw hsplit hsp) hget).all
    rw [h] at h2 ⊢
    exact ⟨h2, by simpa [Node.setHandlers, Tree.hasTrace] using ha, All_setHandlers _ _ (hed.sh hsh),
      (Node.own_eq_iff.1 ho).2.1.trans hinv.rootPat⟩

theorem TInv_run {t : Tree} (hinv : TInv t) (ops : List TOp) (hw : ∀ op ∈ ops, op.wf = true) :
    TInv (t.run ops) :=
  Tree.run_inv (I := TInv) (fun _ op hop h => TInv_step h op (hw op hop)) hinv

theorem TInv.add {t t' : Tree} {p : Bytes} {h : Handler} {ms : List Nat} {methods : List Bytes} (hinv : TInv t)
    (hw : WfPattern p = true) (he : t.add p h ms methods = .ok t') : TInv t' := by
  have := TInv_step hinv (.add p h ms methods) hw
  rwa [Tree.step, he] at this

/-! The entries `liveL t.root.children` are an association list keyed by pattern, with unique keys (`liveL_patterns_nodup`);
read as a map, every operation is a pointwise update: the pattern addressed gets the map `addMethodsNode`/`removeMethods`
computes from its old one, cleaned patterns get `[]`, `Use` wraps every map, nothing else changes. -/

/-- The handler map registered under the pattern `q`: that of the node below the root with pattern `q`, `[]` when
there is no such node or it has no handlers. -/
def _root_.Mux.Tree.handlersAt (t : Tree) (q : Bytes) : AMap Handler := (AMap.get? (liveL t.root.children) q).getD []

theorem get?_ent (x : Node) (q : Bytes) :
    ((AMap.get? (ent x) q).getD [] : AMap Handler) = if q = x.pattern then x.handlers else [] := by
  unfold ent
  cases h : x.handlers with
  | nil => simp
  | cons a l => by_cases hq : x.pattern = q <;> simp [AMap.get?_cons, hq, eq_comm (a := q)]

theorem get?_splice {A B : List (Bytes × AMap Handler)} {x : Node} (hAB : ∀ e ∈ A ++ B, e.1 ≠ x.pattern) (q : Bytes) :
    ((AMap.get? (A ++ ent x ++ B) q).getD [] : AMap Handler) =
      if q = x.pattern then x.handlers else (AMap.get? (A ++ B) q).getD [] := by
  have hA : ∀ e ∈ A, e.1 ≠ x.pattern := fun e he => hAB e (List.mem_append_left _ he)
  have hB : ∀ e ∈ B, e.1 ≠ x.pattern := fun e he => hAB e (List.mem_append_right _ he)
  by_cases hq : q = x.pattern
  · subst hq
    have hnA : AMap.get? A x.pattern = none :=
      (AMap.get?_eq_none_iff _ _).2 fun h => by obtain ⟨e, he, hep⟩ := List.mem_map.1 h; exact hA e he hep
    have hnB : AMap.get? B x.pattern = none :=
      (AMap.get?_eq_none_iff _ _).2 fun h => by obtain ⟨e, he, hep⟩ := List.mem_map.1 h; exact hB e he hep
    have := get?_ent x x.pattern
    rw [if_pos rfl] at this ⊢
    rw [AMap.get?_append, AMap.get?_append, hnA, hnB, Option.none_or, Option.or_none, this]
  · have hn : AMap.get? (ent x) q = none := by
      unfold ent; split
      · rfl
      · simp [AMap.get?_cons, Ne.symm hq]
    rw [if_neg hq, AMap.get?_append, AMap.get?_append, AMap.get?_append, hn, Option.or_none]

theorem ent_of_ne_nil {x : Node} (h : x.handlers ≠ []) : ent x = [(x.pattern, x.handlers)] := by
  unfold ent
  cases hh : x.handlers with
  | nil => exact absurd hh h
  | cons a l => simp

theorem splice_ne {A B : List (Bytes × AMap Handler)} {e0 : Bytes × AMap Handler}
    (hnd : ((A ++ [e0] ++ B).map (·.1)).Nodup) : ∀ e ∈ A ++ B, e.1 ≠ e0.1 := by
  intro e he hep
  simp only [List.map_append, List.map_cons, List.map_nil] at hnd
  rcases List.mem_append.1 he with h | h
  · exact (List.nodup_append.1 (List.nodup_append.1 hnd).1).2.2 e.1 (List.mem_map_of_mem h) e0.1 (by simp) hep
  · exact (List.nodup_append.1 hnd).2.2 e0.1 (by simp) e.1 (List.mem_map_of_mem h) hep.symm

theorem others_ne {ic : Interceptors} {n x : Node} (hn : Node.All (Sh ic) n) (hx : x ∈ nodesL n.children)
    {A B : List (Bytes × AMap Handler)} (hl : liveL n.children = A ++ ent x ++ B) :
    ∀ e ∈ A ++ B, e.1 ≠ x.pattern := by
  intro e he hep
  have hmem : e ∈ liveL n.children := by
    rw [hl]
    simp only [List.mem_append] at he ⊢
    exact he.elim (fun h => .inl (.inl h)) .inr
  -- the entry is that of a node with the pattern of `x`, so of `x` itself, which then has handlers
  obtain ⟨y, hy, hyne, rfl⟩ := mem_liveL.1 hmem
  have hyx : y = x := node_unique hn hy hx hep
  subst hyx
  have hnd := liveL_patterns_nodup hn
  rw [hl, ent_of_ne_nil hyne] at hnd
  exact splice_ne hnd _ he rfl

/-- **From the list to the map.**  On a tree with the invariant, when the entry of a node `x` is replaced in place by that of
a node `x'` with the same pattern, the map under that pattern changes from the handlers of `x` to those of `x'` and
nothing else changes: no other entry has the pattern (`others_ne`). -/
theorem at_splice {ic : Interceptors} {n x x' : Node} {A B L' : List (Bytes × AMap Handler)} (hn : Node.All (Sh ic) n)
    (hx : x ∈ nodesL n.children) (hp : x'.pattern = x.pattern) (e1 : liveL n.children = A ++ ent x ++ B)
    (e2 : L' = A ++ ent x' ++ B) :
    x.handlers = (AMap.get? (liveL n.children) x.pattern).getD [] ∧
      ∀ q, (AMap.get? L' q).getD [] =
        if q = x.pattern then x'.handlers else (AMap.get? (liveL n.children) q).getD [] := by
  have hAB := others_ne hn hx e1
  rw [e1, e2]
  refine ⟨by rw [get?_splice hAB, if_pos rfl], fun q => ?_⟩
  rw [get?_splice (hp ▸ hAB), get?_splice hAB, hp]
  split <;> rfl

theorem getD_filter_prefix {V : Type} (m : AMap (List V)) (pre q : Bytes) :
    (AMap.get? (m.filter fun e => !hasPrefix e.1 pre) q).getD [] = if pre <+: q then [] else (m.get? q).getD [] := by
  rw [AMap.get?_filterKeys m (fun k => !hasPrefix k pre)]
  by_cases hp : pre <+: q
  · simp [hp, (hasPrefix_iff q pre).2 hp]
  · simp [hp, Bool.eq_false_iff.2 (mt (hasPrefix_iff q pre).1 hp)]

theorem mem_liveL_at {t : Tree} (hinv : TInv t) {q : Bytes} {hs : AMap Handler} :
    (q, hs) ∈ liveL t.root.children ↔ hs ≠ [] ∧ t.handlersAt q = hs := by
  have hnd := liveL_patterns_nodup hinv.sh
  unfold Tree.handlersAt
  rw [AMap.mem_iff_get? _ _ _ hnd]
  constructor
  · intro h
    obtain ⟨y, _, hne, e⟩ := mem_liveL.1 (AMap.mem_of_get? _ _ _ h)
    exact ⟨by cases e; exact hne, by rw [h]; rfl⟩
  · rintro ⟨hne, h⟩
    cases hg : AMap.get? (liveL t.root.children) q with
    | none => rw [hg] at h; exact absurd h.symm hne
    | some v => rw [hg] at h; exact congrArg some h

theorem at_node {t : Tree} (hinv : TInv t) {x : Node} (hx : x ∈ nodesL t.root.children) :
    t.handlersAt x.pattern = x.handlers := by
  by_cases hne : x.handlers = []
  · rw [hne]
    unfold Tree.handlersAt
    cases hg : AMap.get? (liveL t.root.children) x.pattern with
    | none => rfl
    | some v =>
      obtain ⟨y, hy, hyne, e⟩ := mem_liveL.1 (AMap.mem_of_get? _ _ _ hg)
      simp only [Prod.mk.injEq] at e
      rw [node_unique hinv.sh hx hy e.1] at hne
      exact absurd hne hyne
  · exact ((mem_liveL_at hinv).1 (mem_liveL.2 ⟨x, hx, hne, rfl⟩)).2

theorem at_none {t : Tree} {q : Bytes} (h : ∀ x ∈ nodesL t.root.children, x.pattern ≠ q) :
    t.handlersAt q = [] := by
  unfold Tree.handlersAt
  cases hg : AMap.get? (liveL t.root.children) q with
  | none => rfl
  | some v =>
    obtain ⟨y, hy, _, e⟩ := mem_liveL.1 (AMap.mem_of_get? _ _ _ hg)
    cases e
    exact absurd rfl (h y hy)

theorem at_nil {t : Tree} (hinv : TInv t) : t.handlersAt [] = [] :=
  at_none fun x hx e => by
    obtain ⟨r, hr, hxr⟩ := below_pattern t.ic t.root hinv.sh x hx
    rw [e, hinv.rootPat] at hxr
    exact hr (List.append_eq_nil_iff.1 hxr.symm).2

theorem has_tableOf (t : Tree) (q m : Bytes) :
    (tableOf t).has q m ↔ ∃ e ∈ liveL t.root.children, e.1 = q ∧ m ∈ regKeys e.2 := by
  unfold tableOf Spec.Table.has
  constructor
  · rintro ⟨ms, hmem, hm⟩
    rw [List.mem_map] at hmem
    obtain ⟨e, he, heq⟩ := hmem
    simp only [Prod.mk.injEq] at heq
    exact ⟨e, he, heq.1, heq.2 ▸ hm⟩
  · rintro ⟨e, he, rfl, hm⟩
    exact ⟨regKeys e.2, List.mem_map.2 ⟨e, he, rfl⟩, hm⟩

/-- The live pairs of the table are the hand-registered keys of the map. -/
theorem has_at {t : Tree} (hinv : TInv t) (q m : Bytes) : (tableOf t).has q m ↔ m ∈ regKeys (t.handlersAt q) := by
  rw [has_tableOf]
  constructor
  · rintro ⟨e, he, rfl, hm⟩
    rwa [((mem_liveL_at hinv).1 he).2]
  · intro hm
    have hne : t.handlersAt q ≠ [] := fun h => by rw [h] at hm; cases hm
    exact ⟨(q, t.handlersAt q), (mem_liveL_at hinv).2 ⟨hne, rfl⟩, rfl, hm⟩

/-- A live pair is a hand-registered key of the node with that pattern. -/
theorem has_iff_node (t : Tree) (p m : Bytes) :
    (tableOf t).has p m ↔ ∃ x ∈ nodesL t.root.children, x.pattern = p ∧ m ∈ regKeys x.handlers := by
  rw [has_tableOf]
  constructor
  · rintro ⟨e, he, rfl, hm⟩
    obtain ⟨x, hx, _, rfl⟩ := mem_liveL.1 he
    exact ⟨x, hx, rfl, hm⟩
  · rintro ⟨x, hx, rfl, hm⟩
    have hne : x.handlers ≠ [] := fun h => by rw [h] at hm; cases hm
    exact ⟨_, mem_liveL.2 ⟨x, hx, hne, rfl⟩, rfl, hm⟩

/-- `getNode` permutes the entries (`getNode_shape`) and arrives at a node `x` with pattern `p`, whose entry `modifyAt`
replaces in place (`modifyAt_live`). -/
theorem at_add {t t' : Tree} {p : Bytes} {h : Handler} {ms : List Nat} {methods : List Bytes}
    (hinv : TInv t) (hw : WfPattern p = true) (he : t.add p h ms methods = .ok t') :
    ∃ x x' : Node, t.addMethodsNode h p ms (effMethods methods) x = .ok x' ∧ x.handlers = t.handlersAt p ∧
      ∀ q, t'.handlersAt q = if q = p then x'.handlers else t.handlersAt q := by
  obtain ⟨segs, v, rest, root1, path, root2, hsplit, _, hsp, hget, hmod, rfl⟩ := Tree.add_ok he
  have G := getNode_shape t.ic t.root v rest (root1, path) hinv.sh (split_pieces t.ic hw hsplit hsp) hget
  obtain ⟨x, hx, hxp⟩ := G.target
  have hxp : x.pattern = p := by
    rw [hxp, hinv.rootPat, List.nil_append, ← List.flatten_cons, ← hsp, splitString_join]
  cases path with
  | nil => exact absurd rfl G.path
  | cons i path =>
    simp only at hx G
    obtain ⟨x', A, B, hfx, e1, e2⟩ :=
      modifyAt_live _ (fun _ _ h => addMethodsNode_shape h) i path root1 root2 x hx hmod
    have e2 : liveL (({ t with root := root2 } : Tree).bumpMethods (effMethods methods)).root.children =
        A ++ ent x' ++ B := by simpa [Tree.bumpMethods, Node.setHandlers] using e2
    obtain ⟨hx0, hat⟩ := at_splice G.all (getAt_mem_below hx) (addMethodsNode_shape hfx).2.1 e1 e2
    subst hxp
    have hg := AMap.get?_perm G.live (liveL_patterns_nodup G.all)
    refine ⟨x, x', hfx, ?_, fun q => ?_⟩ <;> unfold Tree.handlersAt
    · rw [← hg]; exact hx0
    · rw [← hg]; exact hat q

/-- When no node has the pattern the map at `p` is `[]`, and `removeMethods` leaves `[]`: the statement covers that
case too.  Otherwise `removeAt_live` says that the entry of the node with pattern `p` is replaced in place. -/
theorem at_remove {t t' : Tree} {p : Bytes} {methods : List Bytes} (hinv : TInv t) (he : t.remove p methods = .ok t') :
    ∃ x : Node, x.handlers = t.handlersAt p ∧
      ∀ q, t'.handlersAt q = if q = p then (removeMethods t.hasTrace methods x).handlers else t.handlersAt q := by
  rcases Tree.remove_inv he with ⟨rfl, hnone⟩ | ⟨path, root1, hpath, hrem, rfl⟩
  · have h0 := at_none (findPath_none hinv hnone)
    refine ⟨.mk default p 0 [] [] [], h0.symm, fun q => ?_⟩
    split
    · next hq =>
      rw [hq, h0]
      exact (List.eq_nil_of_sublist_nil (removeMethods_sublist t'.hasTrace methods (.mk default p 0 [] [] []))).symm
    · rfl
  · obtain ⟨x, hx, hxp, hne⟩ := findPath_sound t.ic t.root hinv.sh p path hpath
    rw [hinv.rootPat, List.nil_append] at hxp
    subst hxp
    obtain ⟨i, path, rfl⟩ := List.exists_cons_of_ne_nil hne
    obtain ⟨A, B, e1, e2⟩ := removeAt_live _ (removeMethods_shape t.hasTrace methods) i path t.root root1 x hx hrem
    have e2 : liveL ({ t with root := root1 } : Tree).recount.root.children =
        A ++ ent (removeMethods t.hasTrace methods x) ++ B := by simpa [Tree.recount, Node.setHandlers] using e2
    exact ⟨x, at_splice hinv.sh (getAt_mem_below hx) rfl e1 e2⟩

/-- `Clean` filters the entries themselves (an equality of lists, which `tableOf_clean` reads). -/
theorem clean_effect {t t' : Tree} {pre : Bytes} (hinv : TInv t) (he : t.clean pre = .ok t') :
    liveL t'.root.children = (liveL t.root.children).filter (fun e => !hasPrefix e.1 pre) := by
  obtain ⟨root1, hclean, rfl⟩ := Tree.clean_ok he
  have hlive := clean_live t.ic t.root hinv.sh pre root1 hclean
  rw [hinv.rootPat, List.nil_append] at hlive
  simpa [Tree.recount, Node.setHandlers] using hlive

theorem at_clean {t t' : Tree} {pre : Bytes} (hinv : TInv t) (he : t.clean pre = .ok t') (q : Bytes) :
    t'.handlersAt q = if pre <+: q then [] else t.handlersAt q := by
  unfold Tree.handlersAt
  rw [clean_effect hinv he]
  exact getD_filter_prefix _ pre q

theorem at_use (t : Tree) (ms : List Nat) (q : Bytes) :
    (t.applyMiddleware ms).handlersAt q = (t.handlersAt q).map fun e => (e.1, wrapWith e.2 e.1 q t.name ms) := by
  have h := AMap.get?_mapVals (liveL t.root.children)
    (fun p (hs : AMap Handler) => hs.map fun h => (h.1, wrapWith h.2 h.1 p t.name ms)) q
  unfold Tree.handlersAt
  rw [show (t.applyMiddleware ms).root = t.root.applyMw t.name ms from rfl, applyMw_live t.name ms t.root]
  unfold mwE
  rw [h]
  cases AMap.get? (liveL t.root.children) q <;> rfl

end Mux.P11
