/-
  Mux.Proofs.HostsLateExamples — a matcher reached by a history that registers an interceptor AFTER a domain used
  its rule text as a regular expression (`Add("{a:digit}.{b}.x")`, `RegisterInterceptor(0, "digit")`,
  `Add("{a:DIGIT}.{b}.X.y")`), for the non-vacuity examples of `C14late`; and the histories behind the two
  observations reported there (evaluated by the interpreter: `#guard`, the trees have sibling lists of length 2,
  whose `mergeSort` the kernel does not unfold).
-/
import Mux.Proofs.HostsLate
import Mux.Proofs.HostsReachExamples
namespace Mux.P17
open Mux Mux.P12 Mux.P10 Mux.P14

def dL1 : Bytes := bytesOfString "{a:digit}.{b}.x"
def dL2 : Bytes := bytesOfString "{a:DIGIT}.{b}.X.y"
def rDigit : Bytes := bytesOfString "digit"

/-- `Add`, then `RegisterInterceptor("digit")` while the stored regexp segment `{a:digit}.` uses that rule, then a
second `Add` that goes THROUGH the stored segment. -/
def exLOps : List HOp := [.add dL1, .registerInterceptor 0 rDigit, .add dL2]
def exL : Hosts := hostsRun Hosts.empty exLOps
/-- interceptor 0 is `MatchDigit` -/
def exLEnv : Env := ⟨fun id v => if id = 0 then matchDigit v else true⟩

theorem exL_lateWf : HostsLateWf exL := by
  refine ⟨exLOps, ?_, rfl⟩
  intro op hop
  simp only [exLOps, List.mem_cons, List.not_mem_nil, or_false] at hop
  rcases hop with rfl | rfl | rfl
  · show WfPattern _ = true; simp only [dL1, bytesOfString_eq_data]; decide +kernel
  · trivial
  · show WfPattern _ = true; simp only [dL2, bytesOfString_eq_data]; decide +kernel

/-- The side condition of `P14.HostsReachWf` fails for this history: `digit` is registered while a stored regexp
segment uses it. -/
theorem exLOps_not_ok : ¬ hostsRunOk Hosts.empty exLOps := by
  rintro ⟨_, ⟨h, _⟩⟩
  have hu : usesRule rDigit (hostsStep Hosts.empty (.add dL1)).tree.root.children = true := by
    simp only [hostsStep_eq_F, dL1, rDigit, Hosts.empty, bytesOfString_eq_data]; decide +kernel
  obtain ⟨n, hn, hk⟩ := List.any_eq_true.1 hu
  simp only [decide_eq_true_eq] at hk
  exact h n hn hk.1 hk.2

def hostL1 : Bytes := bytesOfString "DIGIT.foo.x.y:80"
def hostL2 : Bytes := bytesOfString "5.foo.x.y"

/-- Kernel evaluation of a fact about `exL`: the history through `hostsRun_eq_F`, the strings converted by
`bytesOfString_eq_data`. -/
local macro "late_eval" : tactic =>
  `(tactic| (simp only [exL, exLOps, dL1, dL2, rDigit, hostL1, hostL2, hostLeafHandlers, Hosts.empty, hostsRun_eq_F, bytesOfString_eq_data]
             decide +kernel))

/-- The history, evaluated once: `{a:digit}.` (the regexp segment) above `{b}.x` above `.y`. -/
theorem exL_eq : exL = ⟨{ Hosts.empty.tree with
    root := .mk { value := [] } [] 321 Hosts.empty.tree.root.handlers []
      [.mk { value := bytesOfString "{a:digit}.", kind := .rx, name := [97], rule := rDigit, suffix := [46],
             re := .seq (.seq (.seq (.seq (.cls ⟨false, [(100, 100)]⟩) (.cls ⟨false, [(105, 105)]⟩))
               (.cls ⟨false, [(103, 103)]⟩)) (.cls ⟨false, [(105, 105)]⟩)) (.cls ⟨false, [(116, 116)]⟩) }
          (bytesOfString "{a:digit}.") 0 [] []
        [.mk { value := bytesOfString "{b}.x", kind := .named, name := [98], suffix := [46, 120] } dL1 449 hostLeafHandlers []
          [.mk { value := [46, 121] } (toLower dL2) 449 hostLeafHandlers [] []]]],
    counts := [(mGET, 2)], ic := [(rDigit, 0)] }⟩ := by
  late_eval

/-- The stored segment keeps matching by its regular expression: `digit.foo.x.y` is accepted with `a = digit`,
`b = foo` — through the domain added AFTER the registration. -/
theorem exL_accept : exL.match exLEnv hostL1 [47] [] =
    .accept [47] [([97], bytesOfString "digit"), ([98], bytesOfString "foo")] :=
  outOf_accept (by rw [exL_eq]; late_eval)

/-- `5.foo.x.y` is rejected although `{a:digit}` of the second domain was written after `digit` had become an
interceptor (`MatchDigit` accepts `5`): the node `{a:digit}.` is shared with the older domain. -/
theorem exL_reject : exL.match exLEnv hostL2 [47] [] = .reject [47] [] :=
  outOf_reject (by rw [exL_eq]; late_eval)

/-- `DIGIT.foo.x.y:80` is resolved to the node of the second domain. -/
theorem exL_answer : ∃ f q, exL.tree.handler exLEnv (normHost hostL1) [] mGET = .res f ∧ f.node = some q ∧
    q.pattern = toLower dL2 ∧ f.handler = { base := .hostEmpty, wraps := [] } ∧ f.ok = true ∧
    f.params = [([97], bytesOfString "digit"), ([98], bytesOfString "foo")] :=
  view_spec (by rw [exL_eq]; late_eval)

/-- The stored first segment is a regexp segment whose rule IS in the current table (a stale segment). -/
theorem exL_stale : (exL.tree.root.segsAt [0]).map (fun l => l.map (fun s => (s.kind, (exL.tree.ic.find s.rule).isSome))) =
    some [(.rx, true)] := by rw [exL_eq]; late_eval

/-! ## Observation 1 (interpreter): registration order changes what a LATER domain means

`Add("{a:digit}.{b:digit}.com")`, `RegisterInterceptor(MatchDigit, "digit")`, `Add("{a:digit}.{c:digit}.org")`:
`5.7.org` is rejected and `digit.7.org` accepted; with the registration first it is the other way round. -/

def b' (s : String) : Bytes := bytesOfString s
def accepts (hs : Hosts) (h : String) : Bool :=
  match hs.match exLEnv (b' h) [47] [] with
  | .accept _ _ => true
  | _ => false

def exO1 : Hosts := hostsRun Hosts.empty
  [.add (b' "{a:digit}.{b:digit}.com"), .registerInterceptor 0 rDigit, .add (b' "{a:digit}.{c:digit}.org")]
def exO1' : Hosts := hostsRun Hosts.empty
  [.registerInterceptor 0 rDigit, .add (b' "{a:digit}.{b:digit}.com"), .add (b' "{a:digit}.{c:digit}.org")]

#guard accepts exO1 "5.7.org" = false
#guard accepts exO1 "digit.7.org" = true
#guard accepts exO1' "5.7.org" = true
#guard accepts exO1' "digit.7.org" = false

/-! ## Observation 2 (interpreter): two siblings with the same text — outside the model, a defect in the Go code

`Add("{a:digit}.x.com")`, `Add("{a:digit}.x.org")` (regexp node `{a:digit}.x.` with the children `com`, `org`),
`RegisterInterceptor(MatchDigit, "digit")`, `Add("{a:digit}.x.net")` (an INTERCEPTOR leaf next to the regexp node:
another kind, so nothing is shared).  The next `Add("{a:digit}.x.org2")` splits that leaf at `{a:digit}.x.` — the
text of the regexp sibling.  The model answers `Err.unsupported` (`sortNode` refuses two siblings with one text; the
model locates children by their text) and leaves the tree as it was.  The Go code creates the second node; a later
`Delete("{a:digit}.x.com")`, `Delete("{a:digit}.x.org")` then empties the REGEXP node and `removeNodes(parent.children,
child.segment.Value)` (tree.go:236, node.go:239 — removal by text, first match) deletes the INTERCEPTOR sibling with
its live domains `…x.net`, `…x.org2` instead: verified on the Go code (`5.x.net` and `5.x.org2` match before the two
deletions and no longer afterwards). -/

def exO2 : Hosts := hostsRun Hosts.empty
  [.add (b' "{a:digit}.x.com"), .add (b' "{a:digit}.x.org"), .registerInterceptor 0 rDigit, .add (b' "{a:digit}.x.net")]

def isUnsupported : Except Err Hosts → Bool
  | .error .unsupported => true
  | _ => false

#guard isUnsupported (exO2.add (b' "{a:digit}.x.org2")) = true
#guard accepts exO2 "5.x.net" = true
#guard accepts exO2 "digit.x.org" = true
/-- the step function treats the refused `Add` as a no-op, so the model's history continues on the old tree -/
example : True := trivial
#guard accepts (hostsRun exO2 [.add (b' "{a:digit}.x.org2"), .delete (b' "{a:digit}.x.com"), .delete (b' "{a:digit}.x.org")])
  "5.x.net" = true

theorem hostL_ascii : isAscii hostL1 = true ∧ isAscii hostL2 = true := by
  simp only [hostL1, hostL2, bytesOfString_eq_data]
  decide +kernel

end Mux.P17
