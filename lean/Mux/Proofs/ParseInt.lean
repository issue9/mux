/-
  Mux.Proofs.ParseInt — the model's `strconv.ParseUint(s, 10, 64)` and `strconv.ParseInt(s, 10, 64)` (property C20).

  `parseInt` splits off an optional sign and runs `parseIntBody` on the rest; a signed digit string has one reading
  (`parseInt_signed`), so each kind of result of `parseInt` is characterised by the body's (`parseInt_eq_iff`).
-/
import Mux.Model.Ctx
namespace Mux

/-- The value of a decimal digit string. -/
def C20.decVal (ds : Bytes) : Nat := ds.foldl (fun a b => a * 10 + (b.toNat - 48)) 0
def C20.allDigits (ds : Bytes) : Prop := ds ≠ [] ∧ ∀ b ∈ ds, 48 ≤ b ∧ b ≤ 57
open C20 (decVal allDigits)

theorem digitsVal_eq_some_iff (ds : Bytes) (n : Nat) :
    digitsVal ds = some n ↔ allDigits ds ∧ decVal ds = n := by
  unfold allDigits decVal
  cases ds with
  | nil => simp [digitsVal]
  | cons c cs =>
    simp only [digitsVal, Option.ite_none_right_eq_some, List.all_eq_true, decide_eq_true_eq, Option.some.injEq, ne_eq,
      reduceCtorEq, not_false_eq_true, true_and]

theorem digitsVal_of_allDigits {ds : Bytes} (h : allDigits ds) : digitsVal ds = some (decVal ds) :=
  (digitsVal_eq_some_iff ds _).mpr ⟨h, rfl⟩

theorem digitsVal_eq_none_iff (ds : Bytes) : digitsVal ds = none ↔ ¬ allDigits ds := by
  refine ⟨fun h ha => ?_, fun h => ?_⟩
  · rw [digitsVal_of_allDigits ha] at h; cases h
  · cases hd : digitsVal ds with
    | none => rfl
    | some n => exact absurd ((digitsVal_eq_some_iff ds n).mp hd).1 h

/-- `parseInt` after the sign has been split off. -/
def parseIntBody (neg : Bool) (ds : Bytes) : Acc Int :=
  match digitsVal ds with
  | none => .syntaxErr
  | some n =>
    if ¬ neg ∧ (n : Int) > maxInt64 then .rangeErr maxInt64
    else if neg ∧ (n : Int) > -minInt64 then .rangeErr minInt64
    else .ok (if neg then -(n : Int) else (n : Int))

theorem parseInt_cons (c : UInt8) (rest : Bytes) :
    parseInt (c :: rest) =
      if c = 43 then parseIntBody false rest
      else if c = 45 then parseIntBody true rest
      else parseIntBody false (c :: rest) := by
  by_cases h1 : c = 43
  · rw [if_pos h1]; subst h1; rfl
  · by_cases h2 : c = 45
    · rw [if_neg h1, if_pos h2]; subst h2; rfl
    · rw [if_neg h1, if_neg h2]; simp only [parseInt, h1, h2, if_false]; rfl

/-- `s` is `ds` with an optional sign: `ds`, `-ds` (`neg`), or `+ds`. -/
def Signed (s : Bytes) (neg : Bool) (ds : Bytes) : Prop :=
  s = (if neg then [45] else []) ++ ds ∨ (neg = false ∧ s = 43 :: ds)

theorem parseInt_split (s : Bytes) : ∃ neg ds, Signed s neg ds ∧ parseInt s = parseIntBody neg ds := by
  cases s with
  | nil => exact ⟨false, [], .inl rfl, rfl⟩
  | cons c rest =>
    rw [parseInt_cons]
    by_cases h1 : c = 43
    · subst h1; exact ⟨false, rest, .inr ⟨rfl, rfl⟩, rfl⟩
    · by_cases h2 : c = 45
      · subst h2; exact ⟨true, rest, .inl rfl, rfl⟩
      · exact ⟨false, c :: rest, .inl rfl, by rw [if_neg h1, if_neg h2]⟩

theorem allDigits_head {c : UInt8} {cs : Bytes} (h : allDigits (c :: cs)) : c ≠ 43 ∧ c ≠ 45 := by
  have := (h.2 c (List.mem_cons_self ..)).1
  constructor <;> (rintro rfl; revert this; decide)

theorem parseInt_signed {s : Bytes} {neg : Bool} {ds : Bytes} (h : Signed s neg ds) (hd : allDigits ds) :
    parseInt s = parseIntBody neg ds := by
  obtain ⟨c, cs, rfl⟩ := List.exists_cons_of_ne_nil hd.1
  obtain ⟨h43, h45⟩ := allDigits_head hd
  rcases h with rfl | ⟨rfl, rfl⟩
  · cases neg
    · show parseInt (c :: cs) = _
      rw [parseInt_cons, if_neg h43, if_neg h45]
    · rfl  -- the sign byte is a literal: `parseInt` computes
  · rfl

theorem parseIntBody_syntax (neg : Bool) (ds : Bytes) : parseIntBody neg ds = .syntaxErr ↔ ¬ allDigits ds := by
  unfold parseIntBody
  cases h : digitsVal ds with
  | none => simp [(digitsVal_eq_none_iff ds).mp h]
  | some m =>
    have ha := ((digitsVal_eq_some_iff ds m).mp h).1
    simp only [ha, not_true_eq_false, iff_false]
    split
    · nofun
    · split <;> nofun

theorem parseIntBody_of_allDigits {ds : Bytes} (hd : allDigits ds) (neg : Bool) :
    parseIntBody neg ds =
      if ¬ neg ∧ (decVal ds : Int) > maxInt64 then .rangeErr maxInt64
      else if neg ∧ (decVal ds : Int) > -minInt64 then .rangeErr minInt64
      else .ok (if neg then -(decVal ds : Int) else (decVal ds : Int)) := by
  unfold parseIntBody; rw [digitsVal_of_allDigits hd]

theorem Acc.clamp_eq_rangeErr {b : Prop} [Decidable b] {lim x v : Int} :
    (if b then Acc.rangeErr lim else .ok x) = .rangeErr v ↔ b ∧ v = lim := by
  split <;> simp [*, eq_comm]

theorem Acc.clamp_eq_ok {b : Prop} [Decidable b] {lim x v : Int} :
    (if b then Acc.rangeErr lim else .ok x) = .ok v ↔ ¬ b ∧ v = x := by
  split <;> simp [*, eq_comm]

theorem parseIntBody_range (neg : Bool) (ds : Bytes) (v : Int) :
    parseIntBody neg ds = .rangeErr v ↔ allDigits ds ∧
      ((neg = false ∧ (decVal ds : Int) > maxInt64 ∧ v = maxInt64) ∨
       (neg = true ∧ (decVal ds : Int) > -minInt64 ∧ v = minInt64)) := by
  by_cases hd : allDigits ds
  · rw [parseIntBody_of_allDigits hd]
    cases neg <;> simp only [hd, true_and, Bool.false_eq_true, not_false_eq_true, not_true_eq_false,
      false_and, if_false, if_true, or_false, false_or, Bool.true_eq_false, Acc.clamp_eq_rangeErr]
  · simp only [(parseIntBody_syntax neg ds).2 hd, hd, false_and, reduceCtorEq]

theorem parseIntBody_ok (neg : Bool) (ds : Bytes) (v : Int) :
    parseIntBody neg ds = .ok v ↔
      allDigits ds ∧ v = (if neg then -(decVal ds : Int) else (decVal ds : Int)) ∧
        minInt64 ≤ v ∧ v ≤ maxInt64 := by
  by_cases hd : allDigits ds
  · rw [parseIntBody_of_allDigits hd]
    cases neg <;> simp only [hd, minInt64, maxInt64, true_and, Bool.false_eq_true, not_false_eq_true, not_true_eq_false,
      false_and, if_false, if_true, Acc.clamp_eq_ok] <;> omega
  · simp only [(parseIntBody_syntax neg ds).2 hd, hd, false_and, reduceCtorEq]

theorem parseIntBody_value {ds : Bytes} (hd : allDigits ds) (neg : Bool) :
    parseIntBody neg ds =
      let x : Int := if neg then -(decVal ds : Int) else (decVal ds : Int)
      if x > maxInt64 then .rangeErr maxInt64 else if x < minInt64 then .rangeErr minInt64 else .ok x := by
  rw [parseIntBody_of_allDigits hd]
  have hnn : (0 : Int) ≤ (decVal ds : Int) := Int.natCast_nonneg _
  cases neg
  · have h : ¬ (decVal ds : Int) < minInt64 := by unfold minInt64; omega
    simp only [Bool.false_eq_true, not_false_eq_true, true_and, false_and, if_false, h]
  · have h1 : ¬ (-(decVal ds : Int) > maxInt64) := by unfold maxInt64; omega
    have h2 : (-(decVal ds : Int) < minInt64) ↔ (decVal ds : Int) > -minInt64 := by omega
    simp only [not_true_eq_false, false_and, if_false, true_and, if_true, h1, h2]

theorem parseIntBody_ne_notExists (neg : Bool) (ds : Bytes) : parseIntBody neg ds ≠ .notExists := by
  unfold parseIntBody
  split
  · nofun
  · split
    · nofun
    · split <;> nofun

/-- A result the body gives on digit strings only: it is the body's, on the one reading of `s` as a signed digit string. -/
theorem parseInt_eq_iff {s : Bytes} {a : Acc Int} {P : Bool → Bytes → Prop}
    (hbody : ∀ neg ds, parseIntBody neg ds = a ↔ allDigits ds ∧ P neg ds) :
    parseInt s = a ↔ ∃ neg ds, Signed s neg ds ∧ allDigits ds ∧ P neg ds := by
  constructor
  · intro h
    obtain ⟨neg, ds, hsig, heq⟩ := parseInt_split s
    exact ⟨neg, ds, hsig, (hbody neg ds).1 (heq ▸ h)⟩
  · rintro ⟨neg, ds, hsig, hd, hp⟩
    rw [parseInt_signed hsig hd]
    exact (hbody neg ds).2 ⟨hd, hp⟩

theorem parseInt_syntax_iff {s : Bytes} :
    parseInt s = .syntaxErr ↔ ¬ ∃ neg ds, Signed s neg ds ∧ allDigits ds := by
  constructor
  · rintro h ⟨neg, ds, hsig, hd⟩
    rw [parseInt_signed hsig hd, parseIntBody_syntax] at h
    exact h hd
  · intro h
    obtain ⟨neg, ds, hsig, heq⟩ := parseInt_split s
    rw [heq, parseIntBody_syntax]
    exact fun hd => h ⟨neg, ds, hsig, hd⟩

end Mux
