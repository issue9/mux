/-
  Concrete instances used by the non-vacuity examples of C17, C05 (handle) and C01 (reachable form): well-formed
  patterns, a reachable history, and the tree of `Handle("/u/{id}", h1, GET)` written out.
-/
import Mux.Proofs.Names
import Mux.Proofs.AmbCheck
import Mux.Proofs.RunFuel
import Mux.Proofs.DecEq
namespace Mux.P9
open Mux

/-- `/u/{id}` -/
def exUid : Bytes := [47, 117, 47, 123, 105, 100, 125]
/-- `/u/{id}/x` -/
def exUidX : Bytes := [47, 117, 47, 123, 105, 100, 125, 47, 120]

theorem wfPattern_exUid : WfPattern exUid :=
  wfPattern_lit_tok (lit := [47, 117, 47]) (body := [105, 100]) (suf := []) (by decide +kernel)
    (noBrace_of_all rfl) (noBrace_of_all rfl) (noBrace_of_all rfl)

theorem wfPattern_exUidX : WfPattern exUidX :=
  wfPattern_lit_tok (lit := [47, 117, 47]) (body := [105, 100]) (suf := [47, 120]) (by decide +kernel)
    (noBrace_of_all rfl) (noBrace_of_all rfl) (noBrace_of_all rfl)

/-- A fresh tree (no TRACE, no interceptors). -/
def exT0 : Tree := Tree.new [114] [] { base := .notFound } none

/-- A history with well-formed patterns. -/
def exOps : List TOp :=
  [.add exUid { base := .user 1 } [] [mGET], .add exUidX { base := .user 2 } [] [mGET], .remove exUid [mGET],
   .clean [47, 120]]

theorem exOps_ok : ∀ op ∈ exOps, PatOk op := by
  intro op hop
  simp only [exOps, List.mem_cons, List.not_mem_nil, or_false] at hop
  rcases hop with rfl | rfl | rfl | rfl
  · exact wfPattern_exUid
  · exact wfPattern_exUidX
  · trivial
  · trivial

theorem reachWf_ex : ReachWf (exT0.run exOps) := ⟨_, _, _, _, _, _, _, exOps_ok, rfl⟩

/-- The node `{id}` of `exT1`, the tree holding the single route `GET /u/{id}` (what `exT0.add exUid … [GET]` builds:
`exT1_run`). -/
def exLeafId : Node :=
  .mk { value := [123, 105, 100, 125], kind := .named, name := [105, 100], endpoint := true } exUid (1 + 128 + 256)
    [(mHEAD, { base := .user 1 }), (mGET, { base := .user 1 }), (mOPTIONS, { base := .options }),
     (mNotAllowed, { base := .notAllowed })] [] []
def exMidU : Node := .mk { value := [47, 117, 47] } [47, 117, 47] 0 [] [] [exLeafId]
def exT1 : Tree :=
  { root := .mk { value := [] } [] (256 + 1)
      [(mOPTIONS, { base := .options }), (mNotAllowed, { base := .notAllowed })] [] [exMidU],
    counts := [(mGET, 1)], name := [114], notFound := { base := .notFound } }

theorem exT1_run : exT0.run [.add exUid { base := .user 1 } [] [mGET]] = exT1 := by
  rw [Tree.run_eq_F]; decide +kernel

theorem wellFormed_exT1 : WellFormedTree exT1 :=
  ReachWf.wf ⟨_, _, _, _, _, _, _, fun op hop => by cases List.mem_singleton.1 hop; exact wfPattern_exUid,
    exT1_run.symm⟩

/-- `/u/{x}` -/
def exUx : Bytes := [47, 117, 47, 123, 120, 125]

theorem wfPattern_exUx : WfPattern exUx :=
  wfPattern_lit_tok (lit := [47, 117, 47]) (body := [120]) (suf := []) (by decide +kernel)
    (noBrace_of_all rfl) (noBrace_of_all rfl) (noBrace_of_all rfl)

def exUxSegs : List Seg :=
  [{ value := [47, 117, 47] }, { value := [123, 120, 125], kind := .named, name := [120], endpoint := true }]
def exUidSegs : List Seg :=
  [{ value := [47, 117, 47] }, { value := [123, 105, 100, 125], kind := .named, name := [105, 100], endpoint := true }]

theorem upToNames_ex : UpToNames exUxSegs exUidSegs :=
  .cons (.inl rfl) (.cons (.inr ⟨by decide +kernel, rfl, rfl, rfl, rfl, .inr (by decide +kernel)⟩) .nil)

end Mux.P9
