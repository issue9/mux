/-
  Mux.Proofs.Hosts — the `Hosts` matcher (match.go): `Hosts.match` as a function `Hosts.outcome` of the matcher's result
  `Tree.matched` on the private tree (`Hosts.match_matched`), through which the theorems about the matcher are read;
  histories of `Add/Delete/RegisterInterceptor` with the two invariants every history keeps (`TreeInv`, `HostsGet`).
-/
import Mux.Proofs.FoldRules
import Mux.Proofs.TreeReach
import Mux.Proofs.HandlerSound
import Mux.Proofs.HostNorm
namespace Mux.P12
open Mux

theorem Hosts.match_nonAscii (env : Env) (hs : Hosts) (host path : Bytes) (ps : Params) (h : isAscii host = false) :
    hs.match env host path ps = .unsupported := by
  unfold Hosts.match
  simp [h]

theorem Hosts.isAscii_of_match {env : Env} {hs : Hosts} {host path : Bytes} {ps : Params} {out : MatchOut}
    (h : hs.match env host path ps = out) (hne : out ≠ .unsupported) : isAscii host = true := by
  cases ha : isAscii host with
  | true => rfl
  | false => exact absurd ((Hosts.match_nonAscii env hs host path ps ha).symm.trans h).symm hne

theorem Hosts.match_eq (env : Env) (hs : Hosts) (host path : Bytes) (ps : Params) (h : isAscii host = true) :
    hs.match env host path ps =
      match hs.tree.handler env (normHost host) ps mGET with
      | .fault s => .fault s
      | .unsupported => .unsupported
      | .res f => if f.ok then .accept path f.params else .reject path f.params := by
  unfold Hosts.match
  simp only [h, not_true_eq_false, if_false]
  cases hs.tree.handler env (normHost host) ps mGET <;> rfl

theorem Hosts.match_res (env : Env) (hs : Hosts) (host path : Bytes) (ps : Params) (f : Found)
    (ha : isAscii host = true) (h : hs.tree.handler env (normHost host) ps mGET = .res f) :
    hs.match env host path ps = if f.ok then .accept path f.params else .reject path f.params := by
  rw [Hosts.match_eq env hs host path ps ha, h]

/-! The private tree is asked for `GET` and never for `TRACE`, and of the answer `Hosts.Match` looks at `ok` and the
parameters only: the outcome is a function of the matcher's result. -/

theorem mGET_ne_mTRACE : mGET ≠ mTRACE := by decide
theorem mGET_ne_mNotAllowed : mGET ≠ mNotAllowed := by decide

theorem Tree.handler_get (env : Env) (t : Tree) (path : Bytes) (ps : Params) :
    t.handler env path ps mGET = t.answer mGET (t.matched env path ps) := by
  rw [Tree.handler_noTrace (Or.inr mGET_ne_mTRACE), handlerNoTrace_eq]

/-- The answer for `GET` at a hit: `ok` iff the node has a `GET` entry (a node without handlers is answered 404), and
then the node is reported. -/
theorem Tree.answer_get_hit (t : Tree) (n : Node) (ps : Params) :
    ∃ f, t.answer mGET (.hit n ps) = .res f ∧ f.params = ps ∧ f.ok = (n.handlers.get? mGET).isSome ∧
      (f.ok = true → f.node = some n) := by
  by_cases h0 : n.handlers = []
  · exact ⟨t.notFoundAnswer ps, by rw [Tree.answer, if_pos h0], rfl, by rw [h0]; rfl, nofun⟩
  · refine ⟨n.answer mGET ps, by rw [Tree.answer, if_neg h0], n.answer_params _ _, ?_, fun _ => n.answer_node _ _⟩
    cases hg : n.handlers.get? mGET with
    | none => rw [Node.answer_of_none ps (.inr hg)]; rfl
    | some h => rw [Node.answer_of_get ps mGET_ne_mNotAllowed hg]; rfl

/-- What `Hosts.Match` makes of the matcher's result: a node WITH a `GET` entry accepts, anything else rejects. -/
def Hosts.outcome (path : Bytes) : MR → MatchOut
  | .fault s => .fault s
  | .unsupported => .unsupported
  | .miss ps => .reject path ps
  | .hit n ps => if (n.handlers.get? mGET).isSome then .accept path ps else .reject path ps

theorem Hosts.match_matched (env : Env) (hs : Hosts) (host path : Bytes) (ps : Params) (ha : isAscii host = true) :
    hs.match env host path ps = Hosts.outcome path (hs.tree.matched env (normHost host) ps) := by
  rw [Hosts.match_eq env hs host path ps ha, Tree.handler_get]
  cases hs.tree.matched env (normHost host) ps with
  | fault s => rfl
  | unsupported => rfl
  | miss ps' => rfl
  | hit n ps' =>
    obtain ⟨f, hf, hp, hok, _⟩ := Tree.answer_get_hit hs.tree n ps'
    rw [hf, Hosts.outcome, ← hok, ← hp]

theorem Hosts.outcome_accept {path p : Bytes} {q : Params} {r : MR} (h : Hosts.outcome path r = .accept p q) :
    p = path ∧ ∃ n, r = .hit n q ∧ (n.handlers.get? mGET).isSome = true := by
  cases r with
  | hit n ps =>
    rw [Hosts.outcome] at h
    split at h
    · next hg => cases h; exact ⟨rfl, n, rfl, hg⟩
    · cases h
  | _ => cases h

theorem Hosts.outcome_reject {path p : Bytes} {q : Params} {r : MR} (h : Hosts.outcome path r = .reject p q) :
    p = path ∧ (r = .miss q ∨ ∃ n, r = .hit n q ∧ n.handlers.get? mGET = none) := by
  cases r with
  | miss ps => cases h; exact ⟨rfl, .inl rfl⟩
  | hit n ps =>
    rw [Hosts.outcome] at h
    split at h
    · cases h
    · next hg => cases h; exact ⟨rfl, .inr ⟨n, rfl, by simpa using hg⟩⟩
  | _ => cases h

theorem Hosts.outcome_root_reject {env : Env} {t : Tree} {rp path p : Bytes} {ps q : Params} (hroot : rp = [] ∨ rp = [42])
    (h : Hosts.outcome path (t.matched env rp ps) = .reject p q) : p = path ∧ q = ps := by
  rw [Tree.matched_of_eq hroot] at h
  obtain ⟨rfl, hm | ⟨_, hm, _⟩⟩ := Hosts.outcome_reject h <;> cases hm
  exact ⟨rfl, rfl⟩

theorem Hosts.match_no_fault {hs : Hosts} (hinv : TreeInv hs.tree) (env : Env) (host path : Bytes) (ps : Params)
    (s : Nat) : hs.match env host path ps ≠ .fault s := by
  intro h
  rw [Hosts.match_matched env hs host path ps (Hosts.isAscii_of_match h nofun)] at h
  cases hm : hs.tree.matched env (normHost host) ps with
  | fault s' => exact (hinv.matched_ok env (normHost host) ps).1 s' hm
  | unsupported => rw [hm] at h; cases h
  | miss ps' => rw [hm] at h; cases h
  | hit n ps' => rw [hm, Hosts.outcome] at h; split at h <;> cases h

theorem root_get_none {t : Tree} (hinv : TreeInv t) : t.root.handlers.get? mGET = none := by
  refine Option.not_isSome_iff_eq_none.1 fun h => ?_
  rw [AMap.get?_isSome_iff, hinv.rootKeys] at h
  exact absurd h (by decide)

theorem Hosts.match_root (env : Env) {hs : Hosts} (hinv : TreeInv hs.tree) (host path : Bytes) (ps : Params)
    (ha : isAscii host = true) (hn : normHost host = [] ∨ normHost host = [42]) :
    hs.match env host path ps = .reject path ps := by
  rw [Hosts.match_matched env hs host path ps ha, Tree.matched_of_eq hn, Hosts.outcome, root_get_none hinv]
  rfl

theorem Hosts.accept_not_root (env : Env) {hs : Hosts} (hinv : TreeInv hs.tree) {host path p : Bytes} {ps q : Params}
    (h : hs.match env host path ps = .accept p q) : ¬ (normHost host = [] ∨ normHost host = [42]) := fun hn => by
  rw [Hosts.match_root env hinv host path ps (Hosts.isAscii_of_match h nofun) hn] at h
  cases h

theorem Hosts.match_accept_chain (env : Env) {hs : Hosts} (hinv : TreeInv hs.tree) (host path : Bytes) (ps : Params)
    (hN : NamesOkL ps.keys hs.tree.root.children) (hI : Node.All IdxLit hs.tree.root)
    (p : Bytes) (q : Params) (h : hs.match env host path ps = .accept p q) :
    p = path ∧ ∃ (n : Node) (chain : List (Seg × Bytes)),
      chain ≠ [] ∧ Chain hs.tree.root (chain.map (·.1)) n ∧ normHost host = instChain chain ∧
      (∀ sv ∈ chain, sv.1.Satisfies env hs.tree.ic sv.2) ∧ q = ps ++ captures chain ∧
      (n.handlers.get? mGET).isSome = true := by
  have hroot := Hosts.accept_not_root env hinv h
  rw [Hosts.match_matched env hs host path ps (Hosts.isAscii_of_match h nofun),
    Tree.matched_of_ne (fun e => hroot (.inl e)) (fun e => hroot (.inr e))] at h
  obtain ⟨rfl, n, hm, hget⟩ := Hosts.outcome_accept h
  obtain ⟨chain, h1, h2, h3, _, h5⟩ := Node.matchChildren_hit hm
  exact ⟨rfl, n, chain, fun e => hroot (.inl (h2.trans (congrArg instChain e))), h1, h2, h3,
    h5 ps.keys ((Node.namesOk_iff _ _).2 hN) hI (fun _ hk => hk), hget⟩

theorem Hosts.match_reject_chain (env : Env) {hs : Hosts} (host path : Bytes) (ps : Params)
    (hN : NamesOkL ps.keys hs.tree.root.children) (hI : Node.All IdxLit hs.tree.root)
    (p : Bytes) (q : Params) (h : hs.match env host path ps = .reject p q) :
    p = path ∧ (q = ps ∨ ∃ (n : Node) (chain : List (Seg × Bytes)),
      chain ≠ [] ∧ Chain hs.tree.root (chain.map (·.1)) n ∧ normHost host = instChain chain ∧
      q = ps ++ captures chain ∧ n.handlers ≠ [] ∧ n.handlers.get? mGET = none) := by
  rw [Hosts.match_matched env hs host path ps (Hosts.isAscii_of_match h nofun)] at h
  have hNk := (Node.namesOk_iff ps.keys hs.tree.root).2 hN
  by_cases hroot : normHost host = [] ∨ normHost host = [42]
  · exact (Hosts.outcome_root_reject hroot h).imp_right .inl
  · rw [Tree.matched_of_ne (fun e => hroot (.inl e)) (fun e => hroot (.inr e))] at h
    obtain ⟨rfl, hm | ⟨n, hm, hget⟩⟩ := Hosts.outcome_reject h
    · exact ⟨rfl, .inl ((matchChildren_walk env _ trackNames _ _ ps).of_miss hm ⟨_, hNk, hI, fun _ hk => hk⟩)⟩
    · obtain ⟨chain, h1, h2, _, h4, h5⟩ := Node.matchChildren_hit hm
      exact ⟨rfl, .inr ⟨n, chain, fun e => hroot (.inl (h2.trans (congrArg instChain e))), h1, h2,
        h5 ps.keys hNk hI (fun _ hk => hk), h4, hget⟩⟩

theorem Hosts.add_eq (hs : Hosts) (d : Bytes) :
    hs.add d = (hs.tree.add (toLower d) { base := .hostEmpty, wraps := [] } [] [mGET]).map (fun t => { hs with tree := t }) := by
  unfold Hosts.add
  simp only [bind, Except.bind, pure, Except.pure]
  cases hs.tree.add (toLower d) { base := .hostEmpty } [] [mGET] <;> rfl

theorem Hosts.delete_eq (hs : Hosts) (d : Bytes) :
    hs.delete d = (hs.tree.remove (toLower d) []).map (fun t => { hs with tree := t }) := by
  unfold Hosts.delete
  simp only [bind, Except.bind, pure, Except.pure]
  cases hs.tree.remove (toLower d) [] <;> rfl

inductive HOp where
  | add (domain : Bytes)
  | delete (domain : Bytes)
  | registerInterceptor (id : IcptId) (rule : Bytes)

/-- A panicking operation (syntax error, duplicate domain, duplicate rule) leaves the matcher as it was. -/
def hostsStep (hs : Hosts) : HOp → Hosts
  | .add d => match hs.add d with
    | .ok hs' => hs'
    | .error _ => hs
  | .delete d => match hs.delete d with
    | .ok hs' => hs'
    | .error _ => hs
  | .registerInterceptor id rule => match hs.registerInterceptor id rule with
    | some hs' => hs'
    | none => hs

theorem hostsStep_delete {hs hs' : Hosts} {d : Bytes} (h : hs.delete d = .ok hs') : hostsStep hs (.delete d) = hs' := by
  rw [hostsStep, h]

def hostsRun (hs : Hosts) (ops : List HOp) : Hosts := ops.foldl hostsStep hs

theorem hostsRun_append (hs : Hosts) (a b : List HOp) : hostsRun hs (a ++ b) = hostsRun (hostsRun hs a) b :=
  List.foldl_append ..

theorem hostsRun_snoc (hs : Hosts) (ops : List HOp) (op : HOp) :
    hostsRun hs (ops ++ [op]) = hostsStep (hostsRun hs ops) op :=
  hostsRun_append hs ops [op]

/-- A matcher made by `NewHosts` (whose initial domains are `add`s) and any history. -/
def HostsReach (hs : Hosts) : Prop := ∃ ops, hs = hostsRun Hosts.empty ops

theorem hostsStep_tree (hs : Hosts) (op : HOp) :
    (hostsStep hs op).tree =
      match op with
      | .add d => hs.tree.step (.add (toLower d) { base := .hostEmpty } [] [mGET])
      | .delete d => hs.tree.step (.remove (toLower d) [])
      | .registerInterceptor id rule =>
        if (hs.tree.ic.find rule).isSome then hs.tree else { hs.tree with ic := hs.tree.ic ++ [(rule, id)] } := by
  cases op with
  | add d =>
    simp only [hostsStep, Hosts.add_eq, Tree.step]
    cases hs.tree.add (toLower d) { base := .hostEmpty } [] [mGET] <;> rfl
  | delete d =>
    simp only [hostsStep, Hosts.delete_eq, Tree.step]
    cases hs.tree.remove (toLower d) [] <;> rfl
  | registerInterceptor id rule =>
    simp only [hostsStep, Hosts.registerInterceptor]
    by_cases h : (hs.tree.ic.find rule).isSome = true
    · rw [if_pos h, if_pos h]
    · rw [if_neg h, if_neg h]

theorem Hosts.inv_step {hs : Hosts} (h : TreeInv hs.tree) (op : HOp) : TreeInv (hostsStep hs op).tree := by
  rw [hostsStep_tree]
  cases op with
  | add d => exact Mux.inv_step h _
  | delete d => exact Mux.inv_step h _
  | registerInterceptor id rule => dsimp only; split; exact h; exact h.setIc _

theorem HostsReach.empty : HostsReach Hosts.empty := ⟨[], rfl⟩

theorem HostsReach.step {hs : Hosts} (h : HostsReach hs) (op : HOp) : HostsReach (hostsStep hs op) := by
  obtain ⟨ops, rfl⟩ := h
  exact ⟨ops ++ [op], (hostsRun_snoc _ ops op).symm⟩

theorem HostsReach.induction {I : Hosts → Prop} (h0 : I Hosts.empty)
    (step : ∀ hs op, HostsReach hs → I hs → I (hostsStep hs op)) {hs : Hosts} (h : HostsReach hs) : I hs := by
  obtain ⟨ops, rfl⟩ := h
  exact (List.foldl_inv (I := fun hs => HostsReach hs ∧ I hs)
    (fun hs op _ h => ⟨h.1.step op, step hs op h.1 h.2⟩) ⟨.empty, h0⟩).2

theorem HostsReach.inv {hs : Hosts} (h : HostsReach hs) : TreeInv hs.tree :=
  h.induction (I := fun hs => TreeInv hs.tree) Hosts.inv_empty fun _ op _ hi => Hosts.inv_step hi op

theorem Hosts.add_ok_iff (hs : Hosts) (d : Bytes) :
    (∃ hs', hs.add d = .ok hs') ↔
      ∃ t', hs.tree.add (toLower d) { base := .hostEmpty, wraps := [] } [] [mGET] = .ok t' := by
  rw [Hosts.add_eq]
  cases hs.tree.add (toLower d) { base := .hostEmpty, wraps := [] } [] [mGET] <;> simp [Except.map]

theorem Hosts.delete_ok {hs hs' : Hosts} {d : Bytes} (h : hs.delete d = .ok hs') :
    ∃ t', hs.tree.remove (toLower d) [] = .ok t' ∧ hs' = { hs with tree := t' } :=
  map_ok_iff.1 ((Hosts.delete_eq hs d).symm.trans h)

theorem Hosts.add_congr (hs : Hosts) {d d' : Bytes} (h : toLower d = toLower d') : hs.add d = hs.add d' := by
  rw [Hosts.add_eq, Hosts.add_eq, h]

theorem Hosts.delete_congr (hs : Hosts) {d d' : Bytes} (h : toLower d = toLower d') : hs.delete d = hs.delete d' := by
  rw [Hosts.delete_eq, Hosts.delete_eq, h]

theorem Hosts.delete_absent (hs : Hosts) (d : Bytes) (h : hs.tree.root.findPath (toLower d) = none) :
    hs.delete d = .ok hs := by
  rw [Hosts.delete_eq]
  unfold Tree.remove
  rw [h]
  rfl

theorem Hosts.registerInterceptor_some {hs hs' : Hosts} {id : IcptId} {rule : Bytes}
    (h : hs.registerInterceptor id rule = some hs') :
    (hs.tree.ic.find rule).isSome = false ∧ hs'.tree = { hs.tree with ic := hs.tree.ic ++ [(rule, id)] } := by
  unfold Hosts.registerInterceptor at h
  split at h
  · cases h
  · rename_i hn
    cases h
    exact ⟨by simpa using hn, rfl⟩

theorem Hosts.registerInterceptor_none {hs : Hosts} {id : IcptId} {rule : Bytes} :
    hs.registerInterceptor id rule = none ↔ (hs.tree.ic.find rule).isSome = true := by
  unfold Hosts.registerInterceptor
  split <;> simp [*]

/-! A second invariant of the private tree: every node below the root either has no handlers or has a `GET` entry (`Add`
registers `GET` only, `Delete` removes everything).  So on a reachable matcher the "405" branch of `Hosts.Match` never
occurs: a hit below the root is accepted, and a rejecting `Hosts.Match` leaves the parameters as they came. -/

def GetQ (_mi : Nat) (hs : AMap Handler) : Prop := hs = [] ∨ mGET ∈ hs.keys

theorem GetQ_add {t : Tree} {h : Handler} {pattern : Bytes} {ms : List Nat} {n n' : Node}
    (he : t.addMethodsNode h pattern ms [mGET] n = .ok n') : GetQ n'.methodIndex n'.handlers :=
  .inr ((addMethodsNode_mem_keys he mGET).2 (.inr (.inl (.inl (List.mem_singleton.2 rfl)))))

def HostsGet (hs : Hosts) : Prop := AllL (NodeOk GetQ) hs.tree.root.children

theorem hostsGet_step {hs : Hosts} (hinv : TreeInv hs.tree) (hg : HostsGet hs) (op : HOp) :
    HostsGet (hostsStep hs op) := by
  have tree_step : ∀ {top : TOp}, top.Keeps hs.tree GetQ → (∀ ms, top ≠ .use ms) →
      AllL (NodeOk GetQ) (hs.tree.step top).root.children := by
    intro top hop hu
    rcases hs.tree.step_cases top with h | ⟨ms, e⟩ | ⟨root', counts', hy, h⟩
    · rw [h]; exact hg
    · exact absurd e (hu ms)
    · rw [h]; exact (hy.below (.inl rfl) hop hinv.rootIdx hg).2.2
  unfold HostsGet
  rw [hostsStep_tree]
  cases op with
  | add d => exact tree_step (top := .add _ _ _ _) (fun _ _ _ h => GetQ_add h) nofun
  | delete d => exact tree_step (top := .remove _ _) (fun n _ => .inl (removeMethods_handlers _ _ n)) nofun
  | registerInterceptor id rule => dsimp only; split <;> exact hg

theorem HostsReach.get {hs : Hosts} (h : HostsReach hs) : HostsGet hs :=
  h.induction (I := HostsGet) (by simp [HostsGet, Hosts.empty, Tree.new, AllL]) fun _ op hr hg => hostsGet_step hr.inv hg op

theorem HostsGet.mem_get {hs : Hosts} (h : HostsGet hs) {n : Node} (hn : n ∈ nodesL hs.tree.root.children)
    (hh : n.handlers ≠ []) : mGET ∈ n.handlers.keys :=
  (((All_iff_nodes _).2 _).1 h n hn).1.resolve_left hh

theorem HostsGet.outcome_hit {hs : Hosts} (hg : HostsGet hs) {env : Env} {rp : Bytes} {ps q : Params} {n : Node}
    (hp : rp ≠ []) (hm : hs.tree.root.matchChildren env hs.tree.ic rp ps = .hit n q) (path : Bytes) :
    Hosts.outcome path (.hit n q) = .accept path q := by
  obtain ⟨chain, hc, hpath, _, hh, _⟩ := Node.matchChildren_hit hm
  have hne : chain.map (·.1) ≠ [] := fun e => hp (by rw [hpath, List.map_eq_nil_iff.1 e]; rfl)
  rw [Hosts.outcome, if_pos ((AMap.get?_isSome_iff _ _).2 (hg.mem_get (chain_mem_below hc hne) hh))]

/-- Below the root such a matcher rejects on a miss only. -/
theorem HostsGet.miss_of_reject {hs : Hosts} (hg : HostsGet hs) {env : Env} {rp path p : Bytes} {ps q : Params}
    (hne : rp ≠ []) (hstar : rp ≠ [42]) (h : Hosts.outcome path (hs.tree.matched env rp ps) = .reject p q) :
    p = path ∧ hs.tree.matched env rp ps = .miss q := by
  rw [Tree.matched_of_ne hne hstar] at h ⊢
  obtain ⟨rfl, hm | ⟨n, hm, _⟩⟩ := Hosts.outcome_reject h
  · exact ⟨rfl, hm⟩
  · rw [hm, hg.outcome_hit hne hm] at h; cases h

/-- A rejecting `Hosts.Match` on such a matcher addressed the root or missed; so it leaves the parameters as they
came whenever a miss of the matcher does (`hmiss`). -/
theorem Hosts.match_reject_of_miss (env : Env) {hs : Hosts} (hg : HostsGet hs) {host path : Bytes} {ps : Params}
    (hmiss : ∀ q, hs.tree.root.matchChildren env hs.tree.ic (normHost host) ps = .miss q → q = ps)
    {p : Bytes} {q : Params} (h : hs.match env host path ps = .reject p q) : p = path ∧ q = ps := by
  rw [Hosts.match_matched env hs host path ps (Hosts.isAscii_of_match h nofun)] at h
  by_cases hroot : normHost host = [] ∨ normHost host = [42]
  · exact Hosts.outcome_root_reject hroot h
  · obtain ⟨rfl, hm⟩ := hg.miss_of_reject (fun e => hroot (.inl e)) (fun e => hroot (.inr e)) h
    rw [Tree.matched_of_ne (fun e => hroot (.inl e)) (fun e => hroot (.inr e))] at hm
    exact ⟨rfl, hmiss q hm⟩

theorem Hosts.match_reject_clean (env : Env) {hs : Hosts} (hg : HostsGet hs) (host path : Bytes) (ps : Params)
    (hN : NamesOkL ps.keys hs.tree.root.children) (hI : Node.All IdxLit hs.tree.root)
    (p : Bytes) (q : Params) (h : hs.match env host path ps = .reject p q) : p = path ∧ q = ps :=
  Hosts.match_reject_of_miss env hg
    (fun _ hm => (matchChildren_walk env _ trackNames _ _ ps).of_miss hm ⟨_, (Tree.Tracks.mk hN hI).trackN⟩) h

end Mux.P12
