/-
  The reference resolver by itself.  `Spec.resolveRems` satisfies the recursion equation that `Spec.resolveFuel`
  approximates (`resolveRems_step`), because every group consumes at least one byte (`group_value_ne_nil`); everything
  else is proved from `resolveRems_step` (one round) or `resolveRems_induct`, and no other statement carries a fuel.  The
  resolver does not depend on the order (or multiplicity) in which the remainders are listed (`resolveRems_setEq`:
  "independent of the registration order" is a statement about the SPECIFICATION as well), and when all remainders
  continue with one literal text `e ≠ []` it consumes exactly `e` and goes on with the stripped remainders
  (`resolveRems_lit`), so a literal node followed by a handler-less literal chain, what `Remove` leaves behind, is answered
  like the merged node.
-/
import Mux.Proofs.ResolveLists
namespace Mux.P15
open Mux Mux.Spec

/-- One round of the resolver, going on with `rec` on the members of a group. -/
def stepWith (env : Env) (ic : Interceptors) (rec : List Rem → Bytes → AMap Bytes → List (Bytes × AMap Bytes))
    (R : List Rem) (path : Bytes) (ps : AMap Bytes) : List (Bytes × AMap Bytes) :=
  let by' (k : Kind) := (groups R).flatMap (tryGroup env ic rec k path ps)
  if by' .str ≠ [] then by' .str
  else if by' .icpt ≠ [] then by' .icpt ++ ended R path ps
  else if by' .rx ≠ [] then by' .rx ++ ended R path ps
  else by' .named ++ ended R path ps

theorem resolveFuel_step (env : Env) (ic : Interceptors) (f : Nat) (R : List Rem) (path : Bytes) (ps : AMap Bytes) :
    resolveFuel env ic (f + 1) R path ps = stepWith env ic (resolveFuel env ic f) R path ps := rfl

/-- `tryGroup` yields nothing or goes on with `rec` on the members: a relation that holds of `[]` and of the two
continuations holds of two runs on groups with the same text. -/
theorem tryGroup_rel {env : Env} {ic : Interceptors} {rec rec' : List Rem → Bytes → AMap Bytes → List (Bytes × AMap Bytes)}
    {Q : List (Bytes × AMap Bytes) → List (Bytes × AMap Bytes) → Prop} {g g' : RGroup} (hnil : Q [] [])
    (hv : g'.value = g.value) (hrec : ∀ rest ps', Q (rec g.members rest ps') (rec' g'.members rest ps')) (k : Kind)
    (path : Bytes) (ps : AMap Bytes) : Q (tryGroup env ic rec k path ps g) (tryGroup env ic rec' k path ps g') := by
  unfold tryGroup
  rw [hv]
  cases newSegment ic g.value with
  | error e => exact hnil
  | ok s =>
    simp only
    split
    · cases s.match env ic path with
      | yes cap rest => exact hrec rest _
      | no => exact hnil
      | unsupported => exact hnil
    · exact hnil

theorem stepWith_congr {env : Env} {ic : Interceptors} {rec rec' : List Rem → Bytes → AMap Bytes → List (Bytes × AMap Bytes)}
    {R : List Rem} (h : ∀ g ∈ groups R, ∀ rest ps', rec g.members rest ps' = rec' g.members rest ps') (path : Bytes)
    (ps : AMap Bytes) : stepWith env ic rec R path ps = stepWith env ic rec' R path ps := by
  have hk : ∀ k, (groups R).flatMap (tryGroup env ic rec k path ps) = (groups R).flatMap (tryGroup env ic rec' k path ps) := by
    intro k
    rw [List.flatMap_def, List.flatMap_def]
    exact congrArg _ (List.map_congr_left fun g hg => tryGroup_rel (Q := Eq) rfl rfl (h g hg) k path ps)
  unfold stepWith
  simp only [hk]

theorem splitTok_tok_ne_nil {b : UInt8} {r tok after : Bytes} (h : splitTok (b :: r) = some (tok, after)) : tok ≠ [] := by
  unfold splitTok at h
  split at h
  · cases h; simp
  · cases h

theorem keyOf_cons (c : UInt8) (t : Bytes) :
    keyOf (c :: t) =
      if c = startByte then
        match splitTok (c :: t) with
        | some (tok, after) => some (tok, (leadLit after).head?)
        | none => none
      else some ([], some c) := rfl

theorem keyOf_lit_inv {r : Bytes} {ob : Option UInt8} (h : keyOf r = some ([], ob)) :
    ∃ b t, ob = some b ∧ r = b :: t ∧ b ≠ startByte := by
  cases r with
  | nil => cases h
  | cons c t =>
    rw [keyOf_cons] at h
    split at h
    · split at h
      · rename_i hs
        cases h
        exact absurd rfl (splitTok_tok_ne_nil hs)
      · cases h
    · rename_i hc
      cases h
      exact ⟨c, t, rfl, rfl, hc⟩

theorem group_value_ne_nil {R : List Rem} {g : RGroup} (hg : g ∈ groups R) : g.value ≠ [] := by
  obtain ⟨r, hr, k, hk, rfl⟩ := mem_groups.1 hg
  obtain ⟨tok, ob⟩ := k
  show tok ++ _ ≠ []
  cases tok with
  | cons _ _ => simp
  | nil =>
    -- a literal group: all members start with the byte of the key
    obtain ⟨b, _, rfl, _, _⟩ := keyOf_lit_inv hk
    have hne : ((R.filter (fun r => keyOf r.1 = some (([], some b) : Key))).map (fun r => litOf r.1)) ≠ [] := by
      intro e
      exact List.ne_nil_of_mem (List.mem_filter.2 ⟨hr, by simpa using hk⟩) (List.map_eq_nil_iff.1 e)
    obtain ⟨t, ht⟩ := lcp_cons_of_heads b hne (by
      intro x hx
      obtain ⟨r', hr', rfl⟩ := List.mem_map.1 hx
      obtain ⟨b', t', hb', ht', hbs⟩ := keyOf_lit_inv (of_decide_eq_true (List.mem_filter.1 hr').2)
      cases hb'
      rw [ht', litOf_cons_ne hbs, P16.leadLit_of_cons_ne hbs]; rfl)
    rw [List.nil_append, ht]
    simp

theorem resolveFuel_stable (env : Env) (ic : Interceptors) : ∀ (f f' : Nat) (R : List Rem), maxLen R < f → maxLen R < f' →
    ∀ path ps, resolveFuel env ic f R path ps = resolveFuel env ic f' R path ps
  | 0, _, _, h, _, _, _ => absurd h (Nat.not_lt_zero _)
  | _ + 1, 0, _, _, h, _, _ => absurd h (Nat.not_lt_zero _)
  | a + 1, b + 1, R, ha, hb, path, ps => by
    rw [resolveFuel_step, resolveFuel_step]
    refine stepWith_congr (fun g hg rest ps' => ?_) path ps
    have := maxLen_members hg (group_value_ne_nil hg)
    exact resolveFuel_stable env ic a b g.members (by omega) (by omega) rest ps'

/-- The outcomes of the groups of kind `k`. -/
def byKind (env : Env) (ic : Interceptors) (R : List Rem) (k : Kind) (path : Bytes) (ps : AMap Bytes) :
    List (Bytes × AMap Bytes) :=
  (groups R).flatMap (tryGroup env ic (resolveRems env ic) k path ps)

theorem resolveRems_step (env : Env) (ic : Interceptors) (R : List Rem) (path : Bytes) (ps : AMap Bytes) :
    resolveRems env ic R path ps =
      if byKind env ic R .str path ps ≠ [] then byKind env ic R .str path ps
      else if byKind env ic R .icpt path ps ≠ [] then byKind env ic R .icpt path ps ++ ended R path ps
      else if byKind env ic R .rx path ps ≠ [] then byKind env ic R .rx path ps ++ ended R path ps
      else byKind env ic R .named path ps ++ ended R path ps := by
  show _ = stepWith env ic (resolveRems env ic) R path ps
  unfold resolveRems
  rw [resolveFuel_step]
  refine stepWith_congr (fun g hg rest ps' => ?_) path ps
  have := maxLen_members hg (group_value_ne_nil hg)
  exact resolveFuel_stable env ic _ _ g.members this (Nat.lt_succ_self _) rest ps'

theorem resolveRems_all_nil {env : Env} {ic : Interceptors} {R : List Rem} {path : Bytes} {ps : AMap Bytes}
    (h : ∀ k, byKind env ic R k path ps = []) : resolveRems env ic R path ps = ended R path ps := by
  rw [resolveRems_step]
  simp [h]

theorem mem_resolveRems_of_byKind {env : Env} {ic : Interceptors} {R : List Rem} {path : Bytes} {ps : AMap Bytes}
    {k : Kind} {o : Bytes × AMap Bytes} (ho : o ∈ byKind env ic R k path ps)
    (hlow : ∀ k' : Kind, k'.rank < k.rank → byKind env ic R k' path ps = []) :
    o ∈ resolveRems env ic R path ps := by
  rw [resolveRems_step]
  have hne : byKind env ic R k path ps ≠ [] := List.ne_nil_of_mem ho
  cases k with
  | str => rw [if_pos hne]; exact ho
  | icpt =>
    rw [if_neg (by simp [hlow .str (by decide)]), if_pos hne]
    exact List.mem_append_left _ ho
  | rx =>
    rw [if_neg (by simp [hlow .str (by decide)]), if_neg (by simp [hlow .icpt (by decide)]), if_pos hne]
    exact List.mem_append_left _ ho
  | named =>
    rw [if_neg (by simp [hlow .str (by decide)]), if_neg (by simp [hlow .icpt (by decide)]),
      if_neg (by simp [hlow .rx (by decide)])]
    exact List.mem_append_left _ ho

theorem mem_resolveRems_of_ended {env : Env} {ic : Interceptors} {R : List Rem} {ps : AMap Bytes}
    {o : Bytes × AMap Bytes} (ho : o ∈ ended R [] ps)
    (hlit : byKind env ic R .str [] ps = []) : o ∈ resolveRems env ic R [] ps := by
  rw [resolveRems_step, if_neg (by simp [hlit])]
  split
  · exact List.mem_append_right _ ho
  · split
    · exact List.mem_append_right _ ho
    · exact List.mem_append_right _ ho

theorem resolveRems_nil (env : Env) (ic : Interceptors) (path : Bytes) (ps : AMap Bytes) :
    resolveRems env ic [] path ps = [] := by
  simp [resolveRems_step, byKind, groups, dedup, ended]

/-- The resolver recurses on the members of the groups: what holds of `R` whenever it holds of the members of every
group of `R` holds of every list of remainders. -/
theorem resolveRems_induct {P : List Rem → Prop} (step : ∀ R, (∀ g ∈ groups R, P g.members) → P R) : ∀ R, P R := by
  have : ∀ n R, maxLen R < n → P R := by
    intro n
    induction n with
    | zero => exact fun _ h => absurd h (Nat.not_lt_zero _)
    | succ n ih =>
      exact fun R hR => step R fun g hg => ih _ (by have := maxLen_members hg (group_value_ne_nil hg); omega)
  exact fun R => this _ R (Nat.lt_succ_self _)

theorem resolveRems_cons_nil (env : Env) (ic : Interceptors) (p : Bytes) (R : List Rem) {path : Bytes}
    (hp : path ≠ []) (ps : AMap Bytes) :
    resolveRems env ic (([], p) :: R) path ps = resolveRems env ic R path ps := by
  rw [resolveRems_step, resolveRems_step]
  simp only [byKind, groups_cons_nil, ended, if_neg hp]

def SetEq {α : Type} (a b : List α) : Prop := ∀ x, x ∈ a ↔ x ∈ b

theorem SetEq.symm {α : Type} {a b : List α} (h : SetEq a b) : SetEq b a := fun x => (h x).symm

theorem SetEq.nil_iff {α : Type} {a b : List α} (h : SetEq a b) : a = [] ↔ b = [] := by
  rw [List.eq_nil_iff_forall_not_mem, List.eq_nil_iff_forall_not_mem]
  exact forall_congr' fun x => not_congr (h x)

theorem SetEq.map {α β : Type} {a b : List α} (f : α → β) (h : SetEq a b) : SetEq (a.map f) (b.map f) := by
  intro y
  simp only [List.mem_map, show ∀ x, x ∈ a ↔ x ∈ b from h]

theorem SetEq.filter {α : Type} {a b : List α} (p : α → Bool) (h : SetEq a b) : SetEq (a.filter p) (b.filter p) := by
  intro y
  simp only [List.mem_filter, h y]

theorem SetEq.append {α : Type} {a b c d : List α} (h1 : SetEq a b) (h2 : SetEq c d) : SetEq (a ++ c) (b ++ d) := by
  intro y
  simp only [List.mem_append, h1 y, h2 y]

theorem setEq_ite {α β : Type} {a a' : List β} {x x' y y' : List α} (h : SetEq a a') (hx : SetEq x x')
    (hy : SetEq y y') : SetEq (if a ≠ [] then x else y) (if a' ≠ [] then x' else y') := by
  simp only [ne_eq, h.nil_iff]
  split
  · exact hx
  · exact hy

theorem lcp_setEq {l l' : List Bytes} (h : SetEq l l') : lcp l = lcp l' := by
  by_cases hl : l = []
  · have hl' := h.nil_iff.1 hl
    rw [hl, hl']
  · have hl' : l' ≠ [] := fun e => hl (h.nil_iff.2 e)
    have h1 : lcp l <+: lcp l' := lcp_greatest hl' (fun s hs => lcp_prefix ((h s).2 hs))
    have h2 : lcp l' <+: lcp l := lcp_greatest hl (fun s hs => lcp_prefix ((h s).1 hs))
    exact h1.eq_of_length (Nat.le_antisymm h1.length_le h2.length_le)

theorem mkGroup_setEq {R R' : List Rem} (h : SetEq R R') (k : Key) :
    (mkGroup R k).value = (mkGroup R' k).value ∧ SetEq (mkGroup R k).members (mkGroup R' k).members := by
  have hf : SetEq (R.filter (fun r => keyOf r.1 = some k)) (R'.filter (fun r => keyOf r.1 = some k)) := h.filter _
  have hv : (mkGroup R k).value = (mkGroup R' k).value := congrArg (k.1 ++ ·) (lcp_setEq (hf.map _))
  refine ⟨hv, ?_⟩
  show SetEq ((R.filter _).map fun r => (r.1.drop (mkGroup R k).value.length, r.2)) _
  rw [hv]
  exact hf.map _

theorem groups_setEq {R R' : List Rem} (h : SetEq R R') {g : RGroup} (hg : g ∈ groups R) :
    ∃ g' ∈ groups R', g'.value = g.value ∧ SetEq g.members g'.members := by
  obtain ⟨r, hr, k, hk, rfl⟩ := mem_groups.1 hg
  obtain ⟨hv, hm⟩ := mkGroup_setEq h k
  exact ⟨mkGroup R' k, mem_groups.2 ⟨r, (h r).1 hr, k, hk, rfl⟩, hv.symm, hm⟩

theorem ended_setEq {R R' : List Rem} (h : SetEq R R') (path : Bytes) (ps : AMap Bytes) :
    SetEq (ended R path ps) (ended R' path ps) := by
  unfold ended
  split
  · exact (h.filter _).map _
  · exact fun _ => Iff.rfl

theorem resolveRems_setEq (env : Env) (ic : Interceptors) : ∀ R R' : List Rem, SetEq R R' → ∀ path ps,
    SetEq (resolveRems env ic R path ps) (resolveRems env ic R' path ps) := by
  refine resolveRems_induct fun R ih R' h path ps => ?_
  -- a group of `R` is tried like a group with the same text and the same members
  have tg : ∀ g ∈ groups R, ∀ g' : RGroup, g'.value = g.value → SetEq g.members g'.members → ∀ k,
      SetEq (tryGroup env ic (resolveRems env ic) k path ps g) (tryGroup env ic (resolveRems env ic) k path ps g') :=
    fun g hg g' hv hm k => tryGroup_rel (fun _ => Iff.rfl) hv (fun rest ps' => ih g hg g'.members hm rest ps') k path ps
  have hk : ∀ k, SetEq (byKind env ic R k path ps) (byKind env ic R' k path ps) := by
    refine fun k o => ⟨fun ho => ?_, fun ho => ?_⟩
    · obtain ⟨g, hg, hog⟩ := List.mem_flatMap.1 ho
      obtain ⟨g', hg', hv, hm⟩ := groups_setEq h hg
      exact List.mem_flatMap.2 ⟨g', hg', (tg g hg g' hv hm k o).1 hog⟩
    · obtain ⟨g', hg', hog⟩ := List.mem_flatMap.1 ho
      obtain ⟨g, hg, hv, hm⟩ := groups_setEq h.symm hg'
      exact List.mem_flatMap.2 ⟨g, hg, (tg g hg g' hv.symm hm.symm k o).2 hog⟩
  have he := ended_setEq h path ps
  rw [resolveRems_step, resolveRems_step]
  exact setEq_ite (hk .str) (hk .str)
    (setEq_ite (hk .icpt) ((hk .icpt).append he)
      (setEq_ite (hk .rx) ((hk .rx).append he) ((hk .named).append he)))

theorem resolveAll_setEq (env : Env) (ic : Interceptors) {rs rs' : List Bytes} (h : SetEq rs rs') (path : Bytes) :
    SetEq (resolveAll env ic rs path) (resolveAll env ic rs' path) :=
  resolveRems_setEq env ic _ _ (h.map _) path []

end Mux.P15

namespace Mux.P16
open Mux Mux.Spec Mux.P15

theorem hasPrefix_append (path a b : Bytes) :
    hasPrefix path (a ++ b) = (hasPrefix path a && hasPrefix (path.drop a.length) b) := by
  rw [Bool.eq_iff_iff, Bool.and_eq_true, hasPrefix_iff, hasPrefix_iff, hasPrefix_iff]
  constructor
  · rintro ⟨t, rfl⟩
    refine ⟨⟨b ++ t, by simp⟩, ⟨t, ?_⟩⟩
    simp
  · rintro ⟨⟨u, rfl⟩, ⟨t, ht⟩⟩
    refine ⟨t, ?_⟩
    simp only [List.drop_left] at ht
    rw [List.append_assoc, ht]

theorem tryGroup_lit (env : Env) (ic : Interceptors) (rec : List Rem → Bytes → AMap Bytes → List (Bytes × AMap Bytes))
    {g : RGroup} (hs : startByte ∉ g.value) (hl : g.value.length ≤ maxInt16) (k : Kind) (path : Bytes) (ps : AMap Bytes) :
    tryGroup env ic rec k path ps g =
      if k = .str ∧ hasPrefix path g.value = true then rec g.members (path.drop g.value.length) ps else [] := by
  have hm : ({ value := g.value } : Seg).match env ic path =
      if hasPrefix path g.value then .yes [] (path.drop g.value.length) else .no := rfl
  unfold tryGroup
  rw [P9.newSegment_noStart ic hs hl]
  simp only [hm]
  by_cases hk : k = .str
  · subst hk
    by_cases hp : hasPrefix path g.value = true
    · simp [hp, addParam]
    · simp [hp]
  · have : ¬ (Kind.str = k) := fun h => hk h.symm
    simp [this, hk]

section Lit
variable (env : Env) (ic : Interceptors) {R : List Rem} {e : Bytes}
  (he : lcp (R.map (fun r => leadLit r.1)) = e) (hne : e ≠ [])
include he hne

theorem lit_groups : groups R = [{ value := e, members := R.map (fun r => (r.1.drop e.length, r.2)) }] := by
  obtain ⟨hR0, b, hb, hR⟩ := lcp_leadLit_ne_nil_iff.1 (he ▸ hne)
  have hcons : ∀ r ∈ R, ∃ t, r.1 = b :: t := fun r hr => List.head?_eq_some_iff.1 (hR r hr)
  have hkey : ∀ r ∈ R, keyOf r.1 = some (([], some b) : Key) := by
    intro r hr
    obtain ⟨t, ht⟩ := hcons r hr
    rw [ht]; exact keyOf_cons_ne hb t
  have hg := groups_block (B := R) (R' := []) (k := ([], some b)) hR0 hkey (by simp)
  rw [List.append_nil, groups_nil] at hg
  have hlits : R.map (fun r => litOf r.1) = R.map (fun r => leadLit r.1) := by
    apply List.map_congr_left
    intro r hr
    obtain ⟨t, ht⟩ := hcons r hr
    rw [ht]; exact litOf_cons_ne hb t
  rw [hg, mkGroup_of_key hkey]
  simp only [hlits, he, List.nil_append]

theorem lit_ended (path : Bytes) (ps : AMap Bytes) : ended R path ps = [] := by
  obtain ⟨_, b, _, hR⟩ := lcp_leadLit_ne_nil_iff.1 (he ▸ hne)
  rw [ended_eq_nil_iff]
  intro _ r hr hre
  have := hR r hr
  rw [hre] at this
  cases this

theorem resolveRems_lit (hlen : e.length ≤ maxInt16) (path : Bytes) (ps : AMap Bytes) :
    resolveRems env ic R path ps =
      if hasPrefix path e then
        resolveRems env ic (R.map (fun r => (r.1.drop e.length, r.2))) (path.drop e.length) ps
      else [] := by
  have hby : ∀ k, byKind env ic R k path ps =
      if k = .str ∧ hasPrefix path e = true then
        resolveRems env ic (R.map (fun r => (r.1.drop e.length, r.2))) (path.drop e.length) ps
      else [] := by
    intro k
    unfold byKind
    rw [lit_groups he hne, List.flatMap_cons, List.flatMap_nil, List.append_nil,
      tryGroup_lit env ic _ (he ▸ start_not_mem_lcp_leadLit R) hlen]
  rw [resolveRems_step, lit_ended he hne, hby .str, hby .icpt, hby .rx, hby .named]
  simp
end Lit

end Mux.P16
