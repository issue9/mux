/-
  Mux.Proofs.Tok — the text layer between `internal/syntax` and the tree, without byte positions: brace-free text and
  token texts `{body}suf` (`tok`), the well-formed pieces of a pattern (one notion under the names of the three layers
  that use it; the lemmas are stated for the `P9` names), and what `NewSegment` and `splitString` do on such texts.
-/
import Mux.Proofs.Syntax

namespace Mux.P9
open Mux

/-- The same predicate as `P11.Plain` and `P8.NoBrace` (`P14.plain_iff_P9`, `P14.plain_iff_P8`). -/
def NoBrace (v : Bytes) : Prop := startByte ∉ v ∧ endByte ∉ v

/-- `{body}suf`. -/
def tok (body suf : Bytes) : Bytes := startByte :: (body ++ endByte :: suf)

/-- One `{…}` token at the start, no other brace. -/
def TokPiece (v : Bytes) : Prop := ∃ body suf, v = tok body suf ∧ NoBrace body ∧ NoBrace suf

/-- A piece as `splitString` produces it from a pattern whose braces are balanced and not nested:
literal text without braces, or one token followed by literal text without braces. -/
def WfPiece (v : Bytes) : Prop := NoBrace v ∨ TokPiece v

/-- The hypothesis "balanced `{name:rule}` tokens, literal text without braces" on a pattern. -/
def WfPattern (p : Bytes) : Prop := ∀ v ∈ splitString p, WfPiece v

end Mux.P9

namespace Mux.P11
open Mux

/-- The same predicate as `P9.NoBrace` and `P8.NoBrace`; `WfVal` is `P9.WfPiece` and `P8.Tidy` on non-empty texts
(`wfVal_iff`). -/
def Plain (v : Bytes) : Prop := startByte ∉ v ∧ endByte ∉ v

/-- `{inner}suffix` with brace-free `inner` and `suffix`. -/
def ParamForm (v : Bytes) : Prop := ∃ ia sa, v = startByte :: (ia ++ endByte :: sa) ∧ Plain ia ∧ Plain sa

/-- The text of a tree segment of a well-formed pattern. -/
def WfVal (v : Bytes) : Prop := (v ≠ [] ∧ Plain v) ∨ ParamForm v

def Closed (v : Bytes) : Prop := v.getLast? = some endByte

end Mux.P11

namespace Mux.P8
open Mux

/-- The same predicate as `P9.NoBrace` and `P11.Plain`; likewise `Tidy` is `P9.WfPiece` (`P14.wfPiece_iff_tidy`). -/
def NoBrace (v : Bytes) : Prop := startByte ∉ v ∧ endByte ∉ v

/-- `{inner}tail` with no further brace. -/
def TokForm (v : Bytes) : Prop :=
  ∃ inner tail, v = startByte :: (inner ++ endByte :: tail) ∧ NoBrace inner ∧ NoBrace tail

/-- A segment text is tidy when it is brace-free literal text or one parameter token followed by
brace-free text. -/
def Tidy (v : Bytes) : Prop := NoBrace v ∨ TokForm v

instance (v : Bytes) : Decidable (NoBrace v) := by unfold NoBrace; infer_instance

end Mux.P8

/-! The predicates unfold to the same statements, so a lemma about `P9.NoBrace`, `P9.WfPiece` applies to the other two
vocabularies as it stands. -/

namespace Mux.P14
open Mux

theorem plain_iff_P9 (v : Bytes) : P11.Plain v ↔ P9.NoBrace v := Iff.rfl
theorem plain_iff_P8 (v : Bytes) : P11.Plain v ↔ P8.NoBrace v := Iff.rfl

theorem wfPiece_iff_tidy (v : Bytes) : P9.WfPiece v ↔ P8.Tidy v := Iff.rfl

theorem wfPiece_wfVal {v : Bytes} (hne : v ≠ []) (h : P9.WfPiece v) : P11.WfVal v := by
  rcases h with hp | ⟨ia, sa, rfl, hia, hsa⟩
  · exact .inl ⟨hne, hp⟩
  · exact .inr ⟨ia, sa, rfl, hia, hsa⟩

end Mux.P14

namespace Mux.P11
open Mux

theorem WfVal.piece {v : Bytes} (h : WfVal v) : P9.WfPiece v :=
  h.elim (fun h => .inl h.2) .inr

theorem WfVal.ne_nil {v : Bytes} (h : WfVal v) : v ≠ [] := by
  rcases h with h | ⟨ia, sa, rfl, _, _⟩
  · exact h.1
  · simp

theorem wfVal_iff {v : Bytes} : WfVal v ↔ v ≠ [] ∧ P9.WfPiece v :=
  ⟨fun h => ⟨h.ne_nil, h.piece⟩, fun h => P14.wfPiece_wfVal h.1 h.2⟩

end Mux.P11

namespace Mux.P9
open Mux

theorem NoBrace.nil : NoBrace [] := ⟨by simp, by simp⟩

theorem NoBrace.cons {c : UInt8} {r : Bytes} (h : NoBrace (c :: r)) : c ≠ startByte ∧ c ≠ endByte ∧ NoBrace r := by
  simp only [NoBrace, List.mem_cons, not_or] at h
  exact ⟨fun e => h.1.1 e.symm, fun e => h.2.1 e.symm, h.1.2, h.2.2⟩

theorem NoBrace.of_cons {c : UInt8} {r : Bytes} (h1 : c ≠ startByte) (h2 : c ≠ endByte) (h : NoBrace r) :
    NoBrace (c :: r) := by
  simp only [NoBrace, List.mem_cons, not_or]
  exact ⟨⟨fun e => h1 e.symm, h.1⟩, fun e => h2 e.symm, h.2⟩

theorem NoBrace.append {a b : Bytes} (ha : NoBrace a) (hb : NoBrace b) : NoBrace (a ++ b) := by
  simp only [NoBrace, List.mem_append, not_or]
  exact ⟨⟨ha.1, hb.1⟩, ha.2, hb.2⟩

theorem NoBrace.of_suffix_append {a b : Bytes} (h : NoBrace (a ++ b)) : NoBrace b :=
  ⟨fun hm => h.1 (List.mem_append_right _ hm), fun hm => h.2 (List.mem_append_right _ hm)⟩

theorem NoBrace.take {v : Bytes} (h : NoBrace v) (n : Nat) : NoBrace (v.take n) :=
  ⟨fun hm => h.1 (List.mem_of_mem_take hm), fun hm => h.2 (List.mem_of_mem_take hm)⟩

theorem NoBrace.drop {v : Bytes} (h : NoBrace v) (n : Nat) : NoBrace (v.drop n) :=
  ⟨fun hm => h.1 (List.mem_of_mem_drop hm), fun hm => h.2 (List.mem_of_mem_drop hm)⟩

theorem NoBrace.wf {v : Bytes} (h : NoBrace v) : WfPiece v := .inl h

theorem wfPattern_lit_tok {p lit body suf : Bytes} (h : splitString p = [lit, tok body suf])
    (hl : NoBrace lit) (hb : NoBrace body) (hs : NoBrace suf) : WfPattern p := by
  intro v hv
  simp only [h, List.mem_cons, List.not_mem_nil, or_false] at hv
  rcases hv with rfl | rfl
  · exact .inl hl
  · exact .inr ⟨body, suf, rfl, hb, hs⟩

theorem lastByte_mem {v : Bytes} (h : v ≠ []) : lastByte v ∈ v := by
  have hlt : v.length - 1 < v.length := by
    cases v with
    | nil => exact absurd rfl h
    | cons _ _ => simp
  simp only [lastByte, List.getElem?_eq_getElem hlt, Option.getD_some]
  exact List.getElem_mem hlt

theorem NoBrace.last_ne {v : Bytes} (h : NoBrace v) (hne : v ≠ []) : lastByte v ≠ endByte :=
  fun e => h.2 (e ▸ lastByte_mem hne)

end Mux.P9

namespace Mux.P11
open Mux

theorem Plain.cons {c : UInt8} {r : Bytes} (h : Plain (c :: r)) : c ≠ startByte ∧ c ≠ endByte ∧ Plain r :=
  P9.NoBrace.cons h

theorem Plain.append {a b : Bytes} (ha : Plain a) (hb : Plain b) : Plain (a ++ b) := P9.NoBrace.append ha hb

theorem Plain.not_closed {a : Bytes} (h : Plain a) : ¬ Closed a := by
  intro hc
  exact h.2 (List.mem_of_getLast? hc)

end Mux.P11

namespace Mux

theorem ite_iff {α : Type} {p q : Prop} [Decidable p] [Decidable q] (h : p ↔ q) (a b : α) :
    (if p then a else b) = if q then a else b := by
  by_cases hp : p
  · rw [if_pos hp, if_pos (h.1 hp)]
  · rw [if_neg hp, if_neg (fun hq => hp (h.2 hq))]

theorem indexByte_append (b : UInt8) (x y : Bytes) :
    indexByte b (x ++ y) = match indexByte b x with
      | some i => some i
      | none => (indexByte b y).map (· + x.length) := by
  simp only [indexByte_eq_findIdx?, List.findIdx?_append]
  cases List.findIdx? (· == b) x <;> rfl

theorem append_end_inj {ia ib sa sb : Bytes} (ha : endByte ∉ ia) (hb : endByte ∉ ib)
    (h : ia ++ endByte :: sa = ib ++ endByte :: sb) : ia = ib ∧ sa = sb := by
  -- the first `}` of the two sides is at the same position
  have hl := congrArg (indexByte endByte) h
  rw [indexByte_append, indexByte_eq_none_iff.2 ha, indexByte_append, indexByte_eq_none_iff.2 hb] at hl
  obtain ⟨e1, e2⟩ := List.append_inj h (by simpa [indexByte] using hl)
  exact ⟨e1, (List.cons.inj e2).2⟩

end Mux

namespace Mux.P9
open Mux

theorem indexByte_append_of_not_mem {b : UInt8} {x y : Bytes} (h : b ∉ x) :
    indexByte b (x ++ y) = (indexByte b y).map (· + x.length) := by
  rw [indexByte_append, indexByte_eq_none_iff.2 h]

theorem TokPiece.start {v : Bytes} (h : TokPiece v) : startByte ∈ v := by
  obtain ⟨body, suf, rfl, _, _⟩ := h
  simp [tok]

theorem tok_length (body suf : Bytes) : (tok body suf).length = body.length + suf.length + 2 := by
  simp [tok]; omega

theorem tok_eq_append (body suf : Bytes) : tok body suf = (startByte :: (body ++ [endByte])) ++ suf := by
  simp [tok]

theorem tok_append_suffix (b s d : Bytes) : tok b (s ++ d) = tok b s ++ d := by simp [tok]

theorem tok_take (body suf : Bytes) (k : Nat) :
    (tok body suf).take (body.length + 2 + k) = tok body (suf.take k) := by
  rw [tok_eq_append, tok_eq_append, List.take_append, List.take_of_length_le (by simp)]
  simp

theorem tok_drop (body suf : Bytes) (k : Nat) :
    (tok body suf).drop (body.length + 2 + k) = suf.drop k := by
  rw [tok_eq_append, List.drop_append, List.drop_of_length_le (by simp)]
  simp

theorem tok_inj {b s b' s' : Bytes} (hb : endByte ∉ b) (hb' : endByte ∉ b') (h : tok b s = tok b' s') :
    b = b' ∧ s = s' :=
  append_end_inj hb hb' (List.cons.inj h).2

theorem tok_append_inj {b s X b' s' Y : Bytes} (hb : endByte ∉ b) (hb' : endByte ∉ b')
    (h : tok b s ++ X = tok b' s' ++ Y) : b = b' ∧ s ++ X = s' ++ Y := by
  rw [← tok_append_suffix, ← tok_append_suffix] at h
  exact tok_inj hb hb' h

theorem tok_start (body suf : Bytes) : indexByte startByte (tok body suf) = some 0 := by
  simp [tok, indexByte]

theorem tok_end {body : Bytes} (suf : Bytes) (h : endByte ∉ body) :
    indexByte endByte (tok body suf) = some (body.length + 1) := by
  have h0 : ¬ startByte = endByte := by decide
  simp only [tok, indexByte, h0, if_false]
  rw [indexByte_append_of_not_mem h]
  simp [indexByte]

theorem tok_sep_eq (body suf : Bytes) :
    indexByte separatorByte (tok body suf) =
      match indexByte separatorByte body with
      | some k => some (k + 1)
      | none => (indexByte separatorByte suf).map (· + (body.length + 2)) := by
  have h0 : ¬ startByte = separatorByte := by decide
  have h1 : ¬ endByte = separatorByte := by decide
  simp only [tok, indexByte, h0, if_false]
  rw [indexByte_append]
  cases indexByte separatorByte body with
  | some k => rfl
  | none =>
    simp only [indexByte, h1, if_false]
    cases indexByte separatorByte suf with
    | none => rfl
    | some j => simp only [Option.map_some, Option.some.injEq]; omega

theorem tok_take_drop1 (body suf : Bytes) (k : Nat) (hk : k ≤ body.length) :
    ((tok body suf).take (k + 1)).drop 1 = body.take k := by
  simp only [tok, List.take_succ_cons, List.drop_succ_cons, List.drop_zero]
  rw [List.take_append_of_le_length hk]

theorem tok_take_drop2 (body suf : Bytes) (k : Nat) :
    ((tok body suf).take (body.length + 1)).drop (k + 2) = body.drop (k + 1) := by
  simp only [tok, List.take_succ_cons, List.drop_succ_cons]
  rw [List.take_append_of_le_length (Nat.le_refl _), List.take_length]

theorem lastByte_tok (body suf : Bytes) : lastByte (tok body suf) = lastByte (endByte :: suf) := by
  have : tok body suf = (startByte :: body) ++ (endByte :: suf) := by simp [tok]
  rw [this, lastByte_append _ (by simp)]

theorem lastByte_tok_nil (body : Bytes) : lastByte (tok body []) = endByte := lastByte_tok body []

theorem lastByte_tok_ne (body : Bytes) {suf : Bytes} (hs : endByte ∉ suf) (hne : suf ≠ []) :
    lastByte (tok body suf) ≠ endByte := by
  rw [tok_eq_append, lastByte_append _ hne]
  exact fun e => hs (e ▸ lastByte_mem hne)

theorem newSegment_noStart (ic : Interceptors) {v : Bytes} (h : startByte ∉ v) (hl : v.length ≤ maxInt16) :
    newSegment ic v = .ok { value := v } :=
  newSegment_ok_iff.2 ⟨hl, .lit (.inl (indexByte_eq_none_iff.2 h))⟩

theorem newSegment_noEnd (ic : Interceptors) {v : Bytes} (h : endByte ∉ v) (hl : v.length ≤ maxInt16) :
    newSegment ic v = .ok { value := v } :=
  newSegment_ok_iff.2 ⟨hl, .lit (.inr (indexByte_eq_none_iff.2 h))⟩

theorem newSegment_len {ic : Interceptors} {v : Bytes} {s : Seg} (h : newSegment ic v = .ok s) :
    v.length ≤ maxInt16 := (newSegment_ok_iff.1 h).1

theorem newSegment_str_of_noStart {ic : Interceptors} {v : Bytes} {s : Seg} (h : newSegment ic v = .ok s)
    (hn : startByte ∉ v) : s = { value := v } := by
  rw [newSegment_noStart ic hn (newSegment_len h)] at h
  cases h; rfl

theorem newSegment_str_of_noEnd {ic : Interceptors} {v : Bytes} {s : Seg} (h : newSegment ic v = .ok s)
    (hn : endByte ∉ v) : s = { value := v } := by
  rw [newSegment_noEnd ic hn (newSegment_len h)] at h
  cases h; rfl

/-- Name and `-` flag inside `{…}`: the text before the first `:` (all of it when there is none). -/
def bodyName (body : Bytes) : Bytes × Bool :=
  stripIgn (body.take ((indexByte separatorByte body).getD body.length))

/-- The rule inside `{…}`: the text after the first `:` (none when there is no `:`). -/
def bodyRule (body : Bytes) : Bytes :=
  match indexByte separatorByte body with
  | none => []
  | some k => body.drop (k + 1)

/-- The kind of `{body}…`: decided by the rule and the interceptor table. -/
def bodyKind (ic : Interceptors) (body : Bytes) : Kind :=
  if bodyRule body = [] then .named else if (ic.find (bodyRule body)).isSome then .icpt else .rx

theorem bodyKind_ne_str (ic : Interceptors) (body : Bytes) : bodyKind ic body ≠ .str := by
  unfold bodyKind
  split
  · exact fun h => nomatch h
  · split <;> exact fun h => nomatch h

/-- What `NewSegment` makes of `{body}suf` (no `}` in `body`), the length check aside: `{}` and `{:…}` are syntax
errors, `{name}` and `{name:}` named parameters, `{name:rule}` an interceptor or a regexp. -/
def tokSeg (ic : Interceptors) (body suf : Bytes) : Except Err Seg :=
  if body = [] ∨ body.head? = some separatorByte then .error .syntax
  else if bodyRule body = [] then
    .ok { value := tok body suf, kind := .named, name := (bodyName body).1, ignoreName := (bodyName body).2,
          suffix := suf, endpoint := decide (lastByte (tok body suf) = endByte) }
  else ruledSeg ic (tok body suf) (bodyName body) (bodyRule body) suf

/-- The first `{` is at `0`, the first `}` at `|body| + 1`, the first `:` is that of
the body, or lies after the `}`: every slice in the branches of `segAt` is a part of `body`, or is `suf`. -/
theorem newSegment_tok_eq (ic : Interceptors) {body : Bytes} (suf : Bytes) (hb : endByte ∉ body) :
    newSegment ic (tok body suf) =
      if (tok body suf).length > maxInt16 then .error .tooLong else tokSeg ic body suf := by
  by_cases hl : (tok body suf).length > maxInt16
  · rw [newSegment_tooLong ic hl, if_pos hl]
  rw [if_neg hl, newSegment_closed_at ic (Nat.le_of_not_gt hl) (tok_start body suf) (tok_end suf hb), tok_sep_eq]
  have hsuf : (tok body suf).drop (body.length + 1 + 1) = suf := tok_drop body suf 0
  unfold tokSeg bodyName bodyRule segAt
  cases hk : indexByte separatorByte body with
  | none =>
    -- no `:` inside the braces: the name is the whole body
    have hsp : body.length + 1 <
        (Option.map (· + (body.length + 2)) (indexByte separatorByte suf)).getD (tok body suf).length := by
      cases indexByte separatorByte suf with
      | none => rw [Option.map_none, Option.getD_none, tok_length]; omega
      | some j => rw [Option.map_some, Option.getD_some]; omega
    have hh : ¬ body.head? = some separatorByte := fun h => by rw [indexByte_zero_iff.2 h] at hk; cases hk
    have hnm : ((tok body suf).take (body.length + 1)).drop (0 + 1) = body.take body.length :=
      tok_take_drop1 body suf _ (Nat.le_refl _)
    dsimp only [Option.getD_none]
    by_cases hbn : body = []
    · rw [if_pos (.inr (.inl (by rw [hbn]; rfl))), if_pos (.inl hbn)]
    · have := List.length_pos_iff.2 hbn
      rw [if_neg (by omega), if_neg (by omega), if_pos hsp, if_neg (fun h => h.elim hbn hh), if_pos rfl]
      simp only [mkNamed, hnm, hsuf]
  | some k =>
    have hkl := indexByte_some_lt hk
    have hnm : ((tok body suf).take (k + 1)).drop (0 + 1) = body.take k := tok_take_drop1 body suf k (Nat.le_of_lt hkl)
    have hrule : ((tok body suf).take (body.length + 1)).drop (k + 1 + 1) = body.drop (k + 1) := tok_take_drop2 body suf k
    have hbn : body ≠ [] := fun e => by rw [e] at hkl; exact Nat.not_lt_zero _ hkl
    have hh : body.head? = some separatorByte ↔ k = 0 := by
      rw [← indexByte_zero_iff, hk]; simp
    have hr : body.drop (k + 1) = [] ↔ k + 1 = body.length := by
      rw [List.drop_eq_nil_iff]; omega
    dsimp only [Option.getD_some]
    by_cases h0 : k = 0
    · rw [if_pos (.inr (.inr (by omega))), if_pos (.inr (hh.2 h0))]
    rw [if_neg (by omega), if_neg (show ¬ (body = [] ∨ body.head? = some separatorByte) from (·.elim hbn (h0 ∘ hh.1)))]
    by_cases h1 : k + 1 = body.length
    · rw [if_pos (by omega), if_pos (hr.2 h1)]
      simp only [mkNamed, hnm, hsuf]
    rw [if_neg (by omega), if_neg (by omega), if_neg (Nat.not_lt_zero _), if_neg (mt hr.1 h1)]
    unfold finishRuled
    rw [hnm, hrule, hsuf]

theorem newSegment_tok_ok {ic : Interceptors} {body suf : Bytes} {s : Seg} (hb : endByte ∉ body)
    (h : newSegment ic (tok body suf) = .ok s) : tokSeg ic body suf = .ok s := by
  rw [newSegment_tok_eq ic suf hb] at h
  split at h
  · cases h
  · exact h

theorem newSegment_tok_of_len {ic : Interceptors} {body suf : Bytes} (hb : endByte ∉ body)
    (hl : (tok body suf).length ≤ maxInt16) : newSegment ic (tok body suf) = tokSeg ic body suf := by
  rw [newSegment_tok_eq ic suf hb, if_neg (Nat.not_lt.2 hl)]

theorem ruledSeg_ok {ic : Interceptors} {v : Bytes} {nm : Bytes × Bool} {rule suf : Bytes} {s : Seg}
    (h : ruledSeg ic v nm rule suf = .ok s) :
    s.value = v ∧ s.name = nm.1 ∧ s.ignoreName = nm.2 ∧ s.rule = rule ∧ s.suffix = suf ∧
      s.kind = (if (ic.find rule).isSome then .icpt else .rx) := by
  rcases ruledSeg_ok_cases h with ⟨id, hf, rfl⟩ | ⟨hf, _, re, _, rfl⟩
  · rw [hf]; exact ⟨rfl, rfl, rfl, rfl, rfl, rfl⟩
  · rw [hf]; exact ⟨rfl, rfl, rfl, rfl, rfl, rfl⟩

theorem tokSeg_ok {ic : Interceptors} {body suf : Bytes} {s : Seg} (h : tokSeg ic body suf = .ok s) :
    s.value = tok body suf ∧ s.name = (bodyName body).1 ∧ s.ignoreName = (bodyName body).2 ∧
      s.rule = bodyRule body ∧ s.suffix = suf ∧ s.kind = bodyKind ic body := by
  unfold tokSeg at h
  unfold bodyKind
  split at h
  · cases h
  · split at h
    · rename_i hr
      cases h
      exact ⟨rfl, rfl, rfl, hr.symm, rfl, (if_pos hr).symm⟩
    · rename_i hr
      rw [if_neg hr]
      exact ruledSeg_ok h

/-- The text the name is cut from is not empty: `{}` and `{:…}` are refused. -/
theorem tokSeg_rawName_ne {ic : Interceptors} {body suf : Bytes} {s : Seg} (h : tokSeg ic body suf = .ok s) :
    body.take ((indexByte separatorByte body).getD body.length) ≠ [] := by
  unfold tokSeg at h
  split at h
  · cases h
  · rename_i hbad
    intro e
    rcases List.take_eq_nil_iff.1 e with e | e
    · cases hk : indexByte separatorByte body with
      | none =>
        rw [hk, Option.getD_none] at e
        exact hbad (.inl (List.length_eq_zero_iff.1 e))
      | some k =>
        rw [hk, Option.getD_some] at e
        exact hbad (.inr (indexByte_zero_iff.1 (e ▸ hk)))
    · exact hbad (.inl e)

/-- Only "no `}` in `body`" is asked: a `{` in the body, a `}` in the suffix are allowed. -/
theorem newSegment_tok_fields {ic : Interceptors} {body suf : Bytes} {s : Seg} (hb : endByte ∉ body)
    (h : newSegment ic (tok body suf) = .ok s) :
    s.kind ≠ .str ∧ s.suffix = suf ∧ s.name = (bodyName body).1 ∧ s.ignoreName = (bodyName body).2 ∧
      s.rule = bodyRule body ∧ s.kind = bodyKind ic body := by
  obtain ⟨_, hn, hi, hr, hs, hk⟩ := tokSeg_ok (newSegment_tok_ok hb h)
  exact ⟨hk ▸ bodyKind_ne_str ic body, hs, hn, hi, hr, hk⟩

theorem WfPiece.kind_str_iff {ic : Interceptors} {v : Bytes} {s : Seg} (hw : WfPiece v)
    (h : newSegment ic v = .ok s) : s.kind = .str ↔ NoBrace v := by
  rcases hw with hn | ⟨body, suf, rfl, hb, _⟩
  · exact iff_of_true (by rw [newSegment_str_of_noStart h hn.1]) hn
  · exact iff_of_false (newSegment_tok_fields hb.2 h).1 fun hn => hn.1 (by simp [tok])

/-- `endpoint`: the text ends with `}` (a regexp segment never has it set). -/
theorem tokSeg_endpoint {ic : Interceptors} {body suf : Bytes} {s : Seg} (h : tokSeg ic body suf = .ok s) :
    s.endpoint = (decide (s.kind ≠ .rx) && decide (lastByte (endByte :: suf) = endByte)) := by
  rw [← lastByte_tok body suf]
  unfold tokSeg at h
  split at h
  · cases h
  · split at h
    · cases h; simp
    · rcases ruledSeg_ok_cases h with ⟨_, _, rfl⟩ | ⟨_, _, _, _, rfl⟩
      · simp
      · rfl

/-- The text after the token enters the segment as `suffix`, through `endpoint` (does the text end with `}`) and, for a
regexp segment, through the ASCII check: a suffix that agrees on these two gives the same segment otherwise. -/
theorem tokSeg_resuffix {ic : Interceptors} {body suf suf' : Bytes} {s : Seg} (h : tokSeg ic body suf = .ok s)
    (he : decide (lastByte (tok body suf') = endByte) = decide (lastByte (tok body suf) = endByte))
    (ha : isAscii suf = true → isAscii suf' = true) :
    tokSeg ic body suf' = .ok { s with value := tok body suf', suffix := suf' } := by
  unfold tokSeg at h ⊢
  split at h
  · cases h
  · rename_i hbad
    rw [if_neg hbad]
    split at h
    · rename_i hr
      cases h
      rw [if_pos hr, he]
    · rename_i hr
      rw [if_neg hr]
      unfold ruledSeg
      rcases ruledSeg_ok_cases h with ⟨id, hf, rfl⟩ | ⟨hf, hasc, re, hre, rfl⟩
      · rw [hf, he]
      · rw [hf, hre]
        exact if_neg (fun hn => hn (ha hasc))

theorem ruledSeg_indep {ic ic' : Interceptors} {v : Bytes} {nm : Bytes × Bool} {rule suf : Bytes} {a b : Seg}
    (ha : ruledSeg ic v nm rule suf = .ok a) (hb : ruledSeg ic' v nm rule suf = .ok b) (hk : a.kind = b.kind) :
    a = b := by
  rcases ruledSeg_ok_cases ha with ⟨_, _, rfl⟩ | ⟨_, _, re, hre, rfl⟩ <;>
    rcases ruledSeg_ok_cases hb with ⟨_, _, rfl⟩ | ⟨_, _, re', hre', rfl⟩
  · rfl
  · cases hk
  · cases hk
  · rw [hre] at hre'
    cases hre'
    rfl

theorem tokSeg_indep {ic ic' : Interceptors} {body suf : Bytes} {a b : Seg} (ha : tokSeg ic body suf = .ok a)
    (hb : tokSeg ic' body suf = .ok b) (hk : a.kind = b.kind) : a = b := by
  unfold tokSeg at ha hb
  by_cases hbad : body = [] ∨ body.head? = some separatorByte
  · rw [if_pos hbad] at ha; cases ha
  rw [if_neg hbad] at ha hb
  by_cases hr : bodyRule body = []
  · rw [if_pos hr] at ha hb
    exact Except.ok.inj (ha.symm.trans hb)
  · rw [if_neg hr] at ha hb
    exact ruledSeg_indep ha hb hk

/-- The cut lies at least one byte after the closing brace, so that `endpoint` is `false` before and after it. -/
theorem newSegment_tok_take {ic : Interceptors} {body suf : Bytes} {s : Seg} (hb : endByte ∉ body) (hs : endByte ∉ suf)
    (h : newSegment ic (tok body suf) = .ok s) {k : Nat} (hk : k + 1 ≤ suf.length) :
    newSegment ic (tok body (suf.take (k + 1))) =
      .ok { s with value := tok body (suf.take (k + 1)), suffix := suf.take (k + 1) } := by
  have hlen : (tok body (suf.take (k + 1))).length ≤ (tok body suf).length := by
    rw [tok_length, tok_length, List.length_take]; omega
  rw [newSegment_tok_of_len hb (Nat.le_trans hlen (newSegment_len h))]
  have hne : suf ≠ [] := fun e => by rw [e] at hk; exact Nat.not_succ_le_zero _ hk
  have hne' : suf.take (k + 1) ≠ [] := by
    cases suf with
    | nil => exact absurd rfl hne
    | cons x xs => simp
  refine tokSeg_resuffix (newSegment_tok_ok hb h) ?_ (isAscii_of_prefix (List.take_prefix _ _))
  rw [decide_eq_false (lastByte_tok_ne body (fun hm => hs (List.mem_of_mem_take hm)) hne'),
    decide_eq_false (lastByte_tok_ne body hs hne)]

/-- A closed piece: literal text without `{`, or `{body}suf` with no `}` in `body` and no `{` in `suf`. -/
def ClosedPiece (v : Bytes) : Prop :=
  startByte ∉ v ∨ ∃ body suf, v = tok body suf ∧ endByte ∉ body ∧ startByte ∉ suf

/-- An open piece: `{w` with no `}` (only the last piece of a pattern can be one). -/
def OpenPiece (v : Bytes) : Prop := ∃ w, v = startByte :: w ∧ endByte ∉ w

/-- What `splitString` can emit. -/
def Shape (v : Bytes) : Prop := ClosedPiece v ∨ OpenPiece v

/-- The invariant of `splitAux` on the piece in progress. -/
def CurShape : Bool → Bytes → Prop
  | false, cur => ClosedPiece cur
  | true, cur => OpenPiece cur

theorem closed_snoc {cur : Bytes} (h : ClosedPiece cur) {b : UInt8} (hb : b ≠ startByte) : ClosedPiece (cur ++ [b]) := by
  rcases h with h | ⟨body, suf, rfl, h1, h2⟩
  · left
    simp only [List.mem_append, List.mem_singleton, not_or]
    exact ⟨h, fun e => hb e.symm⟩
  · right
    refine ⟨body, suf ++ [b], by simp [tok], h1, ?_⟩
    simp only [List.mem_append, List.mem_singleton, not_or]
    exact ⟨h2, fun e => hb e.symm⟩

theorem open_snoc {cur : Bytes} (h : OpenPiece cur) {b : UInt8} (hb : b ≠ endByte) : OpenPiece (cur ++ [b]) := by
  obtain ⟨w, rfl, hw⟩ := h
  refine ⟨w ++ [b], rfl, ?_⟩
  simp only [List.mem_append, List.mem_singleton, not_or]
  exact ⟨hw, fun e => hb e.symm⟩

theorem open_close {cur : Bytes} (h : OpenPiece cur) : ClosedPiece (cur ++ [endByte]) := by
  obtain ⟨w, rfl, hw⟩ := h
  exact .inr ⟨w, [], by simp [tok], hw, by simp⟩

theorem splitAux_shape {st : Bool} {cur : Bytes} (rest : Bytes) (h : CurShape st cur) :
    ∀ p ∈ splitAux st cur rest, Shape p :=
  splitAux_pieces (I := fun st cur _ => CurShape st cur) (P := Shape)
    (fun st cur h => by cases st; exact .inl h; exact .inr h)
    (fun cur rest h => ⟨fun _ => .inl h, ⟨[], rfl, by simp⟩⟩)
    (fun cur b rest hb h => closed_snoc h hb)
    (fun cur rest h => open_close h)
    (fun cur b rest hb h => open_snoc h hb)
    st cur rest h

theorem splitString_shape (s : Bytes) : ∀ p ∈ splitString s, Shape p :=
  splitAux_shape (st := false) s (.inl (by simp))

theorem WfPiece.closed {v : Bytes} (h : WfPiece v) : ClosedPiece v := by
  rcases h with h | ⟨body, suf, rfl, hb, hs⟩
  · exact .inl h.1
  · exact .inr ⟨body, suf, rfl, hb.2, hs.1⟩

theorem WfPiece.shape {v : Bytes} (h : WfPiece v) : Shape v := .inl h.closed

theorem Shape.of_noStart {v : Bytes} (h : startByte ∉ v) : Shape v := .inl (.inl h)

theorem OpenPiece.noEnd {v : Bytes} (h : OpenPiece v) : endByte ∉ v := by
  obtain ⟨w, rfl, hw⟩ := h
  simp only [List.mem_cons, not_or]
  exact ⟨by decide, hw⟩

theorem Shape.tok_of_kind {ic : Interceptors} {v : Bytes} {s : Seg} (h : Shape v) (hseg : newSegment ic v = .ok s)
    (hk : s.kind ≠ .str) : ∃ body suf, v = tok body suf ∧ endByte ∉ body ∧ startByte ∉ suf := by
  rcases h with (h | h) | h
  · exact absurd (by rw [newSegment_str_of_noStart hseg h]) hk
  · exact h
  · exact absurd (by rw [newSegment_str_of_noEnd hseg h.noEnd]) hk

theorem Shape.good {v : Bytes} (h : Shape v) : GoodPiece v := by
  rcases h with (h | ⟨body, suf, rfl, _, _⟩) | ⟨w, rfl, _⟩
  · exact .inr h
  · exact .inl rfl
  · exact .inl rfl

/-- What `splitAux` emits in front when a `{` arrives. -/
def emit (cur : Bytes) (l : List Bytes) : List Bytes := if cur = [] then l else cur :: l

theorem splitAux_false_tok (cur body suf rest : Bytes) (hb : endByte ∉ body) (hs : startByte ∉ suf) :
    splitAux false cur (tok body suf ++ rest) = emit cur (splitAux false (tok body suf) rest) := by
  have e1 : splitAux true [startByte] (body ++ endByte :: (suf ++ rest)) =
      splitAux false (tok body suf) rest := by
    rw [splitAux_true_body _ _ _ hb, splitAux_append_noStart _ _ _ hs]
    simp [tok]
  simp only [tok, List.cons_append, List.append_assoc, splitAux, if_true, emit]
  simp only [tok] at e1
  rw [e1]

/-- The pieces `splitString` makes of a concatenation of well-formed texts: a text without `{` is
glued to the piece in progress, a token text starts a new piece. -/
def mergeVals (cur : Bytes) : List Bytes → List Bytes
  | [] => [cur]
  | v :: vs => if v.head? = some startByte then emit cur (mergeVals v vs) else mergeVals (cur ++ v) vs

theorem splitAux_flatten_wf (vs : List Bytes) (hw : ∀ v ∈ vs, WfPiece v) (cur : Bytes) :
    splitAux false cur vs.flatten = mergeVals cur vs := by
  induction vs generalizing cur with
  | nil => simp [splitAux, mergeVals]
  | cons v vs ih =>
    have ih' := ih (fun x hx => hw x (by simp [hx]))
    simp only [List.flatten_cons, mergeVals]
    rcases hw v (by simp) with hn | ⟨body, suf, rfl, hb, hs⟩
    · have hh : ¬ v.head? = some startByte := fun h => hn.1 (List.mem_of_mem_head? h)
      rw [if_neg hh, splitAux_append_noStart _ _ _ hn.1, ih']
    · rw [if_pos (by simp [tok]), splitAux_false_tok _ _ _ _ hb.2 hs.1, ih']

theorem splitAux_first (st : Bool) (cur rest : Bytes) :
    ∃ first tail, splitAux st cur rest = first :: tail ∧ cur <+: first ∧
      ∀ p ∈ tail, p.head? = some startByte := by
  fun_induction splitAux st cur rest with
  | case1 st cur => exact ⟨cur, [], rfl, List.prefix_refl _, nofun⟩
  | case2 rest ih =>
    obtain ⟨f, tl, e, _, ht⟩ := ih
    exact ⟨f, tl, e, List.nil_prefix, ht⟩
  | case3 cur rest hc ih =>
    -- the piece in progress is emitted; the next one begins with the `{`
    obtain ⟨f, tl, e, ⟨t, rfl⟩, ht⟩ := ih
    exact ⟨cur, _ :: tl, by rw [e], List.prefix_refl _, List.forall_mem_cons.2 ⟨rfl, ht⟩⟩
  | case4 cur _ _ _ ih | case5 cur _ ih | case6 cur _ _ _ ih =>
    obtain ⟨f, tl, e, hp, ht⟩ := ih
    exact ⟨f, tl, e, (List.prefix_append cur _).trans hp, ht⟩

theorem _root_.Mux.splitString_ne_nil (s : Bytes) : splitString s ≠ [] := by
  obtain ⟨f, tl, e, _⟩ := splitAux_first false [] s
  rw [splitString, e]
  exact List.cons_ne_nil _ _

theorem splitString_tail_heads {p v : Bytes} {rest : List Bytes} (h : splitString p = v :: rest) :
    ∀ x ∈ rest, x.head? = some startByte := by
  obtain ⟨f, tl, e, _, ht⟩ := splitAux_first false [] p
  rw [splitString, e] at h
  cases h
  exact ht

end Mux.P9

theorem Mux.splitString_good (s : Bytes) : ∀ p ∈ splitString s, GoodPiece p :=
  fun p hp => (P9.splitString_shape s p hp).good

namespace Mux.P9
open Mux

/-- The errors of the pattern syntax. -/
def SynErr (e : Err) : Prop :=
  e = .empty ∨ e = .adjacent ∨ e = .syntax ∨ e = .dupName ∨ e = .regexp ∨ e = .tooLong ∨ e = .unsupported

theorem newSegment_error {ic : Interceptors} {v : Bytes} {e : Err} (h : newSegment ic v = .error e) :
    SynErr e ∨ ∃ k, e = .fault k := by
  rcases newSegment_error_iff.1 h with ⟨_, rfl⟩ | ⟨_, he⟩
  · exact .inl (.inr (.inr (.inr (.inr (.inr (.inl rfl))))))
  cases he with
  | malformed => exact .inl (.inr (.inr (.inl rfl)))
  | fault => exact .inr ⟨_, rfl⟩
  | ruled st en sp _ _ _ _ _ _ hf =>
    rcases ruledSeg_error hf with rfl | rfl
    · exact .inl (.inr (.inr (.inr (.inr (.inl rfl)))))
    · exact .inl (.inr (.inr (.inr (.inr (.inr (.inr rfl))))))

/-- Where `NewSegment` fails on a piece of `splitString` it does not fault. -/
theorem split_error {ic : Interceptors} {p : Bytes} {e : Err} (h : split ic p = .error e) : SynErr e := by
  rcases split_error_cases h with rfl | rfl | rfl | ⟨x, hx, hs⟩
  · exact .inl rfl
  · exact .inr (.inl rfl)
  · exact .inr (.inr (.inr (.inl rfl)))
  · rcases newSegment_error hs with h' | ⟨k, rfl⟩
    · exact h'
    · exact absurd hs (newSegment_piece_no_fault ic x (splitString_good p x hx) k)

end Mux.P9

theorem Mux.split_no_fault (ic : Interceptors) (p : Bytes) (n : Nat) : split ic p ≠ .error (.fault n) :=
  fun h => by simpa [P9.SynErr] using P9.split_error h

namespace Mux.P9
open Mux

theorem newSegment_suffix_le {ic : Interceptors} {v : Bytes} {s : Seg} (h : newSegment ic v = .ok s) :
    s.suffix.length ≤ s.value.length := by
  rw [newSegment_value ic v s h]
  cases (newSegment_ok_iff.1 h).2 with
  | lit => exact Nat.zero_le _
  | named | namedColon => simp only [mkNamed, List.length_drop]; omega
  | ruled st en sp s _ _ _ _ _ hf =>
    rcases ruledSeg_ok_cases hf with ⟨_, _, rfl⟩ | ⟨_, _, _, _, rfl⟩ <;> simp only [List.length_drop] <;> omega

theorem split_ok_first {ic : Interceptors} {pat : Bytes} {segs : List Seg} (h : split ic pat = .ok segs) :
    ∃ s0 rest, segs = s0 :: rest ∧ s0.value <+: pat ∧ s0.value ≠ [] ∧
      s0.suffix.length ≤ s0.value.length := by
  replace h := (split_ok_iff.1 h).2
  cases hs : splitString pat with
  | nil => exact absurd hs (splitString_ne_nil pat)
  | cons v rest =>
    rw [hs] at h
    obtain ⟨hv, _, seg, segs', hseg, _, _, rfl⟩ := splitLoop_cons_inv h
    have hval := newSegment_value _ _ _ hseg
    exact ⟨seg, segs', rfl, by rw [hval]; exact ⟨_, splitString_cons_join hs⟩, by rw [hval]; exact hv,
      newSegment_suffix_le hseg⟩

end Mux.P9
