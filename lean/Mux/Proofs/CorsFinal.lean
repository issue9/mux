/-
  Mux.Proofs.CorsFinal — from the header map handed to the handler (`Call.respHeaders`) to the header map AFTER
  `ServeHTTP` (`Rec.hdr`, and the snapshot `Rec.snap` taken when the status line was written): a script that never
  names header `k` leaves `k` as it was; mux's own handlers (404, 405, OPTIONS, TRACE) and the `headResponse`
  wrapper name only `Allow`, `X-Trace` and `Content-Length`.  Helpers of `Mux/Properties/C11history.lean` and
  `C12router.lean`.
-/
import Mux.Proofs.Head
import Mux.Proofs.Cors
import Mux.Proofs.Recover
import Mux.Proofs.HandlerSound
namespace Mux

section
variable {env : Env} {r : Router} {req : Req} {ps : Params} {c : Call} (h : r.serveContext env req ps = .call c)
include h

theorem Router.serveContext_ok (hok : c.ok = true) :
    ∃ n, c.node = some n ∧ c.respHeaders = r.cors.handle n.methods n.allow [] req.method req.path req.headers := by
  obtain ⟨f, hf, rfl⟩ := Router.serveContext_call_iff.1 h
  obtain ⟨n, hn⟩ := Tree.handler_ok_node hf hok
  change f.ok = true at hok
  exact ⟨n, hn, by simp only [Router.callOf, hok, hn, if_true]⟩
end

end Mux

namespace Mux.P24
open Mux

def actKey : Act → Option Bytes
  | .setHeader k _ => some k
  | .addHeader k _ => some k
  | .delHeader k => some k
  | _ => none

/-- The script names none of the headers `ks` (it neither sets, adds nor deletes them). -/
def Quiet (ks : List Bytes) (acts : List Act) : Prop := ∀ a ∈ acts, ∀ k ∈ ks, actKey a ≠ some k

instance (ks : List Bytes) (acts : List Act) : Decidable (Quiet ks acts) := by unfold Quiet; infer_instance

theorem Quiet.tail {ks : List Bytes} {a : Act} {acts : List Act} (h : Quiet ks (a :: acts)) : Quiet ks acts :=
  fun b hb => h b (List.mem_cons_of_mem _ hb)

theorem Quiet.cons {k : Bytes} {a : Act} {acts : List Act} (ha : actKey a ≠ some k) (h : Quiet [k] acts) :
    Quiet [k] (a :: acts) := by
  intro b hb k' hk'
  cases List.mem_singleton.1 hk'
  rcases List.mem_cons.1 hb with rfl | hb
  · exact ha
  · exact h b hb k List.mem_cons_self

theorem Quiet.mono {ks ks' : List Bytes} {acts : List Act} (h : Quiet ks acts) (hs : ∀ k ∈ ks', k ∈ ks) :
    Quiet ks' acts := fun a ha k hk => h a ha k (hs k hk)

/-- Header `k` of a recorder: its values and presence in the live map, and in the snapshot if one was taken. -/
structure Keeps (k : Bytes) (vs : List Bytes) (b : Bool) (r : Rec) : Prop where
  values : r.hdr.values k = vs
  has : r.hdr.has k = b
  snap : ∀ s, r.snap = some s → s.values k = vs ∧ s.has k = b

theorem keeps_init (k : Bytes) (hs : Hdr) : Keeps k (hs.values k) (hs.has k) { hdr := hs } :=
  ⟨rfl, rfl, fun s h => by cases h⟩

section
variable {k : Bytes} {vs : List Bytes} {b : Bool} {r : Rec} (h : Keeps k vs b r)
include h

theorem keeps_hdr (hd : Hdr)
    (hl : AMap.get? hd k = AMap.get? r.hdr k) : Keeps k vs b { r with hdr := hd } :=
  ⟨by rw [Hdr.values_eq, hl, ← Hdr.values_eq]; exact h.values, by rw [Hdr.has_eq, hl, ← Hdr.has_eq]; exact h.has, h.snap⟩

theorem keeps_writeHeader (c : Nat) :
    Keeps k vs b (r.writeHeader c) := by
  unfold Rec.writeHeader
  split
  · exact h
  · split
    · exact h
    · exact ⟨h.values, h.has, fun s hs => by cases hs; exact ⟨h.values, h.has⟩⟩

theorem keeps_write (n : Nat) :
    Keeps k vs b (r.write n) := by
  have := keeps_writeHeader h 200
  exact ⟨this.values, this.has, this.snap⟩

theorem keeps_act (k' : Bytes)
    (hne : k ≠ k') :
    (∀ v, Keeps k vs b { r with hdr := r.hdr.set k' v }) ∧ (∀ v, Keeps k vs b { r with hdr := r.hdr.add k' v }) ∧
      Keeps k vs b { r with hdr := r.hdr.del k' } :=
  ⟨fun v => keeps_hdr h _ (by rw [Hdr.get?_set, if_neg hne]), fun v => keeps_hdr h _ (by rw [Hdr.get?_add, if_neg hne]),
    keeps_hdr h _ (by rw [Hdr.get?_del, if_neg hne])⟩

end

/-- A script that does not name `k` keeps it, run on the plain writer or through `headResponse` (which names only
`Content-Length`). -/
theorem keeps_run (k : Bytes) (vs : List Bytes) (b : Bool) (hcl : k ≠ hContentLength) (acts : List Act)
    (hq : Quiet [k] acts) :
    ∀ r, Keeps k vs b r → Keeps k vs b (runGet acts r) ∧ ∀ sz wr, Keeps k vs b (runHead acts sz wr r) := by
  induction acts with
  | nil => exact fun r h => ⟨h, fun _ _ => h⟩
  | cons a acts ih =>
    intro r h
    have hk : ∀ k', actKey a = some k' → k ≠ k' := fun k' h' e =>
      hq a List.mem_cons_self k List.mem_cons_self (by rw [h', e])
    have ih := ih hq.tail
    cases a with
    | setHeader k' v => exact ih _ ((keeps_act h k' (hk k' rfl)).1 v)
    | addHeader k' v => exact ih _ ((keeps_act h k' (hk k' rfl)).2.1 v)
    | delHeader k' => exact ih _ (keeps_act h k' (hk k' rfl)).2.2
    | writeHeader c =>
      refine ⟨(ih _ (keeps_writeHeader h c)).1, fun sz wr => ?_⟩
      rw [runHead]
      cases wr
      · exact (ih _ (keeps_writeHeader h c)).2 _ _
      · exact (ih _ h).2 _ _
    | write n => exact ⟨(ih _ (keeps_write h n)).1, fun _ _ => (ih _ ((keeps_act h hContentLength hcl).1 _)).2 _ _⟩

theorem keeps_recRec (k : Bytes) (hcl : k ≠ hContentLength) (acts : List Act) (hq : Quiet [k] acts) (hw : Bool)
    (hs : Hdr) : Keeps k (hs.values k) (hs.has k) (recRec acts hw hs) := by
  unfold recRec
  cases hw
  · exact (keeps_run k _ _ hcl acts hq _ (keeps_init k hs)).1
  · exact (keeps_run k _ _ hcl acts hq _ (keeps_init k hs)).2 _ _

/-- The scripts of mux's own handlers name only `Allow` and `X-Trace`; a user handler runs its own script. -/
theorem script_quiet (scripts : Scripts) (h : Handler) (allow : Bytes) (acts : List Act) (k : Bytes)
    (hA : k ≠ hAllow) (hX : k ≠ hXTrace)
    (hu : ∀ id, h.base = .user id → Quiet [k] (scripts.get id))
    (hs : h.script scripts allow = some acts) : Quiet [k] acts := by
  have hA' : some hAllow ≠ some k := fun e => hA (Option.some.inj e).symm
  have hX' : some hXTrace ≠ some k := fun e => hX (Option.some.inj e).symm
  have nil : Quiet [k] [] := fun _ h => nomatch h
  unfold Handler.script at hs
  cases hb : h.base <;> rw [hb] at hs <;> cases hs
  case user id => exact hu id hb
  case options => exact .cons hA' nil
  case notAllowed => exact .cons hA' (.cons nofun nil)
  case notFound | groupNotFound => exact .cons nofun nil
  case trace => exact .cons hX' (.cons nofun nil)

/-- The record carried by an outcome, if the request was answered at all. -/
def outRec : Outcome → Option Rec
  | .normal r => some r
  | .recovered _ r => some r
  | _ => none

/-- The record of an answered call is the record of ONE script on the writer the call was handed: the handler's own,
or the recovery function's after a panic. -/
theorem outRec_finish {pc : PanicCfg} {scripts : Scripts} {c : Call} {rec : Rec}
    (ho : outRec ((ServeRes.call c).finish pc scripts).2 = some rec) :
    ∃ acts, rec = recRec acts c.headWrap c.respHeaders ∧
      (c.handler.script scripts c.allow = some acts ∨ acts = c.recActs) := by
  rw [ServeRes.finish, withRecover_runCall] at ho
  cases hcs : callScript pc scripts c with
  | ok acts =>
    rw [hcs] at ho
    cases ho
    exact ⟨acts, rfl, .inl (callScript_ok_iff.1 hcs).2.2⟩
  | error v =>
    rw [hcs] at ho
    cases hr : c.recover <;> rw [hr] at ho <;> cases ho
    exact ⟨_, rfl, .inr rfl⟩

/-- **After `ServeHTTP`.**  Whatever way the call ends with a response (the handler returned, or it panicked and the
recovery function answered), each header of `ks` (none of them `Allow`, `X-Trace`, `Content-Length`) that user code
does not name is, in the final record, the one the router had put there. -/
theorem keeps_finish (pc : PanicCfg) (scripts : Scripts) (c : Call) (out : Outcome) (rec : Rec) (ks : List Bytes)
    (hks : ∀ k ∈ ks, k ≠ hAllow ∧ k ≠ hXTrace ∧ k ≠ hContentLength)
    (hu : ∀ id, c.handler.base = .user id → Quiet ks (scripts.get id))
    (hr : Quiet ks c.recActs)
    (h : (ServeRes.call c).finish pc scripts = (some c, out)) (ho : outRec out = some rec) :
    ∀ k ∈ ks, Keeps k (c.respHeaders.values k) (c.respHeaders.has k) rec := by
  intro k hk
  obtain ⟨hA, hX, hcl⟩ := hks k hk
  have hone : ∀ k' ∈ [k], k' ∈ ks := fun k' hk' => List.mem_singleton.1 hk' ▸ hk
  obtain ⟨acts, rfl, hacts⟩ := outRec_finish (pc := pc) (scripts := scripts) (c := c) (by rw [h]; exact ho)
  refine keeps_recRec k hcl acts ?_ c.headWrap c.respHeaders
  rcases hacts with hs | rfl
  · exact script_quiet scripts c.handler c.allow acts k hA hX (fun id hb => (hu id hb).mono hone) hs
  · exact hr.mono hone

theorem cors_headers_free : ∀ k ∈ [hACAO, hACAC, hACAM, hACAH, hACEH, hACMA, hVary],
    k ≠ hAllow ∧ k ≠ hXTrace ∧ k ≠ hContentLength := by decide +kernel

theorem keeps_serveHTTP {env : Env} {pc : PanicCfg} {scripts : Scripts} {r : Router} {req : Req} {ps : Params}
    {c : Call} {out : Outcome} {rec : Rec} (ks : List Bytes)
    (hks : ∀ k ∈ ks, k ≠ hAllow ∧ k ≠ hXTrace ∧ k ≠ hContentLength)
    (h : r.serveHTTP env pc scripts req ps = (some c, out))
    (hu : ∀ id, c.handler.base = .user id → Quiet ks (scripts.get id)) (hr : Quiet ks r.recActs)
    (ho : outRec out = some rec) : ∀ k ∈ ks, Keeps k (c.respHeaders.values k) (c.respHeaders.has k) rec := by
  obtain ⟨hsc, rfl⟩ := serveHTTP_call.1 h
  obtain ⟨f, _, rfl⟩ := Router.serveContext_call_iff.1 hsc
  exact keeps_finish pc scripts _ _ rec ks hks hu hr rfl ho

end Mux.P24
