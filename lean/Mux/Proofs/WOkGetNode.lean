/-
  Mux.Proofs.WOkGetNode — `getNode` (`addSegment`/`splitNode`) keeps the pattern-aware invariant `ListW P` (`PatK`
  by the rule of GnStep.lean, `P` as a predicate of the nodes' own data) and every node below the result is new or a copy
  of an old one (`getNode_from`).  Where it arrives is said for any tree (`getNode_spells`): the returned index path
  spells the text that was to be placed, and the node there has no handlers or those of the node this text spelled
  before; with `PatK` the node carries the pattern `n.pattern ++ v ++ rest.flatten` (`getNode_target`,
  `getNode_target_pattern`).
-/
import Mux.Proofs.WOk
import Mux.Proofs.GnStep
import Mux.Proofs.CutPoint
namespace Mux.P10
open Mux

variable {P : Bytes → AMap Handler → Prop}

theorem PatK.gnLocal (ic : Interceptors) : P9.GnLocal ic PatK (fun _ _ => True) (fun _ => True) :=
  PatK.closed.gnLocal
    (leaf := by
      intro n n1 v rest seg l i hn _ _ _ _ hn1 c hc
      obtain ⟨idx, _, rfl⟩ := sortNode_ok hn1
      rcases List.mem_append.1 ((sortChildren_perm _).mem_iff.1 hc) with hc | hc
      · exact hn.head c hc
      · rw [List.mem_singleton.1 hc]; rfl)
    (split := by
      intro n c ret n1 v rest seg s1 s2 l i hn _ _ _ _ hc _ hss hret hn1
      obtain ⟨hv1, hv2, _, _, rfl, hperm⟩ := P9.split_built hss hret hn1
      refine ⟨fun x hx => ?_, fun x hx => ?_⟩
      · -- the lower half keeps `c`'s pattern
        rw [List.mem_singleton.1 hx]
        show c.pattern = n.pattern ++ s1.value ++ s2.value
        rw [hn.head c (List.mem_of_getElem? hc), hv1, hv2, List.append_assoc, List.take_append_drop]
      · rw [(Node.own_eq_iff.1 (P9.sortNode_own hn1)).2.1]
        rcases List.mem_cons.1 (hperm.mem_iff.1 hx) with rfl | hx
        · rfl
        · exact hn.head x ((removeNodes_sublist _ _).subset hx))
    (cont := fun _ _ _ _ => trivial)

/-- The text that a step leaves to be placed below `parent`. -/
def contText : Option (Bytes × List Bytes) → Bytes
  | none => []
  | some (v', rest') => v' ++ rest'.flatten

theorem contText_restCont (rest : List Bytes) : contText (P9.restCont rest) = rest.flatten := by
  cases rest <;> rfl

/-- `tg` has no handlers, or the handlers of the node that `P` spells below `n`. -/
def Twin (n : Node) (P : Bytes) (tg : Node) : Prop :=
  tg.handlers = [] ∨ ∃ p m0, n.Spells p P m0 ∧ m0.handlers = tg.handlers

/-- One step of `getNode`, whatever the tree.  The text of the selected node followed by the text still to be placed is
the text that was asked for.  The selected node is a child of the old node or has no handlers; the nodes below it are
below that child (below the lower half, when the child was split), spelled there by the same texts. -/
theorem gnPrep_text {ic : Interceptors} {n : Node} {v : Bytes} {rest : List Bytes} {s : P9.GStep}
    (h : P9.gnPrep ic n v rest = .ok s) :
    s.parent.seg.value ++ contText s.cont = v ++ rest.flatten ∧ Twin n s.parent.seg.value s.parent ∧
      ∀ P tg, Twin s.parent P tg → Twin n (s.parent.seg.value ++ P) tg := by
  obtain ⟨seg, hseg, hcase⟩ := P9.gnPrep_ok_iff.1 h
  have htext : s.parent.seg.value ++ contText s.cont = v ++ rest.flatten := by
    rcases P9.gnPrep_cut hseg h with ⟨hp, hc⟩ | ⟨c, _, L, hL, _, hlp, hp, hc⟩
    · rw [hp, hc, contText_restCont]
    · have htake := longestPrefix_pos_prefix c.seg.value v (hlp ▸ Int.natCast_pos.2 hL)
      rw [hlp, Int.toNat_natCast] at htake
      rw [hp, hc, htake]
      by_cases hv : v.length ≤ L
      · rw [if_pos hv, contText_restCont, List.take_of_length_le hv]
      · rw [if_neg hv]
        show _ ++ (v.drop L ++ rest.flatten) = _
        rw [← List.append_assoc, List.take_append_drop]
  -- the selected node is the child `c` itself
  have old : ∀ {i : Nat} {c : Node}, n.children[i]? = some c →
      Twin n c.seg.value c ∧ ∀ P tg, Twin c P tg → Twin n (c.seg.value ++ P) tg := fun hc =>
    ⟨.inr ⟨_, _, .here hc, rfl⟩, fun P tg ht => ht.imp_right fun ⟨p, m0, hp, hm⟩ => ⟨_, m0, hp.below hc, hm⟩⟩
  refine ⟨htext, ?_⟩
  cases hcase with
  | identical _ hc => exact old hc
  | leaf =>
    refine ⟨.inl rfl, fun P tg ht => ht.imp_right ?_⟩
    -- nothing is below the new leaf
    rintro ⟨p, m0, hp, _⟩
    obtain ⟨j, q, rfl⟩ := List.exists_cons_of_ne_nil hp.1
    obtain ⟨d, hd, _⟩ := hp.cases
    cases hd
  | descend _ _ hc => exact old hc
  | @split l i j c ret n1 s1 s2 _ _ hc _ hss hret hn1 =>
    obtain ⟨hv1, hv2, _, _, rfl, _⟩ := P9.split_built hss hret hn1
    refine ⟨.inl rfl, fun P tg ht => ht.imp_right ?_⟩
    -- the only child of the upper half is the lower half, which has the handlers and the children of `c`
    rintro ⟨p, m0, hp, hm⟩
    obtain ⟨k, q, rfl⟩ := List.exists_cons_of_ne_nil hp.1
    obtain ⟨d, hd, hcase⟩ := hp.cases
    have hd' : d = c.setSeg s2 := by
      simp only [Node.children_mk] at hd
      cases k with
      | zero => exact (Option.some.inj hd).symm
      | succ k => cases hd
    subst hd'
    have hcv : c.seg.value = s1.value ++ s2.value := by rw [hv1, hv2, List.take_append_drop]
    show ∃ p m0, n.Spells p (s1.value ++ P) m0 ∧ m0.handlers = tg.handlers
    rcases hcase with ⟨rfl, rfl, rfl⟩ | ⟨P', hq, rfl⟩
    · exact ⟨[i], c, by simpa [hcv, Node.setSeg] using Node.Spells.here hc, hm⟩
    · refine ⟨i :: q, m0, ?_, hm⟩
      have : c.Spells q P' m0 := by
        obtain ⟨h1, h2, segs, h3, h4⟩ := hq
        obtain ⟨k', q', rfl⟩ := List.exists_cons_of_ne_nil h1
        exact ⟨h1, by simpa [Node.getAt_cons, Node.setSeg] using h2, segs,
          by simpa [Node.segsAt_cons, Node.setSeg] using h3, h4⟩
      simpa [hcv, Node.setSeg] using this.below hc

/-- **The node `getNode` arrives at**, on any tree: the returned index path spells the text that was to be placed, and the
node has no handlers or those of the node that this text spelled before. -/
theorem getNode_spells (ic : Interceptors) (n : Node) (v : Bytes) (rest : List Bytes) :
    ∀ r, getNode ic n v rest = .ok r →
      ∃ tg, r.1.Spells r.2 (v ++ rest.flatten) tg ∧ Twin n (v ++ rest.flatten) tg := by
  induction n, v, rest using P9.getNode_induction ic with
  | step n v rest ih =>
    intro r h
    obtain ⟨s, hs, hr⟩ := P9.getNode_ok_iff.1 h
    have hpos := (P9.gnPrep_top hs).2
    obtain ⟨htext, hhere, hbelow⟩ := gnPrep_text hs
    rw [← htext]
    rcases hr with ⟨hc, rfl⟩ | ⟨v', rest', p', path, hc, hrec, rfl⟩
    · rw [hc, contText, List.append_nil]
      exact ⟨s.parent, .here hpos, hhere⟩
    · obtain ⟨tg, htg, htw⟩ := ih s v' rest' hs hc _ hrec
      rw [hc]
      refine ⟨tg, ?_, hbelow _ _ htw⟩
      have hseg : p'.seg = s.parent.seg := P9.getNode_seg hrec
      have hj := (List.getElem?_eq_some_iff.1 hpos).1
      exact hseg ▸ htg.below (n := s.n1.setChildren (s.n1.children.set s.j p') s.n1.indexes) (i := s.j)
        (by simp [hj])

theorem getNode_target (ic : Interceptors) (n : Node) (v : Bytes) (rest : List Bytes) :
    ∀ r, Node.All PatK n → getNode ic n v rest = .ok r →
      ∃ m, r.1.getAt r.2 = some m ∧ m.pattern = n.pattern ++ v ++ rest.flatten := by
  intro r hn h
  obtain ⟨tg, htg, _⟩ := getNode_spells ic n v rest r h
  refine ⟨tg, htg.2.1, ?_⟩
  rw [htg.pattern ((patternOk_iff_All _).2 (P9.getNode_localK (PatK.gnLocal ic) hn trivial h)),
    P9.getNode_pattern h, List.append_assoc]

/-- Every node below the result is new or a copy of a node below `n`: `From n` is a predicate of a node's own data, so
it goes through by the rule and owes nothing. -/
theorem getNode_from {ic : Interceptors} {n : Node} {v : Bytes} {rest : List Bytes} {r : Node × List Nat}
    (h : getNode ic n v rest = .ok r) : ∀ x ∈ nodesL r.1.children, From n x :=
  have G : P9.GnLocal ic (fun _ => True) (fun _ _ => True) (fun _ => True) :=
    ⟨fun _ _ _ _ => trivial, fun _ _ => trivial, fun _ _ => trivial, fun _ _ _ _ _ _ => trivial,
      fun _ _ _ _ _ _ _ _ _ _ => ⟨trivial, trivial⟩, fun _ _ _ _ => ⟨trivial, trivial⟩⟩
  ((All_iff_nodes _).2 _).1 (P9.getNode_local G
    (Q := fun mi hs p => hs = [] ∨ ∃ y ∈ nodesL n.children, p = y.pattern ∧ hs = y.handlers ∧ mi = y.methodIndex)
    (fun _ => .inl rfl) n v rest r (All_of_forall (fun _ => trivial) n)
    (((All_iff_nodes _).2 _).2 fun y hy => .inr ⟨y, hy, rfl, rfl, rfl⟩) trivial h).2

theorem getNode_W (ic : Interceptors) (P : Bytes → AMap Handler → Prop) (hP0 : ∀ p, P p [])
    (n : Node) (v : Bytes) (rest : List Bytes) :
    ∀ r, ListW P n.pattern n.children → getNode ic n v rest = .ok r → ListW P n.pattern r.1.children := by
  intro r hw h
  obtain ⟨hk, hck, hcq⟩ := ListW_iff_All.1 hw
  obtain ⟨hK, hQ⟩ := P9.getNode_local (PatK.gnLocal ic) (Q := fun _ hs p => P p hs) hP0 n v rest r
    ((Node.All_iff _ _).2 ⟨hk, hck⟩) hcq trivial h
  exact ListW_iff_All.2 ⟨P9.getNode_pattern h ▸ hK.head, hK.tail, hQ⟩

theorem getNode_target_pattern (ic : Interceptors) {n n' : Node} {v : Bytes} {rest : List Bytes}
    {path : List Nat} (hn : Node.PatternOk n) (h : getNode ic n v rest = .ok (n', path)) :
    Node.PatternOk n' ∧ n'.pattern = n.pattern ∧
      ∃ m, n'.getAt path = some m ∧ m.pattern = n.pattern ++ v ++ rest.flatten := by
  have hk := (patternOk_iff_All n).1 hn
  exact ⟨(patternOk_iff_All n').2 (P9.getNode_localK (PatK.gnLocal ic) hk trivial h),
    P9.getNode_pattern h, getNode_target ic n v rest _ hk h⟩

end Mux.P10
