/-
  Mux.Proofs.WOk — a pattern-aware tree invariant.  `NodeW P n`: every node `m` of the subtree satisfies
  `P m.pattern m.handlers` and every child's `pattern` is its parent's pattern followed by the child's segment text
  (`PatternOk`).  Unlike `NodeOk Q` (TreeBasic) the predicate sees the node's pattern, which is what the middleware
  invariant needs (`Use` wraps with `n.pattern`, `addMethods` with the registered pattern).  `NodeW P` is two
  predicates of single nodes (the closed `PatK` for the patterns, `P` of the own data: `NodeW_iff_All`); `From n x`: a
  node of the new tree is fresh or a copy of a node of the old one.
-/
import Mux.Proofs.TreeServe
import Mux.Proofs.MatchHyps
import Mux.Proofs.Syntax
import Mux.Proofs.GnStep
namespace Mux.P10
open Mux

mutual
def NodeW (P : Bytes → AMap Handler → Prop) : Node → Prop
  | .mk _ p _ hs _ cs => P p hs ∧ ListW P p cs
def ListW (P : Bytes → AMap Handler → Prop) (pp : Bytes) : List Node → Prop
  | [] => True
  | c :: cs => c.pattern = pp ++ c.seg.value ∧ NodeW P c ∧ ListW P pp cs
end

variable {P : Bytes → AMap Handler → Prop}

theorem NodeW_iff (n : Node) : NodeW P n ↔ P n.pattern n.handlers ∧ ListW P n.pattern n.children := by
  cases n; simp [NodeW]

theorem ListW_iff (pp : Bytes) (cs : List Node) :
    ListW P pp cs ↔ ∀ c ∈ cs, c.pattern = pp ++ c.seg.value ∧ NodeW P c := by
  induction cs with
  | nil => simp [ListW]
  | cons c cs ih => simp [ListW, ih, and_assoc]

theorem ListW_nil (pp : Bytes) : ListW P pp [] := by simp [ListW]

def PatK (m : Node) : Prop := ∀ c ∈ m.children, c.pattern = m.pattern ++ c.seg.value

theorem PatK.closed : P8.Closed PatK := by
  have sub : ∀ {n m : Node}, PatK n → m.pattern = n.pattern →
      (m.children.map P8.sigc).Sublist (n.children.map P8.sigc) → PatK m := fun {n m} h hp hs => by
    unfold PatK
    rw [hp]
    exact P8.forall_of_map_sublist (S := fun x => x.2 = n.pattern ++ x.1.value) hs h
  exact ⟨fun h hp _ hs => sub h hp (hs ▸ List.Sublist.refl _), fun h hp hs _ => sub h hp hs, fun _ _ _ _ => nofun⟩

theorem NodeW_iff_All : ∀ n : Node, NodeW P n ↔ Node.All PatK n ∧ Node.All (P9.OwnQ fun _ hs p => P p hs) n := by
  intro n
  induction n using Node.induction with
  | step n ih =>
    rw [NodeW_iff, ListW_iff, Node.All_iff, Node.All_iff, AllL_iff, AllL_iff]
    constructor
    · rintro ⟨hp, hc⟩
      exact ⟨⟨fun c hm => (hc c hm).1, fun c hm => ((ih c hm).1 (hc c hm).2).1⟩, hp,
        fun c hm => ((ih c hm).1 (hc c hm).2).2⟩
    · rintro ⟨⟨hk, hck⟩, hp, hcq⟩
      exact ⟨hp, fun c hm => ⟨hk c hm, (ih c hm).2 ⟨hck c hm, hcq c hm⟩⟩⟩

theorem ListW_iff_All {pp : Bytes} {cs : List Node} :
    ListW P pp cs ↔ (∀ c ∈ cs, c.pattern = pp ++ c.seg.value) ∧ AllL PatK cs ∧
      AllL (P9.OwnQ fun _ hs p => P p hs) cs := by
  rw [ListW_iff, AllL_iff, AllL_iff]
  constructor
  · intro h
    exact ⟨fun c hc => (h c hc).1, fun c hc => ((NodeW_iff_All c).1 (h c hc).2).1,
      fun c hc => ((NodeW_iff_All c).1 (h c hc).2).2⟩
  · rintro ⟨h1, h2, h3⟩ c hc
    exact ⟨h1 c hc, (NodeW_iff_All c).2 ⟨h2 c hc, h3 c hc⟩⟩

theorem patternOk_iff_All : ∀ n : Node, Node.PatternOk n ↔ Node.All PatK n := by
  intro n
  induction n using Node.induction with
  | step n ih =>
    have key : ∀ cs : List Node, PatternOkL n.pattern cs ↔
        ∀ c ∈ cs, c.pattern = n.pattern ++ c.seg.value ∧ Node.PatternOk c := by
      intro cs
      induction cs with
      | nil => simp [PatternOkL]
      | cons c cs ih' => simp [PatternOkL, ih', and_assoc]
    rw [Node.patternOk_iff, key, Node.All_iff, AllL_iff]
    exact ⟨fun h => ⟨fun c hc => (h c hc).1, fun c hc => (ih c hc).1 (h c hc).2⟩,
      fun h c hc => ⟨h.1 c hc, (ih c hc).2 (h.2 c hc)⟩⟩

theorem NodeW_mono {P R : Bytes → AMap Handler → Prop} (hPR : ∀ p hs, P p hs → R p hs) (n : Node) (h : NodeW P n) :
    NodeW R n :=
  (NodeW_iff_All n).2 ⟨((NodeW_iff_All n).1 h).1, (AllL_mono fun _ hm => hPR _ _ hm).1 n ((NodeW_iff_All n).1 h).2⟩

theorem ListW_mono {P R : Bytes → AMap Handler → Prop} (hPR : ∀ p hs, P p hs → R p hs) {pp : Bytes}
    {cs : List Node} (h : ListW P pp cs) : ListW R pp cs := by
  rw [ListW_iff] at *
  intro c hc; exact ⟨(h c hc).1, NodeW_mono hPR c (h c hc).2⟩

theorem NodeW_patternOk (n : Node) (h : NodeW P n) : Node.PatternOk n :=
  (patternOk_iff_All n).2 ((NodeW_iff_All n).1 h).1

theorem NodeW_all (n : Node) (h : NodeW P n) : Node.All (fun m => P m.pattern m.handlers) n :=
  ((NodeW_iff_All n).1 h).2

theorem ListW_all {pp : Bytes} {cs : List Node} (h : ListW P pp cs) :
    AllL (fun m => P m.pattern m.handlers) cs := by
  rw [AllL_iff]
  rw [ListW_iff] at h
  intro c hc; exact NodeW_all c (h c hc).2

theorem NodeW_nodes {n m : Node} (h : NodeW P n) (hm : m ∈ n.nodes) : P m.pattern m.handlers :=
  ((All_iff_nodes _).1 n).1 (NodeW_all n h) m hm

def Same (x y : Node) : Prop := x.pattern = y.pattern ∧ x.handlers = y.handlers ∧ x.methodIndex = y.methodIndex

/-- `x` is a fresh node (no handlers) or a copy of a node below `n`. -/
def From (n x : Node) : Prop := x.handlers = [] ∨ ∃ y ∈ nodesL n.children, Same x y

end Mux.P10
