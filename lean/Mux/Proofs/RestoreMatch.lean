/-
  What the D30 repair makes true of the matcher WITHOUT any hypothesis on names (`trackRestore`): on parameters with one
  entry per key (`keys.Nodup`) and a tree whose index fast path only selects literal children (`IdxLit`), a miss returns
  EXACTLY the incoming parameters and a hit the `set` fold of the chain's captures over them (`setCaps ps (captures chain)`:
  a capture overrides an equal-named incoming parameter, every other one keeps its value and its place).  An abandoned
  branch whose parameter has the name of an incoming parameter leaves no trace (before the repair it deleted that
  parameter).  `Tree.handler` forms: `handler_found_restore`, `handler_404_restore`.
-/
import Mux.Proofs.HandlerSound
namespace Mux.P19
open Mux

/-- Tracking hypotheses after the repair (node level): the fast path selects literals, one entry per key. -/
def TrN (n : Node) (ps : Params) : Prop := Node.All IdxLit n ∧ ps.keys.Nodup
/-- The same for a list of siblings. -/
def TrL (cs : List Node) (ps : Params) : Prop := AllL IdxLit cs ∧ ps.keys.Nodup

/-- A hit on the siblings `cs`, with the parameters of the repaired matcher. -/
def HitLR (env : Env) (ic : Interceptors) (cs : List Node) (path : Bytes) (ps : Params) (m : Node) (ps' : Params) : Prop :=
  ∃ c ∈ cs, ∃ (cap : Bytes) (chain : List (Seg × Bytes)),
    Chain c (chain.map (·.1)) m ∧ path = instChain ((c.seg, cap) :: chain) ∧
    (∀ sv ∈ (c.seg, cap) :: chain, sv.1.Satisfies env ic sv.2) ∧ m.handlers ≠ [] ∧
    (TrL cs ps → ps' = setCaps ps (captures ((c.seg, cap) :: chain)))

/-- With one entry per key and `IdxLit`, whatever the names: the undo of an abandoned child gives back the parameters
from before the child was tried (`restoreParam_record`). -/
theorem trackRestore : Tracking TrN TrL where
  children := fun h => ⟨Node.All.tail h.1, h.2⟩
  idxLit := fun h => Node.All.head h.1
  child := fun cap h hc => ⟨AllL_mem h.1 hc, nodup_record _ cap h.2⟩
  undo := fun cap h _ => restoreParam_record _ cap h.2

theorem tryChild_miss_restore {env : Env} {ic : Interceptors} {c : Node} (hi : Node.All IdxLit c) {path : Bytes}
    {ps ps' : Params} (hnd : ps.keys.Nodup) (h : tryChild env ic c path ps = .miss ps') : ps' = ps :=
  trackRestore.tryChild_miss (cs := [c]) List.mem_cons_self ⟨⟨hi, trivial⟩, hnd⟩ h

theorem WalkIn.hitLR {env : Env} {ic : Interceptors} {cs : List Node} {path : Bytes} {ps : Params} {m : Node}
    {ps' : Params} (h : WalkIn env ic TrL cs path ps m ps') : HitLR env ic cs path ps m ps' :=
  let ⟨c, hc, cap, chain, h1, h2, h3, h4, h5⟩ := h.chain
  ⟨c, hc, cap, chain, h1, h2, fun sv hsv => (h3 sv hsv).satisfies, h4, h5⟩

theorem matchAt_post (env : Env) (ic : Interceptors) : (cs : List Node) → (i : Nat) → (path : Bytes) → (ps : Params) →
    MR.Post (HitLR env ic cs path ps)
      (fun ps' => TrL cs ps → (∀ c, cs[i]? = some c → c.seg.kind = .str) → ps' = ps)
      (matchAt env ic cs i path ps) := fun cs i path ps =>
  (matchAt_walk env ic trackRestore cs i path ps).imp (fun _ _ h => WalkIn.hitLR h) (fun _ h => h)

/-- **A hit after the D30 repair**: the chain, and the parameters are the `set` fold of its captures over the incoming
parameters — for ANY incoming parameters with one entry per key. -/
theorem matchChildren_restore {env : Env} {ic : Interceptors} {n : Node} {path : Bytes} {ps : Params} {m : Node}
    {ps' : Params} (h : n.matchChildren env ic path ps = .hit m ps') :
    ∃ chain : List (Seg × Bytes),
      Chain n (chain.map (·.1)) m ∧ path = instChain chain ∧
      (∀ sv ∈ chain, sv.1.Satisfies env ic sv.2) ∧ m.handlers ≠ [] ∧
      (Node.All IdxLit n → ps.keys.Nodup → ps' = setCaps ps (captures chain)) :=
  let ⟨chain, h1, h2, h3, h4, h5⟩ := ((matchChildren_walk env ic trackRestore n path ps).of_hit h).chain
  ⟨chain, h1, h2, fun sv hsv => (h3 sv hsv).satisfies, h4, fun a b => h5 ⟨a, b⟩⟩

/-- **A miss leaves no trace, whatever the names** (D1 + D30 repairs). -/
theorem matchChildren_miss_restore {env : Env} {ic : Interceptors} {n : Node} {path : Bytes} {ps ps' : Params}
    (h : n.matchChildren env ic path ps = .miss ps') (hi : Node.All IdxLit n) (hnd : ps.keys.Nodup) : ps' = ps :=
  (matchChildren_walk env ic trackRestore n path ps).of_miss h ⟨hi, hnd⟩

theorem matchFrom_miss_restore {env : Env} {ic : Interceptors} {cs : List Node} {skip : Nat} {path : Bytes}
    {ps ps' : Params} (h : matchFrom env ic cs skip path ps = .miss ps') (hi : AllL IdxLit cs) (hnd : ps.keys.Nodup) :
    ps' = ps :=
  (matchFrom_walk env ic trackRestore cs skip path ps).of_miss h ⟨hi, hnd⟩

/-- `C01_found_from` without its hypothesis on names: any incoming parameters with one entry per key. -/
theorem handler_found_restore {env : Env} {t : Tree} {path : Bytes} {ps : Params} {method : Bytes} {f : Found} {n : Node}
    (hI : Node.All IdxLit t.root) (hnd : ps.keys.Nodup)
    (hp : path ≠ []) (hs : path ≠ [42]) (htr : t.trace = none ∨ method ≠ mTRACE)
    (h : t.handler env path ps method = .res f) (hf : f.node = some n) :
    ∃ chain : List (Seg × Bytes),
      chain ≠ [] ∧ Chain t.root (chain.map (·.1)) n ∧ path = instChain chain ∧
      (∀ sv ∈ chain, sv.1.Satisfies env t.ic sv.2) ∧
      f.params = setCaps ps (captures chain) ∧ n.handlers ≠ [] ∧ HandlerAgrees n method f :=
  let ⟨chain, h0, h1, h2, h3, h5, h6⟩ := trackRestore.handler_found_chain hp hs htr h hf
  ⟨chain, h0, h1, h2, fun sv hsv => (h3 sv hsv).satisfies, h5 ⟨hI, hnd⟩, h6⟩

/-- `C01_404_from` without its hypothesis on names: a 404 reports exactly the incoming parameters. -/
theorem handler_404_restore {env : Env} {t : Tree} {path : Bytes} {ps : Params} {method : Bytes} {f : Found}
    (hI : Node.All IdxLit t.root) (hnd : ps.keys.Nodup)
    (h : t.handler env path ps method = .res f) (hf : f.node = none) :
    f.params = ps ∧ f.handler = t.notFound ∧ f.ok = false :=
  trackRestore.handler_404 ⟨hI, hnd⟩ h hf

end Mux.P19
