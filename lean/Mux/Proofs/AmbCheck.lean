/-
  `node.checkAmbiguous`, on any tree: what the loop does with one child (`ambStep`), the descent into a child
  (`AmbDesc`), the induction rule of the check (`checkAmb_rule`) and, by it, soundness and the error class.  After
  it what the completeness theorems of AmbigSplit are stated with (`Canon`, `split_of_pieces`, `UpToNames`).
-/
import Mux.Proofs.WfTree
namespace Mux.P9
open Mux

/-- The offset of the D33 branch of `checkAmbiguous` lies inside the pattern: no fault at site 252. -/
theorem ambPrefix_offset_le {ic : Interceptors} {pat : Bytes} {s0 : Seg} {segs : List Seg} {c : Seg}
    (h : split ic pat = .ok (s0 :: segs)) (hp : c.isAmbiguousPrefix s0 = true) :
    s0.value.length - s0.suffix.length + c.suffix.length ≤ pat.length := by
  obtain ⟨s0', rest, heq, hpre, _, h1⟩ := split_ok_first h
  cases heq
  have h2 := hpre.length_le
  have h3 : c.suffix.length < s0.suffix.length := by
    simp only [Seg.isAmbiguousPrefix, Bool.decide_and, Bool.and_eq_true, decide_eq_true_eq] at hp
    exact hp.2.2.2.2.1
  omega

theorem sliceE_drop (site : Nat) (pat : Bytes) {k : Nat} (h : k ≤ pat.length) :
    sliceE site pat k pat.length = .ok (pat.drop k) := by
  rw [sliceE_ok site pat k pat.length h (Nat.le_refl _), List.take_length]

/-- A walk of the ambiguity check from `n` over the pattern text `pat` to a node `m` with handlers.
Each step goes to a child, either because the child's text is a literal prefix of the remaining
pattern (`false`), or because the child's segment `isAmbiguous` with the first segment of the
remaining pattern (`true`), which is then skipped; or (D33 repair, also `true`) because the child is the
upper half of a split parameter node: its segment is the same token as the first segment of the remaining
pattern up to the name or the `-` flag, its literal suffix a proper prefix of that segment's suffix
(`isAmbiguousPrefix`), and the walk goes on below it with what follows the token and that shorter suffix. -/
inductive AmbPath (ic : Interceptors) : Node → Bytes → Node → List (Seg × Bool) → Prop
  | here (n : Node) : n.handlers ≠ [] → AmbPath ic n [] n []
  | lit {n c m : Node} {pat : Bytes} {steps : List (Seg × Bool)} : pat ≠ [] → c ∈ n.children →
      c.seg.value <+: pat → AmbPath ic c (pat.drop c.seg.value.length) m steps →
      AmbPath ic n pat m ((c.seg, false) :: steps)
  | amb {n c m : Node} {pat : Bytes} {s0 : Seg} {segs : List Seg} {steps : List (Seg × Bool)} : pat ≠ [] →
      c ∈ n.children → ¬ c.seg.value <+: pat → split ic pat = .ok (s0 :: segs) →
      c.seg.isAmbiguous s0 = true → AmbPath ic c (pat.drop s0.value.length) m steps →
      AmbPath ic n pat m ((c.seg, true) :: steps)
  | pre {n c m : Node} {pat : Bytes} {s0 : Seg} {segs : List Seg} {steps : List (Seg × Bool)} : pat ≠ [] →
      c ∈ n.children → ¬ c.seg.value <+: pat → split ic pat = .ok (s0 :: segs) →
      c.seg.isAmbiguous s0 = false → c.seg.isAmbiguousPrefix s0 = true →
      AmbPath ic c (pat.drop (s0.value.length - s0.suffix.length + c.seg.suffix.length)) m steps →
      AmbPath ic n pat m ((c.seg, true) :: steps)

theorem AmbPath.chain {ic : Interceptors} {n m : Node} {pat : Bytes} {steps : List (Seg × Bool)}
    (h : AmbPath ic n pat m steps) : Chain n (steps.map (·.1)) m ∧ m.handlers ≠ [] := by
  induction h with
  | here n hn => exact ⟨Chain.nil n, hn⟩
  | lit _ hc _ _ ih => exact ⟨Chain.cons hc ih.1, ih.2⟩
  | amb _ hc _ _ _ _ ih => exact ⟨Chain.cons hc ih.1, ih.2⟩
  | pre _ hc _ _ _ _ _ ih => exact ⟨Chain.cons hc ih.1, ih.2⟩

/-- What the loop of `node.checkAmbiguous` does with one child, the bounds checks of its slices discharged. -/
def ambStep (ic : Interceptors) (c : Node) (pat : Bytes) (has : Bool) : Except Err (Option Bool) :=
  if hasPrefix pat c.seg.value then c.checkAmb ic (pat.drop c.seg.value.length) has
  else
    match split ic pat with
    | .error e => .error e
    | .ok [] => .error (.fault 250)
    | .ok (s0 :: _) =>
      if c.seg.isAmbiguous s0 then c.checkAmb ic (pat.drop s0.value.length) true
      else if c.seg.isAmbiguousPrefix s0 then
        c.checkAmb ic (pat.drop (s0.value.length - s0.suffix.length + c.seg.suffix.length)) true
      else .ok none

theorem checkAmbL_cons (ic : Interceptors) (c : Node) (cs : List Node) (pat : Bytes) (has : Bool) :
    checkAmbL ic (c :: cs) pat has =
      (do match ← ambStep ic c pat has with
          | some h => return some h
          | none => checkAmbL ic cs pat has) := by
  simp only [checkAmbL, ambStep]
  by_cases hp : hasPrefix pat c.seg.value = true
  · rw [if_pos hp, if_pos hp]
    rfl
  rw [if_neg hp, if_neg hp]
  cases hs : split ic pat with
  | error e => rfl
  | ok segs =>
    obtain ⟨s0, rest, rfl, hs0p, _⟩ := split_ok_first hs
    simp only [bind, Except.bind]
    by_cases ha : c.seg.isAmbiguous s0 = true
    · rw [if_pos ha, if_pos ha, sliceE_drop 251 pat hs0p.length_le]
      rfl
    rw [if_neg ha, if_neg ha]
    by_cases hpf : c.seg.isAmbiguousPrefix s0 = true
    · rw [if_pos hpf, if_pos hpf, sliceE_drop 252 pat (ambPrefix_offset_le hs hpf)]
      rfl
    · rw [if_neg hpf, if_neg hpf]

/-- One descent of the check, from the rest `P` of the pattern and the flag `has` into a child with segment `c`: the
rest and the flag it goes on with below the child.  An `AmbPath` is a chain of these. -/
inductive AmbDesc (ic : Interceptors) (c : Seg) (P : Bytes) (has : Bool) : Bytes → Bool → Prop
  | lit : c.value <+: P → AmbDesc ic c P has (P.drop c.value.length) has
  | amb {s0 : Seg} {segs : List Seg} : ¬ c.value <+: P → split ic P = .ok (s0 :: segs) → c.isAmbiguous s0 = true →
      AmbDesc ic c P has (P.drop s0.value.length) true
  | pre {s0 : Seg} {segs : List Seg} : ¬ c.value <+: P → split ic P = .ok (s0 :: segs) → c.isAmbiguous s0 = false →
      c.isAmbiguousPrefix s0 = true →
      AmbDesc ic c P has (P.drop (s0.value.length - s0.suffix.length + c.suffix.length)) true

/-- What one child contributes: nothing, the error of `Split`, or the answer of the check below it after a descent. -/
theorem ambStep_answer {ic : Interceptors} (c : Node) (P : Bytes) (has : Bool)
    {R : Except Err (Option Bool) → Prop} (h0 : R (.ok none)) (herr : ∀ e, split ic P = .error e → R (.error e))
    (hdesc : ∀ P' has', AmbDesc ic c.seg P has P' has' → R (c.checkAmb ic P' has')) : R (ambStep ic c P has) := by
  unfold ambStep
  by_cases hp : hasPrefix P c.seg.value = true
  · rw [if_pos hp]
    exact hdesc _ _ (.lit ((hasPrefix_iff _ _).1 hp))
  rw [if_neg hp]
  have hnp : ¬ c.seg.value <+: P := fun h => hp ((hasPrefix_iff _ _).2 h)
  cases hs : split ic P with
  | error e => exact herr e hs
  | ok segs =>
    obtain ⟨s0, rest, rfl, _, _⟩ := split_ok_first hs
    dsimp only
    by_cases ha : c.seg.isAmbiguous s0 = true
    · rw [if_pos ha]
      exact hdesc _ _ (.amb hnp hs ha)
    rw [if_neg ha]
    by_cases hpf : c.seg.isAmbiguousPrefix s0 = true
    · rw [if_pos hpf]
      exact hdesc _ _ (.pre hnp hs (Bool.eq_false_iff.2 ha) hpf)
    · rw [if_neg hpf]
      exact h0

/-- Conversely, a descent is what the loop does with the child: the three cases exclude one another. -/
theorem AmbDesc.step {ic : Interceptors} {c : Node} {P P' : Bytes} {has has' : Bool}
    (hd : AmbDesc ic c.seg P has P' has') : ambStep ic c P has = c.checkAmb ic P' has' := by
  cases hd with
  | lit hpre => simp only [ambStep, (hasPrefix_iff _ _).2 hpre, if_true]
  | amb hnp hs ha =>
    have hp : hasPrefix P c.seg.value = false := Bool.eq_false_iff.2 fun h => hnp ((hasPrefix_iff _ _).1 h)
    simp only [ambStep, hp, Bool.false_eq_true, if_false, hs, ha, if_true]
  | pre hnp hs ha hpf =>
    have hp : hasPrefix P c.seg.value = false := Bool.eq_false_iff.2 fun h => hnp ((hasPrefix_iff _ _).1 h)
    simp only [ambStep, hp, Bool.false_eq_true, if_false, hs, ha, hpf, if_true]

theorem AmbDesc.flag {ic : Interceptors} {c : Seg} {P P' : Bytes} {has has' : Bool}
    (hd : AmbDesc ic c P has P' has') : (has' = has ∧ P = c.value ++ P') ∨ has' = true := by
  cases hd with
  | lit hpre =>
    obtain ⟨r, hr⟩ := hpre
    exact .inl ⟨rfl, by rw [← hr, List.drop_left]⟩
  | amb => exact .inr rfl
  | pre => exact .inr rfl

theorem AmbDesc.ne {ic : Interceptors} {c : Seg} {P P' : Bytes} {has has' : Bool}
    (hd : AmbDesc ic c P has P' has') (hc : c.value ≠ []) : P ≠ [] := by
  rintro rfl
  cases hd with
  | lit hpre => exact hc (List.prefix_nil.1 hpre)
  | amb _ hs => exact (split_ok_iff.1 hs).1 rfl
  | pre _ hs => exact (split_ok_iff.1 hs).1 rfl

/-- The loop answers `none`, or what one of the children answers. -/
theorem checkAmbL_answer {ic : Interceptors} {P : Bytes} {has : Bool} {R : Except Err (Option Bool) → Prop}
    (h0 : R (.ok none)) : ∀ {cs : List Node}, (∀ c ∈ cs, R (ambStep ic c P has)) → R (checkAmbL ic cs P has)
  | [], _ => h0
  | c :: cs, h => by
    rw [checkAmbL_cons]
    have hc := h c List.mem_cons_self
    cases hs : ambStep ic c P has with
    | error e => rw [hs] at hc; exact hc
    | ok r =>
      cases r with
      | some b => rw [hs] at hc; exact hc
      | none => exact checkAmbL_answer h0 fun d hd => h d (List.mem_cons_of_mem _ hd)

/-- It is a first-answer search: it answers `none` only where every child does. -/
theorem checkAmbL_none {ic : Interceptors} {P : Bytes} {has : Bool} :
    ∀ {cs : List Node}, checkAmbL ic cs P has = .ok none → ∀ c ∈ cs, ambStep ic c P has = .ok none
  | [], _, _, hc => nomatch hc
  | d :: cs, h, c, hc => by
    rw [checkAmbL_cons] at h
    cases hd : ambStep ic d P has with
    | error e => rw [hd] at h; cases h
    | ok r =>
      rw [hd] at h
      cases r with
      | some b => cases h
      | none => exact (List.mem_cons.1 hc).elim (fun e => e ▸ hd) (checkAmbL_none h c)

/-- The loop answers `none`, an error of `Split`, or what the check answers below one of the children
after a descent. -/
theorem checkAmbL_rule {ic : Interceptors} {cs : List Node} {P : Bytes} {has : Bool}
    {R : Except Err (Option Bool) → Prop} (h0 : R (.ok none)) (herr : ∀ e, split ic P = .error e → R (.error e))
    (hdesc : ∀ c ∈ cs, ∀ P' has', AmbDesc ic c.seg P has P' has' → R (c.checkAmb ic P' has')) :
    R (checkAmbL ic cs P has) :=
  checkAmbL_answer h0 fun c hc => ambStep_answer c P has h0 herr (hdesc c hc)

theorem Node.checkAmb_nil (ic : Interceptors) (n : Node) (has : Bool) :
    n.checkAmb ic [] has = if n.handlers.length > 0 then .ok (some has) else .ok none := by
  cases n; rfl

theorem Node.checkAmb_of_ne (ic : Interceptors) (n : Node) {P : Bytes} (h : P ≠ []) (has : Bool) :
    n.checkAmb ic P has = checkAmbL ic n.children P has := by
  cases n with
  | mk s p mi hs idx cs =>
    cases P with
    | nil => exact absurd rfl h
    | cons x P => simp [Node.checkAmb]

/-- **The rule for `checkAmbiguous`.**  A statement `Q n P has r` about the answer `r` of the check at node `n` holds of
every answer if it holds where the pattern is used up, of the answer `none`, of an error of `Split`, and is passed up
along every descent from the answer below the child. -/
theorem checkAmb_rule {ic : Interceptors} {Q : Node → Bytes → Bool → Except Err (Option Bool) → Prop}
    (h_end : ∀ n has, Q n [] has (if n.handlers.length > 0 then .ok (some has) else .ok none))
    (h_none : ∀ n P has, P ≠ [] → Q n P has (.ok none))
    (h_err : ∀ n P has e, P ≠ [] → split ic P = .error e → Q n P has (.error e))
    (h_desc : ∀ n c P has P' has' r, P ≠ [] → c ∈ n.children → AmbDesc ic c.seg P has P' has' → Q c P' has' r →
      Q n P has r) :
    ∀ n P has, Q n P has (n.checkAmb ic P has) := by
  intro n
  induction n using Node.induction with
  | step n ih =>
    intro P has
    by_cases hP : P = []
    · subst hP
      rw [Node.checkAmb_nil]
      exact h_end n has
    rw [Node.checkAmb_of_ne ic n hP]
    exact checkAmbL_rule (h_none n P has hP) (h_err n P has · hP)
      fun c hc P' has' hd => h_desc n c P has P' has' _ hP hc hd (ih c hc P' has')

theorem AmbDesc.path {ic : Interceptors} {n c m : Node} {P P' : Bytes} {has has' : Bool} {steps : List (Seg × Bool)}
    (hP : P ≠ []) (hc : c ∈ n.children) (hd : AmbDesc ic c.seg P has P' has') (hp : AmbPath ic c P' m steps) :
    ∃ f, AmbPath ic n P m ((c.seg, f) :: steps) ∧ has' = (has || f) := by
  cases hd with
  | lit hpre => exact ⟨false, .lit hP hc hpre hp, by simp⟩
  | amb hpre hs ha => exact ⟨true, .amb hP hc hpre hs ha hp, by simp⟩
  | pre hpre hs ha hpf => exact ⟨true, .pre hP hc hpre hs ha hpf hp, by simp⟩

/-- Soundness of `node.checkAmbiguous`: an answer `some b` comes from a walk, and `b` is the incoming
flag or-ed with "some step was an ambiguous one". -/
theorem checkAmb_sound (ic : Interceptors) : (n : Node) → (pat : Bytes) → (has b : Bool) →
    n.checkAmb ic pat has = .ok (some b) →
    ∃ m steps, AmbPath ic n pat m steps ∧ b = (has || steps.any (·.2)) := by
  refine checkAmb_rule (ic := ic)
    (Q := fun n pat has r => ∀ b, r = .ok (some b) → ∃ m steps, AmbPath ic n pat m steps ∧ b = (has || steps.any (·.2)))
    ?_ ?_ ?_ ?_
  · intro n has b h
    split at h
    · rename_i hl
      cases h
      exact ⟨n, [], .here n fun e => by rw [e] at hl; exact Nat.lt_irrefl _ hl, by simp⟩
    · cases h
  · exact fun _ _ _ _ b h => nomatch h
  · exact fun _ _ _ _ _ _ b h => nomatch h
  · intro n c P has P' has' r hP hc hd ih b hb
    obtain ⟨m, steps, hp, rfl⟩ := ih b hb
    obtain ⟨f, hpath, rfl⟩ := hd.path hP hc hp
    exact ⟨m, _, hpath, by simp [Bool.or_assoc]⟩

theorem checkAmbL_sound (ic : Interceptors) : (cs : List Node) → (n : Node) → (pat : Bytes) → (has b : Bool) →
    (∀ c ∈ cs, c ∈ n.children) → pat ≠ [] → checkAmbL ic cs pat has = .ok (some b) →
    ∃ m steps, AmbPath ic n pat m steps ∧ b = (has || steps.any (·.2)) := by
  intro cs n pat has b hsub hpat
  refine checkAmbL_rule
    (R := fun r => r = .ok (some b) → ∃ m steps, AmbPath ic n pat m steps ∧ b = (has || steps.any (·.2)))
    (fun h => nomatch h) (fun _ _ h => nomatch h) fun c hc P' has' hd h => ?_
  obtain ⟨m, steps, hp, rfl⟩ := checkAmb_sound ic c P' has' b h
  obtain ⟨f, hpath, rfl⟩ := hd.path hpat (hsub c hc) hp
  exact ⟨m, _, hpath, by simp [Bool.or_assoc]⟩

/-- `checkAmbiguous` fails only with a syntax error of the pattern (it calls `Split`): never a fault. -/
theorem checkAmb_error (ic : Interceptors) : (n : Node) → (pat : Bytes) → (has : Bool) → (e : Err) →
    n.checkAmb ic pat has = .error e → SynErr e := by
  refine checkAmb_rule (ic := ic) (Q := fun _ _ _ r => ∀ e, r = .error e → SynErr e) ?_ ?_ ?_ ?_
  · intro n has e h; split at h <;> cases h
  · exact fun _ _ _ _ e h => nomatch h
  · intro _ _ _ e _ hs e' h; cases h; exact split_error hs
  · exact fun _ _ _ _ _ _ _ _ _ _ ih => ih

theorem checkAmbL_error (ic : Interceptors) : (cs : List Node) → (pat : Bytes) → (has : Bool) → (e : Err) →
    checkAmbL ic cs pat has = .error e → SynErr e := by
  intro cs pat has e
  refine checkAmbL_rule (R := fun r => r = .error e → SynErr e) (fun h => nomatch h) (fun e' hs h => ?_)
    fun c _ P' has' _ h => checkAmb_error ic c P' has' e h
  cases h
  exact split_error hs

/-- Pieces as `splitString` produces them from a well-formed pattern. -/
structure Canon (pieces : List Bytes) : Prop where
  wf : ∀ x ∈ pieces, WfPiece x
  ne : ∀ x ∈ pieces, x ≠ []
  heads : ∀ x ∈ pieces.tail, x.head? = some startByte

theorem Canon.tail {x : Bytes} {xs : List Bytes} (h : Canon (x :: xs)) : Canon xs :=
  ⟨fun y hy => h.wf y (by simp [hy]), fun y hy => h.ne y (by simp [hy]),
    fun y hy => h.heads y (by simp only [List.tail_cons]; exact List.mem_of_mem_tail hy)⟩

theorem mergeVals_canon : ∀ {x : Bytes} {xs : List Bytes}, Canon (x :: xs) → mergeVals x xs = x :: xs
  | x, [], _ => rfl
  | x, y :: ys, hc => by
    rw [mergeVals, if_pos (hc.heads y (by simp)), emit, if_neg (hc.ne x (by simp)), mergeVals_canon hc.tail]

theorem splitString_flatten {pieces : List Bytes} (hc : Canon pieces) (hne : pieces ≠ []) :
    splitString pieces.flatten = pieces := by
  cases pieces with
  | nil => exact absurd rfl hne
  | cons x xs =>
    unfold splitString
    rw [splitAux_flatten_wf _ hc.wf, mergeVals]
    split
    · rw [emit, if_pos rfl, mergeVals_canon hc]
    · rw [List.nil_append, mergeVals_canon hc]

/-- `Split` accepts more where less has gone before: no `}` at the end of the piece before, fewer names in use. -/
theorem splitLoop_mono (ic : Interceptors) : ∀ (ps : List Bytes) (flag flag' : Bool) (names names' : List Bytes)
    (segs : List Seg), splitLoop ic ps flag names = .ok segs → (flag' = true → flag = true) →
      (∀ x ∈ names', x ∈ names) → splitLoop ic ps flag' names' = .ok segs := by
  intro ps
  induction ps with
  | nil => intro _ _ _ _ segs h _ _; simpa [splitLoop] using h
  | cons p ps ih =>
    intro flag flag' names names' segs h hf hn
    obtain ⟨hp, hadj, seg, segs', hseg, hfresh, hrest, rfl⟩ := splitLoop_cons_inv h
    refine splitLoop_cons_ok hp (fun hh => hadj ⟨hf hh.1, hh.2⟩) hseg (hfresh.imp_right fun h1 hm => h1 (hn _ hm))
      (ih _ _ _ _ _ hrest id fun x hx => ?_)
    unfold usedBelow at hx ⊢
    split
    · rw [if_pos ‹_›] at hx; exact hn x hx
    · rw [if_neg ‹_›] at hx
      exact (List.mem_cons.1 hx).elim (fun e => e ▸ List.mem_cons_self) fun h => List.mem_cons_of_mem _ (hn x h)

/-- The tail of an accepted pattern, cut at a piece boundary, is accepted with the same segments. -/
theorem split_of_pieces {ic : Interceptors} {pieces : List Bytes} (hc : Canon pieces) (hne : pieces ≠ [])
    {flag : Bool} {names : List Bytes} {segs : List Seg} (h : splitLoop ic pieces flag names = .ok segs) :
    split ic pieces.flatten = .ok segs := by
  have hfl : pieces.flatten ≠ [] := fun e =>
    have ⟨x, hx⟩ := List.exists_mem_of_ne_nil _ hne
    hc.ne x hx (List.flatten_eq_nil_iff.1 e x hx)
  unfold split
  rw [if_neg hfl, splitString_flatten hc hne]
  exact splitLoop_mono ic pieces flag false names [] segs h (fun h => by cases h) (fun x hx => by cases hx)

/-- `a` and `b` are parameter segments that differ in the name or in the `-` flag only. -/
def NameVariant (a b : Seg) : Prop :=
  a.kind ≠ .str ∧ a.kind = b.kind ∧ a.rule = b.rule ∧ a.suffix = b.suffix ∧ a.endpoint = b.endpoint ∧
    (a.ignoreName ≠ b.ignoreName ∨ a.name ≠ b.name)

theorem NameVariant.isAmbiguous {a b : Seg} (h : NameVariant a b) : b.isAmbiguous a = true := by
  obtain ⟨_, h2, h3, h4, h5, h6⟩ := h
  unfold Seg.isAmbiguous
  by_cases hi : b.ignoreName = a.ignoreName
  · -- the same `-` flag: the names differ, and the lengths without the name agree
    have hn : b.name ≠ a.name := fun e => h6.elim (fun h => h hi.symm) (fun h => h e.symm)
    have hlen : b.ambiguousLength = a.ambiguousLength := by simp only [Seg.ambiguousLength, h2, h3, h4, hi]
    simp [hi, hn, hlen, h2, h3, h4, h5]
  · simp [hi, h2, h3, h4, h5]

/-- Segment lists that agree piece by piece up to parameter names. -/
inductive UpToNames : List Seg → List Seg → Prop
  | nil : UpToNames [] []
  | cons {a b : Seg} {as bs : List Seg} : (a.value = b.value ∨ NameVariant a b) → UpToNames as bs →
      UpToNames (a :: as) (b :: bs)

theorem UpToNames.refl : ∀ l : List Seg, UpToNames l l
  | [] => .nil
  | _ :: l => .cons (.inl rfl) (UpToNames.refl l)

end Mux.P9
