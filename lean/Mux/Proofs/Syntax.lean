/-
  Mux.Proofs.Syntax — `internal/syntax`: `NewSegment`, `splitString`, `Split`, `longestPrefix`; the byte-string helpers they
  are written with (`hasPrefix`, `indexByte`, `isAscii`, `sliceE`).
-/
import Mux.Model.Router
import Mux.Spec.Defs
import Mux.Proofs.FoldRules
namespace Mux

/-- `List.isPrefixOf_iff_prefix` at `Bytes`: the search for `LawfulBEq UInt8`, which every use of the general lemma
repeats, is slow to check. -/
theorem isPrefixOf_iff {p l : Bytes} : p.isPrefixOf l = true ↔ p <+: l := List.isPrefixOf_iff_prefix

theorem hasPrefix_iff (s p : Bytes) : hasPrefix s p = true ↔ p <+: s := isPrefixOf_iff

/-- `strings.IndexByte` is the index of the first byte equal to `b`. -/
theorem indexByte_eq_findIdx? (b : UInt8) (s : Bytes) : indexByte b s = s.findIdx? (· == b) := by
  induction s with
  | nil => rfl
  | cons c cs ih => simp only [indexByte, List.findIdx?_cons, beq_iff_eq, ih]

theorem indexByte_some_get {b : UInt8} {s : Bytes} {i : Nat} (h : indexByte b s = some i) :
    s[i]? = some b := by
  rw [indexByte_eq_findIdx?, List.findIdx?_eq_some_iff_getElem] at h
  obtain ⟨hlt, hp, _⟩ := h
  rw [List.getElem?_eq_getElem hlt, eq_of_beq hp]

theorem indexByte_some_lt {b : UInt8} {s : Bytes} {i : Nat} (h : indexByte b s = some i) :
    i < s.length := by
  have := indexByte_some_get h
  exact (List.getElem?_eq_some_iff.1 this).1

theorem indexByte_eq_none_iff {b : UInt8} {s : Bytes} : indexByte b s = none ↔ b ∉ s := by
  rw [indexByte_eq_findIdx?, List.findIdx?_eq_none_iff]
  exact ⟨fun h hm => by simpa using h b hm, fun h x hx => beq_false_of_ne fun e => h (e ▸ hx)⟩

theorem indexByte_zero_iff {b : UInt8} {s : Bytes} : indexByte b s = some 0 ↔ s.head? = some b := by
  cases s with
  | nil => simp [indexByte]
  | cons c cs =>
    rw [indexByte]
    by_cases h : c = b
    · simp [h]
    · cases indexByte b cs <;> simp [h]

theorem indexByte_ne_of_ne {a b : UInt8} {s : Bytes} {i j : Nat} (hab : a ≠ b)
    (hi : indexByte a s = some i) (hj : indexByte b s = some j) : i ≠ j := by
  intro e
  subst e
  have h1 := indexByte_some_get hi
  have h2 := indexByte_some_get hj
  rw [h1] at h2
  exact hab (Option.some.inj h2)

theorem isAscii_iff {s : Bytes} : isAscii s = true ↔ ∀ b ∈ s, b < 128 := by
  unfold isAscii
  simp [List.all_eq_true]

theorem isAscii_append (a b : Bytes) : isAscii (a ++ b) = (isAscii a && isAscii b) := by
  simp [isAscii]

theorem isAscii_of_subset {a b : Bytes} (h : a ⊆ b) (hb : isAscii b = true) : isAscii a = true :=
  isAscii_iff.2 fun x hx => isAscii_iff.1 hb x (h hx)

theorem isAscii_of_suffix {a b : Bytes} (h : a <:+ b) (hb : isAscii b = true) : isAscii a = true :=
  isAscii_of_subset h.subset hb

theorem isAscii_of_prefix {a b : Bytes} (h : a <+: b) (hb : isAscii b = true) : isAscii a = true :=
  isAscii_of_subset h.subset hb

theorem sliceE_ok (site : Nat) (s : Bytes) (lo hi : Nat) (h1 : lo ≤ hi) (h2 : hi ≤ s.length) :
    sliceE site s lo hi = .ok ((s.take hi).drop lo) := by
  simp [sliceE, h1, h2]

theorem sliceE_err (site : Nat) (s : Bytes) (lo hi : Nat) (h : ¬ (lo ≤ hi ∧ hi ≤ s.length)) :
    sliceE site s lo hi = .error (.fault site) := by
  simp only [sliceE, if_neg h]

/-- The last byte (0 for the empty string, where Go would fault). -/
def lastByte (v : Bytes) : UInt8 := (v[v.length - 1]?).getD 0

theorem lastByte_append (x : Bytes) {y : Bytes} (hy : y ≠ []) : lastByte (x ++ y) = lastByte y := by
  unfold lastByte
  have hl : 0 < y.length := List.length_pos_iff.2 hy
  rw [List.length_append, List.getElem?_append_right (by omega)]
  congr 2
  omega

theorem atE_last (site : Nat) (v : Bytes) (h : v ≠ []) : atE site v (v.length - 1) = .ok (lastByte v) := by
  have : v.length - 1 < v.length := by
    cases v with
    | nil => exact absurd rfl h
    | cons b r => simp
  simp [atE, lastByte, List.getElem?_eq_getElem this]

theorem atE_zero (site : Nat) (v : Bytes) (h : v ≠ []) : atE site v 0 = .ok (v.headD 0) := by
  cases v with
  | nil => exact absurd rfl h
  | cons b r => simp [atE]

/-- `cleanName` on a non-empty name. -/
def stripIgn : Bytes → Bytes × Bool
  | [] => ([], false)
  | b :: r => if b = ignoreByte then (r, true) else (b :: r, false)

theorem cleanName_ok (raw : Bytes) (h : raw ≠ []) : cleanName raw = .ok (stripIgn raw) := by
  cases raw with
  | nil => exact absurd rfl h
  | cons b r =>
    simp only [cleanName, stripIgn]
    split <;> rfl

/-- The named segment built from `v` with `{` at `st`, `}` at `en`, the name ending at `hi`. -/
def mkNamed (v : Bytes) (st en hi : Nat) : Seg :=
  { value := v, kind := .named,
    name := (stripIgn ((v.take hi).drop (st + 1))).1,
    ignoreName := (stripIgn ((v.take hi).drop (st + 1))).2,
    suffix := v.drop (en + 1), endpoint := decide (lastByte v = endByte) }

/-- The interceptor / regexp segment with text `v`, name and `-` flag `nm`, rule `rule` and literal text `suffix`
after the token. -/
def ruledSeg (ic : Interceptors) (v : Bytes) (nm : Bytes × Bool) (rule suffix : Bytes) : Except Err Seg :=
  match ic.find rule with
  | some _ => .ok { value := v, kind := .icpt, name := nm.1, ignoreName := nm.2, rule := rule,
                    suffix := suffix, endpoint := decide (lastByte v = endByte) }
  | none =>
    if ¬ isAscii suffix then .error .unsupported
    else match compileRule nm.1 nm.2 rule with
      | .error e => .error e
      | .ok re => .ok { value := v, kind := .rx, name := nm.1, ignoreName := nm.2, rule := rule,
                        suffix := suffix, re := re }

/-- The interceptor / regexp segment built from `v` with `{` at `st`, `:` at `sp`, `}` at `en`. -/
def finishRuled (ic : Interceptors) (v : Bytes) (st en sp : Nat) : Except Err Seg :=
  ruledSeg ic v (stripIgn ((v.take sp).drop (st + 1))) ((v.take en).drop (sp + 1)) (v.drop (en + 1))

theorem take_drop_ne_nil {v : Bytes} {lo hi : Nat} (h1 : lo < hi) (h2 : hi ≤ v.length) : (v.take hi).drop lo ≠ [] := by
  intro e
  have := congrArg List.length e
  rw [List.length_drop, List.length_take, List.length_nil] at this
  omega

theorem bind_ok {ε α β} (a : α) (f : α → Except ε β) : Except.bind (.ok a) f = f a := rfl

/-- The name stage of `NewSegment`: a non-empty slice of the text, stripped of its `-`. -/
theorem rawName_bind {β} (site : Nat) {v : Bytes} {lo hi : Nat} (h1 : lo < hi) (h2 : hi ≤ v.length)
    (k : Bytes × Bool → Except Err β) :
    (sliceE site v lo hi).bind (fun raw => (cleanName raw).bind k) = k (stripIgn ((v.take hi).drop lo)) := by
  rw [sliceE_ok site v lo hi (Nat.le_of_lt h1) h2, bind_ok, cleanName_ok _ (take_drop_ne_nil h1 h2), bind_ok]

/-- What `newSegment ic v` can return on a text within the length bound, by the position of the first `{` (`st`), `}`
(`en`) and `:` (`sp`) in `v`. -/
inductive SegRes (ic : Interceptors) (v : Bytes) : Except Err Seg → Prop
  /-- no `{` or no `}`: a literal -/
  | lit (h : indexByte startByte v = none ∨ indexByte endByte v = none) : SegRes ic v (.ok { value := v })
  /-- `{name}`, no `:` before the `}` -/
  | named (st en : Nat) (hst : indexByte startByte v = some st) (hen : indexByte endByte v = some en)
      (hlt : st + 1 < en) (hsp : ∀ sp, indexByte separatorByte v = some sp → en < sp) :
      SegRes ic v (.ok (mkNamed v st en en))
  /-- `{name:}`: an empty rule is a named parameter -/
  | namedColon (st en sp : Nat) (hst : indexByte startByte v = some st) (hen : indexByte endByte v = some en)
      (hsp : indexByte separatorByte v = some sp) (h1 : st + 1 < sp) (h2 : sp + 1 = en) :
      SegRes ic v (.ok (mkNamed v st en sp))
  /-- `{name:rule}`: interceptor or regexp, or the error of the rule -/
  | ruled (st en sp : Nat) (r : Except Err Seg) (hst : indexByte startByte v = some st)
      (hen : indexByte endByte v = some en) (hsp : indexByte separatorByte v = some sp) (h1 : st + 1 < sp)
      (h2 : sp + 1 < en) (hf : finishRuled ic v st en sp = r) : SegRes ic v r
  /-- `}` before `{`, `{}`, or `{:` -/
  | malformed (st en : Nat) (hst : indexByte startByte v = some st) (hen : indexByte endByte v = some en)
      (h : en < st ∨ st + 1 = en ∨ indexByte separatorByte v = some (st + 1)) : SegRes ic v (.error .syntax)
  /-- the first `:` lies before the first `{`: Go evaluates `val[start+1 : separator]` -/
  | fault (st en sp : Nat) (hst : indexByte startByte v = some st) (hen : indexByte endByte v = some en)
      (hsp : indexByte separatorByte v = some sp) (h1 : sp < st) (h2 : st + 1 < en) : SegRes ic v (.error (.fault 107))

abbrev SegShape (ic : Interceptors) (v : Bytes) (s : Seg) : Prop := SegRes ic v (.ok s)

/-- `NewSegment` read once, with all bounds checks discharged: the only reachable fault is site 107
(`val[start+1 : separator]` with `separator < start`, e.g. `"a:{b}"`). -/
theorem newSegment_res (ic : Interceptors) {v : Bytes} (hl : v.length ≤ maxInt16) : SegRes ic v (newSegment ic v) := by
  unfold newSegment
  -- `Except.bind` stays folded: `bind_ok` resolves a step whose result is known, `rawName_bind` the name stage
  simp only [bind, pure, Except.pure, throw, throwThe, MonadExceptOf.throw]
  rw [if_neg (Nat.not_lt.2 hl)]
  cases hst : indexByte startByte v with
  | none => exact .lit (.inl hst)
  | some st =>
  cases hen : indexByte endByte v with
  | none => exact .lit (.inr hen)
  | some en =>
  have hstl := indexByte_some_lt hst
  have henl := indexByte_some_lt hen
  have hne : st ≠ en := indexByte_ne_of_ne (by decide) hst hen
  have hv : v ≠ [] := by intro e; subst e; exact absurd hstl (Nat.not_lt_zero _)
  have h103 : sliceE 103 v (en + 1) v.length = .ok (v.drop (en + 1)) := by
    rw [sliceE_ok 103 v (en + 1) v.length henl (Nat.le_refl _), List.take_length]
  cases hsp : indexByte separatorByte v with
  | none =>
    dsimp only
    by_cases hc : st > en ∨ st + 1 = en
    · rw [if_pos (hc.imp_right .inl)]
      exact .malformed st en hst hen (hc.imp_right .inl)
    rw [if_neg (fun h => hc (h.imp_right fun h => h.elim id (fun h => Bool.noConfusion h))), atE_last 102 v hv, h103]
    dsimp only [bind_ok]
    rw [if_pos (rfl : true = true), rawName_bind 105 (by omega) (Nat.le_of_lt henl)]
    exact .named st en hst hen (by omega) (fun sp h => by rw [hsp] at h; cases h)
  | some sp =>
    have hspl := indexByte_some_lt hsp
    have hne2 : sp ≠ en := indexByte_ne_of_ne (by decide) hsp hen
    have hne3 : st ≠ sp := indexByte_ne_of_ne (by decide) hst hsp
    dsimp only [Option.getD_some]
    by_cases hc : st > en ∨ st + 1 = en ∨ st + 1 = sp
    · rw [if_pos (hc.imp_right fun h => h.imp_right fun h => decide_eq_true ⟨by omega, h⟩)]
      exact .malformed st en hst hen (hc.imp_right fun h => h.imp_right fun h => by rw [h]; exact hsp)
    rw [if_neg (fun h => hc (h.imp_right fun h => h.imp_right fun h => (of_decide_eq_true h).2)), atE_last 102 v hv, h103]
    dsimp only [bind_ok]
    by_cases h1 : sp + 1 = en
    · rw [if_pos (decide_eq_true (Or.inl h1 : sp + 1 = en ∨ sp > en)), if_pos (show sp < en by omega),
        rawName_bind 104 (by omega) (Nat.le_of_lt hspl)]
      exact .namedColon st en sp hst hen hsp (by omega) h1
    by_cases h2 : sp > en
    · rw [if_pos (decide_eq_true (Or.inr h2 : sp + 1 = en ∨ sp > en)), if_neg (Nat.not_lt_of_gt h2),
        rawName_bind 105 (by omega) (Nat.le_of_lt henl)]
      exact .named st en hst hen (by omega) (fun sp' h => by rw [hsp] at h; cases h; exact h2)
    rw [if_neg (fun h => (of_decide_eq_true h).elim h1 h2), sliceE_ok 106 v (sp + 1) en (by omega) (Nat.le_of_lt henl)]
    dsimp only [bind_ok]
    by_cases h3 : sp < st
    · rw [sliceE_err 107 v (st + 1) sp (by omega)]
      exact .fault st en sp hst hen hsp h3 (by omega)
    rw [rawName_bind 107 (by omega) (Nat.le_of_lt hspl)]
    refine .ruled st en sp _ hst hen hsp (by omega) (by omega) ?_
    unfold finishRuled ruledSeg
    cases ic.find (List.drop (sp + 1) (List.take en v)) with
    | some _ => rfl
    | none =>
      dsimp only
      by_cases ha : ¬ isAscii (List.drop (en + 1) v) = true
      · rw [if_pos ha, if_pos ha]
        rfl
      rw [if_neg ha, if_neg ha]
      cases compileRule (stripIgn (List.drop (st + 1) (List.take sp v))).fst
        (stripIgn (List.drop (st + 1) (List.take sp v))).snd (List.drop (sp + 1) (List.take en v)) <;> rfl

/-- The result as a function of the positions of the first `{` (`st`), `}` (`en`) and `:` (`sp`; a `:` after the `}` is
not looked at, so the length of the text stands for "none"). -/
def segAt (ic : Interceptors) (v : Bytes) (st en sp : Nat) : Except Err Seg :=
  if st > en ∨ st + 1 = en ∨ st + 1 = sp then .error .syntax
  else if sp + 1 = en then .ok (mkNamed v st en sp)
  else if sp > en then .ok (mkNamed v st en en)
  else if sp < st then .error (.fault 107)
  else finishRuled ic v st en sp

/-- `SegRes` is functional: the hypotheses of each result select one branch of `segAt`. -/
theorem SegRes.closed {ic : Interceptors} {v : Bytes} {r : Except Err Seg} (h : SegRes ic v r) :
    (match indexByte startByte v, indexByte endByte v with
      | some st, some en => segAt ic v st en ((indexByte separatorByte v).getD v.length)
      | _, _ => .ok { value := v }) = r := by
  cases h with
  | lit h =>
    rcases h with h | h
    · rw [h]
    · rw [h]; cases indexByte startByte v <;> rfl
  | named st en hst hen hlt hsp =>
    have : en < (indexByte separatorByte v).getD v.length := by
      cases h : indexByte separatorByte v with
      | none => exact indexByte_some_lt hen
      | some sp => exact hsp sp h
    rw [hst, hen]
    dsimp only [segAt]
    rw [if_neg (by omega), if_neg (by omega), if_pos this]
  | namedColon st en sp hst hen hsp h1 h2 =>
    rw [hst, hen, hsp]
    dsimp only [segAt, Option.getD_some]
    rw [if_neg (by omega), if_pos h2]
  | ruled st en sp r hst hen hsp h1 h2 hf =>
    rw [hst, hen, hsp, ← hf]
    dsimp only [segAt, Option.getD_some]
    rw [if_neg (by omega), if_neg (by omega), if_neg (by omega), if_neg (by omega)]
  | malformed st en hst hen h =>
    rw [hst, hen]
    exact if_pos (h.imp_right fun h => h.imp_right fun h => by rw [h]; rfl)
  | fault st en sp hst hen hsp h1 h2 =>
    rw [hst, hen, hsp]
    dsimp only [segAt, Option.getD_some]
    rw [if_neg (by omega), if_neg (by omega), if_neg (by omega), if_pos h1]

theorem SegRes.eq {ic : Interceptors} {v : Bytes} {r : Except Err Seg} (hl : v.length ≤ maxInt16)
    (h : SegRes ic v r) : newSegment ic v = r :=
  (newSegment_res ic hl).closed.symm.trans h.closed

theorem newSegment_closed_at (ic : Interceptors) {v : Bytes} {st en : Nat} (hl : v.length ≤ maxInt16)
    (hst : indexByte startByte v = some st) (hen : indexByte endByte v = some en) :
    newSegment ic v = segAt ic v st en ((indexByte separatorByte v).getD v.length) := by
  have h := (newSegment_res ic hl).closed
  rw [hst, hen] at h
  exact h.symm

theorem newSegment_tooLong (ic : Interceptors) {v : Bytes} (hl : maxInt16 < v.length) :
    newSegment ic v = .error .tooLong := by
  unfold newSegment
  exact if_pos hl

theorem newSegment_iff {ic : Interceptors} {v : Bytes} {r : Except Err Seg} :
    newSegment ic v = r ↔ (maxInt16 < v.length ∧ r = .error .tooLong) ∨ (v.length ≤ maxInt16 ∧ SegRes ic v r) := by
  by_cases hl : v.length ≤ maxInt16
  · exact ⟨fun h => .inr ⟨hl, h ▸ newSegment_res ic hl⟩, fun h => h.elim (fun h => by omega) fun h => h.2.eq hl⟩
  · have ht := newSegment_tooLong ic (Nat.lt_of_not_le hl)
    exact ⟨fun h => .inl ⟨Nat.lt_of_not_le hl, h ▸ ht⟩, fun h => h.elim (fun h => h.2 ▸ ht) fun h => absurd h.1 hl⟩

theorem newSegment_ok_iff {ic : Interceptors} {v : Bytes} {s : Seg} :
    newSegment ic v = .ok s ↔ v.length ≤ maxInt16 ∧ SegShape ic v s :=
  newSegment_iff.trans ⟨fun h => h.elim (fun h => nomatch h.2) id, .inr⟩

theorem newSegment_error_iff {ic : Interceptors} {v : Bytes} {e : Err} :
    newSegment ic v = .error e ↔
      (maxInt16 < v.length ∧ e = .tooLong) ∨ (v.length ≤ maxInt16 ∧ SegRes ic v (.error e)) :=
  newSegment_iff.trans (or_congr_left (and_congr_right fun _ => ⟨Except.error.inj, congrArg _⟩))

theorem ruledSeg_ok_cases {ic : Interceptors} {v : Bytes} {nm : Bytes × Bool} {rule suffix : Bytes} {s : Seg}
    (h : ruledSeg ic v nm rule suffix = .ok s) :
    (∃ id, ic.find rule = some id ∧
      s = { value := v, kind := .icpt, name := nm.1, ignoreName := nm.2, rule := rule, suffix := suffix,
            endpoint := decide (lastByte v = endByte) }) ∨
    (ic.find rule = none ∧ isAscii suffix = true ∧
      ∃ re, compileRule nm.1 nm.2 rule = .ok re ∧
        s = { value := v, kind := .rx, name := nm.1, ignoreName := nm.2, rule := rule, suffix := suffix, re := re }) := by
  unfold ruledSeg at h
  split at h
  · rename_i id hf
    cases h
    exact .inl ⟨id, hf, rfl⟩
  · rename_i hf
    split at h
    · cases h
    rename_i ha
    split at h
    · cases h
    · rename_i re hre
      cases h
      exact .inr ⟨hf, by simpa using ha, re, hre, rfl⟩

theorem Interceptors.find_nil (r : Bytes) : Interceptors.find [] r = none := rfl

theorem newSegment_value (ic : Interceptors) (v : Bytes) (s : Seg) (h : newSegment ic v = .ok s) :
    s.value = v := by
  cases (newSegment_ok_iff.1 h).2 with
  | lit | named | namedColon => rfl
  | ruled st en sp s _ _ _ _ _ hf =>
    rcases ruledSeg_ok_cases hf with ⟨_, _, rfl⟩ | ⟨_, _, _, _, rfl⟩ <;> rfl

theorem newSegment_lit_iff (ic : Interceptors) (v : Bytes) (s : Seg) (h : newSegment ic v = .ok s) :
    s.kind = .str ↔ ¬ (startByte ∈ v ∧ endByte ∈ v) := by
  have mem : ∀ {b : UInt8} {i : Nat}, indexByte b v = some i → b ∈ v :=
    fun h => List.mem_of_getElem? (indexByte_some_get h)
  cases (newSegment_ok_iff.1 h).2 with
  | lit hnone =>
    refine iff_of_true rfl ?_
    rintro ⟨h1, h2⟩
    rcases hnone with hn | hn
    · exact indexByte_eq_none_iff.1 hn h1
    · exact indexByte_eq_none_iff.1 hn h2
  | named st en hst hen =>
    exact iff_of_false (by simp [mkNamed]) (fun hn => hn ⟨mem hst, mem hen⟩)
  | namedColon st en sp hst hen =>
    exact iff_of_false (by simp [mkNamed]) (fun hn => hn ⟨mem hst, mem hen⟩)
  | ruled st en sp s hst hen _ _ _ hf =>
    refine iff_of_false ?_ (fun hn => hn ⟨mem hst, mem hen⟩)
    rcases ruledSeg_ok_cases hf with ⟨_, _, rfl⟩ | ⟨_, _, _, _, rfl⟩ <;> simp

theorem newSegment_rx_ascii {ic : Interceptors} {v : Bytes} {s : Seg}
    (h : newSegment ic v = .ok s) (hk : s.kind = .rx) : isAscii s.suffix = true := by
  cases (newSegment_ok_iff.1 h).2 with
  | lit | named | namedColon => cases hk
  | ruled st en sp s _ _ _ _ _ hf =>
    rcases ruledSeg_ok_cases hf with ⟨_, _, rfl⟩ | ⟨_, ha, _, _, rfl⟩
    · cases hk
    · exact ha

theorem SegShape.of_braces {ic : Interceptors} {v : Bytes} {s : Seg} (h : SegShape ic v s) {st en : Nat}
    (hst : indexByte startByte v = some st) (hen : indexByte endByte v = some en) :
    st + 1 < en ∧
      ((s = mkNamed v st en en ∧ ∀ sp, indexByte separatorByte v = some sp → en < sp) ∨
        ∃ sp, indexByte separatorByte v = some sp ∧ st + 1 < sp ∧
          ((sp + 1 = en ∧ s = mkNamed v st en sp) ∨ (sp + 1 < en ∧ finishRuled ic v st en sp = .ok s))) := by
  cases h with
  | lit h =>
    rcases h with h | h
    · rw [hst] at h; cases h
    · rw [hen] at h; cases h
  | named st' en' hst' hen' hlt hsp =>
    rw [hst] at hst'; rw [hen] at hen'; cases hst'; cases hen'
    exact ⟨hlt, .inl ⟨rfl, hsp⟩⟩
  | namedColon st' en' sp hst' hen' hsp h1 h2 =>
    rw [hst] at hst'; rw [hen] at hen'; cases hst'; cases hen'
    exact ⟨by omega, .inr ⟨sp, hsp, h1, .inl ⟨h2, rfl⟩⟩⟩
  | ruled st' en' sp s hst' hen' hsp h1 h2 hf =>
    rw [hst] at hst'; rw [hen] at hen'; cases hst'; cases hen'
    exact ⟨by omega, .inr ⟨sp, hsp, h1, .inr ⟨h2, hf⟩⟩⟩

theorem compileRule_error {name : Bytes} {ign : Bool} {rule : Bytes} {e : Err}
    (h : compileRule name ign rule = .error e) : e = .regexp ∨ e = .unsupported := by
  unfold compileRule at h
  split at h
  · split at h
    · cases h
    · cases h; exact .inl rfl
  · cases h; exact .inl rfl
  · cases h; exact .inr rfl

theorem ruledSeg_error {ic : Interceptors} {v : Bytes} {nm : Bytes × Bool} {rule suffix : Bytes} {e : Err}
    (h : ruledSeg ic v nm rule suffix = .error e) : e = .regexp ∨ e = .unsupported := by
  unfold ruledSeg at h
  split at h
  · cases h
  · split at h
    · cases h; exact .inr rfl
    · split at h
      · rename_i e' he
        cases h
        exact compileRule_error he
      · cases h

/-- Exactly when `NewSegment` faults: the first `:` lies before the first `{`, and the braces
enclose at least one byte.  (Example: `"a:{b}"` — Go evaluates `val[3:1]`.) -/
theorem newSegment_fault_iff (ic : Interceptors) (v : Bytes) (n : Nat) :
    newSegment ic v = .error (.fault n) ↔
      n = 107 ∧ v.length ≤ maxInt16 ∧ ∃ st en sp, indexByte startByte v = some st ∧
        indexByte endByte v = some en ∧ indexByte separatorByte v = some sp ∧ sp < st ∧ st + 1 < en := by
  rw [newSegment_error_iff]
  constructor
  · rintro (⟨_, h⟩ | ⟨hl, h⟩)
    · cases h
    · cases h with
      | fault st en sp hst hen hsp h1 h2 => exact ⟨rfl, hl, st, en, sp, hst, hen, hsp, h1, h2⟩
      | ruled st en sp _ _ _ _ _ _ hf => rcases ruledSeg_error hf with h | h <;> cases h
  · rintro ⟨rfl, hl, st, en, sp, hst, hen, hsp, h1, h2⟩
    exact .inr ⟨hl, .fault st en sp hst hen hsp h1 h2⟩

theorem newSegment_no_fault (ic : Interceptors) (v : Bytes)
    (hsep : ∀ st sp, indexByte startByte v = some st → indexByte separatorByte v = some sp → st ≤ sp)
    (n : Nat) : newSegment ic v ≠ .error (.fault n) := by
  intro h
  obtain ⟨_, _, st, en, sp, h1, _, h3, h4, _⟩ := (newSegment_fault_iff ic v n).1 h
  have := hsep st sp h1 h3
  omega

theorem finishRuled_agree (ic : Interceptors) (v : Bytes) (st en sp : Nat)
    (h : ∀ s, finishRuled ic v st en sp = .ok s → s.kind ≠ .icpt) :
    finishRuled ic v st en sp = finishRuled [] v st en sp := by
  unfold finishRuled ruledSeg at h ⊢
  simp only [Interceptors.find_nil] at h ⊢
  split
  · rename_i id hf
    simp only [hf] at h
    exact absurd rfl (h _ rfl)
  · rfl

/-- The rule text of a `{name:rule}` piece, when it has one (the text between the first `:` and the
first `}`, provided `{` comes first and both the name and the rule are non-empty). -/
def pieceRule (v : Bytes) : Option Bytes :=
  match indexByte startByte v, indexByte endByte v, indexByte separatorByte v with
  | some st, some en, some sp => if st + 1 < sp ∧ sp + 1 < en then some ((v.take en).drop (sp + 1)) else none
  | _, _, _ => none

theorem newSegment_rule (ic : Interceptors) (v : Bytes) (s : Seg) (h : newSegment ic v = .ok s) :
    (pieceRule v = none ∧ s.kind ≠ .icpt) ∨
      (pieceRule v = some s.rule ∧ (s.kind = .icpt → (ic.find s.rule).isSome)) := by
  unfold pieceRule
  cases (newSegment_ok_iff.1 h).2 with
  | lit hlit =>
    refine .inl ⟨?_, nofun⟩
    rcases hlit with e | e
    · rw [e]
    · rw [e]; cases indexByte startByte v <;> rfl
  | named st en hst hen hlt hsp =>
    rw [hst, hen]
    refine .inl ⟨?_, nofun⟩
    cases hs : indexByte separatorByte v with
    | none => rfl
    | some sp => exact if_neg fun hc => by have := hsp sp hs; omega
  | namedColon st en sp hst hen hsp h1 h2 =>
    rw [hst, hen, hsp]
    exact .inl ⟨if_neg fun hc => by omega, nofun⟩
  | ruled st en sp s hst hen hsp h1 h2 hf =>
    rw [hst, hen, hsp]
    rcases ruledSeg_ok_cases hf with ⟨id, hfind, rfl⟩ | ⟨_, _, _, _, rfl⟩
    · exact .inr ⟨if_pos ⟨h1, h2⟩, fun _ => Option.isSome_iff_exists.2 ⟨id, hfind⟩⟩
    · exact .inr ⟨if_pos ⟨h1, h2⟩, nofun⟩

/-- `NewSegment` depends on the interceptors only through `finishRuled`. -/
theorem newSegment_congr {ic ic' : Interceptors} {v : Bytes} {r : Except Err Seg} (h : newSegment ic v = r)
    (hf : ∀ st en sp, finishRuled ic v st en sp = r → finishRuled ic' v st en sp = r) : newSegment ic' v = r := by
  rcases newSegment_iff.1 h with ht | ⟨hl, sh⟩
  · exact newSegment_iff.2 (.inl ht)
  · refine SegRes.eq hl ?_
    cases sh with
    | lit hn => exact .lit hn
    | named st en hst hen hlt hsp => exact .named st en hst hen hlt hsp
    | namedColon st en sp hst hen hsp h1 h2 => exact .namedColon st en sp hst hen hsp h1 h2
    | ruled st en sp r hst hen hsp h1 h2 hr => exact .ruled st en sp r hst hen hsp h1 h2 (hf st en sp hr)
    | malformed st en hst hen hm => exact .malformed st en hst hen hm
    | fault st en sp hst hen hsp h1 h2 => exact .fault st en sp hst hen hsp h1 h2

/-- If `NewSegment` with the interceptors `ic` does not yield an interceptor segment, it yields
exactly what it yields without interceptors (`CheckSyntax`). -/
theorem newSegment_agree (ic : Interceptors) (v : Bytes)
    (h : ∀ s, newSegment ic v = .ok s → s.kind ≠ .icpt) : newSegment ic v = newSegment [] v := by
  refine (newSegment_congr rfl fun st en sp hf => ?_).symm
  rw [← finishRuled_agree ic v st en sp (fun s hs => h s (hf ▸ hs))]
  exact hf

theorem find_append_some {ic : Interceptors} {r : Bytes} {i : IcptId} (h : ic.find r = some i) (x : Bytes × IcptId) :
    Interceptors.find (ic ++ [x]) r = some i := by
  unfold Interceptors.find at h ⊢
  rw [List.find?_append]
  cases hf : List.find? (fun e => decide (e.1 = r)) ic with
  | none => rw [hf] at h; cases h
  | some e => rw [hf] at h; exact h

theorem find_append_none {ic : Interceptors} {r rule : Bytes} (h : ic.find r = none) (hne : r ≠ rule) (id : IcptId) :
    Interceptors.find (ic ++ [(rule, id)]) r = none := by
  unfold Interceptors.find at h ⊢
  rw [List.find?_append]
  cases hf : List.find? (fun e => decide (e.1 = r)) ic with
  | some e => rw [hf] at h; cases h
  | none =>
    have : ¬ rule = r := fun e => hne e.symm
    simp [this]

theorem finishRuled_mono {ic : Interceptors} {v : Bytes} {st en sp : Nat} {s : Seg} {rule : Bytes} (id : IcptId)
    (h : finishRuled ic v st en sp = .ok s) (hc : s.kind = .rx → s.rule ≠ rule) :
    finishRuled (ic ++ [(rule, id)]) v st en sp = .ok s := by
  unfold finishRuled ruledSeg
  rcases ruledSeg_ok_cases h with ⟨i, hf, rfl⟩ | ⟨hf, ha, re, hre, rfl⟩
  · simp only [find_append_some hf]
  · simp only [find_append_none hf (hc rfl), ha, not_true_eq_false, if_false, hre]

theorem newSegment_mono {ic : Interceptors} {v : Bytes} {s : Seg} {rule : Bytes} (id : IcptId)
    (h : newSegment ic v = .ok s) (hc : s.kind = .rx → s.rule ≠ rule) :
    newSegment (ic ++ [(rule, id)]) v = .ok s :=
  newSegment_congr h fun _ _ _ hf => finishRuled_mono id hf hc

theorem splitAux_flatten (st : Bool) (cur rest : Bytes) :
    (splitAux st cur rest).flatten = cur ++ rest := by
  fun_induction splitAux st cur rest <;> simp [*]

/-- Invariant rule for `splitAux`.  `I st cur rest` speaks of the state of the scan: inside a token or not, the piece
in progress, the text still to come.  If each kind of step keeps `I`, and `I` gives `P` of the piece in progress
where one is emitted (before a `{` outside a token, unless empty; at the end), every piece satisfies `P`. -/
theorem splitAux_pieces {I : Bool → Bytes → Bytes → Prop} {P : Bytes → Prop}
    (h_end : ∀ st cur, I st cur [] → P cur)
    (h_open : ∀ cur rest, I false cur (startByte :: rest) → (cur ≠ [] → P cur) ∧ I true [startByte] rest)
    (h_out : ∀ cur b rest, b ≠ startByte → I false cur (b :: rest) → I false (cur ++ [b]) rest)
    (h_close : ∀ cur rest, I true cur (endByte :: rest) → I false (cur ++ [endByte]) rest)
    (h_in : ∀ cur b rest, b ≠ endByte → I true cur (b :: rest) → I true (cur ++ [b]) rest)
    (st : Bool) (cur rest : Bytes) (h : I st cur rest) : ∀ p ∈ splitAux st cur rest, P p := by
  fun_induction splitAux st cur rest with
  | case1 st cur => exact List.forall_mem_singleton.2 (h_end st cur h)
  | case2 rest ih => exact ih (h_open [] rest h).2
  | case3 cur rest hc ih => exact List.forall_mem_cons.2 ⟨(h_open cur rest h).1 hc, ih (h_open cur rest h).2⟩
  | case4 cur b rest hb ih => exact ih (h_out cur b rest hb h)
  | case5 cur rest ih => exact ih (h_close cur rest h)
  | case6 cur b rest hb ih => exact ih (h_in cur b rest hb h)

theorem splitAux_nonempty (st : Bool) (cur rest : Bytes) (h : cur ≠ []) :
    ∀ p ∈ splitAux st cur rest, p ≠ [] :=
  splitAux_pieces (I := fun _ cur _ => cur ≠ []) (fun _ _ h => h) (fun _ _ h => ⟨fun _ => h, by simp⟩)
    (fun _ _ _ _ _ => by simp) (fun _ _ _ => by simp) (fun _ _ _ _ _ => by simp) st cur rest h

/-- A piece either begins with `{` or contains no `{` at all. -/
def GoodPiece (p : Bytes) : Prop := p.head? = some startByte ∨ startByte ∉ p

theorem splitAux_append_noStart (cur x y : Bytes) (h : startByte ∉ x) :
    splitAux false cur (x ++ y) = splitAux false (cur ++ x) y := by
  induction x generalizing cur with
  | nil => simp
  | cons b x ih =>
    simp only [List.mem_cons, not_or] at h
    have hb : ¬ b = startByte := fun e => h.1 e.symm
    simp only [List.cons_append, splitAux, hb, if_false]
    rw [ih (cur ++ [b]) h.2]
    simp

theorem splitAux_true_body (cur body rest : Bytes) (hb : endByte ∉ body) :
    splitAux true cur (body ++ endByte :: rest) = splitAux false (cur ++ body ++ [endByte]) rest := by
  induction body generalizing cur with
  | nil => simp [splitAux]
  | cons b body ih =>
    simp only [List.mem_cons, not_or] at hb
    have hne : ¬ b = endByte := fun e => hb.1 e.symm
    simp only [List.cons_append, splitAux, hne, if_false]
    rw [ih _ hb.2]
    simp

theorem splitString_nil : splitString [] = [[]] := rfl

theorem splitString_join (s : Bytes) : (splitString s).flatten = s := by
  simp [splitString, splitAux_flatten]

theorem splitString_cons_join {p v : Bytes} {rest : List Bytes} (h : splitString p = v :: rest) :
    v ++ rest.flatten = p := by
  have := splitString_join p
  rwa [h] at this

theorem splitString_pieces_nonempty (s : Bytes) (h : s ≠ []) : ∀ p ∈ splitString s, p ≠ [] := by
  cases s with
  | nil => exact absurd rfl h
  | cons b rest =>
    simp only [splitString, splitAux]
    split
    · exact splitAux_nonempty _ _ _ (by simp)
    · exact splitAux_nonempty _ _ _ (by simp)

theorem GoodPiece.sep (p : Bytes) (h : GoodPiece p) :
    ∀ st sp, indexByte startByte p = some st → indexByte separatorByte p = some sp → st ≤ sp := by
  intro st sp h1 _
  rcases h with h | h
  · rw [indexByte_zero_iff.2 h] at h1
    cases h1
    omega
  · rw [indexByte_eq_none_iff.2 h] at h1
    cases h1

theorem newSegment_piece_no_fault (ic : Interceptors) (p : Bytes) (h : GoodPiece p) (n : Nat) :
    newSegment ic p ≠ .error (.fault n) :=
  newSegment_no_fault ic p (GoodPiece.sep p h) n

end Mux

namespace Mux.P9
open Mux

/-- The names in use below a node with segment `s`, given the names in use above it. -/
def usedBelow (used : List Bytes) (s : Seg) : List Bytes := if s.kind = .str then used else s.name :: used

/-- It is also what the loop of `Split` hands on to the pieces that follow. -/
theorem usedBelow_eq (names : List Bytes) (seg : Seg) :
    (if seg.kind ≠ .str then seg.name :: names else names) = usedBelow names seg := by
  unfold usedBelow
  by_cases h : seg.kind = .str <;> simp [h]

end Mux.P9

namespace Mux

/-- One step of the loop of `Split` on a non-empty piece. -/
theorem splitLoop_cons (ic : Interceptors) {v : Bytes} (rest : List Bytes) (flag : Bool) (names : List Bytes)
    (hv : v ≠ []) :
    splitLoop ic (v :: rest) flag names =
      if flag = true ∧ v.head? = some startByte then .error .adjacent else
      newSegment ic v >>= fun s =>
        if s.kind ≠ .str ∧ s.name ∈ names then .error .dupName else
        splitLoop ic rest (decide (lastByte v = endByte)) (P9.usedBelow names s) >>= fun r => pure (s :: r) := by
  have hhead : v.headD 0 = startByte ↔ v.head? = some startByte := by
    cases v with
    | nil => exact absurd rfl hv
    | cons c r => simp
  simp only [splitLoop, bind, Except.bind, atE_zero _ _ hv, atE_last _ _ hv, throw, throwThe, MonadExceptOf.throw, hhead,
    List.contains_iff_mem, P9.usedBelow_eq]

/-- The step where both guards pass. -/
theorem splitLoop_step {ic : Interceptors} {v : Bytes} {rest : List Bytes} {flag : Bool} {names : List Bytes} {s : Seg}
    (hv : v ≠ []) (hadj : ¬ (flag = true ∧ v.head? = some startByte)) (hs : newSegment ic v = .ok s)
    (hfresh : s.kind = .str ∨ s.name ∉ names) :
    splitLoop ic (v :: rest) flag names =
      splitLoop ic rest (decide (lastByte v = endByte)) (P9.usedBelow names s) >>= fun r => pure (s :: r) := by
  rw [splitLoop_cons ic rest flag names hv, if_neg hadj, hs]
  exact if_neg fun h => hfresh.elim h.1 fun hn => hn h.2

theorem splitLoop_cons_ok {ic : Interceptors} {v : Bytes} {rest : List Bytes} {flag : Bool} {names : List Bytes}
    {seg : Seg} {segs' : List Seg} (hv : v ≠ []) (hadj : ¬ (flag = true ∧ v.head? = some startByte))
    (hseg : newSegment ic v = .ok seg) (hfresh : seg.kind = .str ∨ seg.name ∉ names)
    (hrest : splitLoop ic rest (decide (lastByte v = endByte)) (P9.usedBelow names seg) = .ok segs') :
    splitLoop ic (v :: rest) flag names = .ok (seg :: segs') := by
  rw [splitLoop_step hv hadj hseg hfresh, hrest]
  rfl

theorem splitLoop_cons_error {ic : Interceptors} {v : Bytes} {rest : List Bytes} {flag : Bool} {names : List Bytes}
    {seg : Seg} {e : Err} (hv : v ≠ []) (hadj : ¬ (flag = true ∧ v.head? = some startByte))
    (hseg : newSegment ic v = .ok seg) (hfresh : seg.kind = .str ∨ seg.name ∉ names)
    (hrest : splitLoop ic rest (decide (lastByte v = endByte)) (P9.usedBelow names seg) = .error e) :
    splitLoop ic (v :: rest) flag names = .error e := by
  rw [splitLoop_step hv hadj hseg hfresh, hrest]
  rfl

theorem splitLoop_cons_inv {ic : Interceptors} {v : Bytes} {rest : List Bytes} {flag : Bool} {names : List Bytes}
    {segs : List Seg} (h : splitLoop ic (v :: rest) flag names = .ok segs) :
    v ≠ [] ∧ ¬ (flag = true ∧ v.head? = some startByte) ∧
      ∃ seg segs', newSegment ic v = .ok seg ∧ (seg.kind = .str ∨ seg.name ∉ names) ∧
        splitLoop ic rest (decide (lastByte v = endByte)) (P9.usedBelow names seg) = .ok segs' ∧
        segs = seg :: segs' := by
  have hv : v ≠ [] := by
    intro e; subst e
    cases h
  rw [splitLoop_cons ic rest flag names hv, ite_error_eq_ok, bind_ok_iff] at h
  obtain ⟨hadj, s, hs, h⟩ := h
  rw [ite_error_eq_ok, bind_ok_iff] at h
  obtain ⟨hdup, r, hr, e⟩ := h
  exact ⟨hv, hadj, s, r, hs, Classical.or_iff_not_imp_left.2 fun hk hm => hdup ⟨hk, hm⟩, hr, (Except.ok.inj e).symm⟩

/-- Where the loop of `Split` fails: on an empty piece (`s[0]`), on a `{` directly after a `}`, on a parameter name used
before, or where `NewSegment` fails on a piece. -/
theorem splitLoop_error_cases {ic : Interceptors} {ps : List Bytes} {flag : Bool} {names : List Bytes} {e : Err}
    (h : splitLoop ic ps flag names = .error e) :
    ([] ∈ ps ∧ e = .fault 110) ∨ e = .adjacent ∨ e = .dupName ∨ ∃ p ∈ ps, newSegment ic p = .error e := by
  induction ps generalizing flag names with
  | nil => cases h
  | cons p ps ih =>
    by_cases hp : p = []
    · subst hp
      exact .inl ⟨List.mem_cons_self, (Except.error.inj h).symm⟩
    rw [splitLoop_cons ic ps flag names hp, ite_error_eq_error] at h
    rcases h with ⟨_, rfl⟩ | ⟨_, h⟩
    · exact .inr (.inl rfl)
    rcases bind_eq_error h with hs | ⟨s, _, h⟩
    · exact .inr (.inr (.inr ⟨p, List.mem_cons_self, hs⟩))
    rcases ite_error_eq_error.1 h with ⟨_, rfl⟩ | ⟨_, h⟩
    · exact .inr (.inr (.inl rfl))
    rcases bind_eq_error h with hr | ⟨r, _, h⟩
    · exact (ih hr).imp (fun h => ⟨List.mem_cons_of_mem _ h.1, h.2⟩) fun h => h.imp_right fun h => h.imp_right
        fun ⟨q, hq, hqe⟩ => ⟨q, List.mem_cons_of_mem _ hq, hqe⟩
    · cases h

theorem split_ok_iff {ic : Interceptors} {p : Bytes} {segs : List Seg} :
    split ic p = .ok segs ↔ p ≠ [] ∧ splitLoop ic (splitString p) false [] = .ok segs := by
  unfold split
  by_cases hp : p = []
  · rw [if_pos hp]; exact ⟨fun h => (by cases h), fun h => absurd hp h.1⟩
  · rw [if_neg hp]; exact ⟨fun h => ⟨hp, h⟩, fun h => h.2⟩

theorem split_error_cases {ic : Interceptors} {p : Bytes} {e : Err} (h : split ic p = .error e) :
    e = .empty ∨ e = .adjacent ∨ e = .dupName ∨ ∃ x ∈ splitString p, newSegment ic x = .error e := by
  unfold split at h
  split at h
  · cases h; exact .inl rfl
  · rename_i hp
    rcases splitLoop_error_cases h with ⟨hm, _⟩ | h'
    · exact absurd rfl (splitString_pieces_nonempty p hp _ hm)
    · exact .inr h'

theorem splitLoop_congr (ic ic' : Interceptors) (ps : List Bytes) (flag : Bool) (names : List Bytes)
    (h : ∀ p ∈ ps, newSegment ic p = newSegment ic' p) :
    splitLoop ic ps flag names = splitLoop ic' ps flag names := by
  induction ps generalizing flag names with
  | nil => rfl
  | cons p ps ih =>
    have ih' := fun flag names => ih flag names (fun q hq => h q (by simp [hq]))
    simp only [splitLoop, h p (by simp), ih']

/-- `Handle` (interceptors `ic`) and `CheckSyntax` (no interceptors) split a pattern identically
whenever splitting with `ic` produces no interceptor segment. -/
theorem split_agree (ic : Interceptors) (p : Bytes)
    (h : ∀ piece ∈ splitString p, ∀ s, newSegment ic piece = .ok s → s.kind ≠ .icpt) :
    split ic p = split [] p := by
  unfold split
  split
  · rfl
  · exact splitLoop_congr ic [] _ _ _ (fun piece hp => newSegment_agree ic piece (h piece hp))

/-- Purely syntactic form: no `rule` text of the pattern is a key of `ic`. -/
theorem split_agree_of_rule (ic : Interceptors) (p : Bytes)
    (h : ∀ piece ∈ splitString p, ∀ r, pieceRule piece = some r → ic.find r = none) :
    split ic p = split [] p := by
  refine split_agree ic p fun piece hp s hs hk => ?_
  rcases newSegment_rule ic piece s hs with ⟨_, h1⟩ | ⟨h1, h2⟩
  · exact h1 hk
  · have := h2 hk
    rw [h piece hp _ h1] at this
    cases this

theorem splitLoop_values {ic : Interceptors} : ∀ {ps : List Bytes} {flag : Bool} {names : List Bytes} {segs : List Seg},
    splitLoop ic ps flag names = .ok segs →
      segs.map (·.value) = ps ∧ ∀ s ∈ segs, newSegment ic s.value = .ok s := by
  intro ps
  induction ps with
  | nil => intro _ _ segs h; simp [splitLoop] at h; subst h; simp
  | cons p ps ih =>
    intro flag names segs h
    obtain ⟨_, _, seg, segs', hseg, _, hrest, rfl⟩ := splitLoop_cons_inv h
    obtain ⟨h1, h2⟩ := ih hrest
    have hv := newSegment_value ic p seg hseg
    refine ⟨by simp [hv, h1], ?_⟩
    intro s hs
    rcases List.mem_cons.1 hs with rfl | hs
    · rw [hv]; exact hseg
    · exact h2 s hs

theorem splitLoop_ok_pieces (ic : Interceptors) (ps : List Bytes) (flag : Bool) (names : List Bytes)
    (segs : List Seg) (h : splitLoop ic ps flag names = .ok segs) :
    ∀ p ∈ ps, ∃ s, newSegment ic p = .ok s := by
  obtain ⟨hmap, hall⟩ := splitLoop_values h
  intro p hp
  obtain ⟨s, hs, rfl⟩ := List.mem_map.1 (hmap ▸ hp)
  exact ⟨s, hall s hs⟩

/-- The formalisation "every rule that `CheckSyntax` sees is not a key of `ic`" gives agreement
only on patterns that `CheckSyntax` accepts (see the counterexample in `Mux.Properties.C05`). -/
theorem split_agree_of_ok (ic : Interceptors) (p : Bytes)
    (h : ∀ piece ∈ splitString p, ∀ s, newSegment [] piece = .ok s → ic.find s.rule = none)
    (hok : (split [] p).isOk = true) : split ic p = split [] p := by
  cases hs : split [] p with
  | error e => rw [hs] at hok; cases hok
  | ok segs =>
    rw [← hs]
    apply split_agree_of_rule
    intro piece hp r hr
    obtain ⟨s, hseg⟩ := splitLoop_ok_pieces [] _ _ _ _ (split_ok_iff.1 hs).2 piece hp
    rcases newSegment_rule [] piece s hseg with ⟨h1, _⟩ | ⟨h1, _⟩
    · rw [h1] at hr; cases hr
    · rw [h1] at hr; cases hr; exact h piece hp s hseg

/-- Common prefixes of `s1`, `s2` behind a common byte, counted from `i + 1`, are common prefixes counted from `i`. -/
theorem lpLoop_shift {Q : Int → Prop} {a b : UInt8} {s1 s2 : Bytes} {i : Nat} (hab : ¬ a ≠ b)
    (hk : ∀ k : Nat, k ≤ (a :: s1).length → k ≤ (b :: s2).length → (a :: s1).take k = (b :: s2).take k →
      Q ((i + k : Nat) : Int)) (k : Nat) (h1 : k ≤ s1.length) (h2 : k ≤ s2.length) (h3 : s1.take k = s2.take k) :
    Q ((i + 1 + k : Nat) : Int) := by
  rw [Nat.add_right_comm, Nat.add_assoc]
  refine hk (k + 1) (Nat.succ_le_succ h1) (Nat.succ_le_succ h2) ?_
  rw [List.take_succ_cons, List.take_succ_cons, h3, Decidable.not_not.1 hab]

/-- Postcondition rule for the scan of `longestPrefix`: what holds of the token start `st` and of `i + k` for every length
`k` of a common prefix holds of the result (the scan moves `st` to the current index only, which is `i + 0`). -/
theorem lpLoop_post {Q : Int → Prop} (s1 s2 : Bytes) (i : Nat) (st en : Int) (br : Bool) (hst : Q st)
    (hk : ∀ k : Nat, k ≤ s1.length → k ≤ s2.length → s1.take k = s2.take k → Q ((i + k : Nat) : Int)) :
    Q (lpLoop s1 s2 i st en br) := by
  fun_induction lpLoop s1 s2 i st en br with
  | case1 | case6 => exact hst
  | case2 | case7 => exact hk 0 (Nat.zero_le _) (Nat.zero_le _) rfl
  | case3 s1 b s2 i st en br hab ih =>
    -- a common `{`: the start of the token, unless one is open
    refine ih ?_ (lpLoop_shift hab hk)
    split
    · exact hst
    · exact hk 0 (Nat.zero_le _) (Nat.zero_le _) rfl
  | case4 s1 b s2 i st en br hab _ ih => exact ih hst (lpLoop_shift hab hk)
  | case5 a s1 b s2 i st en br hab _ _ ih => exact ih hst (lpLoop_shift hab hk)

theorem lpLoop_comm (s1 s2 : Bytes) (i : Nat) (st en : Int) (br : Bool) :
    lpLoop s1 s2 i st en br = lpLoop s2 s1 i st en br := by
  induction s1 generalizing s2 i st en br with
  | nil =>
    cases s2 <;> simp [lpLoop]
  | cons a s1 ih =>
    cases s2 with
    | nil => simp [lpLoop]
    | cons b s2 =>
      simp only [lpLoop]
      by_cases hab : a = b
      · subst hab
        simp only [ne_eq, not_true_eq_false, if_false, ih]
      · have hba : ¬ b = a := fun e => hab e.symm
        simp only [ne_eq, hab, hba, not_false_eq_true, if_true]

theorem longestPrefix_comm (a b : Bytes) : longestPrefix a b = longestPrefix b a :=
  lpLoop_comm a b 0 (-10) (-10) false

/-- The result is `-10` (no common part that may be split off) or a length of a common prefix. -/
theorem longestPrefix_spec (a b : Bytes) :
    longestPrefix a b = -10 ∨
      ∃ k : Nat, longestPrefix a b = (k : Int) ∧ k ≤ a.length ∧ k ≤ b.length ∧ a.take k = b.take k :=
  lpLoop_post (Q := fun x => x = -10 ∨ ∃ k : Nat, x = (k : Int) ∧ k ≤ a.length ∧ k ≤ b.length ∧ a.take k = b.take k)
    a b 0 (-10) (-10) false (.inl rfl) fun k h1 h2 h3 => .inr ⟨k, by rw [Nat.zero_add], h1, h2, h3⟩

theorem longestPrefix_nat {a b : Bytes} {l : Nat} (h : longestPrefix a b = (l : Int)) :
    l ≤ a.length ∧ l ≤ b.length ∧ a.take l = b.take l := by
  rcases longestPrefix_spec a b with h' | ⟨k, h', h1, h2, h3⟩
  · omega
  · obtain rfl : k = l := by omega
    exact ⟨h1, h2, h3⟩

theorem longestPrefix_pos {a b : Bytes} (h : 0 < longestPrefix a b) :
    ∃ l : Nat, longestPrefix a b = (l : Int) ∧ 0 < l :=
  ⟨(longestPrefix a b).toNat, by omega, by omega⟩

theorem longestPrefix_le (a b : Bytes) : longestPrefix a b ≤ ((min a.length b.length : Nat) : Int) := by
  rcases longestPrefix_spec a b with h | ⟨k, h, h1, h2, _⟩
  · rw [h]; omega
  · rw [h]; omega

theorem longestPrefix_pos_prefix (a b : Bytes) (h : 0 < longestPrefix a b) :
    a.take (longestPrefix a b).toNat = b.take (longestPrefix a b).toNat := by
  rcases longestPrefix_spec a b with h' | ⟨k, h', _, _, h3⟩
  · rw [h'] at h; omega
  · rw [h']; simpa using h3

theorem longestPrefix_ge (a b : Bytes) : -10 ≤ longestPrefix a b := by
  rcases longestPrefix_spec a b with h | ⟨k, h, _⟩ <;> rw [h] <;> omega

theorem GoodPiece.take (p : Bytes) (n : Nat) (h : GoodPiece p) : GoodPiece (p.take n) := by
  rcases h with h | h
  · cases n with
    | zero => right; simp
    | succ n =>
      left
      cases p with
      | nil => cases h
      | cons b r => simpa using h
  · right
    exact fun hm => h (List.mem_of_mem_take hm)

theorem Seg.splitAt_eq (ic : Interceptors) (seg : Seg) {pos : Nat} (hpos : pos ≤ seg.value.length) :
    seg.splitAt ic pos =
      (newSegment ic (seg.value.take pos)).bind fun s1 =>
        (newSegment ic (seg.value.drop pos)).bind fun s2 => .ok (s1, s2) := by
  have e1 := sliceE_ok 120 seg.value 0 pos (Nat.zero_le _) hpos
  have e2 := sliceE_ok 121 seg.value pos seg.value.length hpos (Nat.le_refl _)
  rw [List.drop_zero] at e1
  rw [List.take_length] at e2
  simp only [Seg.splitAt, bind, e1, e2, pure, Except.pure]
  rfl

theorem Seg.splitAt_no_fault (ic : Interceptors) (seg : Seg) (pos n : Nat)
    (hpos : pos ≤ seg.value.length) (h1 : GoodPiece (seg.value.take pos))
    (h2 : GoodPiece (seg.value.drop pos)) : seg.splitAt ic pos ≠ .error (.fault n) := by
  rw [Seg.splitAt_eq ic seg hpos]
  cases ha : newSegment ic (List.take pos seg.value) with
  | error e => exact fun (h : Except.error e = _) => by cases h; exact newSegment_piece_no_fault ic _ h1 n ha
  | ok s1 =>
    cases hb : newSegment ic (List.drop pos seg.value) with
    | error e => exact fun (h : Except.error e = _) => by cases h; exact newSegment_piece_no_fault ic _ h2 n hb
    | ok s2 => exact fun h => nomatch h

end Mux
