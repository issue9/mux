/-
  Mux.Proofs.TableOps — consequences of the invariant `Sh` and the tree operations on a tree that has it.  `findPath` is
  complete (`det_of_sh`), so different index paths lead to nodes with different patterns (`pattern_inj`): the patterns of
  the nodes below a node are pairwise distinct (`patterns_nodup`), a pattern names at most one of them (`node_unique`), and
  `findPath` followed by `getAt` is the partial map from pattern texts to nodes (`findPath_iff_below`).  The invariant goes
  through every edit (`Node.Edit.sh`); `modifyAt` and `removeAt` replace (or delete) one child of each node along the path
  and change the entries `liveL` at one place (`modifyAt_live`, `removeAt_live`); `clean` deletes exactly the entries
  whose pattern has the prefix (`clean_live`, from `P10.clean_infos`); `applyMw` wraps every entry (`applyMw_live`).
-/
import Mux.Proofs.TableGetNode
import Mux.Proofs.MatchHyps
import Mux.Proofs.Clean
namespace Mux.P11
open Mux

theorem patternOk_of_sh (ic : Interceptors) (n : Node) (h : Node.All (Sh ic) n) : Node.PatternOk n :=
  (P10.patternOk_iff_All n).2 (patK_of_sh n h)

/-- `findPath` is complete on such a tree (`findPath_of_spells`): of two siblings with different keys one of which begins
with the other, the shorter is closed and so has no children. -/
theorem det_of_sh {ic : Interceptors} : ∀ n : Node, Node.All (Sh ic) n → Node.All Node.Det n :=
  (AllL_mono fun n hn => by
    refine ⟨List.Pairwise.of_map ckey (fun a b h e => h (by unfold ckey; rw [e])) hn.2, fun c hc => ?_⟩
    refine ⟨(hn.1 c hc).1.ne_nil, fun d hd hpre => ?_⟩
    by_cases hk : ckey c = ckey d
    · exact .inl (congrArg (·.seg.value) (eq_of_map_nodup hn.2 hc hd hk))
    · exact .inr ((hn.1 c hc).2.2.2 (closed_of_prefix (hn.1 c hc).1 (hn.1 d hd).1 hk hpre))).1

theorem pattern_inj {ic : Interceptors} {n x y : Node} {p q : List Nat} {P Q : Bytes} (hn : Node.All (Sh ic) n)
    (hx : n.Spells p P x) (hy : n.Spells q Q y) (e : x.pattern = y.pattern) : p = q ∧ x = y :=
  hx.inj hy (patternOk_of_sh ic n hn) (det_of_sh n hn) e

theorem below_pattern (ic : Interceptors) (n : Node) (hn : Node.All (Sh ic) n) :
    ∀ x ∈ nodesL n.children, ∃ r, r ≠ [] ∧ x.pattern = n.pattern ++ r := by
  intro x hx
  obtain ⟨p, P, h⟩ := spells_of_mem hx
  exact ⟨P, h.ne_nil (det_of_sh n hn).head, h.pattern (patternOk_of_sh ic n hn)⟩

theorem sibling_patterns_ne {ic : Interceptors} {n c d x y : Node} {i j : Nat} (hn : Node.All (Sh ic) n)
    (hc : n.children[i]? = some c) (hd : n.children[j]? = some d) (hij : i ≠ j)
    (hx : x ∈ c.nodes) (hy : y ∈ d.nodes) : x.pattern ≠ y.pattern := by
  obtain ⟨p, P, hxs⟩ := spells_of_mem_nodes hc hx
  obtain ⟨q, Q, hys⟩ := spells_of_mem_nodes hd hy
  exact fun e => hij (List.cons.inj (pattern_inj hn hxs hys e).1).1

theorem patterns_nodup (ic : Interceptors) :
    ∀ n : Node, Node.All (Sh ic) n → ((nodesL n.children).map (·.pattern)).Nodup := by
  intro n
  induction n using Node.rec (motive_2 := fun cs => ∀ pp, ShL ic pp cs → AllL (Sh ic) cs →
      ((nodesL cs).map (·.pattern)).Nodup) with
  | mk s p mi hs idx cs ih => intro h; exact ih p h.1 h.2
  | nil => simp [nodesL]
  | cons c cs ih1 ih2 =>
    rename_i pp hsh hall
    -- the forest as the children of a node
    have hm : Node.All (Sh ic) (.mk default pp 0 [] [] (c :: cs)) := ⟨hsh, hall⟩
    rw [AllL_cons_iff] at hall
    show ((c.nodes ++ nodesL cs).map (·.pattern)).Nodup
    rw [List.map_append, List.nodup_append]
    refine ⟨?_, ih2 pp (ShL_cons.1 hsh).2.2 hall.2, fun a ha b hb => ?_⟩
    · -- below `c` every pattern is a proper extension of its own
      rw [Node.nodes_eq, List.map_cons, List.nodup_cons]
      refine ⟨fun hc => ?_, ih1 hall.1⟩
      obtain ⟨x, hx, e⟩ := List.mem_map.1 hc
      obtain ⟨r, hr, hxr⟩ := below_pattern ic c hall.1 x hx
      exact hr (List.append_right_eq_self.1 (hxr.symm.trans e))
    · obtain ⟨x, hx, rfl⟩ := List.mem_map.1 ha
      obtain ⟨y, hy, rfl⟩ := List.mem_map.1 hb
      obtain ⟨d, hd, hyd⟩ := mem_nodesL_iff.1 hy
      obtain ⟨k, hk⟩ := List.getElem?_of_mem hd
      exact sibling_patterns_ne hm (i := 0) rfl (j := k + 1) hk (by omega) hx hyd

theorem node_unique {ic : Interceptors} {n x y : Node} (hn : Node.All (Sh ic) n)
    (hx : x ∈ nodesL n.children) (hy : y ∈ nodesL n.children) (e : x.pattern = y.pattern) : x = y :=
  eq_of_map_nodup (patterns_nodup ic n hn) hx hy e

theorem liveL_patterns_nodup {ic : Interceptors} {n : Node} (hn : Node.All (Sh ic) n) :
    ((liveL n.children).map (·.1)).Nodup := by
  have h := patterns_nodup ic n hn
  unfold liveL
  rw [List.map_map]
  exact h.sublist (List.filter_sublist.map _)

theorem getAtL_cons_zero (c : Node) (cs : List Node) (p : List Nat) : getAtL (c :: cs) 0 p = c.getAt p := by
  simp [getAtL]
theorem getAtL_cons_succ (c : Node) (cs : List Node) (i : Nat) (p : List Nat) :
    getAtL (c :: cs) (i + 1) p = getAtL cs i p := by simp [getAtL]

theorem _root_.Mux.Node.Spells.mem {n x : Node} {p : List Nat} {P : Bytes} (h : n.Spells p P x) : x ∈ nodesL n.children := by
  obtain ⟨i, p, rfl⟩ := List.exists_cons_of_ne_nil h.1
  exact getAt_mem_below h.2.1

/-- The path `findPath` returns leads to a node whose pattern is the searched one: only the patterns are looked
at, not how the segments were parsed. -/
theorem findPath_sound_of_patternOk (n : Node) (hn : Node.PatternOk n) (pat : Bytes) (p : List Nat)
    (h : n.findPath pat = some p) : ∃ x, n.getAt p = some x ∧ x.pattern = n.pattern ++ pat ∧ p ≠ [] := by
  obtain ⟨x, hx⟩ := findPath_spells n pat p h
  exact ⟨x, hx.2.1, hx.pattern hn, hx.1⟩

theorem findPath_sound (ic : Interceptors) (n : Node) (h : Node.All (Sh ic) n) :
    ∀ pat p, n.findPath pat = some p → ∃ x, n.getAt p = some x ∧ x.pattern = n.pattern ++ pat ∧ p ≠ [] :=
  findPath_sound_of_patternOk n (patternOk_of_sh ic n h)

/-- `findPath pat` followed by `getAt` is the partial map from texts to the nodes below `n`: it yields `x` exactly when
`x` is the node whose pattern is that of `n` followed by `pat` (there is at most one: `node_unique`). -/
theorem findPath_iff_below {ic : Interceptors} {n : Node} (hn : Node.All (Sh ic) n) {pat : Bytes} {x : Node} :
    (∃ path, n.findPath pat = some path ∧ n.getAt path = some x) ↔
      x ∈ nodesL n.children ∧ x.pattern = n.pattern ++ pat := by
  have hpo := patternOk_of_sh ic n hn
  constructor
  · rintro ⟨path, hpath, hx⟩
    obtain ⟨y, hy⟩ := findPath_spells n pat path hpath
    cases hy.2.1.symm.trans hx
    exact ⟨hy.mem, hy.pattern hpo⟩
  · rintro ⟨hx, hxp⟩
    obtain ⟨p, P, hs⟩ := spells_of_mem hx
    cases List.append_cancel_left ((hs.pattern hpo).symm.trans hxp)
    exact ⟨p, findPath_of_spells p n x _ (det_of_sh n hn) hs, hs.2.1⟩

theorem Node.modifyAt_cons_ok {f : Node → Except Err Node} {n n' : Node} {i : Nat} {path : List Nat} :
    n.modifyAt f (i :: path) = .ok n' ↔ ∃ l1 c l2 c', n.children = l1 ++ c :: l2 ∧ l1.length = i ∧
      c.modifyAt f path = .ok c' ∧ n' = n.setChildren (l1 ++ c' :: l2) n.indexes := by
  rw [Node.modifyAt_cons_iff]
  constructor
  · rintro ⟨c, c', hc, hm, rfl⟩
    obtain ⟨l1, l2, hs, rfl⟩ := List.getElem?_eq_some_iff_append.1 hc
    exact ⟨l1, c, l2, c', hs, rfl, hm, by simp [hs]⟩
  · rintro ⟨l1, c, l2, c', hs, rfl, hm, rfl⟩
    exact ⟨c, c', by simp [hs], hm, by simp [hs]⟩

theorem Node.removeAt_cons_ok {f : Node → Node} {n n' : Node} {i : Nat} {path : List Nat} :
    n.removeAt f (i :: path) = .ok n' ↔ ∃ l1 c l2 c', n.children = l1 ++ c :: l2 ∧ l1.length = i ∧
      c.removeAt f path = .ok c' ∧
      if c'.size = 0 ∧ c'.children.isEmpty = true then
        ∃ idx', buildIndexes (l1 ++ l2) = .ok idx' ∧ n' = n.setChildren (l1 ++ l2) idx'
      else n' = n.setChildren (l1 ++ c' :: l2) n.indexes := by
  rw [Node.removeAt_cons_iff]
  constructor
  · rintro ⟨c, c', hc, hm, h⟩
    obtain ⟨l1, l2, hs, rfl⟩ := List.getElem?_eq_some_iff_append.1 hc
    exact ⟨l1, c, l2, c', hs, rfl, hm, by simpa [hs, List.eraseIdx_append_of_length_le] using h⟩
  · rintro ⟨l1, c, l2, c', hs, rfl, hm, h⟩
    exact ⟨c, c', by simp [hs], hm, by simpa [hs, List.eraseIdx_append_of_length_le] using h⟩

theorem Sh_congr {ic : Interceptors} {m m' : Node} (hp : m'.pattern = m.pattern) (hc : m'.children = m.children)
    (h : Sh ic m) : Sh ic m' := by
  unfold Sh at *; rw [hp, hc]; exact h

/-- `Sh` goes through every edit (`modifyAt`, `removeAt`, `clean`, `applyMw`): an edited child keeps segment and
pattern and stays a leaf if it was one; deleting children breaks nothing. -/
theorem _root_.Mux.Node.Edit.sh {ic : Interceptors} {H : Node → Node → Prop} {n n' : Node} (h : Node.Edit H n n')
    (hn : Node.All (Sh ic) n) : Node.All (Sh ic) n' :=
  h.all (fun _ hs hn => Sh_congr hs.2.1 hs.2.2.2 hn.head)
    (fun hn hc he => ShL_set hn hc he.top.1 he.top.2.1 fun _ => he.top.2.2) (fun hn hs _ => ShL_sublist hs hn) hn

theorem getAt_split {n c x : Node} {l1 l2 : List Node} {i : Nat} {path : List Nat}
    (hs : n.children = l1 ++ c :: l2) (hl : l1.length = i) (hx : n.getAt (i :: path) = some x) :
    c.getAt path = some x := by
  rw [Node.getAt_cons, hs, ← hl] at hx
  simpa using hx

theorem liveL_split {c : Node} (l1 l2 : List Node) {A E B : List (Bytes × AMap Handler)}
    (e : liveN c = A ++ E ++ B) : liveL (l1 ++ c :: l2) = (liveL l1 ++ A) ++ E ++ (B ++ liveL l2) := by
  rw [liveL_append, liveL_cons, e]
  simp only [List.append_assoc]

theorem modifyAt_live (f : Node → Except Err Node) (hf : ∀ m m', f m = .ok m' → m.SameShape m') (i : Nat)
    (path : List Nat) (n n' x : Node) (hx : n.getAt (i :: path) = some x)
    (h : n.modifyAt f (i :: path) = .ok n') :
    ∃ x' A B, f x = .ok x' ∧ liveL n.children = A ++ ent x ++ B ∧ liveL n'.children = A ++ ent x' ++ B := by
  induction path generalizing i n n' with
  | nil =>
    obtain ⟨l1, c, l2, c', hs, hl, hc', rfl⟩ := Node.modifyAt_cons_ok.1 h
    have hxc := getAt_split hs hl hx
    simp only [Node.getAt_nil, Option.some.injEq] at hxc
    subst hxc
    rw [Node.modifyAt_nil] at hc'
    exact ⟨c', _, _, hc', hs ▸ liveL_split l1 l2 (A := []) (B := liveL c.children) (by simp [liveN]),
      liveL_split l1 l2 (A := []) (B := liveL c.children) (by simp [liveN, (hf _ _ hc').2.2.2])⟩
  | cons j path ih =>
    obtain ⟨l1, c, l2, c', hs, hl, hc', rfl⟩ := Node.modifyAt_cons_ok.1 h
    obtain ⟨x', A, B, hfx, e1, e2⟩ := ih j c c' (getAt_split hs hl hx) hc'
    obtain ⟨_, hp, _, hh⟩ := Node.own_eq_iff.1 (Node.modifyAt_cons_own hc')
    exact ⟨x', _, _, hfx, hs ▸ liveL_split l1 l2 (A := ent c ++ A) (B := B) (by simp only [liveN, e1, List.append_assoc]),
      liveL_split l1 l2 (A := ent c ++ A) (B := B) (by simp only [liveN, e2, ent_congr hp hh, List.append_assoc])⟩

theorem liveN_empty {c : Node} (h1 : c.size = 0) (h2 : c.children.isEmpty = true) : liveN c = [] := by
  have hh : c.handlers = [] := List.eq_nil_of_length_eq_zero h1
  have hc : c.children = [] := by simpa using h2
  simp [liveN, ent, hh, hc, liveL_nil]

/-- One level of `removeAt`: the child `c` became `c'`, which is deleted if it is an emptied leaf. -/
theorem removeAt_live_child {n n' c c' : Node} {l1 l2 : List Node} {A E E' B : List (Bytes × AMap Handler)}
    (hs : n.children = l1 ++ c :: l2)
    (hn' : if c'.size = 0 ∧ c'.children.isEmpty = true then
        ∃ idx', buildIndexes (l1 ++ l2) = .ok idx' ∧ n' = n.setChildren (l1 ++ l2) idx'
      else n' = n.setChildren (l1 ++ c' :: l2) n.indexes)
    (e1 : liveN c = A ++ E ++ B) (e2 : liveN c' = A ++ E' ++ B) :
    ∃ A B, liveL n.children = A ++ E ++ B ∧ liveL n'.children = A ++ E' ++ B := by
  split at hn'
  · -- the emptied leaf `c'` is deleted: it had no entries
    rename_i hempty
    obtain ⟨idx', _, rfl⟩ := hn'
    have hgone : liveL (l1 ++ l2) = liveL (l1 ++ c' :: l2) := by
      rw [liveL_append, liveL_append, liveL_cons, liveN_empty hempty.1 hempty.2, List.nil_append]
    exact ⟨_, _, hs ▸ liveL_split l1 l2 e1, hgone.trans (liveL_split l1 l2 e2)⟩
  · subst hn'
    exact ⟨_, _, hs ▸ liveL_split l1 l2 e1, liveL_split l1 l2 e2⟩

/-- The entry of the node `x` the path leads to becomes that of `f x`; an emptied leaf that is deleted on the way
back had no entries. -/
theorem removeAt_live (f : Node → Node) (hf : ∀ m : Node, m.SameShape (f m)) (i : Nat)
    (path : List Nat) (n n' x : Node) (hx : n.getAt (i :: path) = some x)
    (h : n.removeAt f (i :: path) = .ok n') :
    ∃ A B, liveL n.children = A ++ ent x ++ B ∧ liveL n'.children = A ++ ent (f x) ++ B := by
  induction path generalizing i n n' with
  | nil =>
    obtain ⟨l1, c, l2, c', hs, hl, hc', hn'⟩ := Node.removeAt_cons_ok.1 h
    have hxc := getAt_split hs hl hx
    simp only [Node.getAt_nil, Option.some.injEq] at hxc
    subst hxc
    rw [Node.removeAt_nil] at hc'
    obtain rfl := Except.ok.inj hc'
    exact removeAt_live_child hs hn' (A := []) (B := liveL c.children) (by simp [liveN])
      (by simp [liveN, (hf c).2.2.2])
  | cons j path ih =>
    obtain ⟨l1, c, l2, c', hs, hl, hc', hn'⟩ := Node.removeAt_cons_ok.1 h
    obtain ⟨A, B, e1, e2⟩ := ih j c c' (getAt_split hs hl hx) hc'
    obtain ⟨_, hp, _, hh⟩ := Node.own_eq_iff.1 (Node.removeAt_cons_own hc')
    exact removeAt_live_child hs hn' (A := ent c ++ A) (B := B) (by simp only [liveN, e1, List.append_assoc])
      (by simp only [liveN, e2, ent_congr hp hh, List.append_assoc])

theorem liveL_eq_infos (cs : List Node) :
    liveL cs = ((P10.infosL cs).filter (fun e => !e.2.2.isEmpty)).map (fun e => (e.1, e.2.2)) := by
  unfold liveL P10.infosL
  rw [List.filter_map, List.map_map]
  rfl

/-- On a tree with the invariant, `Clean(pre)` deletes exactly the entries whose pattern has the prefix: what
`P10.clean_infos` says of all node data, read for the nodes with handlers. -/
theorem clean_live (ic : Interceptors) (n : Node) (hn : Node.All (Sh ic) n) (pre : Bytes) (n' : Node)
    (h : n.clean pre = .ok n') : liveL n'.children = (liveL n.children).filter (fun e => !hasPrefix e.1 (n.pattern ++ pre)) := by
  rw [liveL_eq_infos, liveL_eq_infos, P10.clean_infos n pre n' (patternOk_of_sh ic n hn) h, List.filter_map,
    List.filter_filter, List.filter_filter]
  congr 1
  apply List.filter_congr
  intro e _
  exact Bool.and_comm _ _

/-- What `applyMiddleware` does to an entry. -/
def mwE (router : Bytes) (ms : List Nat) (e : Bytes × AMap Handler) : Bytes × AMap Handler :=
  (e.1, e.2.map (fun h => (h.1, wrapWith h.2 h.1 e.1 router ms)))

theorem regKeys_mwE (router : Bytes) (ms : List Nat) (e : Bytes × AMap Handler) :
    regKeys (mwE router ms e).2 = regKeys e.2 := by
  unfold regKeys mwE
  rw [AMap.keys_mapVals e.2 (fun k v => wrapWith v k e.1 router ms)]

theorem ent_applyMw (router : Bytes) (ms : List Nat) (c : Node) :
    ent (c.applyMw router ms) = (ent c).map (mwE router ms) := by
  obtain ⟨_, hp, _, hh, _, _⟩ := applyMw_fields router ms c
  unfold ent
  rw [hp, hh]
  cases h : c.handlers with
  | nil => simp
  | cons a l => simp [mwE]

theorem applyMw_live (router : Bytes) (ms : List Nat) :
    ∀ n : Node, liveL (n.applyMw router ms).children = (liveL n.children).map (mwE router ms) := by
  intro n
  induction n using Node.rec
    (motive_2 := fun cs => liveL (applyMwL router ms cs) = (liveL cs).map (mwE router ms)) with
  | mk s p mi hs idx cs ih =>
    simp only [Node.applyMw, Node.children_mk]
    exact ih
  | nil => simp [applyMwL, liveL_nil]
  | cons c cs ih1 ih2 =>
    simp only [applyMwL]
    rw [liveL_cons, liveL_cons, List.map_append, ih2]
    congr 1
    unfold liveN
    rw [List.map_append, ih1, ent_applyMw]

end Mux.P11
