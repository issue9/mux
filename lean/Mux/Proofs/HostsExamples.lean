/-
  Mux.Proofs.HostsExamples — a `Hosts` matcher in explicit form for the non-vacuity examples of C14/C05:
  the tree `NewHosts(false, "api.example.com", "{sub}.example.com")` produces (`exHosts_reach`: the kernel
  replays the history through `hostsRun_eq_F`, the fuel version of `getNode`).
-/
import Mux.Proofs.Hosts
import Mux.Proofs.RunFuel
import Mux.Proofs.DecEq
namespace Mux.P12
open Mux

/-- `api.example.com` -/
def hApi : Bytes := [97,112,105,46,101,120,97,109,112,108,101,46,99,111,109]
/-- `{sub}.example.com` -/
def hSub : Bytes := [123,115,117,98,125,46,101,120,97,109,112,108,101,46,99,111,109]

/-- The handler map `Hosts.Add` gives a domain node. -/
def hostLeafHandlers : AMap Handler :=
  [(mHEAD, { base := .hostEmpty }), (mGET, { base := .hostEmpty }), (mOPTIONS, { base := .nil }),
   (mNotAllowed, { base := .nil })]

def exApi : Node := .mk { value := hApi } hApi (1 + 128 + 256 + 64) hostLeafHandlers [] []
def exSub : Node :=
  .mk { value := hSub, kind := .named, name := [115,117,98], suffix := [46,101,120,97,109,112,108,101,46,99,111,109] }
    hSub (1 + 128 + 256 + 64) hostLeafHandlers [] []

def exHostsTree : Tree :=
  { root := .mk { value := [] } [] (256 + 64 + 1) [(mOPTIONS, { base := .nil }), (mNotAllowed, { base := .nil })]
      [] [exApi, exSub],
    counts := [(mGET, 2)], ic := [], name := [104,111,115,116], notFound := { base := .nil },
    trace := some { base := .nil }, optionsBase := .nil, notAllowedBase := .nil }

def exHosts : Hosts := { tree := exHostsTree }

/-- `hostsStep` through `Tree.addF`, which the kernel can run. -/
def hostsStepF (hs : Hosts) : HOp → Hosts
  | .add d => match hs.tree.addF (toLower d) { base := .hostEmpty } [] [mGET] with
    | .ok t => { hs with tree := t }
    | .error _ => hs
  | op => hostsStep hs op

theorem hostsStep_eq_F (hs : Hosts) (op : HOp) : hostsStep hs op = hostsStepF hs op := by
  cases op with
  | add d =>
    simp only [hostsStep, hostsStepF, Hosts.add, Tree.add_eq_F]
    cases hs.tree.addF (toLower d) { base := .hostEmpty } [] [mGET] <;> rfl
  | _ => rfl

theorem hostsRun_eq_F (hs : Hosts) (ops : List HOp) : hostsRun hs ops = ops.foldl hostsStepF hs := by
  rw [hostsRun, funext fun hs => funext (hostsStep_eq_F hs)]

theorem exHosts_reach : HostsReach exHosts := ⟨[.add hApi, .add hSub], by rw [hostsRun_eq_F]; decide +kernel⟩

theorem exHosts_inv : TreeInv exHosts.tree := exHosts_reach.inv

theorem exHosts_names : NamesOkL [] exHosts.tree.root.children := by decide

theorem exHosts_idx : Node.All IdxLit exHosts.tree.root := by
  simp only [exHosts, exHostsTree, exApi, exSub, Node.All, AllL, and_true]
  refine ⟨?_, ?_, ?_⟩ <;> exact IdxLit.of_nil rfl

theorem exHosts_get : HostsGet exHosts := exHosts_reach.get

/-- The observable part of a matcher outcome, comparable by `decide`. -/
def outOf : MatchOut → Option (Bool × Bytes × Params)
  | .accept p ps => some (true, p, ps)
  | .reject p ps => some (false, p, ps)
  | _ => none

theorem outOf_accept {m : MatchOut} {p : Bytes} {q : Params} (h : outOf m = some (true, p, q)) : m = .accept p q := by
  cases m with
  | accept p' q' =>
    simp only [outOf, Option.some.injEq, Prod.mk.injEq, true_and] at h
    rw [h.1, h.2]
  | _ => simp [outOf] at h

theorem outOf_reject {m : MatchOut} {p : Bytes} {q : Params} (h : outOf m = some (false, p, q)) : m = .reject p q := by
  cases m with
  | reject p' q' =>
    simp only [outOf, Option.some.injEq, Prod.mk.injEq, true_and] at h
    rw [h.1, h.2]
  | _ => simp [outOf] at h

def exEnv : Env := ⟨fun _ _ => true⟩

end Mux.P12
