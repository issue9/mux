/-
  Mux.Proofs.OnionEntry — the entry stored under a pattern and a key (`Has`) on routers whose registered patterns are
  well-formed.  There the handler maps of a tree are one finite map keyed by pattern (`Tree.handlersAt`,
  `Mux/Proofs/TableTree.lean`) and every operation is a pointwise update of it; an operation that leaves the entry alone
  (`Untouched`) does nothing to it but wrap it in the arguments of `Use` (`entry_step`, `entry_run`).  So the inner part
  `own` of the middleware stack of a registered route is the list given at registration and STAYS so (`own_run` after
  `own_registered`; `C09_own_persists`, `C09_facade_stack`, `C09_group_stack` in `Mux/Properties/C09facade.lean`;
  `C09_order` only says `∃ own`); and a request answered by the node of the pattern is handed the stored entry
  (`has_dispatch`).
-/
import Mux.Proofs.ReachAll
import Mux.Proofs.Onion
import Mux.Proofs.Params
namespace Mux.P18
open Mux Mux.P10 Mux.P11

/-- The tree has a node with pattern `p` whose entry for the key `k` is `h0`. -/
def Has (t : Tree) (p k : Bytes) (h0 : Handler) : Prop :=
  ∃ hs, (p, hs) ∈ liveL t.root.children ∧ hs.get? k = some h0

/-- Which later operations leave the entry `(p, k)` alone. -/
def Untouched (p k : Bytes) : ROp → Prop
  | .handle p' _ _ methods => p' ≠ p ∨ (k ∉ effMethods methods ∧ ¬ (k = mHEAD ∧ mGET ∈ effMethods methods) ∧
      k ≠ mOPTIONS ∧ k ≠ mNotAllowed)
  | .remove p' _ => p' ≠ p
  | .clean pre => ¬ pre <+: p
  | .use _ => True

theorem has_iff_at {t : Tree} (hinv : TInv t) {p k : Bytes} {h0 : Handler} :
    Has t p k h0 ↔ (t.handlersAt p).get? k = some h0 := by
  constructor
  · rintro ⟨hs, hmem, hget⟩; rwa [((mem_liveL_at hinv).1 hmem).2]
  · intro h
    have hne : t.handlersAt p ≠ [] := fun e => by rw [e] at h; cases h
    exact ⟨_, (mem_liveL_at hinv).2 ⟨hne, rfl⟩, h⟩

theorem has_at_node {t : Tree} (hinv : TInv t) {n : Node} (hn : n ∈ nodesL t.root.children) {k : Bytes} {h0 : Handler} :
    Has t n.pattern k h0 ↔ n.handlers.get? k = some h0 := by
  rw [has_iff_at hinv, at_node hinv hn]

theorem tinv_step {r : Router} (h : TInv r.tree) {op : ROp} (hop : ROp.wf op = true) : TInv (r.step op).tree := by
  rw [step_tree_eq]
  exact TInv_step h _ ((topOf_wf r op).trans hop)

theorem entry_step {r : Router} (hinv : TInv r.tree) {op : ROp} (hop : ROp.wf op = true) {p k : Bytes}
    (hu : Untouched p k op) :
    ((r.step op).tree.handlersAt p).get? k =
      ((r.tree.handlersAt p).get? k).map fun h => wrapWith h k p r.tree.name ((useArg op).getD []) := by
  have keep : ∀ o : Option Handler, (o.map fun h => wrapWith h k p r.tree.name []) = o := by
    intro o; simp only [wrapWith_nil]; exact Option.map_id'
  rw [step_tree_eq]
  cases op with
  | handle p' h m methods =>
    simp only [topOf, Tree.step, useArg, Option.getD_none, keep]
    cases he : r.tree.add p' { base := .user h } (m ++ r.ms) methods with
    | error e => rfl
    | ok t' =>
      obtain ⟨x, x', hfx, hx, hat⟩ := at_add hinv hop he
      show (t'.handlersAt p).get? k = _
      rw [hat]
      split
      · next hq =>
        -- the pattern addressed: `k` is neither written nor an automatic key, so its entry is kept
        obtain ⟨u1, u2, u3, u4⟩ := hu.resolve_left (fun h => h hq.symm)
        rw [addMethodsNode_get_other hfx (fun h => h.elim u1 u2) u3 u4, hx, hq]
      · rfl
  | remove p' methods =>
    obtain ⟨x, _, hat⟩ := at_remove hinv (remove_step hinv p' methods)
    simp only [topOf, useArg, Option.getD_none, keep]
    rw [hat, if_neg (Ne.symm hu)]
  | clean pre =>
    simp only [topOf, useArg, Option.getD_none, keep]
    rw [at_clean hinv (clean_step hinv pre), if_neg hu]
  | use m =>
    show ((r.tree.applyMiddleware m).handlersAt p).get? k = _
    rw [at_use r.tree m, AMap.get?_mapVals (r.tree.handlersAt p) (fun k' h' => wrapWith h' k' p r.tree.name m)]
    rfl

theorem entry_run {p k : Bytes} {ops : List ROp} : ∀ {r : Router}, TInv r.tree → (∀ op ∈ ops, ROp.wf op = true) →
    (∀ op ∈ ops, Untouched p k op) →
    ((r.run ops).tree.handlersAt p).get? k =
      ((r.tree.handlersAt p).get? k).map fun h => wrapWith h k p r.tree.name (ops.filterMap useArg).flatten := by
  induction ops with
  | nil =>
    intro r _ _ _
    simp only [List.filterMap_nil, List.flatten_nil, wrapWith_nil]
    exact Option.map_id'.symm
  | cons op ops ih =>
    intro r hinv hw hu
    have hop := hw op List.mem_cons_self
    show (((r.step op).run ops).tree.handlersAt p).get? k = _
    rw [ih (tinv_step hinv hop) (fun o ho => hw o (List.mem_cons_of_mem _ ho))
      (fun o ho => hu o (List.mem_cons_of_mem _ ho)), entry_step hinv hop (hu op List.mem_cons_self),
      Router.step_name, Option.map_map]
    congr 1
    funext h
    rw [List.filterMap_cons]
    cases useArg op <;> simp [wrapWith_wrapWith, wrapWith_nil]

theorem own_run {r : Router} (hr : TInv r.tree) {ops : List ROp} (hops : ∀ op ∈ ops, ROp.wf op = true)
    {p k : Bytes} (hu : ∀ op ∈ ops, Untouched p k op) {h0 : Handler} (hh : Has r.tree p k h0) :
    Has (r.run ops).tree p k (wrapWith h0 k p r.tree.name (ops.filterMap useArg).flatten) := by
  have hinv : TInv (r.run ops).tree := by
    rw [Router.run_eq]
    exact TInv_run hr _ (r.tops_wf hops)
  rw [has_iff_at hr] at hh
  rw [has_iff_at hinv, entry_run hr hops hu, hh]
  rfl

theorem own_registered {r r' : Router} {p : Bytes} {h : Nat} {m : List Nat} {methods : List Bytes}
    (hinv : TInv r.tree) (hw : WfPattern p = true) (he : r.handle p h m methods = .ok r') {k : Bytes}
    (hk : k ∈ effMethods methods ∨ (k = mHEAD ∧ mGET ∈ effMethods methods)) :
    Has r'.tree p k (wrapWith { base := .user h } k p r.tree.name (m ++ r.ms)) := by
  obtain ⟨t', ht', rfl⟩ := map_ok_iff.1 ((Router.handle_eq ..).symm.trans he)
  obtain ⟨x, x', hfx, _, hat⟩ := at_add hinv hw ht'
  rw [has_iff_at (hinv.add hw ht')]
  show (t'.handlersAt p).get? k = _
  rw [hat, if_pos rfl, (addMethodsNode_map hfx).2.1, if_pos (show Added _ k from hk)]

theorem has_dispatch {t : Tree} (hinv : P14.AllInv t) {p k : Bytes} {h0 : Handler} (hh : Has t p k h0)
    {env : Env} {path : Bytes} {ps : Params} {method : Bytes} {f : Found} {n : Node}
    (hres : t.handler env path ps method = .res f) (hn : f.node = some n) (hp : n.pattern = p)
    (hkey : (if f.ok then method else mNotAllowed) = k) : f.handler = h0 ∧ n ∈ nodesL t.root.children := by
  -- nothing is stored under the root's pattern
  have hroot : n ≠ t.root := fun e => by
    rw [has_iff_at hinv.ti, ← hp, e, hinv.rootPat, at_nil hinv.ti] at hh
    cases hh
  obtain ⟨hb, hg⟩ := (handler_foundSpec hinv.treeInv hres).entry_below hn hroot
  rw [← hp, has_at_node hinv.ti hb, ← hkey, hg] at hh
  exact ⟨Option.some.inj hh, hb⟩

end Mux.P18
