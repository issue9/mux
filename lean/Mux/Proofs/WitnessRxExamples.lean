/-
  Reached trees for the non-vacuity examples of `C03_witness_rx*`:
  * `exR`: `Handle("/u/", h2, GET); Handle("/u/{id:\d+}/x", h1, GET)` — the witness `/u/42/x`;
  * `exC`: `Handle("/{id:a/xb|a}/x{m:b}/x1", h, GET)` — values that pass `Segment.Valid` (`id = a`, `m = b`), whose
    strict URL `/a/xb/x1` is nevertheless answered 404: `valid` alone is not a sufficient hypothesis.
-/
import Mux.Proofs.WitnessVals
import Mux.Proofs.FrameExamples
namespace Mux.P17
open Mux Mux.P10 Mux.P14

/-- `/u/{id:\d+}/x` -/
def exPRx : Bytes := [47, 117, 47, 123, 105, 100, 58, 92, 100, 43, 125, 47, 120]
/-- `/u/42/x` -/
def exReqRx : Bytes := [47, 117, 47, 52, 50, 47, 120]

def exROps : List TOp := [.add P14.exU { base := .user 2 } [] [mGET], .add exPRx { base := .user 1 } [] [mGET]]
def exR : Tree := P14.exT0.run exROps

theorem exROps_wf : ∀ op ∈ exROps, op.wf = true := by decide +kernel
theorem exR_reach : ReachAll exR := ⟨_, _, _, _, _, _, exROps, exROps_wf, rfl⟩

def exSegRx : Seg :=
  { value := [123, 105, 100, 58, 92, 100, 43, 125, 47, 120], kind := .rx, name := [105, 100], rule := [92, 100, 43],
    suffix := [47, 120], re := .plus { neg := false, ranges := [(48, 57)] } }
/-- the witness chain: `/u/` (literal) and `{id:\d+}/x` with the value `42` -/
def exRChain : List (Seg × Bytes) := [(P14.exSegU, []), (exSegRx, [52, 50])]

/-- The history, evaluated once; the facts below are read off the explicit tree. -/
theorem exR_eq : exR = { P14.exT0 with
    root := .mk { value := [] } [] 257 P14.exT0.root.handlers []
      [.mk P14.exSegU P14.exU 385 (getHandlers { base := .user 2 }) []
        [.mk exSegRx exPRx 385 (getHandlers { base := .user 1 }) [] []]],
    counts := [(mGET, 2)] } := by rw [exR, Tree.run_eq_F]; decide +kernel

theorem exR_chain : ∃ x, Chain exR.root (exRChain.map (·.1)) x ∧ x.handlers ≠ [] := by
  have h : exR.root.getAt [0, 0] = some (.mk exSegRx exPRx 385 (getHandlers { base := .user 1 }) [] []) ∧
      exR.root.segsAt [0, 0] = some [P14.exSegU, exSegRx] := by rw [exR_eq]; decide +kernel
  exact ⟨_, P14.chain_of_segsAt _ _ _ _ h.1 h.2, List.cons_ne_nil _ _⟩

/-- `42` is in the language of `\d+`, and `\d+` cannot consume `/`. -/
theorem exSegRx_simple : RxSimple exSegRx [52, 50] :=
  ⟨.plus (by decide +kernel) (.starCons (by decide +kernel) .starNil), by show Re.avoids exSegRx.re 47 = true; decide +kernel⟩

theorem exRChain_good : ∀ sv ∈ exRChain, GoodVal P14.exEnv exR.ic sv.1 sv.2 := by
  intro sv hsv
  simp only [exRChain, List.mem_cons, List.not_mem_nil, or_false] at hsv
  rcases hsv with rfl | rfl
  · exact .inl ⟨by decide +kernel, trivial, by simp⟩
  · exact .inr ⟨rfl, exSegRx_simple⟩

theorem exRChain_inst : instChain exRChain = exReqRx := by decide +kernel

theorem exRChain_narrow : ∀ sv ∈ exRChain, sv.1.kind = .rx → sv.1.re.wide = false := by decide +kernel

/-- The exact hypotheses hold as well (they are decidable by evaluation). -/
theorem exRChain_match : MatchChain P14.exEnv [] exRChain := by decide +kernel

theorem exR_answer : ∃ f q, exR.handler P14.exEnv exReqRx [] mGET = .res f ∧ f.node = some q ∧ q.pattern = exPRx ∧
    f.handler = { base := .user 1, wraps := [] } ∧ f.ok = true ∧ f.params = [([105, 100], [52, 50])] :=
  view_spec (by rw [exR_eq]; decide +kernel)

theorem exR_table : tableOf exR = [(P14.exU, [mGET]), (exPRx, [mGET])] := by rw [exR_eq]; decide +kernel
theorem exR_live_pair : (tableOf exR).has exPRx mGET := ⟨[mGET], by rw [exR_table]; decide +kernel, by decide +kernel⟩

/-- `/{id:a/xb|a}/x{m:b}/x1` -/
def exPC : Bytes := [47, 123, 105, 100, 58, 97, 47, 120, 98, 124, 97, 125, 47, 120, 123, 109, 58, 98, 125, 47, 120, 49]
def exCOps : List TOp := [.add exPC { base := .user 1 } [] [mGET]]
def exC : Tree := P14.exT0.run exCOps
/-- `/a/xb/x1` -/
def exReqC : Bytes := [47, 97, 47, 120, 98, 47, 120, 49]

def exReA : Re :=
  .alt (.seq (.seq (.seq (.cls ⟨false, [(97, 97)]⟩) (.cls ⟨false, [(47, 47)]⟩)) (.cls ⟨false, [(120, 120)]⟩))
    (.cls ⟨false, [(98, 98)]⟩)) (.cls ⟨false, [(97, 97)]⟩)
def exSegC1 : Seg :=
  { value := [123, 105, 100, 58, 97, 47, 120, 98, 124, 97, 125, 47, 120], kind := .rx, name := [105, 100],
    rule := [97, 47, 120, 98, 124, 97], suffix := [47, 120], re := exReA }
def exSegC2 : Seg :=
  { value := [123, 109, 58, 98, 125, 47, 120, 49], kind := .rx, name := [109], rule := [98], suffix := [47, 120, 49],
    re := .cls ⟨false, [(98, 98)]⟩ }
def exSegSlash : Seg := { value := [47] }
def exCChain : List (Seg × Bytes) := [(exSegSlash, []), (exSegC1, [97]), (exSegC2, [98])]

theorem exC_reach : ReachAll exC := ⟨_, _, _, _, _, _, exCOps, by decide +kernel, rfl⟩
theorem exC_eq : exC = { P14.exT0 with
    root := .mk { value := [] } [] 257 P14.exT0.root.handlers []
      [.mk exSegSlash [47] 0 [] []
        [.mk exSegC1 (exPC.take 14) 0 [] [] [.mk exSegC2 exPC 385 (getHandlers { base := .user 1 }) [] []]]],
    counts := [(mGET, 1)] } := by rw [exC, Tree.run_eq_F]; decide +kernel

theorem exC_chain : ∃ x, Chain exC.root (exCChain.map (·.1)) x ∧ x.handlers ≠ [] := by
  have h : exC.root.getAt [0, 0, 0] = some (.mk exSegC2 exPC 385 (getHandlers { base := .user 1 }) [] []) ∧
      exC.root.segsAt [0, 0, 0] = some [exSegSlash, exSegC1, exSegC2] := by rw [exC_eq]; decide +kernel
  exact ⟨_, P14.chain_of_segsAt _ _ _ _ h.1 h.2, List.cons_ne_nil _ _⟩

/-- Both values pass `Segment.Valid` and are in the language of their rule; the witness path is the strict URL. -/
theorem exC_valid : exSegC1.valid P14.exEnv [] [97] = some true ∧ exSegC2.valid P14.exEnv [] [98] = some true ∧
    instChain exCChain = exReqC := by decide +kernel

theorem exC_url : exC.url P14.exEnv exPC [([105, 100], [97]), ([109], [98])] = .ok exReqC := by
  rw [exC_eq]; decide +kernel

/-- …but the request is answered 404: the first regexp segment prefers `a/xb` and leaves `1`. -/
theorem exC_404 : patOf (exC.handler P14.exEnv exReqC [] mGET) = none ∧
    okOf (exC.handler P14.exEnv exReqC [] mGET) = some false := by
  rw [exC_eq]; decide +kernel

/-- The exact hypothesis fails for it, as it must. -/
theorem exC_not_match : ¬ MatchChain P14.exEnv [] exCChain := by decide +kernel

end Mux.P17
