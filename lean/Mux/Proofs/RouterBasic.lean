/-
  Mux.Proofs.RouterBasic — what `NewRouter` builds, as one record equation; `Handle`, `Remove`, `Clean` as `Except.map`
  over the tree's operation; what the `Call` of `Router.serveContext` carries (`Router.callOf`); a router operation as
  the tree operation it performs.
-/
import Mux.Spec.Defs
namespace Mux

theorem Router.new_eq_some {cfg : RouterCfg} {r0 : Router} (h : Router.new cfg = some r0) :
    cfg.name ≠ [] ∧ r0 =
      { tree := Tree.new cfg.name cfg.ic { base := cfg.notFoundBase } (if cfg.trace then some { base := .trace } else none),
        cors := cfg.cors, urlDomain := sanitizeDomain cfg.urlDomain, recover := cfg.recover, recActs := cfg.recActs } := by
  unfold Router.new at h
  split at h
  · cases h
  · next hne => cases h; exact ⟨hne, rfl⟩

theorem Router.new_tree {cfg : RouterCfg} {r0 : Router} (hnew : Router.new cfg = some r0) :
    r0.tree = Tree.new cfg.name cfg.ic { base := cfg.notFoundBase } (if cfg.trace then some { base := .trace } else none) := by
  obtain ⟨_, rfl⟩ := Router.new_eq_some hnew
  rfl

theorem Router.new_ms {cfg : RouterCfg} {r0 : Router} (hnew : Router.new cfg = some r0) : r0.ms = [] := by
  obtain ⟨_, rfl⟩ := Router.new_eq_some hnew
  rfl

/-- The shape shared by `Handle`, `Remove` and `Clean`: run the tree operation `x`, put the new tree in place. -/
theorem withTree_eq (r : Router) (x : Except Err Tree) :
    (do let t ← x; return { r with tree := t } : Except Err Router) = x.map fun t => { r with tree := t } := by
  cases x <;> rfl

theorem Router.handle_eq (r : Router) (p : Bytes) (h : Nat) (m : List Nat) (methods : List Bytes) :
    r.handle p h m methods =
      (r.tree.add p { base := .user h } (m ++ r.ms) methods).map fun t => { r with tree := t } :=
  withTree_eq r _

theorem Router.remove_eq (r : Router) (p : Bytes) (methods : List Bytes) :
    r.remove p methods = (r.tree.remove p methods).map fun t => { r with tree := t } :=
  withTree_eq r _

theorem Router.clean_eq (r : Router) (pre : Bytes) :
    r.clean pre = (r.tree.clean pre).map fun t => { r with tree := t } :=
  withTree_eq r _

theorem Router.run_append (r : Router) (a b : List ROp) : r.run (a ++ b) = (r.run a).run b :=
  List.foldl_append ..

theorem Router.run_snoc (r : Router) (ops : List ROp) (op : ROp) : r.run (ops ++ [op]) = (r.run ops).step op :=
  Router.run_append r ops [op]

/-- The call `serveContext` hands to `CallFunc` for what the tree found. -/
def Router.callOf (r : Router) (req : Req) (f : Found) : Call :=
  { handler := f.handler, node := f.node, ok := f.ok, params := f.params, routerName := r.tree.name,
    respHeaders :=
      if f.ok then
        match f.node with
        | some n => r.cors.handle n.methods n.allow [] req.method req.path req.headers
        | none => []
      else [],
    headWrap := f.ok ∧ req.method = mHEAD, path := req.path, recover := r.recover, recActs := r.recActs }

/-- `serveContext` is the tree lookup followed by one record construction; every field of a call is read off
`callOf` by `rfl`. -/
theorem Router.serveContext_eq (env : Env) (r : Router) (req : Req) (ps : Params) :
    r.serveContext env req ps =
      match r.tree.handler env req.path ps req.method with
      | .fault s => .fault s r.recover
      | .unsupported => .unsupported
      | .res f => .call (r.callOf req f) := rfl

theorem Router.serveContext_call_iff {env : Env} {r : Router} {req : Req} {ps : Params} {c : Call} :
    r.serveContext env req ps = .call c ↔
      ∃ f, r.tree.handler env req.path ps req.method = .res f ∧ c = r.callOf req f := by
  rw [Router.serveContext_eq]
  cases r.tree.handler env req.path ps req.method with
  | fault s => exact ⟨nofun, nofun⟩
  | unsupported => exact ⟨nofun, nofun⟩
  | res f => exact ⟨fun h => ⟨f, rfl, (ServeRes.call.inj h).symm⟩, fun ⟨_, hf, hc⟩ => by cases hf; rw [hc]⟩

theorem Router.serveContext_res {env : Env} {r : Router} {req : Req} {ps : Params} {f : Found}
    (h : r.tree.handler env req.path ps req.method = .res f) : r.serveContext env req ps = .call (r.callOf req f) :=
  Router.serveContext_call_iff.2 ⟨f, h, rfl⟩

theorem Router.serveContext_unsupported_iff {env : Env} {r : Router} {req : Req} {ps : Params} :
    r.serveContext env req ps = .unsupported ↔ r.tree.handler env req.path ps req.method = .unsupported := by
  rw [Router.serveContext_eq]
  cases r.tree.handler env req.path ps req.method with
  | fault s => exact ⟨nofun, nofun⟩
  | unsupported => exact ⟨fun _ => rfl, fun _ => rfl⟩
  | res f => exact ⟨nofun, nofun⟩

theorem Router.serveContext_fault_iff {env : Env} {r : Router} {req : Req} {ps : Params} {s : Nat} {rc : Bool} :
    r.serveContext env req ps = .fault s rc ↔
      r.tree.handler env req.path ps req.method = .fault s ∧ rc = r.recover := by
  rw [Router.serveContext_eq]
  cases r.tree.handler env req.path ps req.method with
  | fault s' => exact ⟨fun h => by cases h; exact ⟨rfl, rfl⟩, fun ⟨h1, h2⟩ => by cases h1; rw [h2]⟩
  | unsupported => exact ⟨nofun, nofun⟩
  | res f => exact ⟨nofun, nofun⟩

theorem serveHTTP_call {env : Env} {pc : PanicCfg} {scripts : Scripts} {r : Router} {req : Req} {ps : Params}
    {c : Call} {out : Outcome} :
    r.serveHTTP env pc scripts req ps = (some c, out) ↔
      r.serveContext env req ps = .call c ∧
        out = withRecover c.recover c.respHeaders (runCall pc scripts c) c.recActs c.headWrap := by
  unfold Router.serveHTTP
  cases r.serveContext env req ps with
  | unsupported => simp [ServeRes.finish]
  | fault s rc => simp [ServeRes.finish]
  | call c' =>
    simp only [ServeRes.finish, Prod.mk.injEq, Option.some.injEq, ServeRes.call.injEq]
    constructor
    · rintro ⟨rfl, rfl⟩; exact ⟨rfl, rfl⟩
    · rintro ⟨rfl, rfl⟩; exact ⟨rfl, rfl⟩

end Mux

namespace Mux.P10

def useArg : ROp → Option (List Nat)
  | .use m => some m
  | _ => none

end Mux.P10

namespace Mux.P18
open Mux

/-- The tree operation a router operation performs (`Handle` passes `m ++ r.ms`). -/
def topOf (r : Router) : ROp → TOp
  | .handle p h m methods => .add p { base := .user h } (m ++ r.ms) methods
  | .remove p methods => .remove p methods
  | .clean pre => .clean pre
  | .use m => .use m

theorem step_eq (r : Router) (op : ROp) :
    r.step op = { r with tree := r.tree.step (topOf r op), ms := r.ms ++ (P10.useArg op).getD [] } := by
  cases op with
  | handle p h m methods =>
    simp only [Router.step, Router.handle_eq, Tree.step, topOf, P10.useArg, Option.getD_none, List.append_nil]
    cases r.tree.add p { base := .user h } (m ++ r.ms) methods <;> rfl
  | remove p methods =>
    simp only [Router.step, Router.remove_eq, Tree.step, topOf, P10.useArg, Option.getD_none, List.append_nil]
    cases r.tree.remove p methods <;> rfl
  | clean pre =>
    simp only [Router.step, Router.clean_eq, Tree.step, topOf, P10.useArg, Option.getD_none, List.append_nil]
    cases r.tree.clean pre <;> rfl
  | use m => rfl

theorem step_tree_eq (r : Router) (op : ROp) : (r.step op).tree = r.tree.step (topOf r op) := by
  rw [step_eq]

def Call.found (c : Call) : Found := { node := c.node, handler := c.handler, ok := c.ok, params := c.params }

theorem serveContext_call_found (env : Env) (r : Router) (req : Req) (ps : Params) (c : Call)
    (h : r.serveContext env req ps = .call c) :
    r.tree.handler env req.path ps req.method = .res (Call.found c) ∧ c.routerName = r.tree.name ∧
      c.path = req.path := by
  obtain ⟨f, hf, rfl⟩ := Router.serveContext_call_iff.1 h
  exact ⟨hf, rfl, rfl⟩

theorem serveContext_call_recActs (env : Env) (r : Router) (req : Req) (ps : Params) (c : Call)
    (h : r.serveContext env req ps = .call c) : c.recActs = r.recActs ∧ c.recover = r.recover := by
  obtain ⟨f, _, rfl⟩ := Router.serveContext_call_iff.1 h
  exact ⟨rfl, rfl⟩

theorem serveContext_headWrap (env : Env) (r : Router) (req : Req) (ps : Params) (c : Call)
    (h : r.serveContext env req ps = .call c) : c.headWrap = true ↔ c.ok = true ∧ req.method = mHEAD := by
  obtain ⟨f, _, rfl⟩ := Router.serveContext_call_iff.1 h
  exact decide_eq_true_iff

theorem serveContext_not_ok (env : Env) (r : Router) (req : Req) (ps : Params) (c : Call)
    (h : r.serveContext env req ps = .call c) (hok : c.ok = false) : c.headWrap = false ∧ c.respHeaders = [] := by
  obtain ⟨f, _, rfl⟩ := Router.serveContext_call_iff.1 h
  change f.ok = false at hok
  simp [Router.callOf, hok]

end Mux.P18
