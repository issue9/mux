/-
  Mux.Proofs.Cors — `cors.handle` for the CORS properties C11 / C12.  Header maps are read through `AMap.get?`
  (`get/values/has` against `set/add`); `Cors.handle` is nine writes in a row, each under its condition
  (`Cors.handle_eq`); started from the empty map it leaves, under the six headers that are only ever `set`, what one
  table says (`Cors.get?_handle`: name, condition, value), and under `Vary` a list (`Cors.values_handle_Vary`).  The
  per-header lemmas are projections of the two.
-/
import Mux.Proofs.Head
namespace Mux

theorem isSome_ite {α : Type} {p : Prop} [Decidable p] {v : α} :
    (if p then some v else none).isSome = decide p := by
  split <;> simp [*]

theorem getD_ite {α : Type} {p : Prop} [Decidable p] {v d : α} :
    (if p then some v else none).getD d = if p then v else d := by
  split <;> rfl

namespace Hdr

@[simp] theorem values_nil (k : Bytes) : values [] k = [] := rfl
@[simp] theorem has_nil (k : Bytes) : has [] k = false := rfl
@[simp] theorem get_nil (k : Bytes) : get [] k = [] := rfl

theorem values_eq (h : Hdr) (k : Bytes) : values h k = (AMap.get? h k).getD [] := by
  unfold values AMap.get?
  cases h.find? _ <;> rfl

theorem has_eq (h : Hdr) (k : Bytes) : has h k = (AMap.get? h k).isSome :=
  AMap.contains_eq_isSome h k

theorem get_eq_headD (h : Hdr) (k : Bytes) : get h k = (values h k).headD [] := by
  rw [get_eq, values_eq]

theorem values_eq_nil_of_has_false {h : Hdr} {k : Bytes} (hh : has h k = false) : values h k = [] := by
  rw [has_eq, Option.isSome_eq_false_iff, Option.isNone_iff_eq_none] at hh
  rw [values_eq, hh]
  rfl

section
variable (h : Hdr) (k v k' : Bytes)

theorem get?_set :
    AMap.get? (set h k v) k' = if k' = k then some [v] else AMap.get? h k' :=
  AMap.get?_upd h k k' (fun _ => [v])

theorem get?_add :
    AMap.get? (add h k v) k' = if k' = k then some (values h k ++ [v]) else AMap.get? h k' := by
  rw [values_eq]
  exact AMap.get?_upd h k k' (fun vs => vs.getD [] ++ [v])

theorem get?_del : AMap.get? (h.del k) k' = if k' = k then none else AMap.get? h k' :=
  AMap.get?_erase h k k'

theorem get?_set_if (b : Prop) [Decidable b] :
    AMap.get? (if b then set h k v else h) k' = if k' = k ∧ b then some [v] else AMap.get? h k' := by
  by_cases hb : b <;> simp [hb, get?_set]

theorem get?_add_if_ne (b : Prop) [Decidable b] (hk : k' ≠ k) :
    AMap.get? (if b then add h k v else h) k' = AMap.get? h k' := by
  split
  · rw [get?_add, if_neg hk]
  · rfl

theorem values_set :
    values (set h k v) k' = if k' = k then [v] else values h k' := by
  simp only [values_eq, get?_set]; split <;> rfl

theorem values_add :
    values (add h k v) k' = if k' = k then values h k ++ [v] else values h k' := by
  simp only [values_eq, get?_add]; split <;> rfl

theorem has_set :
    has (set h k v) k' = (decide (k' = k) || has h k') := by
  simp only [has_eq, get?_set]; split <;> simp [*]

theorem has_add :
    has (add h k v) k' = (decide (k' = k) || has h k') := by
  simp only [has_eq, get?_add]; split <;> simp [*]

theorem values_set_if (b : Prop) [Decidable b] :
    values (if b then set h k v else h) k' = if k' = k ∧ b then [v] else values h k' := by
  rw [values_eq, get?_set_if, values_eq]; split <;> rfl

theorem values_add_if_self (b : Prop) [Decidable b] :
    values (if b then add h k v else h) k = values h k ++ if b then [v] else [] := by
  split
  · rw [values_add, if_pos rfl]
  · exact (List.append_nil _).symm

end

theorem values_set_self (h : Hdr) (k v : Bytes) : values (set h k v) k = [v] := by simp [values_set]
theorem values_add_self (h : Hdr) (k v : Bytes) : values (add h k v) k = values h k ++ [v] := by
  simp [values_add]
theorem cors_get_set_self (h : Hdr) (k v : Bytes) : get (set h k v) k = v :=
  get_set_self h k v
theorem cors_get_set_ne (h : Hdr) {k k' : Bytes} (v : Bytes) (hk : k' ≠ k) :
    get (set h k v) k' = get h k' := get_set_ne h v hk.symm
theorem cors_get_add_ne (h : Hdr) {k k' : Bytes} (v : Bytes) (hk : k' ≠ k) :
    get (add h k v) k' = get h k' := get_add_ne h v hk.symm

end Hdr

/-! Each of the seven response-header names written by `cors.handle` differs from the six others (`simp` splits each
conjunction into rewrite rules `(a = b) = False`). -/
@[simp] theorem hACAO_ne :
    hACAO ≠ hACAC ∧ hACAO ≠ hACAM ∧ hACAO ≠ hACAH ∧ hACAO ≠ hACEH ∧ hACAO ≠ hACMA ∧ hACAO ≠ hVary := by
  decide +kernel
@[simp] theorem hACAC_ne :
    hACAC ≠ hACAO ∧ hACAC ≠ hACAM ∧ hACAC ≠ hACAH ∧ hACAC ≠ hACEH ∧ hACAC ≠ hACMA ∧ hACAC ≠ hVary := by
  decide +kernel
@[simp] theorem hACAM_ne :
    hACAM ≠ hACAO ∧ hACAM ≠ hACAC ∧ hACAM ≠ hACAH ∧ hACAM ≠ hACEH ∧ hACAM ≠ hACMA ∧ hACAM ≠ hVary := by
  decide +kernel
@[simp] theorem hACAH_ne :
    hACAH ≠ hACAO ∧ hACAH ≠ hACAC ∧ hACAH ≠ hACAM ∧ hACAH ≠ hACEH ∧ hACAH ≠ hACMA ∧ hACAH ≠ hVary := by
  decide +kernel
@[simp] theorem hACEH_ne :
    hACEH ≠ hACAO ∧ hACEH ≠ hACAC ∧ hACEH ≠ hACAM ∧ hACEH ≠ hACAH ∧ hACEH ≠ hACMA ∧ hACEH ≠ hVary := by
  decide +kernel
@[simp] theorem hACMA_ne :
    hACMA ≠ hACAO ∧ hACMA ≠ hACAC ∧ hACMA ≠ hACAM ∧ hACMA ≠ hACAH ∧ hACMA ≠ hACEH ∧ hACMA ≠ hVary := by
  decide +kernel
@[simp] theorem hVary_ne :
    hVary ≠ hACAO ∧ hVary ≠ hACAC ∧ hVary ≠ hACAM ∧ hVary ≠ hACAH ∧ hVary ≠ hACEH ∧ hVary ≠ hACMA := by
  decide +kernel

theorem hdr_names_nodup : [hACAO, hACAC, hACAM, hACAH, hACEH, hACMA, hVary, hOrigin, hACRM, hACRH].Nodup := by
  decide +kernel

theorem star_authorization : bytesOfString "*," ++ hAuthorization = bytesOfString "*,Authorization" := by
  decide +kernel

section
variable (c : Cors) (nm : List Bytes) (na : Bytes) (wh : Hdr) (method path : Bytes) (rh : Hdr)

/-- `preflight` of `cors.handle`: OPTIONS with `Access-Control-Request-Method`, path other than `*`. -/
def Cors.isPreflight : Prop :=
  method = mOPTIONS ∧ rh.get hACRM ≠ [] ∧ path ≠ [42]

instance : Decidable (Cors.isPreflight method path rh) := by
  unfold Cors.isPreflight; infer_instance

theorem Cors.isPreflight_iff :
    Cors.isPreflight method path rh ↔ method = mOPTIONS ∧ rh.get hACRM ≠ [] ∧ path ≠ [42] := Iff.rfl

/-- The preflight part does not `return` early. -/
def Cors.prePass : Prop :=
  Cors.isPreflight method path rh → rh.get hACRM ∈ nm ∧ c.headerIsAllowed rh = true

instance : Decidable (c.prePass nm method path rh) := by
  unfold Cors.prePass; infer_instance

/-- "A preflight whose requested method the node serves" (and CORS is configured). -/
def Cors.preOK : Prop :=
  c.deny = false ∧ Cors.isPreflight method path rh ∧ rh.get hACRM ∈ nm

/-- The decision whether `Access-Control-Allow-Origin` is granted. -/
def Cors.granted : Prop :=
  c.deny = false ∧ c.prePass nm method path rh ∧ (c.anyOrigins = true ∨ rh.get hOrigin ∈ c.origins)

instance : Decidable (c.preOK nm method path rh) := by
  unfold Cors.preOK; infer_instance
instance : Decidable (c.granted nm method path rh) := by
  unfold Cors.granted; infer_instance

/-- `cors.handle` without its `return`s: every header it writes, in order, each under the decision (`preOK`, `granted`)
and the configuration test that guard it in the Go function. -/
theorem Cors.handle_eq :
    c.handle nm na wh method path rh =
      let wh := if c.preOK nm method path rh then wh.set hACAM na else wh
      let wh := if c.preOK nm method path rh then wh.add hVary hACRM else wh
      let wh := if c.preOK nm method path rh ∧ c.headerIsAllowed rh = true ∧ c.allowHeadersString ≠ [] then
        wh.set hACAH c.allowHeadersString else wh
      let wh := if c.preOK nm method path rh ∧ c.headerIsAllowed rh = true ∧ c.allowHeadersString ≠ [] then
        wh.add hVary hACRH else wh
      let wh := if c.preOK nm method path rh ∧ c.headerIsAllowed rh = true ∧ c.maxAgeString ≠ [] then
        wh.set hACMA c.maxAgeString else wh
      let wh := if c.granted nm method path rh then wh.set hACAO (if c.anyOrigins then [42] else rh.get hOrigin) else wh
      let wh := if c.granted nm method path rh then wh.add hVary hOrigin else wh
      let wh := if c.granted nm method path rh ∧ c.allowCredentials = true then wh.set hACAC (bytesOfString "true") else wh
      if c.granted nm method path rh ∧ c.exposedHeadersString ≠ [] then wh.set hACEH c.exposedHeadersString else wh := by
  have horigin : (¬ c.anyOrigins = true ∧ ¬ c.origins.contains (rh.get hOrigin) = true) ↔
      ¬ (c.anyOrigins = true ∨ rh.get hOrigin ∈ c.origins) := by
    rw [List.contains_iff_mem, not_or]
  unfold Cors.handle Cors.preflightPart Cors.preOK Cors.granted Cors.prePass
  simp only [← Cors.isPreflight_iff, horigin]
  -- one case per `return`: there every guard is decided (but for the configuration tests, which stand on both sides;
  -- `Allow-Headers` and its `Vary` entry share one `if` in the model, hence `h1`)
  by_cases hd : c.deny = true
  · simp [hd]
  · by_cases hp : Cors.isPreflight method path rh
    · by_cases hm : rh.get hACRM ∈ nm
      · by_cases ha : c.headerIsAllowed rh = true
        · by_cases h1 : c.allowHeadersString = [] <;>
            by_cases ho : c.anyOrigins = true ∨ rh.get hOrigin ∈ c.origins <;> simp [hd, hp, hm, ha, h1, ho]
        · simp [hd, hp, hm, ha]
      · simp [hd, hp, hm]
    · by_cases ho : c.anyOrigins = true ∨ rh.get hOrigin ∈ c.origins <;> simp [hd, hp, ho]

end

/-- Three optional items in order: the shape of `Vary` below. -/
theorem optionals_spec {α : Type} {a b c : α} (hab : a ≠ b) (hac : a ≠ c) (hbc : b ≠ c)
    (p q r : Prop) [Decidable p] [Decidable q] [Decidable r] :
    let l := (if p then [a] else []) ++ (if q then [b] else []) ++ (if r then [c] else [])
    l.Sublist [a, b, c] ∧ (a ∈ l ↔ p) ∧ (b ∈ l ↔ q) ∧ (c ∈ l ↔ r) := by
  have sub : ∀ (p : Prop) [Decidable p] (x : α), (if p then [x] else []).Sublist [x] := by
    intro p _ x
    split
    · exact .refl _
    · exact List.nil_sublist _
  have mem : ∀ (p : Prop) [Decidable p] (x y : α), x ∈ (if p then [y] else []) ↔ p ∧ x = y := by
    intro p _ x y
    split <;> simp [*]
  refine ⟨((sub p a).append (sub q b)).append (sub r c), ?_, ?_, ?_⟩ <;>
    simp [mem, hab, hac, hbc, hab.symm, hac.symm, hbc.symm]

section
variable (c : Cors) (nm : List Bytes) (na method path : Bytes) (rh : Hdr)

/-- The six headers that are only ever `set`, as a table (last write first): name, condition, value. -/
theorem Cors.get?_handle (k : Bytes) (hk : k ≠ hVary) :
    AMap.get? (c.handle nm na [] method path rh) k =
      if k = hACEH ∧ c.granted nm method path rh ∧ c.exposedHeadersString ≠ [] then some [c.exposedHeadersString]
      else if k = hACAC ∧ c.granted nm method path rh ∧ c.allowCredentials = true then some [bytesOfString "true"]
      else if k = hACAO ∧ c.granted nm method path rh then some [if c.anyOrigins then [42] else rh.get hOrigin]
      else if k = hACMA ∧ c.preOK nm method path rh ∧ c.headerIsAllowed rh = true ∧ c.maxAgeString ≠ [] then
        some [c.maxAgeString]
      else if k = hACAH ∧ c.preOK nm method path rh ∧ c.headerIsAllowed rh = true ∧ c.allowHeadersString ≠ [] then
        some [c.allowHeadersString]
      else if k = hACAM ∧ c.preOK nm method path rh then some [na]
      else none := by
  simp only [Cors.handle_eq, Hdr.get?_set_if, Hdr.get?_add_if_ne _ _ _ _ _ hk, AMap.get?_nil]

/-- `Vary`, the one header that is added to. -/
theorem Cors.values_handle_Vary :
    (c.handle nm na [] method path rh).values hVary =
      (if c.preOK nm method path rh then [hACRM] else []) ++
      (if c.preOK nm method path rh ∧ c.headerIsAllowed rh = true ∧ c.allowHeadersString ≠ [] then [hACRH] else []) ++
      (if c.granted nm method path rh then [hOrigin] else []) := by
  simp only [Cors.handle_eq, Hdr.values_add_if_self, Hdr.values_set_if, hVary_ne, false_and, if_false, Hdr.values_nil,
    List.nil_append]

theorem Cors.values_handle_ACAO :
    (c.handle nm na [] method path rh).values hACAO =
      if c.granted nm method path rh then [if c.anyOrigins then [42] else rh.get hOrigin] else [] := by
  simp [Hdr.values_eq, Cors.get?_handle, getD_ite]

theorem Cors.has_handle_ACAO :
    (c.handle nm na [] method path rh).has hACAO = decide (c.granted nm method path rh) := by
  simp [Hdr.has_eq, Cors.get?_handle, isSome_ite]

theorem Cors.values_handle_ACAC :
    (c.handle nm na [] method path rh).values hACAC =
      if c.granted nm method path rh ∧ c.allowCredentials = true then [bytesOfString "true"] else [] := by
  simp [Hdr.values_eq, Cors.get?_handle, getD_ite]

theorem Cors.has_handle_ACAC :
    (c.handle nm na [] method path rh).has hACAC =
      decide (c.granted nm method path rh ∧ c.allowCredentials = true) := by
  simp [Hdr.has_eq, Cors.get?_handle, isSome_ite]

theorem Cors.values_handle_ACEH :
    (c.handle nm na [] method path rh).values hACEH =
      if c.granted nm method path rh ∧ c.exposedHeadersString ≠ [] then [c.exposedHeadersString] else [] := by
  simp [Hdr.values_eq, Cors.get?_handle, getD_ite]

theorem Cors.has_handle_ACEH :
    (c.handle nm na [] method path rh).has hACEH =
      decide (c.granted nm method path rh ∧ c.exposedHeadersString ≠ []) := by
  simp [Hdr.has_eq, Cors.get?_handle, isSome_ite]

theorem Cors.values_handle_ACAM :
    (c.handle nm na [] method path rh).values hACAM =
      if c.preOK nm method path rh then [na] else [] := by
  simp [Hdr.values_eq, Cors.get?_handle, getD_ite]

theorem Cors.has_handle_ACAM :
    (c.handle nm na [] method path rh).has hACAM = decide (c.preOK nm method path rh) := by
  simp [Hdr.has_eq, Cors.get?_handle, isSome_ite]

theorem Cors.values_handle_ACAH :
    (c.handle nm na [] method path rh).values hACAH =
      if c.preOK nm method path rh ∧ c.headerIsAllowed rh = true ∧ c.allowHeadersString ≠ []
      then [c.allowHeadersString] else [] := by
  simp [Hdr.values_eq, Cors.get?_handle, getD_ite]

theorem Cors.has_handle_ACAH :
    (c.handle nm na [] method path rh).has hACAH =
      decide (c.preOK nm method path rh ∧ c.headerIsAllowed rh = true ∧ c.allowHeadersString ≠ []) := by
  simp [Hdr.has_eq, Cors.get?_handle, isSome_ite]

theorem Cors.values_handle_ACMA :
    (c.handle nm na [] method path rh).values hACMA =
      if c.preOK nm method path rh ∧ c.headerIsAllowed rh = true ∧ c.maxAgeString ≠ []
      then [c.maxAgeString] else [] := by
  simp [Hdr.values_eq, Cors.get?_handle, getD_ite]

theorem Cors.has_handle_ACMA :
    (c.handle nm na [] method path rh).has hACMA =
      decide (c.preOK nm method path rh ∧ c.headerIsAllowed rh = true ∧ c.maxAgeString ≠ []) := by
  simp [Hdr.has_eq, Cors.get?_handle, isSome_ite]

theorem Cors.mem_values_handle_Vary :
    let l := (c.handle nm na [] method path rh).values hVary
    l.Sublist [hACRM, hACRH, hOrigin] ∧ (hACRM ∈ l ↔ c.preOK nm method path rh) ∧
      (hACRH ∈ l ↔ c.preOK nm method path rh ∧ c.headerIsAllowed rh = true ∧ c.allowHeadersString ≠ []) ∧
      (hOrigin ∈ l ↔ c.granted nm method path rh) := by
  rw [Cors.values_handle_Vary]
  exact optionals_spec (by decide) (by decide) (by decide) _ _ _
end

end Mux
