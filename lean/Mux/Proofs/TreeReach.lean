/-
  Reachable trees and routers; the not-found and the TRACE handler of a tree after a history (`Tree.run_outer`); a
  router history is a tree history (`Router.tops`, `Router.run_eq`, `Router.run_new`); the tree of the history
  `Handle("/posts/{id}", h, GET)`, written out (`exTree`, and `exTreeT` with a TRACE handler), used for the non-vacuity
  examples: its invariants are those of reachable trees.
-/
import Mux.Proofs.TreeCounts
import Mux.Proofs.TreeVals
import Mux.Proofs.RouterBasic
import Mux.Proofs.RunFuel
import Mux.Proofs.DecEq
namespace Mux

/-- A tree produced from a fresh one by any history. -/
def Tree.Reach (t : Tree) : Prop :=
  ∃ name ic nf tr ob nb ops, t = (Tree.new name ic nf tr ob nb).run ops

theorem Tree.Reach.inv2 {t : Tree} (h : t.Reach) : TreeInv2 t := by
  obtain ⟨name, ic, nf, tr, ob, nb, ops, rfl⟩ := h
  exact inv2_run (inv2_new name ic nf tr ob nb) ops

theorem Tree.Reach.inv {t : Tree} (h : t.Reach) : TreeInv t := h.inv2.toTreeInv

theorem Tree.run_append (t : Tree) (a b : List TOp) : t.run (a ++ b) = (t.run a).run b := by
  simp [Tree.run, List.foldl_append]

theorem Tree.Reach.step {t : Tree} (h : t.Reach) (op : TOp) : (t.step op).Reach := by
  obtain ⟨name, ic, nf, tr, ob, nb, ops, rfl⟩ := h
  exact ⟨name, ic, nf, tr, ob, nb, ops ++ [op], by simp [Tree.run]⟩

/-- A tree built with non-nil bases by a history that registers non-nil handlers only. -/
def Tree.ReachNonNil (t : Tree) : Prop :=
  ∃ name ic nf tr ob nb ops, nf.base ≠ .nil ∧ (∀ h, tr = some h → h.base ≠ .nil) ∧ ob ≠ .nil ∧ nb ≠ .nil ∧
    (∀ op ∈ ops, op.BasesOk (· ≠ .nil)) ∧ t = (Tree.new name ic nf tr ob nb).run ops

theorem Tree.ReachNonNil.reach {t : Tree} (h : t.ReachNonNil) : t.Reach := by
  obtain ⟨name, ic, nf, tr, ob, nb, ops, _, _, _, _, _, rfl⟩ := h
  exact ⟨name, ic, nf, tr, ob, nb, ops, rfl⟩

theorem Tree.ReachNonNil.vals {t : Tree} (h : t.ReachNonNil) : TreeVals (· ≠ .nil) t := by
  obtain ⟨name, ic, nf, tr, ob, nb, ops, h1, h2, h3, h4, h5, rfl⟩ := h
  exact vals_run (vals_new name ic nf tr ob nb h1 h2 h3 h4) ops h5

theorem bumpMethods_trace (t : Tree) (ms : List Bytes) :
    (t.bumpMethods ms).trace = t.trace ∧ (t.bumpMethods ms).name = t.name := ⟨rfl, rfl⟩
theorem recount_trace (t : Tree) : t.recount.trace = t.trace ∧ t.recount.name = t.name := ⟨rfl, rfl⟩

/-- The middlewares given to `Use` in a history, in order. -/
def useMs : List TOp → List Nat
  | [] => []
  | .use ms :: ops => ms ++ useMs ops
  | _ :: ops => useMs ops

theorem useMs_cons (op : TOp) (ops : List TOp) : useMs (op :: ops) = useMs [op] ++ useMs ops := by
  cases op <;> simp [useMs]

/-- The not-found handler and the TRACE handler, which a tree keeps outside its root: `Use` wraps them, no other
operation touches them. -/
theorem Tree.step_outer (t : Tree) (op : TOp) :
    (t.step op).notFound = wrapWith t.notFound [] [] t.name (useMs [op]) ∧
      (t.step op).trace = t.trace.map fun h => wrapWith h mTRACE [] t.name (useMs [op]) := by
  have keep : ∀ t' : Tree, t'.notFound = t.notFound → t'.trace = t.trace →
      t'.notFound = wrapWith t.notFound [] [] t.name [] ∧
        t'.trace = t.trace.map fun h => wrapWith h mTRACE [] t.name [] := by
    intro t' h1 h2
    simp only [wrapWith_nil, Option.map_id']
    exact ⟨h1, h2⟩
  have use : ∀ ms, (t.step (.use ms)).notFound = wrapWith t.notFound [] [] t.name (useMs [.use ms]) ∧
      (t.step (.use ms)).trace = t.trace.map fun h => wrapWith h mTRACE [] t.name (useMs [.use ms]) := by
    intro ms
    simp only [Tree.step, Tree.applyMiddleware, useMs, List.append_nil, and_self]
  rcases t.step_cases op with h | ⟨ms, rfl⟩ | ⟨_, _, hy, h⟩
  · cases op with
    | use ms => exact use ms
    | _ => rw [h]; exact keep t rfl rfl
  · exact use ms
  · rw [h]
    cases hy <;> exact keep _ rfl rfl

theorem Tree.run_outer (t : Tree) (ops : List TOp) :
    (t.run ops).notFound = wrapWith t.notFound [] [] t.name (useMs ops) ∧
      (t.run ops).trace = t.trace.map fun h => wrapWith h mTRACE [] t.name (useMs ops) := by
  induction ops generalizing t with
  | nil => simp only [Tree.run, List.foldl_nil, useMs, wrapWith_nil, Option.map_id', and_self]
  | cons op ops ih =>
    show ((t.step op).run ops).notFound = _ ∧ ((t.step op).run ops).trace = _
    rw [(ih (t.step op)).1, (ih (t.step op)).2, (t.step_outer op).1, (t.step_outer op).2, (sameCfg_step t op).2.1,
      Option.map_map, useMs_cons op ops, wrapWith_wrapWith]
    refine ⟨rfl, congrArg (Option.map · t.trace) (funext fun h => ?_)⟩
    exact wrapWith_wrapWith h mTRACE [] t.name _ _

/-- The tree operations a router history performs (`Handle` passes `m ++ r.ms` for the `ms` of that moment). -/
def Router.tops : Router → List ROp → List TOp
  | _, [] => []
  | r, op :: ops => P18.topOf r op :: Router.tops (r.step op) ops

theorem useArg_flatten_cons (op : ROp) (ops : List ROp) :
    ((op :: ops).filterMap P10.useArg).flatten = (P10.useArg op).getD [] ++ (ops.filterMap P10.useArg).flatten := by
  cases h : P10.useArg op <;> simp [h]

/-- A router history is a tree history; of the other fields only `ms` moves. -/
theorem Router.run_eq (r : Router) (ops : List ROp) :
    r.run ops = { r with tree := r.tree.run (r.tops ops), ms := r.ms ++ (ops.filterMap P10.useArg).flatten } := by
  induction ops generalizing r with
  | nil => simp [Router.run, Router.tops, Tree.run]
  | cons op ops ih =>
    show (r.step op).run ops = _
    rw [ih, Router.tops, useArg_flatten_cons, P18.step_eq r op, List.append_assoc]
    rfl

theorem useMs_topOf (r : Router) (op : ROp) : useMs [P18.topOf r op] = (P10.useArg op).getD [] := by
  cases op <;> simp [P18.topOf, useMs, P10.useArg]

theorem Router.useMs_tops : ∀ (r : Router) (ops : List ROp), useMs (r.tops ops) = (ops.filterMap P10.useArg).flatten
  | _, [] => rfl
  | r, op :: ops => by
    rw [Router.tops, useMs_cons, useMs_topOf, Router.useMs_tops (r.step op) ops, useArg_flatten_cons]

theorem Router.step_name (r : Router) (op : ROp) : (r.step op).tree.name = r.tree.name := by
  rw [P18.step_tree_eq]; exact (sameCfg_step r.tree _).2.1

theorem Router.tops_forall {W : ROp → Prop} {V : TOp → Prop} (hWV : ∀ r op, W op → V (P18.topOf r op)) :
    ∀ (r : Router) {ops : List ROp}, (∀ op ∈ ops, W op) → ∀ top ∈ r.tops ops, V top
  | _, [], _, _, h => nomatch h
  | r, op :: ops, hops, top, h => by
    rcases List.mem_cons.1 h with rfl | h
    · exact hWV r op (hops op List.mem_cons_self)
    · exact Router.tops_forall hWV (r.step op) (fun o ho => hops o (List.mem_cons_of_mem _ ho)) top h

theorem Router.add_mem_tops {q : Bytes} : ∀ (r : Router) (ops : List ROp),
    (∃ h ms methods, TOp.add q h ms methods ∈ r.tops ops) ↔ ∃ h m methods, ROp.handle q h m methods ∈ ops
  | _, [] => by simp [Router.tops]
  | r, op :: ops => by
    have ih := Router.add_mem_tops (q := q) (r.step op) ops
    simp only [Router.tops, List.mem_cons]
    constructor
    · rintro ⟨h, ms, methods, e | hm⟩
      · cases op with
        | handle p h' m methods' => cases e; exact ⟨_, _, _, .inl rfl⟩
        | _ => cases e
      · obtain ⟨a, b, c, hc⟩ := ih.1 ⟨h, ms, methods, hm⟩
        exact ⟨a, b, c, .inr hc⟩
    · rintro ⟨h, m, methods, rfl | hm⟩
      · exact ⟨_, _, _, .inl rfl⟩
      · obtain ⟨a, b, c, hc⟩ := ih.2 ⟨h, m, methods, hm⟩
        exact ⟨a, b, c, .inr hc⟩

theorem Router.run_new {cfg : RouterCfg} {r0 : Router} (hnew : Router.new cfg = some r0) (ops : List ROp) :
    r0.run ops =
      { tree := (Tree.new cfg.name cfg.ic { base := cfg.notFoundBase }
          (if cfg.trace then some { base := .trace } else none)).run (r0.tops ops),
        ms := (ops.filterMap P10.useArg).flatten, cors := cfg.cors, urlDomain := sanitizeDomain cfg.urlDomain,
        recover := cfg.recover, recActs := cfg.recActs } := by
  rw [Router.run_eq]
  obtain ⟨_, rfl⟩ := Router.new_eq_some hnew
  rfl

theorem Router.run_treeCfg {cfg : RouterCfg} {r0 : Router} (hnew : Router.new cfg = some r0) (ops : List ROp) :
    (r0.run ops).tree.hasTrace = cfg.trace ∧ (r0.run ops).tree.name = cfg.name ∧ (r0.run ops).tree.ic = cfg.ic ∧
      (r0.run ops).tree.optionsBase = .options ∧ (r0.run ops).tree.notAllowedBase = .notAllowed := by
  rw [Router.run_new hnew]
  have h := sameCfg_run (Tree.new cfg.name cfg.ic { base := cfg.notFoundBase }
    (if cfg.trace then some { base := .trace } else none)) (r0.tops ops)
  refine ⟨h.1.trans ?_, h.2.1, h.2.2.1, h.2.2.2.1, h.2.2.2.2⟩
  cases cfg.trace <;> rfl

theorem Router.serve_spec {r : Router} (hinv : TreeInv r.tree) {env : Env} {req : Req} {ps : Params} {c : Call}
    (hc : r.serveContext env req ps = .call c) :
    ∃ f, r.tree.handler env req.path ps req.method = .res f ∧ FoundSpec r.tree req.method f ∧ c = r.callOf req f := by
  obtain ⟨f, hf, rfl⟩ := Router.serveContext_call_iff.1 hc
  exact ⟨f, hf, handler_foundSpec hinv hf, rfl⟩

/-- A router made by `NewRouter` and any history of `Handle/Remove/Clean/Use`. -/
def Router.Reach (r : Router) : Prop := ∃ cfg r0 ops, Router.new cfg = some r0 ∧ r = r0.run ops

theorem run_reach {cfg : RouterCfg} {r0 : Router} (hnew : Router.new cfg = some r0) (ops : List ROp) :
    (r0.run ops).Reach := ⟨cfg, r0, ops, hnew, rfl⟩

theorem Router.Reach.step (r : Router) (op : ROp) (h : r.Reach) : (r.step op).Reach := by
  obtain ⟨cfg, r0, ops, hnew, rfl⟩ := h
  exact ⟨cfg, r0, ops ++ [op], hnew, (Router.run_snoc r0 ops op).symm⟩

theorem Router.Reach.tree {r : Router} (h : r.Reach) : r.tree.Reach := by
  obtain ⟨cfg, r0, ops, hnew, rfl⟩ := h
  rw [Router.run_new hnew]
  exact ⟨_, _, _, _, _, _, _, rfl⟩

/-- The tree of a router made by `NewRouter` stores handlers of four origins only: the `notFound` argument, the TRACE
handler, the two automatic builders, and the user's handlers `Base.user _`. -/
theorem Router.run_vals {B : Base → Prop} {cfg : RouterCfg} {r0 : Router} (hnew : Router.new cfg = some r0)
    (hnf : B cfg.notFoundBase) (htrace : B .trace) (hopt : B .options) (hna : B .notAllowed)
    (huser : ∀ id, B (.user id)) (ops : List ROp) : TreeVals B (r0.run ops).tree := by
  rw [Router.run_new hnew]
  refine vals_run (vals_new _ _ _ _ _ _ hnf (fun h hh => ?_) hopt hna) _
    (Router.tops_forall (W := fun _ => True) (fun r op _ => by cases op <;> simp [P18.topOf, TOp.BasesOk, huser]) r0
      (fun _ _ => trivial))
  split at hh
  · cases hh; exact htrace
  · cases hh

/-- For `Hosts` matchers: a private tree whose interceptor table may grow. -/
theorem TreeInv.setIc {t : Tree} (h : TreeInv t) (ic : Interceptors) : TreeInv { t with ic := ic } :=
  ⟨h.rootKeys, h.rootMi, h.rootIdx, h.below⟩

theorem Hosts.inv_empty : TreeInv Hosts.empty.tree := inv_new _ _ _ _ _ _

/-- The node for `{id}` with `GET` registered (what `Handle("/posts/{id}", h, GET)` creates). -/
def exLeaf : Node :=
  .mk { value := bytesOfString "{id}", kind := .named, name := bytesOfString "id", endpoint := true }
    (bytesOfString "/posts/{id}") (1 + 128 + 256)
    [(mHEAD, { base := .user 1 }), (mGET, { base := .user 1 }), (mOPTIONS, { base := .options }),
     (mNotAllowed, { base := .notAllowed })] [] []

def exMid : Node := .mk { value := bytesOfString "/posts/" } (bytesOfString "/posts/") 0 [] [] [exLeaf]

/-- A router tree without TRACE holding the single route `GET /posts/{id}`. -/
def exTree : Tree :=
  { root := .mk { value := [] } [] (256 + 1) [(mOPTIONS, { base := .options }), (mNotAllowed, { base := .notAllowed })]
      [] [exMid],
    counts := [(mGET, 1)], name := bytesOfString "r", notFound := { base := .notFound } }

theorem exTree_add : (Tree.new (bytesOfString "r") [] { base := .notFound } none).add (bytesOfString "/posts/{id}")
    { base := .user 1 } [] [mGET] = .ok exTree := by
  rw [Tree.add_eq_F]; simp only [bytesOfString_eq_data]; decide +kernel

theorem exTree_run : (Tree.new (bytesOfString "r") [] { base := .notFound } none).run
    [.add (bytesOfString "/posts/{id}") { base := .user 1 } [] [mGET]] = exTree := by
  simp only [Tree.run, List.foldl_cons, List.foldl_nil, Tree.step, exTree_add]

theorem exTree_nonNil : exTree.ReachNonNil :=
  ⟨bytesOfString "r", [], { base := .notFound }, none, .options, .notAllowed, _, by decide, nofun, by decide, by decide,
    fun op hop => by cases List.mem_singleton.1 hop; exact (by decide : Base.user 1 ≠ .nil), exTree_run.symm⟩

theorem exTree_inv2 : TreeInv2 exTree := exTree_nonNil.reach.inv2

theorem exTree_inv : TreeInv exTree := exTree_inv2.toTreeInv

theorem exTree_vals : TreeVals (· ≠ .nil) exTree := exTree_nonNil.vals

theorem exLeaf_mem : exLeaf ∈ nodesL exTree.root.children := by
  simp [exTree, exMid, nodesL, Node.nodes, exLeaf]

theorem exLeaf_mem_nodes : exLeaf ∈ exTree.root.nodes := by
  rw [Node.nodes_eq]; exact List.mem_cons_of_mem _ exLeaf_mem

/-- The same with TRACE configured: node for `{id}` with `GET` registered (what `Handle("/posts/{id}", h, GET)` creates). -/
def exLeafT : Node :=
  .mk { value := bytesOfString "{id}", kind := .named, name := bytesOfString "id", endpoint := true }
    (bytesOfString "/posts/{id}") (1 + 128 + 256 + 64)
    [(mHEAD, { base := .user 1 }), (mGET, { base := .user 1 }), (mOPTIONS, { base := .options }),
     (mNotAllowed, { base := .notAllowed })] [] []

def exMidT : Node := .mk { value := bytesOfString "/posts/" } (bytesOfString "/posts/") 0 [] [] [exLeafT]

/-- A router tree with a TRACE handler holding the single route `GET /posts/{id}`. -/
def exTreeT : Tree :=
  { root := .mk { value := [] } [] (256 + 1 + 64) [(mOPTIONS, { base := .options }), (mNotAllowed, { base := .notAllowed })]
      [] [exMidT],
    counts := [(mGET, 1)], name := bytesOfString "r", notFound := { base := .notFound }, trace := some { base := .trace } }

theorem exTreeT_run : (Tree.new (bytesOfString "r") [] { base := .notFound } (some { base := .trace })).run
    [.add (bytesOfString "/posts/{id}") { base := .user 1 } [] [mGET]] = exTreeT := by
  rw [Tree.run_eq_F]; simp only [bytesOfString_eq_data]; decide +kernel

theorem exTreeT_nonNil : exTreeT.ReachNonNil :=
  ⟨bytesOfString "r", [], { base := .notFound }, some { base := .trace }, .options, .notAllowed, _, by decide,
    fun h hh => by cases hh; decide, by decide, by decide,
    fun op hop => by cases List.mem_singleton.1 hop; exact (by decide : Base.user 1 ≠ .nil), exTreeT_run.symm⟩

theorem exTreeT_inv2 : TreeInv2 exTreeT := exTreeT_nonNil.reach.inv2

theorem exTreeT_inv : TreeInv exTreeT := exTreeT_inv2.toTreeInv

theorem exTreeT_vals : TreeVals (· ≠ .nil) exTreeT := exTreeT_nonNil.vals

theorem exLeafT_mem : exLeafT ∈ nodesL exTreeT.root.children := by
  simp [exTreeT, exMidT, nodesL, Node.nodes, exLeafT]

theorem exLeafT_mem_nodes : exLeafT ∈ exTreeT.root.nodes := by
  rw [Node.nodes_eq]; exact List.mem_cons_of_mem _ exLeafT_mem

end Mux
