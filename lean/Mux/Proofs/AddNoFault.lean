/-
  `Tree.add` never faults on a well-formed tree, for ANY pattern string (well-formed or not): the restructuring of
  `getNode` cuts existing nodes at legal positions only (the scan of `longestPrefix` follows the braces of the common
  prefix, which are those of the existing, well-formed node), and every piece handed to `NewSegment` is a piece of
  `splitString` or a brace-free remainder of one.
-/
import Mux.Proofs.AddAtomic
namespace Mux.P9
open Mux

/-- What is known of a piece handed to `getNode`: it is a piece of `splitString`, or what a cut has left of one. -/
structure PieceG (x : Bytes) : Prop where
  shape : Shape x
  ne : x ≠ []

theorem splitString_pieceG {p : Bytes} (hp : p ≠ []) : ∀ x ∈ splitString p, PieceG x := fun x hx =>
  ⟨splitString_shape p x hx, splitString_pieces_nonempty p hp x hx⟩

theorem GShape.next {ic : Interceptors} {used : List Bytes} {n : Node} {v : Bytes} {rest : List Bytes} {seg : Seg}
    {s : GStep} (hs : GShape ic n v rest seg s) (hwf : WfL ic used n.children) (hrest : ∀ x ∈ rest, PieceG x) :
    (∃ used', WfL ic used' s.parent.children) ∧
      ∀ v' rest', s.cont = some (v', rest') → PieceG v' ∧ ∀ x ∈ rest', PieceG x := by
  have hrc : ∀ v' rest', restCont rest = some (v', rest') → PieceG v' ∧ ∀ x ∈ rest', PieceG x := by
    intro v' rest' h
    have := restCont_some h
    subst this
    exact ⟨hrest v' (by simp), fun x hx => hrest x (by simp [hx])⟩
  have hdrop : ∀ {c : Seg} {L : Nat}, SimCut c seg v L → L < v.length → PieceG (v.drop L) := fun hcut hLv =>
    ⟨.of_noStart hcut.tail, fun e => Nat.not_le_of_lt hLv (List.drop_eq_nil_iff.1 e)⟩
  cases hs with
  | ident i c hc hcs =>
    exact ⟨⟨_, ((Node.wf_iff ic used c).1 (WfL_of_getElem? hwf hc)).2.2.2⟩, hrc⟩
  | leaf idx j hdis =>
    exact ⟨⟨[], WfL_nil _ _⟩, hrc⟩
  | desc i c L hc hcut hLeq hLv =>
    refine ⟨⟨_, ((Node.wf_iff ic used c).1 (WfL_of_getElem? hwf hc)).2.2.2⟩, ?_⟩
    rintro _ _ ⟨⟩
    exact ⟨hdrop hcut hLv, hrest⟩
  | split i c L s1 idx j hc hcut hLc hs1v hk1 hn1 hs1ok hs2ok hdis =>
    refine ⟨⟨usedBelow used c.seg, ?_⟩, ?_⟩
    · show WfL ic (usedBelow used c.seg) [lowerOf c L]
      exact ⟨wf_lowerOf (WfL_of_getElem? hwf hc) hcut.cut hs2ok, fun _ h => absurd h List.not_mem_nil, trivial⟩
    · by_cases hvl : v.length ≤ L
      · rw [if_pos hvl]
        exact hrc
      · rw [if_neg hvl]
        rintro _ _ ⟨⟩
        exact ⟨hdrop hcut (Nat.lt_of_not_le hvl), hrest⟩

theorem gnPrep_of_newSegment_error {ic : Interceptors} {n : Node} {v : Bytes} {rest : List Bytes} {e : Err}
    (h : newSegment ic v = .error e) : gnPrep ic n v rest = .error e := by
  unfold gnPrep
  simp [bind, Except.bind, h]

theorem getNode_no_fault (ic : Interceptors) (n : Node) (v : Bytes) (rest : List Bytes) :
    (∃ used, WfL ic used n.children) → PieceG v → (∀ x ∈ rest, PieceG x) →
      ∀ k, getNode ic n v rest ≠ .error (.fault k) := by
  induction n, v, rest using getNode_induction ic with
  | step n v rest ih =>
    rintro ⟨used, hwf⟩ hv hrest k h
    cases hseg : newSegment ic v with
    | error e =>
      rw [getNode_eq, gnPrep_of_newSegment_error hseg] at h
      cases h
      exact newSegment_piece_no_fault ic v hv.shape.good k hseg
    | ok seg =>
      obtain ⟨s, hprep, hshape⟩ := gnPrep_shape rest hwf hseg hv.ne hv.shape
      obtain ⟨hpw, hcont⟩ := hshape.next hwf hrest
      rcases getNode_error_cases h with hp | ⟨s', v', rest', hp, hc, h⟩
      · cases hprep.symm.trans hp
      · cases hprep.symm.trans hp
        obtain ⟨hv', hrest'⟩ := hcont v' rest' hc
        exact ih s v' rest' hprep hc hpw hv' hrest' k h

theorem add_no_fault {t : Tree} (hwf : WellFormedTree t) (p : Bytes) (h : Handler)
    (ms : List Nat) (methods : List Bytes) (k : Nat) : t.add p h ms methods ≠ .error (.fault k) := by
  intro he
  have hSyn : ¬ SynErr (.fault k) := by simp [SynErr]
  have hMeth : ¬ MethErr (.fault k) := by simp [MethErr]
  rcases add_error_cases he with h1 | ⟨_, h1⟩ | h1 | h1 | ⟨segs, hs, _, he⟩
  · exact hSyn (checkAmb_error _ _ _ _ _ h1)
  · cases h1
  · exact hSyn (split_error h1)
  · exact hMeth (checkMethods_error t p _ _ _ h1)
  · rcases addTail_error he with ⟨v, rest, hv, hg⟩ | h2
    · have hpg := splitString_pieceG (split_ok_iff.1 hs).1
      exact getNode_no_fault t.ic t.root v rest ⟨[], hwf⟩ (hpg v (hv ▸ by simp))
        (fun x hx => hpg x (hv ▸ by simp [hx])) k hg
    · exact hMeth h2

/-- On a well-formed tree the error of `Tree.add` is never a fault, for any pattern string. -/
theorem add_error_class_any {t : Tree} (hwf : WellFormedTree t) {p : Bytes} {h : Handler}
    {ms : List Nat} {methods : List Bytes} {e : Err} (he : t.add p h ms methods = .error e) :
    e = .ambiguous ∨ SynErr e ∨ MethErr e := by
  rcases add_error_stage he with ⟨h1, _⟩ | h1 | h1 | ⟨k, rfl⟩
  · exact .inl h1
  · exact .inr (.inl h1)
  · exact .inr (.inr h1)
  · exact absurd he (add_no_fault hwf p h ms methods k)

end Mux.P9
