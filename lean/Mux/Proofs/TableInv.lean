/-
  Mux.Proofs.TableInv — the handler-map invariant `GQ` (`GoodQ` plus "a node with handlers has a hand-registered
  method") through the operations, and the hand-registered keys `addMethodsNode` and `removeMethods` leave.
-/
import Mux.Proofs.TableOps
namespace Mux.P11
open Mux

/-- A key registered by hand. -/
def IsReg (k : Bytes) : Prop := k ≠ mHEAD ∧ k ≠ mOPTIONS ∧ k ≠ mNotAllowed

/-- Empty, or some key was registered by hand: the automatic entries (HEAD, OPTIONS, the 405 entry `""`) never stand
alone. -/
def RegQ (hs : AMap Handler) : Prop := hs = [] ∨ ∃ k ∈ hs.keys, IsReg k

def GQ (ht : Bool) (mi : Nat) (hs : AMap Handler) : Prop := GoodQ ht mi hs ∧ RegQ hs

theorem GQ_empty (ht : Bool) : GQ ht 0 [] := ⟨GoodQ_empty ht, .inl rfl⟩

theorem mem_regKeys {hs : AMap Handler} {k : Bytes} : k ∈ regKeys hs ↔ k ∈ hs.keys ∧ IsReg k := by
  unfold regKeys IsReg
  simp [List.mem_filter]

theorem allGQ_good {ht : Bool} {cs : List Node} (h : AllL (NodeOk (GQ ht)) cs) : AllL (Good ht) cs :=
  (AllL_mono (fun _ hn => ⟨hn.1.1, hn.2⟩)).2 cs h

theorem addMethodsNode_reg {t : Tree} {h : Handler} {pattern : Bytes} {ms : List Nat} {methods : List Bytes}
    {n n' : Node} (he : t.addMethodsNode h pattern ms methods n = .ok n') (m : Bytes) :
    (m ∈ regKeys n'.handlers ↔ m ∈ regKeys n.handlers ∨ m ∈ methods) ∧
      (m ∈ methods → m ∉ regKeys n.handlers) := by
  have ok := (addMethodsNode_map he).1
  refine ⟨?_, fun hm h => ok.fresh m hm (mem_regKeys.1 h).1⟩
  rw [mem_regKeys, mem_regKeys, addMethodsNode_mem_keys he]
  constructor
  · rintro ⟨h1 | (h1 | h1) | h1 | h1, h2⟩
    · exact .inl ⟨h1, h2⟩
    · exact .inr h1
    · exact absurd h1.1 h2.1
    · exact absurd h1 h2.2.1
    · exact absurd h1 h2.2.2
  · rintro (⟨h1, h2⟩ | h1)
    · exact ⟨.inl h1, h2⟩
    · exact ⟨.inr (.inl (.inl h1)), ok.reg m h1⟩

theorem erased_reg {methods : List Bytes} {k : Bytes} (hr : IsReg k) : Erased methods k ↔ k ∈ methods := by
  simp [Erased, hr.1, hr.2.1, hr.2.2]

/-- On a map of the shape `KeyShape`, `Remove` empties the node when every hand-registered method is listed: the keys
left are OPTIONS and the 405 key (not HEAD, since GET is listed), which is what the test `len = 2 ∧ has OPTIONS ∧ has ""`
of the code asks for. -/
theorem removeMethods_nil_of_shape {ht : Bool} (methods : List Bytes) {n : Node} (hs : KeyShape ht n.handlers)
    (hall : ∀ k ∈ regKeys n.handlers, k ∈ methods) : (removeMethods ht methods n).handlers = [] := by
  obtain ⟨c1, c2, c3, _, _, _, _, c8, _⟩ := method_consts_ne
  rw [removeMethods_handlers, foldl_rmStep_eq]
  split
  · rfl
  refine if_pos ?_
  have keys := mem_keys_notErased methods n.handlers
  have hO := (keys _).2 ⟨hs.options, (not_erased_auto methods).1⟩
  have hN := (keys _).2 ⟨hs.notAllowed, (not_erased_auto methods).2⟩
  refine ⟨?_, (AMap.contains_iff _ _).2 hO, (AMap.contains_iff _ _).2 hN⟩
  have hsub : ∀ k ∈ AMap.keys (n.handlers.filter fun e => !decide (Erased methods e.1)), k ∈ [mOPTIONS, mNotAllowed] := by
    intro k hk
    obtain ⟨hk, hne⟩ := (keys k).1 hk
    have hnr : ¬ IsReg k := fun hr => hne ((erased_reg hr).2 (hall k (mem_regKeys.2 ⟨hk, hr⟩)))
    by_cases hh : k = mHEAD
    · subst hh; exact absurd (.inr ⟨rfl, hall _ (mem_regKeys.2 ⟨hs.head_iff.1 hk, c1, c2, c3⟩)⟩) hne
    · by_cases ho : k = mOPTIONS
      · simp [ho]
      · exact List.mem_cons_of_mem _ (List.mem_singleton.2 (Classical.byContradiction fun hn => hnr ⟨hh, ho, hn⟩))
  have hle := (hs.nodup.sublist (List.filter_sublist.map _)).length_le_of_subset hsub
  have hge := (show [mOPTIONS, mNotAllowed].Nodup by simp [c8]).length_le_of_subset
    (fun k hk => by rcases List.mem_cons.1 hk with rfl | hk; exact hO; rw [List.mem_singleton.1 hk]; exact hN)
  simp only [AMap.keys, List.length_map, List.length_cons, List.length_nil] at hle hge
  omega

theorem removeMethods_reg (ht : Bool) (methods : List Bytes) (x : Node) (m : Bytes) :
    m ∈ regKeys (removeMethods ht methods x).handlers ↔
      m ∈ regKeys x.handlers ∧ ¬ (methods = [] ∨ m ∈ methods) := by
  rcases removeMethods_eq ht methods x with ⟨h0, hwhy⟩ | ⟨hne, h0⟩
  · -- emptied: no method was listed, or no hand-registered key is left
    rw [h0]
    refine ⟨(fun h => nomatch h), fun ⟨hm, hno⟩ => (hno (hwhy.imp id fun hw => ?_)).elim⟩
    obtain ⟨hk, hr⟩ := mem_regKeys.1 hm
    obtain ⟨e, he, rfl⟩ := List.mem_map.1 hk
    exact Classical.byContradiction fun hnm => (hw e he (mt (erased_reg hr).1 hnm)).elim hr.2.1 hr.2.2
  · rw [mem_regKeys, mem_regKeys, h0, mem_keys_notErased]
    simp only [hne, false_or]
    exact ⟨fun ⟨⟨h1, h2⟩, h3⟩ => ⟨⟨h1, h3⟩, fun h => h2 ((erased_reg h3).2 h)⟩,
      fun ⟨⟨h1, h3⟩, h2⟩ => ⟨⟨h1, fun h => h2 ((erased_reg h3).1 h)⟩, h3⟩⟩

theorem GQ_add {t : Tree} {h : Handler} {pattern : Bytes} {ms : List Nat} {methods : List Bytes}
    (hne : methods ≠ []) {n n' : Node} (hq : GQ t.hasTrace n.methodIndex n.handlers)
    (he : t.addMethodsNode h pattern ms methods n = .ok n') : GQ t.hasTrace n'.methodIndex n'.handlers := by
  refine ⟨GoodQ_add hq.1 he, .inr ?_⟩
  cases methods with
  | nil => exact absurd rfl hne
  | cons m rest =>
    exact ⟨m, (addMethodsNode_mem_keys he m).2 (.inr (.inl (.inl (by simp)))), (addMethodsNode_map he).1.reg m (by simp)⟩

theorem GQ_remove {ht : Bool} {methods : List Bytes} {n : Node} (hq : GQ ht n.methodIndex n.handlers) :
    GQ ht (removeMethods ht methods n).methodIndex (removeMethods ht methods n).handlers := by
  refine ⟨GoodQ_remove hq.1, ?_⟩
  rcases hq.1.2 with h0 | hs
  · left
    exact List.eq_nil_of_sublist_nil (h0 ▸ removeMethods_sublist ht methods n)
  by_cases hall : ∀ k ∈ regKeys n.handlers, k ∈ methods
  · exact .inl (removeMethods_nil_of_shape methods hs hall)
  by_cases hm : methods = []
  · exact .inl (by rw [removeMethods_handlers, hm]; rfl)
  -- a hand-registered key that is not listed is left
  obtain ⟨k, hk⟩ := Classical.not_forall.1 hall
  obtain ⟨hk, hnm⟩ := Classical.not_imp.1 hk
  obtain ⟨hk', hr⟩ := mem_regKeys.1 ((removeMethods_reg ht methods n k).2 ⟨hk, fun h => h.elim hm hnm⟩)
  exact .inr ⟨k, hk', hr⟩

theorem GQ_applyMw (ht : Bool) (router : Bytes) (ms : List Nat) (mi : Nat) (hs : AMap Handler) (p : Bytes)
    (h : GQ ht mi hs) : GQ ht mi (hs.map (fun e => (e.1, wrapWith e.2 e.1 p router ms))) := by
  refine ⟨GoodQ_applyMw ht router ms mi hs p h.1, ?_⟩
  have hk := AMap.keys_mapVals hs (fun k v => wrapWith v k p router ms)
  rcases h.2 with h0 | h0
  · subst h0; exact .inl rfl
  · right; rw [hk]; exact h0

theorem GQ_keeps (t : Tree) (op : TOp) : op.Keeps t (GQ t.hasTrace) := by
  cases op with
  | add p h ms methods => exact fun _ _ hq he => GQ_add (effMethods_ne_nil methods) hq he
  | remove p methods => exact fun _ hq => GQ_remove hq
  | clean pre => trivial
  | use ms => exact GQ_applyMw t.hasTrace t.name ms

end Mux.P11
