/-
  `getNode` as one non-recursive restructuring step (`gnPrep`) followed by the recursive call on the selected child:
  the ways the step can succeed (`GnCase`), the induction principle that goes with the decomposition, and the rule by
  which an invariant of single nodes goes through `getNode` (`GnLocal`, `getNode_local`).
-/
import Mux.Proofs.TreeBasic
import Mux.Proofs.CutPoint
namespace Mux.P9
open Mux

/-- What one level of `getNode` produces: the restructured node `n1`, the position `j` of the child
the search continues in, that child (`parent` in the Go code), and the remaining work. -/
structure GStep where
  n1 : Node
  j : Nat
  parent : Node
  cont : Option (Bytes × List Bytes)

/-- "the remaining segments", as a continuation. -/
def restCont : List Bytes → Option (Bytes × List Bytes)
  | [] => none
  | v' :: rest' => some (v', rest')

/-- `splitNode(child, l)` inside `addSegment`.  `sort` is `node.sort`: always `sortNode`, except where a history is
run by the kernel (`P10.getNodeF`), which unfolds the well-founded `mergeSort` inside `sortNode` on lists of at most one
node only. -/
def gnSplit (ic : Interceptors) (n c : Node) (i l : Nat) (sort : Node → Except Err Node := sortNode) :
    Except Err (Node × Nat × Node) :=
  if c.seg.value.length ≤ l then pure (n, i, c)
  else do
    let cs0 := removeNodes n.children c.seg.value
    let (s1, s2) ← c.seg.splitAt ic l
    let lower := c.setSeg s2
    let ret : Node := .mk s1 (n.pattern ++ s1.value) 0 [] [] [lower]
    let ret ← sort ret
    let n1 ← sort (n.setChildren (cs0 ++ [ret]) n.indexes)
    match childPos n1.children s1.value with
    | none => throw (.fault 233)
    | some j => pure (n1, j, ret)

/-- One level of `getNode` without the recursive call. -/
def gnPrep (ic : Interceptors) (n : Node) (v : Bytes) (rest : List Bytes)
    (sort : Node → Except Err Node := sortNode) : Except Err GStep := do
  let seg ← newSegment ic v
  match scanChildren seg n.children 0 0 0 with
  | .identical i =>
    match n.children[i]? with
    | none => throw (.fault 230)
    | some c => pure ⟨n, i, c, restCont rest⟩
  | .best l i =>
    if l ≤ 0 then
      let nn := newLeaf n.pattern seg
      let n1 ← sort (n.setChildren (n.children ++ [nn]) n.indexes)
      match childPos n1.children v with
      | none => throw (.fault 231)
      | some j => pure ⟨n1, j, nn, restCont rest⟩
    else
      let l := l.toNat
      match n.children[i]? with
      | none => throw (.fault 232)
      | some c => do
        let (n1, j, parent) ← gnSplit ic n c i l sort
        pure ⟨n1, j, parent, if v.length ≤ l then restCont rest else some (v.drop l, rest)⟩

def gnFinish (s : GStep) (rec : Node → Bytes → List Bytes → Except Err (Node × List Nat)) :
    Except Err (Node × List Nat) :=
  match s.cont with
  | none => pure (s.n1, [s.j])
  | some (v', rest') => do
    let (p', path) ← rec s.parent v' rest'
    pure (s.n1.setChildren (s.n1.children.set s.j p') s.n1.indexes, s.j :: path)

theorem getNode_eq (ic : Interceptors) (n : Node) (v : Bytes) (rest : List Bytes) :
    getNode ic n v rest =
      match gnPrep ic n v rest with
      | .error e => .error e
      | .ok s => gnFinish s (getNode ic) := by
  rw [getNode]
  unfold gnPrep
  dsimp only [bind, Except.bind, pure, Except.pure, throw, throwThe, MonadExceptOf.throw]
  cases newSegment ic v with
  | error e => rfl
  | ok seg =>
    dsimp only
    cases scanChildren seg n.children 0 0 0 with
    | identical i =>
      dsimp only
      cases n.children[i]? with
      | none => rfl
      | some c =>
        dsimp only
        cases rest <;> rfl
    | best l i =>
      dsimp only
      by_cases hl : l ≤ 0
      · rw [if_pos hl, if_pos hl]
        cases sortNode (n.setChildren (n.children ++ [newLeaf n.pattern seg]) n.indexes) with
        | error e => rfl
        | ok n1 =>
          dsimp only
          cases childPos n1.children v with
          | none => rfl
          | some j =>
            dsimp only
            cases rest <;> rfl
      · rw [if_neg hl, if_neg hl]
        cases n.children[i]? with
        | none => rfl
        | some c =>
          dsimp only
          unfold gnSplit
          dsimp only [bind, Except.bind, pure, Except.pure, throw, throwThe, MonadExceptOf.throw]
          by_cases hc : c.seg.value.length ≤ l.toNat
          · rw [if_pos hc, if_pos hc]
            by_cases hv : v.length ≤ l.toNat
            · rw [if_pos hv, if_pos hv]
              cases rest <;> rfl
            · rw [if_neg hv, if_neg hv]
              rfl
          · rw [if_neg hc, if_neg hc]
            cases c.seg.splitAt ic l.toNat with
            | error e => rfl
            | ok ss =>
              obtain ⟨s1, s2⟩ := ss
              dsimp only
              cases sortNode (Node.mk s1 (n.pattern ++ s1.value) 0 [] [] [c.setSeg s2]) with
              | error e => rfl
              | ok ret =>
                dsimp only
                cases sortNode (n.setChildren (removeNodes n.children c.seg.value ++ [ret]) n.indexes) with
                | error e => rfl
                | ok n1 =>
                  dsimp only
                  cases childPos n1.children s1.value with
                  | none => rfl
                  | some j =>
                    dsimp only
                    by_cases hv : v.length ≤ l.toNat
                    · rw [if_pos hv, if_pos hv]
                      cases rest <;> rfl
                    · rw [if_neg hv, if_neg hv]
                      rfl

theorem getNode_ok_iff {ic : Interceptors} {n : Node} {v : Bytes} {rest : List Bytes} {r : Node × List Nat} :
    getNode ic n v rest = .ok r ↔ ∃ s, gnPrep ic n v rest = .ok s ∧
      ((s.cont = none ∧ r = (s.n1, [s.j])) ∨
       ∃ v' rest' p' path, s.cont = some (v', rest') ∧ getNode ic s.parent v' rest' = .ok (p', path) ∧
         r = (s.n1.setChildren (s.n1.children.set s.j p') s.n1.indexes, s.j :: path)) := by
  rw [getNode_eq]
  constructor
  · intro h
    cases hs : gnPrep ic n v rest with
    | error e => rw [hs] at h; cases h
    | ok s =>
      rw [hs] at h
      dsimp only [gnFinish] at h
      refine ⟨s, rfl, ?_⟩
      cases hc : s.cont with
      | none =>
        rw [hc] at h
        exact .inl ⟨rfl, (pure_ok_iff.1 h).symm⟩
      | some vr =>
        rw [hc] at h
        obtain ⟨q, hq, h⟩ := bind_ok_iff.1 h
        exact .inr ⟨vr.1, vr.2, q.1, q.2, rfl, hq, (pure_ok_iff.1 h).symm⟩
  · rintro ⟨s, hs, ⟨hc, rfl⟩ | ⟨v', rest', p', path, hc, hq, rfl⟩⟩
    · simp only [hs, gnFinish, hc, pure, Except.pure]
    · simp only [hs, gnFinish, hc, hq, bind, Except.bind, pure, Except.pure]

theorem getNode_error_cases {ic : Interceptors} {n : Node} {v : Bytes} {rest : List Bytes} {e : Err}
    (h : getNode ic n v rest = .error e) : gnPrep ic n v rest = .error e ∨
      ∃ s v' rest', gnPrep ic n v rest = .ok s ∧ s.cont = some (v', rest') ∧
        getNode ic s.parent v' rest' = .error e := by
  rw [getNode_eq] at h
  cases hp : gnPrep ic n v rest with
  | error e' => rw [hp] at h; cases h; exact .inl rfl
  | ok s =>
    rw [hp] at h
    dsimp only [gnFinish] at h
    cases hc : s.cont with
    | none => rw [hc] at h; cases h
    | some vr =>
      rw [hc] at h
      rcases bind_eq_error h with h | ⟨_, _, h⟩
      · exact .inr ⟨s, vr.1, vr.2, rfl, hc, h⟩
      · cases h

theorem gnSplit_ok_iff {ic : Interceptors} {n c : Node} {i l : Nat} {r : Node × Nat × Node} :
    gnSplit ic n c i l = .ok r ↔
      (c.seg.value.length ≤ l ∧ r = (n, i, c)) ∨
      (¬ c.seg.value.length ≤ l ∧ ∃ s1 s2 ret n1 j, c.seg.splitAt ic l = .ok (s1, s2) ∧
        sortNode (.mk s1 (n.pattern ++ s1.value) 0 [] [] [c.setSeg s2]) = .ok ret ∧
        sortNode (n.setChildren (removeNodes n.children c.seg.value ++ [ret]) n.indexes) = .ok n1 ∧
        childPos n1.children s1.value = some j ∧ r = (n1, j, ret)) := by
  unfold gnSplit
  constructor
  · intro h
    split at h
    next hc => exact .inl ⟨hc, (pure_ok_iff.1 h).symm⟩
    next hc =>
      obtain ⟨⟨s1, s2⟩, hss, h⟩ := bind_ok_iff.1 h
      obtain ⟨ret, hret, h⟩ := bind_ok_iff.1 h
      obtain ⟨n1, hn1, h⟩ := bind_ok_iff.1 h
      split at h
      · cases h
      next j hj => exact .inr ⟨hc, s1, s2, ret, n1, j, hss, hret, hn1, hj, (pure_ok_iff.1 h).symm⟩
  · rintro (⟨hc, rfl⟩ | ⟨hc, s1, s2, ret, n1, j, hss, hret, hn1, hj, rfl⟩)
    · simp only [hc, if_true, pure, Except.pure]
    · simp only [hc, if_false, bind, Except.bind, pure, Except.pure, hss, hret, hn1, hj]

/-- The four ways one level of `getNode` succeeds for the parsed segment `seg`: an identical child exists; nothing
is similar and a new leaf is sorted in; the most similar child shares `l` bytes with `v`, which are all of its own
text (descend), or only part of it (the child is split there and the upper half `ret` takes its place). -/
inductive GnCase (ic : Interceptors) (n : Node) (v : Bytes) (rest : List Bytes) (seg : Seg) : GStep → Prop
  | identical {i : Nat} {c : Node} : scanChildren seg n.children 0 0 0 = .identical i → n.children[i]? = some c →
      GnCase ic n v rest seg ⟨n, i, c, restCont rest⟩
  | leaf {l : Int} {i j : Nat} {n1 : Node} : scanChildren seg n.children 0 0 0 = .best l i → l ≤ 0 →
      sortNode (n.setChildren (n.children ++ [newLeaf n.pattern seg]) n.indexes) = .ok n1 →
      childPos n1.children v = some j → GnCase ic n v rest seg ⟨n1, j, newLeaf n.pattern seg, restCont rest⟩
  | descend {l : Int} {i : Nat} {c : Node} : scanChildren seg n.children 0 0 0 = .best l i → 0 < l →
      n.children[i]? = some c → c.seg.value.length ≤ l.toNat →
      GnCase ic n v rest seg ⟨n, i, c, if v.length ≤ l.toNat then restCont rest else some (v.drop l.toNat, rest)⟩
  | split {l : Int} {i j : Nat} {c ret n1 : Node} {s1 s2 : Seg} : scanChildren seg n.children 0 0 0 = .best l i →
      0 < l → n.children[i]? = some c → ¬ c.seg.value.length ≤ l.toNat → c.seg.splitAt ic l.toNat = .ok (s1, s2) →
      sortNode (.mk s1 (n.pattern ++ s1.value) 0 [] [] [c.setSeg s2]) = .ok ret →
      sortNode (n.setChildren (removeNodes n.children c.seg.value ++ [ret]) n.indexes) = .ok n1 →
      childPos n1.children s1.value = some j →
      GnCase ic n v rest seg ⟨n1, j, ret, if v.length ≤ l.toNat then restCont rest else some (v.drop l.toNat, rest)⟩

theorem gnPrep_ok_iff {ic : Interceptors} {n : Node} {v : Bytes} {rest : List Bytes} {s : GStep} :
    gnPrep ic n v rest = .ok s ↔ ∃ seg, newSegment ic v = .ok seg ∧ GnCase ic n v rest seg s := by
  constructor
  · intro h
    unfold gnPrep at h
    obtain ⟨seg, hseg, h⟩ := bind_ok_iff.1 h
    refine ⟨seg, hseg, ?_⟩
    split at h
    next i hsc =>
      split at h
      · cases h
      next c hc =>
        cases pure_ok_iff.1 h
        exact .identical hsc hc
    next l i hsc =>
      split at h
      next hl =>
        obtain ⟨n1, hn1, h⟩ := bind_ok_iff.1 h
        split at h
        · cases h
        next j hj =>
          cases pure_ok_iff.1 h
          exact .leaf hsc hl hn1 hj
      next hl =>
        split at h
        · cases h
        next c hc =>
          obtain ⟨r, hr, h⟩ := bind_ok_iff.1 h
          cases pure_ok_iff.1 h
          rcases gnSplit_ok_iff.1 hr with ⟨hlen, hr⟩ | ⟨hlen, s1, s2, ret, n1, j, hss, hret, hn1, hj, hr⟩
          · rw [hr]; exact .descend hsc (Int.not_le.1 hl) hc hlen
          · rw [hr]; exact .split hsc (Int.not_le.1 hl) hc hlen hss hret hn1 hj
  · rintro ⟨seg, hseg, hcase⟩
    unfold gnPrep
    simp only [bind, Except.bind, pure, Except.pure, hseg]
    cases hcase with
    | identical h1 h2 => simp only [h1, h2]
    | leaf h1 h2 h3 h4 => simp only [h1, h2, h3, h4, if_true]
    | descend h1 h2 h3 h4 => simp only [h1, Int.not_le.2 h2, h3, gnSplit_ok_iff.2 (.inl ⟨h4, rfl⟩), if_false]
    | split h1 h2 h3 h4 h5 h6 h7 h8 =>
      simp only [h1, Int.not_le.2 h2, h3, gnSplit_ok_iff.2 (.inr ⟨h4, _, _, _, _, _, h5, h6, h7, h8, rfl⟩), if_false]

theorem gnPrep_case {ic : Interceptors} {n : Node} {v : Bytes} {rest : List Bytes} {seg : Seg} {s : GStep}
    (hseg : newSegment ic v = .ok seg) (h : gnPrep ic n v rest = .ok s) : GnCase ic n v rest seg s := by
  obtain ⟨seg', hseg', hcase⟩ := gnPrep_ok_iff.1 h
  cases hseg.symm.trans hseg'
  exact hcase

theorem restCont_some {rest : List Bytes} {v' : Bytes} {rest' : List Bytes}
    (h : restCont rest = some (v', rest')) : rest = v' :: rest' := by
  cases rest with
  | nil => cases h
  | cons a b => simp only [restCont, Option.some.injEq, Prod.mk.injEq] at h; rw [h.1, h.2]

/-- The texts of one step, in two cases: the selected node carries the piece `v` and the next piece follows; or it
carries the `L` bytes that `v` shares with a child `c` of the same kind (all of that child's text, or the upper half
of the split child), and what is left of `v` goes below it. -/
theorem gnPrep_cut {ic : Interceptors} {n : Node} {v : Bytes} {rest : List Bytes} {seg : Seg} {s : GStep}
    (hseg : newSegment ic v = .ok seg) (h : gnPrep ic n v rest = .ok s) :
    (s.parent.seg.value = v ∧ s.cont = restCont rest) ∨
    ∃ c ∈ n.children, ∃ L : Nat, 0 < L ∧ c.seg.kind = seg.kind ∧ longestPrefix c.seg.value v = (L : Int) ∧
      s.parent.seg.value = c.seg.value.take L ∧
      s.cont = if v.length ≤ L then restCont rest else some (v.drop L, rest) := by
  have hsv : seg.value = v := newSegment_value _ _ _ hseg
  cases gnPrep_case hseg h with
  | identical hsc hc => exact .inl ⟨hsv ▸ (scan_identical hsc hc).symm, rfl⟩
  | leaf => exact .inl ⟨hsv, rfl⟩
  | descend hsc hl hc hlen =>
    obtain ⟨hL, hk, hlp⟩ := similar_lp hsc hl hc
    exact .inr ⟨_, List.mem_of_getElem? hc, _, hL, hk, hsv ▸ hlp, (List.take_of_length_le hlen).symm, rfl⟩
  | split hsc hl hc _ hss hret =>
    obtain ⟨hL, hk, hlp⟩ := similar_lp hsc hl hc
    obtain ⟨_, hs1, _⟩ := splitAt_inv hss
    obtain ⟨_, _, rfl⟩ := sortNode_ok hret
    exact .inr ⟨_, List.mem_of_getElem? hc, _, hL, hk, hsv ▸ hlp, newSegment_value _ _ _ hs1, rfl⟩

theorem gnPrep_cont {ic : Interceptors} {n : Node} {v : Bytes} {rest : List Bytes} {s : GStep}
    (h : gnPrep ic n v rest = .ok s) :
    s.cont = restCont rest ∨
      ∃ l : Nat, 0 < l ∧ l < v.length ∧ s.cont = some (v.drop l, rest) := by
  obtain ⟨seg, hseg, _⟩ := gnPrep_ok_iff.1 h
  rcases gnPrep_cut hseg h with ⟨_, hc⟩ | ⟨_, _, L, hL, _, _, _, hc⟩
  · exact .inl hc
  · by_cases hv : v.length ≤ L
    · exact .inl (hc.trans (if_pos hv))
    · exact .inr ⟨L, hL, Nat.lt_of_not_le hv, hc.trans (if_neg hv)⟩

def gnMeasure (v : Bytes) (rest : List Bytes) : Nat := v.length + rest.flatten.length + rest.length

theorem gnPrep_cont_lt {ic : Interceptors} {n : Node} {v : Bytes} {rest : List Bytes} {s : GStep}
    {v' : Bytes} {rest' : List Bytes}
    (h : gnPrep ic n v rest = .ok s) (hc : s.cont = some (v', rest')) : gnMeasure v' rest' < gnMeasure v rest := by
  rcases gnPrep_cont h with h1 | ⟨l, h0, hl, h1⟩
  · rw [restCont_some (h1.symm.trans hc)]
    simp only [gnMeasure, List.flatten_cons, List.length_append, List.length_cons]; omega
  · cases hc.symm.trans h1
    simp only [gnMeasure, List.length_drop]; omega

theorem getNode_induction (ic : Interceptors) {motive : Node → Bytes → List Bytes → Prop}
    (step : ∀ n v rest,
      (∀ s v' rest', gnPrep ic n v rest = .ok s → s.cont = some (v', rest') → motive s.parent v' rest') →
      motive n v rest) (n : Node) (v : Bytes) (rest : List Bytes) : motive n v rest :=
  step n v rest (fun s v' rest' _h _hc => getNode_induction ic step s.parent v' rest')
termination_by gnMeasure v rest
decreasing_by
  exact gnPrep_cont_lt _h _hc

theorem sortNode_own {n n1 : Node} (h : sortNode n = .ok n1) : n1.own = n.own := by
  obtain ⟨_, _, rfl⟩ := sortNode_ok h; rfl

theorem sortNode_children {n n1 : Node} (h : sortNode n = .ok n1) : n1.children = sortChildren n.children := by
  obtain ⟨_, _, rfl⟩ := sortNode_ok h; rfl

theorem mem_of_sortNode {n n1 : Node} (h : sortNode n = .ok n1) {d : Node} : d ∈ n1.children ↔ d ∈ n.children := by
  rw [sortNode_children h]
  exact (sortChildren_perm _).mem_iff

theorem sortNode_append_perm {n n1 x : Node} {cs : List Node} {idx : List (UInt8 × Nat)}
    (h : sortNode (n.setChildren (cs ++ [x]) idx) = .ok n1) : n1.children.Perm (x :: cs) := by
  rw [sortNode_children h]
  exact (sortChildren_perm _).trans List.perm_append_comm

/-- What `gnSplit` builds when it splits the child `c` at `l`: the two segments are the two parts of `c`'s text, each
parsed under the table; the upper half `ret` is a new node whose only child is the lower half; in the restructured node
it stands with the children whose text is not `c`'s. -/
theorem split_built {ic : Interceptors} {n c ret n1 : Node} {l : Nat} {s1 s2 : Seg}
    (hss : c.seg.splitAt ic l = .ok (s1, s2))
    (hret : sortNode (.mk s1 (n.pattern ++ s1.value) 0 [] [] [c.setSeg s2]) = .ok ret)
    (hn1 : sortNode (n.setChildren (removeNodes n.children c.seg.value ++ [ret]) n.indexes) = .ok n1) :
    s1.value = c.seg.value.take l ∧ s2.value = c.seg.value.drop l ∧
      newSegment ic s1.value = .ok s1 ∧ newSegment ic s2.value = .ok s2 ∧
      ret = .mk s1 (n.pattern ++ s1.value) 0 [] [] [c.setSeg s2] ∧
      n1.children.Perm (ret :: removeNodes n.children c.seg.value) := by
  obtain ⟨_, hs1, hs2⟩ := splitAt_inv hss
  have hv1 := newSegment_value _ _ _ hs1
  have hv2 := newSegment_value _ _ _ hs2
  rw [sortNode_single] at hret
  exact ⟨hv1, hv2, hv1 ▸ hs1, hv2 ▸ hs2, (Except.ok.inj hret).symm, sortNode_append_perm hn1⟩

theorem gnPrep_top {ic : Interceptors} {n : Node} {v : Bytes} {rest : List Bytes} {s : GStep}
    (h : gnPrep ic n v rest = .ok s) : s.n1.own = n.own ∧ s.n1.children[s.j]? = some s.parent := by
  obtain ⟨seg, hseg, hcase⟩ := gnPrep_ok_iff.1 h
  cases hcase with
  | identical _ hc => exact ⟨rfl, hc⟩
  | leaf _ _ hn1 hj =>
    have hv : (newLeaf n.pattern seg).seg.value = v := newSegment_value _ _ _ hseg
    exact ⟨(sortNode_own hn1).trans rfl, sortNode_append_pos hn1 (hv ▸ hj)⟩
  | descend _ _ hc => exact ⟨rfl, hc⟩
  | split _ _ _ _ _ hret hn1 hj =>
    obtain ⟨_, _, rfl⟩ := sortNode_ok hret
    exact ⟨(sortNode_own hn1).trans rfl, sortNode_append_pos hn1 hj⟩

theorem getNode_top (ic : Interceptors) (n : Node) (v : Bytes) (rest : List Bytes) :
    ∀ r, getNode ic n v rest = .ok r → r.1.own = n.own ∧ r.2 ≠ [] ∧ (r.1.getAt r.2).isSome = true := by
  induction n, v, rest using getNode_induction ic with
  | step n v rest ih =>
    intro r h
    obtain ⟨s, hs, hr⟩ := getNode_ok_iff.1 h
    obtain ⟨ho, hj⟩ := gnPrep_top hs
    rcases hr with ⟨_, rfl⟩ | ⟨v', rest', p', path, hc, hrec, rfl⟩
    · exact ⟨ho, by simp, by simp [Node.getAt_cons, hj]⟩
    · obtain ⟨_, _, hg⟩ := ih s v' rest' hs hc _ hrec
      have hlt := (List.getElem?_eq_some_iff.1 hj).1
      exact ⟨ho, by simp, by simp [Node.getAt_cons, hlt, hg]⟩

section
variable {ic : Interceptors} {n : Node} {v : Bytes} {rest : List Bytes} {r : Node × List Nat}
  (h : getNode ic n v rest = .ok r)
include h

theorem getNode_seg : r.1.seg = n.seg := (Node.own_eq_iff.1 (getNode_top ic n v rest r h).1).1

theorem getNode_pattern : r.1.pattern = n.pattern := (Node.own_eq_iff.1 (getNode_top ic n v rest r h).1).2.1

theorem getNode_handlers : r.1.handlers = n.handlers := (Node.own_eq_iff.1 (getNode_top ic n v rest r h).1).2.2.2

end

/-- A predicate of a node's own method index, handlers and pattern, which `getNode` never changes. -/
def OwnQ (Q : Nat → AMap Handler → Bytes → Prop) (m : Node) : Prop := Q m.methodIndex m.handlers m.pattern

theorem OwnQ.of_own {Q : Nat → AMap Handler → Bytes → Prop} {a b : Node} (h : a.own = b.own) (hb : OwnQ Q b) :
    OwnQ Q a := by
  obtain ⟨_, hp, hm, hh⟩ := Node.own_eq_iff.1 h
  unfold OwnQ
  rw [hp, hm, hh]; exact hb

/-- What a node predicate `K` owes for `Node.All K` to go through `getNode`: one fact for each node a step makes or
changes.  `T v rest` is what the predicate needs to know of the texts still to be placed, `C d` of the child `d` the
search goes on in. -/
structure GnLocal (ic : Interceptors) (K : Node → Prop) (T : Bytes → List Bytes → Prop) (C : Node → Prop) : Prop where
  /-- the child the search went into comes back with other children below it -/
  set : ∀ {n d d' : Node} {j : Nat}, K n → n.children[j]? = some d → C d → d'.own = d.own →
    K (n.setChildren (n.children.set j d') n.indexes)
  /-- the lower half of a split node -/
  setSeg : ∀ {c : Node} (s : Seg), K c → K (c.setSeg s)
  /-- the new leaf -/
  empty : ∀ (s : Seg) (p : Bytes), K (.mk s p 0 [] [] [])
  /-- the node after a leaf was sorted in -/
  leaf : ∀ {n n1 : Node} {v : Bytes} {rest : List Bytes} {seg : Seg} {l : Int} {i : Nat}, Node.All K n → T v rest →
    newSegment ic v = .ok seg → scanChildren seg n.children 0 0 0 = .best l i → l ≤ 0 →
    sortNode (n.setChildren (n.children ++ [newLeaf n.pattern seg]) n.indexes) = .ok n1 → K n1
  /-- the upper half of a split child, and the node after it was sorted in -/
  split : ∀ {n c ret n1 : Node} {v : Bytes} {rest : List Bytes} {seg s1 s2 : Seg} {l : Int} {i : Nat}, Node.All K n →
    T v rest → newSegment ic v = .ok seg → scanChildren seg n.children 0 0 0 = .best l i → 0 < l →
    n.children[i]? = some c → ¬ c.seg.value.length ≤ l.toNat → c.seg.splitAt ic l.toNat = .ok (s1, s2) →
    sortNode (.mk s1 (n.pattern ++ s1.value) 0 [] [] [c.setSeg s2]) = .ok ret →
    sortNode (n.setChildren (removeNodes n.children c.seg.value ++ [ret]) n.indexes) = .ok n1 → K ret ∧ K n1
  cont : ∀ {n : Node} {v v' : Bytes} {rest rest' : List Bytes} {s : GStep}, Node.All K n → T v rest →
    gnPrep ic n v rest = .ok s → s.cont = some (v', rest') → T v' rest' ∧ C s.parent

section
variable {ic : Interceptors} {K : Node → Prop} {T : Bytes → List Bytes → Prop} {C : Node → Prop}
  {Q : Nat → AMap Handler → Bytes → Prop}

/-- Which nodes are new is settled here: the leaf; the upper half of a split child, with the lower half as its only
child. -/
theorem gnPrep_local (G : GnLocal ic K T C) (hQ0 : ∀ p, Q 0 [] p) {n : Node} {v : Bytes} {rest : List Bytes} {s : GStep}
    (hn : Node.All K n) (hq : AllL (OwnQ Q) n.children) (ht : T v rest) (h : gnPrep ic n v rest = .ok s) :
    Node.All K s.n1 ∧ AllL (OwnQ Q) s.n1.children := by
  obtain ⟨seg, hseg, hcase⟩ := gnPrep_ok_iff.1 h
  cases hcase with
  | identical => exact ⟨hn, hq⟩
  | descend => exact ⟨hn, hq⟩
  | leaf hsc hl hn1 _ =>
    have hperm := sortNode_append_perm hn1
    exact ⟨(Node.All_iff _ _).2 ⟨G.leaf hn ht hseg hsc hl hn1, (AllL_perm hperm).2 ⟨⟨G.empty _ _, trivial⟩, hn.tail⟩⟩,
      (AllL_perm hperm).2 ⟨⟨hQ0 _, trivial⟩, hq⟩⟩
  | @split l i j c ret n1 s1 s2 hsc hl hc hlen hss hret hn1 _ =>
    obtain ⟨hkr, hk1⟩ := G.split hn ht hseg hsc hl hc hlen hss hret hn1
    have hcK := AllL_getElem? hn.tail hc
    have hcQ := AllL_getElem? hq hc
    obtain ⟨_, _, _, _, rfl, hperm⟩ := split_built hss hret hn1
    -- the lower half keeps the child's own data and children
    have hlowK : Node.All K (c.setSeg s2) := (Node.All_iff _ _).2 ⟨G.setSeg s2 hcK.head, hcK.tail⟩
    have hlowQ : Node.All (OwnQ Q) (c.setSeg s2) := (Node.All_iff _ _).2 ⟨hcQ.head, hcQ.tail⟩
    exact ⟨(Node.All_iff _ _).2 ⟨hk1, (AllL_perm hperm).2 ⟨⟨hkr, hlowK, trivial⟩, AllL_removeNodes _ hn.tail⟩⟩,
      (AllL_perm hperm).2 ⟨⟨hQ0 _, hlowQ, trivial⟩, AllL_removeNodes _ hq⟩⟩

/-- **`getNode` keeps `Node.All K`** for every `K` with `GnLocal`, and any `Q` that holds of `(0, [], _)` on the nodes
below the one it is called on; that node's own `Q` is not asked for (the root of a tree is special for some `Q`). -/
theorem getNode_local (G : GnLocal ic K T C) (hQ0 : ∀ p, Q 0 [] p) (n : Node) (v : Bytes) (rest : List Bytes) :
    ∀ r, Node.All K n → AllL (OwnQ Q) n.children → T v rest → getNode ic n v rest = .ok r →
      Node.All K r.1 ∧ AllL (OwnQ Q) r.1.children := by
  induction n, v, rest using getNode_induction ic with
  | step n v rest ih =>
    intro r hn hq ht h
    obtain ⟨s, hs, hr⟩ := getNode_ok_iff.1 h
    have base := gnPrep_local G hQ0 hn hq ht hs
    rcases hr with ⟨_, rfl⟩ | ⟨v', rest', p', path, hc, hrec, rfl⟩
    · exact base
    · have hpos := (gnPrep_top hs).2
      have hpQ := AllL_getElem? base.2 hpos
      have ht' := G.cont hn ht hs hc
      obtain ⟨hK', hQ'⟩ := ih s v' rest' hs hc _ (AllL_getElem? base.1.tail hpos) hpQ.tail ht'.1 hrec
      have ho := (getNode_top ic _ _ _ _ hrec).1
      exact ⟨(Node.All_iff _ _).2 ⟨G.set base.1.head hpos ht'.2 ho, AllL_set base.1.tail hK'⟩,
        AllL_set base.2 ((Node.All_iff _ _).2 ⟨.of_own ho hpQ.head, hQ'⟩)⟩

theorem gnPrep_localK (G : GnLocal ic K T C) {n : Node} {v : Bytes} {rest : List Bytes} {s : GStep}
    (hn : Node.All K n) (ht : T v rest) (h : gnPrep ic n v rest = .ok s) : Node.All K s.n1 ∧ Node.All K s.parent := by
  have base := (gnPrep_local G (Q := fun _ _ _ => True) (fun _ => trivial) hn (AllL_of_forall (fun _ => trivial) _) ht h).1
  exact ⟨base, AllL_getElem? base.tail (gnPrep_top h).2⟩

theorem getNode_localK (G : GnLocal ic K T C) {n : Node} {v : Bytes} {rest : List Bytes} {r : Node × List Nat}
    (hn : Node.All K n) (ht : T v rest) (h : getNode ic n v rest = .ok r) : Node.All K r.1 :=
  (getNode_local G (Q := fun _ _ _ => True) (fun _ => trivial) n v rest r hn (AllL_of_forall (fun _ => trivial) _) ht h).1

end

end Mux.P9

namespace Mux.P8
open Mux Mux.P9

/-- The part of a child its parent's invariant talks about. -/
def sigc (c : Node) : Seg × Bytes := (c.seg, c.pattern)

theorem map_sigc_set {cs : List Node} {i : Nat} {c c' : Node} (hc : cs[i]? = some c) (hs : sigc c' = sigc c) :
    (cs.set i c').map sigc = cs.map sigc := by
  obtain ⟨hlt, rfl⟩ := List.getElem?_eq_some_iff.1 hc
  rw [List.map_set, hs, ← List.getElem_map sigc (h := by rw [List.length_map]; exact hlt), List.set_getElem_self]

theorem forall_of_map_sublist {S : Seg × Bytes → Prop} {cs cs' : List Node}
    (hs : (cs'.map sigc).Sublist (cs.map sigc)) (h : ∀ c ∈ cs, S (sigc c)) : ∀ c ∈ cs', S (sigc c) := by
  intro c hc
  obtain ⟨d, hd, e⟩ := List.mem_map.1 (hs.subset (List.mem_map_of_mem hc))
  exact e ▸ h d hd

theorem pairwise_of_map_sublist {R : Seg × Bytes → Seg × Bytes → Prop} {cs cs' : List Node}
    (hs : (cs'.map sigc).Sublist (cs.map sigc)) (h : cs.Pairwise fun a b => R (sigc a) (sigc b)) :
    cs'.Pairwise fun a b => R (sigc a) (sigc b) :=
  List.pairwise_map.1 ((List.pairwise_map.2 h).sublist hs)

/-- The closure properties of a node predicate that only looks at `pattern`, `indexes` and the
`(seg, pattern)` of the children, and survives the deletion of children once the index is rebuilt. -/
structure Closed (P : Node → Prop) : Prop where
  congr : ∀ {n m : Node}, P n → m.pattern = n.pattern → m.indexes = n.indexes →
    m.children.map sigc = n.children.map sigc → P m
  sublist : ∀ {n m : Node}, P n → m.pattern = n.pattern →
    (m.children.map sigc).Sublist (n.children.map sigc) → buildIndexes m.children = .ok m.indexes → P m
  empty : ∀ (s : Seg) (p : Bytes) (mi : Nat) (hs : AMap Handler), P (.mk s p mi hs [] [])

/-- A closed predicate does not see the replacement of a child by one with the same own data, nor a node's own
segment, and holds of a node without children. -/
theorem Closed.gnLocal {P : Node → Prop} (hP : Closed P) {ic : Interceptors} {T : Bytes → List Bytes → Prop}
    (leaf : ∀ {n n1 : Node} {v : Bytes} {rest : List Bytes} {seg : Seg} {l : Int} {i : Nat}, Node.All P n → T v rest →
      newSegment ic v = .ok seg → scanChildren seg n.children 0 0 0 = .best l i → l ≤ 0 →
      sortNode (n.setChildren (n.children ++ [newLeaf n.pattern seg]) n.indexes) = .ok n1 → P n1)
    (split : ∀ {n c ret n1 : Node} {v : Bytes} {rest : List Bytes} {seg s1 s2 : Seg} {l : Int} {i : Nat}, Node.All P n →
      T v rest → newSegment ic v = .ok seg → scanChildren seg n.children 0 0 0 = .best l i → 0 < l →
      n.children[i]? = some c → ¬ c.seg.value.length ≤ l.toNat → c.seg.splitAt ic l.toNat = .ok (s1, s2) →
      sortNode (.mk s1 (n.pattern ++ s1.value) 0 [] [] [c.setSeg s2]) = .ok ret →
      sortNode (n.setChildren (removeNodes n.children c.seg.value ++ [ret]) n.indexes) = .ok n1 → P ret ∧ P n1)
    (cont : ∀ {n : Node} {v v' : Bytes} {rest rest' : List Bytes} {s : GStep}, Node.All P n → T v rest →
      gnPrep ic n v rest = .ok s → s.cont = some (v', rest') → T v' rest') : GnLocal ic P T (fun _ => True) where
  set := fun h hd _ ho =>
    have ho := Node.own_eq_iff.1 ho
    hP.congr h rfl rfl (map_sigc_set hd (Prod.ext ho.1 ho.2.1))
  setSeg := fun _ h => hP.congr h rfl rfl rfl
  empty := fun s p => hP.empty s p 0 []
  leaf := leaf
  split := split
  cont := fun hn ht hs hc => ⟨cont hn ht hs hc, trivial⟩

end Mux.P8

namespace Mux
open Mux.P8

theorem IdxOk.closed : Closed IdxOk where
  congr := fun h _ hi hs e he => by
    have hl : _ = _ := congrArg List.length hs
    rw [List.length_map, List.length_map] at hl
    rw [hl]; exact h e (hi ▸ he)
  sublist := fun _ _ _ hi => buildIndexes_range hi
  empty := fun _ _ _ _ => nofun

theorem IdxOk.gnLocal (ic : Interceptors) : P9.GnLocal ic IdxOk (fun _ _ => True) (fun _ => True) :=
  IdxOk.closed.gnLocal (fun _ _ _ _ _ hn1 => sortNode_IdxOk hn1)
    (fun _ _ _ _ _ _ _ _ hret hn1 => ⟨sortNode_IdxOk hret, sortNode_IdxOk hn1⟩) (fun _ _ _ _ => trivial)

/-- Stated for what is below the node `getNode` is called on: below the root of a tree every node is `Good`, the root
is not. -/
theorem getNode_below (ic : Interceptors) {Q : Nat → AMap Handler → Prop} (hQ0 : Q 0 [])
    (n : Node) (v : Bytes) (rest : List Bytes) :
    ∀ r, IdxOk n → AllL (NodeOk Q) n.children → getNode ic n v rest = .ok r →
      IdxOk r.1 ∧ AllL (NodeOk Q) r.1.children := by
  intro r hidx hall h
  obtain ⟨hq, hi⟩ := AllL_and.1 hall
  obtain ⟨hK, hQ⟩ := P9.getNode_local (IdxOk.gnLocal ic) (Q := fun mi hs _ => Q mi hs) (fun _ => hQ0) n v rest r
    ((Node.All_iff _ _).2 ⟨hidx, hi⟩) hq trivial h
  exact ⟨hK.head, AllL_and.2 ⟨hQ, hK.tail⟩⟩

end Mux
