/-
  Mux.Proofs.RWLockFree — what concerns one thread alone is proved of the lock-free semantics (`NoLock`): a thread
  runs its program (`nProgInv_reachable`), and threads that only run readers leave the state alone and never
  conflict (`NoLock.readonly`). Forgetting lock, stamps and ghost logs turns a run with the lock into a run
  without it (`Step.forget`, `Reachable.forget`), which carries these facts over to the locked semantics
  (`Reachable.program`, `call_mem`, `todo_accs`, `done_subset`, `wlog_subset`).
-/
import Mux.Proofs.RWLock
namespace Mux.RWLock
variable {S : Sys}

namespace NoLock

def NPhase.ops : NPhase S → List S.Op
  | .idle => []
  | .running op _ _ => [op]

/-- Thread `t`, having completed `ds`, runs the program `ops`: `ds`, the operation it is running and what it
has still to run ARE `ops`; and its pending micro-accesses are accesses of the operation it is running. -/
def NThread.Runs (ops : List S.Op) (ds : List (NRec S)) (t : NThread S) : Prop :=
  ds.map (·.op) ++ t.ph.ops ++ t.prog = ops ∧
  ∀ op todo r, t.ph = .running op todo r → ∀ a ∈ todo, a ∈ S.accs op

def NProgInv (progs : Nat → List S.Op) (c : NConfig S) : Prop := ∀ j, (c.thr j).Runs (progs j) (c.doneOf j)

section
variable {s0 : S.σ} {progs : Nat → List S.Op} {c c' : NConfig S}

theorem nProgInv_step (h : NProgInv progs c) (hs : NStep c c') :
    NProgInv progs c' := by
  cases hs with
  | start i op rest hi =>
    have h1 := (h i).1
    rw [hi] at h1
    exact forall_upd (P := fun j => NThread.Runs (progs j) (c.doneOf j))
      ⟨by rw [← h1]; simp [NPhase.ops], fun _ _ _ e a ha => by injection e with e1 e2; subst e1 e2; exact ha⟩ h
  | access i p op a todo resp hi =>
    obtain ⟨h1, h2⟩ := hi ▸ h i
    exact forall_upd (P := fun j => NThread.Runs (progs j) (c.doneOf j))
      ⟨h1, fun _ _ _ e x hx => by
        injection e with e1 e2; subst e1 e2; exact h2 _ _ _ rfl x (List.mem_cons_of_mem _ hx)⟩ h
  | effect i p op todo hi =>
    obtain ⟨h1, h2⟩ := hi ▸ h i
    exact forall_upd (P := fun j => NThread.Runs (progs j) (c.doneOf j))
      ⟨h1, fun _ _ _ e => by injection e with e1 e2; subst e1 e2; exact h2 _ _ _ rfl⟩ h
  | finish i p op r hi =>
    have h1 := (h i).1
    rw [hi] at h1
    refine forall_upd_ne (P := fun j => NThread.Runs (progs j) (List.filter (fun r : NRec S => r.tid = j) _))
      ⟨?_, fun _ _ _ e => nomatch e⟩ fun j hj => ?_
    · rw [filter_concat_pos (p := fun r : NRec S => r.tid = i) _ (decide_eq_true rfl), ← h1]
      simp [NConfig.doneOf, NPhase.ops]
    · rw [filter_concat_neg (p := fun r : NRec S => r.tid = j) _ (decide_eq_false (Ne.symm hj))]; exact h j

theorem nProgInv_reachable
    (h : NReachable s0 progs c) : NProgInv progs c := by
  induction h with
  | init => exact fun _ => ⟨rfl, fun _ _ _ e => nomatch e⟩
  | step _ hs ih => exact nProgInv_step ih hs

theorem NProgInv.running_mem (h : NProgInv progs c) {j : Nat} {op : S.Op} {todo : List (S.Loc × Bool)}
    {r : Option S.Resp} (hp : (c.thr j).ph = .running op todo r) : op ∈ progs j := by
  rw [← (h j).1, hp]
  exact List.mem_append_left _ (List.mem_append_right _ (List.mem_singleton.2 rfl))

theorem NProgInv.next_mem (h : NProgInv progs c) {j : Nat} {a : S.Loc × Bool} (ha : (c.thr j).ph.next? = some a) :
    ∃ op ∈ progs j, a ∈ S.accs op := by
  obtain ⟨op, todo, r, hp⟩ := NPhase.running_of_next? ha
  exact ⟨op, h.running_mem hp, (h j).2 _ _ _ hp a (List.mem_cons_self ..)⟩

theorem NProgInv.done_mem (h : NProgInv progs c) {r : NRec S} (hr : r ∈ c.done) : r.op ∈ progs r.tid := by
  rw [← (h r.tid).1]
  exact List.mem_append_left _ (List.mem_append_left _
    (List.mem_map_of_mem (List.mem_filter.2 ⟨hr, decide_eq_true rfl⟩)))

def NPhase.RespOK (s0 : S.σ) : NPhase S → Prop
  | .running op _ (some r) => r = (S.sem op s0).2
  | _ => True

/-- With readers only: the state stays the initial one and responses are computed in it. -/
def NInv (s0 : S.σ) (c : NConfig S) : Prop :=
  c.st = s0 ∧ (∀ j, (c.thr j).ph.RespOK s0) ∧ ∀ r ∈ c.done, r.resp = (S.sem r.op s0).2

theorem nInv_step (hro : ReadOnly progs)
    (hP : NProgInv progs c) (h : NInv s0 c) (hs : NStep c c') : NInv s0 c' := by
  obtain ⟨h1, h2, h3⟩ := h
  cases hs with
  | start i op rest hi => exact ⟨h1, forall_upd (P := fun _ (t : NThread S) => t.ph.RespOK s0) trivial h2, h3⟩
  | access i p op a todo resp hi =>
    have h2i := h2 i
    rw [hi] at h2i
    refine ⟨h1, forall_upd (P := fun _ (t : NThread S) => t.ph.RespOK s0) ?_ h2, h3⟩
    cases resp <;> exact h2i
  | effect i p op todo hi =>
    exact ⟨(S.reader_pure op _ (hro i op (hP.running_mem (congrArg NThread.ph hi)))).trans h1,
      forall_upd (P := fun _ (t : NThread S) => t.ph.RespOK s0) (congrArg (fun s => (S.sem op s).2) h1) h2, h3⟩
  | finish i p op r hi =>
    have h2i := h2 i
    rw [hi] at h2i
    refine ⟨h1, forall_upd (P := fun _ (t : NThread S) => t.ph.RespOK s0) trivial h2, fun x hx => ?_⟩
    rcases List.mem_append.1 hx with hx | hx
    · exact h3 x hx
    · rw [List.mem_singleton.1 hx]; exact h2i

end

theorem readonly {s0 : S.σ} {progs : Nat → List S.Op} (hro : ReadOnly progs) {c : NConfig S}
    (h : NReachable s0 progs c) :
    c.st = s0 ∧ (∀ r ∈ c.done, r.resp = (S.sem r.op s0).2) ∧
    (∀ i a, (c.thr i).ph.next? = some a → a.2 = false) ∧
    (∀ i j a b, i ≠ j → (c.thr i).ph.next? = some a → (c.thr j).ph.next? = some b → ¬ Conflict a b) := by
  have hinv : NInv s0 c := by
    induction h with
    | init => exact ⟨rfl, fun _ => trivial, fun _ h => nomatch h⟩
    | step hc hs ih => exact nInv_step hro (nProgInv_reachable hc) ih hs
  have hreads : ∀ i a, (c.thr i).ph.next? = some a → a.2 = false := by
    intro i a ha
    obtain ⟨op, hop, hmem⟩ := (nProgInv_reachable h).next_mem ha
    exact S.reader_accs op (hro i op hop) a hmem
  refine ⟨hinv.1, hinv.2.2, hreads, ?_⟩
  intro i j a b _ ha hb hc
  rcases hc.2 with h | h
  · rw [hreads i a ha] at h; cases h
  · rw [hreads j b hb] at h; cases h

end NoLock

section
open NoLock

def Phase.forget : Phase S → NPhase S
  | .inside v todo lp => .running v.op todo (lp.map Prod.fst)
  | _ => .idle

/-- A call that waits for the lock has not started: its operation is still the first of the program. -/
def Thread.forget (t : Thread S) : NThread S :=
  ⟨(match t.ph with | .waiting v => [v.op] | _ => []) ++ t.prog, t.ph.forget⟩

def Rec.forget (r : Rec S) : NRec S := ⟨r.tid, r.call.op, r.resp⟩

def Config.forget (c : Config S) : NConfig S := ⟨c.st, fun j => (c.thr j).forget, c.done.map Rec.forget⟩

theorem Config.forget_upd (st : S.σ) (l : Lock) (thr : Nat → Thread S) (i : Nat) (t : Thread S) (wl wa : List S.Op)
    (d : List (Rec S)) (n : Nat) :
    Config.forget ⟨st, l, upd thr i t, wl, wa, d, n⟩ = ⟨st, upd (fun j => (thr j).forget) i t.forget, d.map Rec.forget⟩ :=
  congrArg (NConfig.mk st · _) (map_upd Thread.forget thr i t)

theorem Step.forget {c c' : Config S} (hs : Step c c') : c'.forget = c.forget ∨ NStep c.forget c'.forget := by
  have at_i : ∀ {i t}, c.thr i = t → c.forget.thr i = t.forget := congrArg Thread.forget
  cases hs with
  | invoke i op rest h =>
    refine .inl ?_
    rw [Config.forget_upd]
    show NConfig.mk _ (upd _ i (Thread.forget ⟨op :: rest, .idle⟩)) _ = _
    rw [← h, upd_self]
    rfl
  | acquire i p v h en =>
    rw [Config.forget_upd]
    exact .inr (.start c.forget i v.op p (at_i h))
  | access i p v a todo lp h =>
    rw [Config.forget_upd]
    exact .inr (.access c.forget i p v.op a todo (lp.map Prod.fst) (at_i h))
  | commit i p v todo h =>
    rw [Config.forget_upd]
    exact .inr (.effect c.forget i p v.op todo (at_i h))
  | release i p v r k h =>
    rw [Config.forget_upd, List.map_append]
    exact .inr (.finish c.forget i p v.op r (at_i h))

variable {s0 : S.σ} {progs : Nat → List S.Op} {c : Config S}

theorem Reachable.forget (h : Reachable s0 progs c) : NReachable s0 progs c.forget := by
  induction h with
  | init => exact .init
  | step _ hs ih =>
    rcases hs.forget with e | hn
    · rw [e]; exact ih
    · exact ih.step hn

theorem Thread.forget_ops (t : Thread S) :
    t.forget.ph.ops ++ t.forget.prog = t.ph.call?.toList.map (·.op) ++ t.prog := by
  obtain ⟨p, ph⟩ := t
  cases ph <;> rfl

theorem Config.forget_doneOf (c : Config S) (j : Nat) : c.forget.doneOf j = (c.doneOf j).map Rec.forget :=
  List.filter_map ..

theorem Reachable.program (h : Reachable s0 progs c) (j : Nat) :
    (c.doneOf j).map (·.call.op) ++ (c.thr j).ph.call?.toList.map (·.op) ++ (c.thr j).prog = progs j := by
  have := (nProgInv_reachable h.forget j).1
  rw [List.append_assoc, show c.forget.thr j = (c.thr j).forget from rfl, Thread.forget_ops, ← List.append_assoc,
    Config.forget_doneOf, List.map_map] at this
  exact this

theorem Reachable.call_mem (h : Reachable s0 progs c) {j : Nat} {v : Call S} (hv : (c.thr j).ph.call? = some v) :
    v.op ∈ progs j := by
  rw [← h.program j, hv]
  exact List.mem_append_left _ (List.mem_append_right _ (List.mem_singleton.2 rfl))

theorem Reachable.todo_accs (h : Reachable s0 progs c) {j : Nat} {v : Call S} {todo : List (S.Loc × Bool)}
    {lp : Option (S.Resp × Nat)} (hp : (c.thr j).ph = .inside v todo lp) : ∀ a ∈ todo, a ∈ S.accs v.op :=
  (nProgInv_reachable h.forget j).2 v.op todo (lp.map Prod.fst) (congrArg Phase.forget hp)

/-- The operations of the writer order come from the programs: a hypothesis on the PROGRAMS ("every registered
pattern is well-formed") holds of every operation of the linearization order. -/
theorem wlog_subset (h : Reachable s0 progs c) : ∀ op ∈ c.wlog, ∃ j, op ∈ progs j := by
  induction h with
  | init => exact fun _ h => nomatch h
  | step hc hs ih =>
    cases hs with
    | invoke i op rest hi | acquire i p v hi en | access i p v a todo lp hi | release i p v r k hi => exact ih
    | commit i p v todo hi =>
      intro op ho
      dsimp only at ho
      split at ho
      · rcases List.mem_append.1 ho with ho | ho
        · exact ih op ho
        · rw [List.mem_singleton.1 ho]; exact ⟨i, hc.call_mem (by rw [hi]; rfl)⟩
      · exact ih op ho

end

theorem done_subset {s0 : S.σ} {progs : Nat → List S.Op} {c : Config S}
    (h : Reachable s0 progs c) : ∀ r ∈ c.done, r.call.op ∈ progs r.tid :=
  fun r hr => (NoLock.nProgInv_reachable h.forget).done_mem (r := r.forget) (List.mem_map_of_mem hr)

end Mux.RWLock
