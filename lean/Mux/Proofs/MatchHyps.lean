/-
  The hypotheses on a tree under which the answer of the matcher is exact, as predicates of the tree alone: `NamesOk`
  (implied by the textbook form `NamesStrict` with `SegNameWf`), `IdxLit`, and `PatternOk`, under which the pattern of
  a reported node is what its chain spells (`chain_pattern`).
-/
import Mux.Proofs.TreeBasic
namespace Mux

/-- The segment puts its capture into the parameters (non-literal, no `-` flag). -/
def Seg.capturing (s : Seg) : Prop := s.kind ≠ .str ∧ ¬ s.ignoreName

instance (s : Seg) : Decidable s.capturing := by unfold Seg.capturing; infer_instance

mutual
/-- `Node.NamesOk used n`: along every chain from `n` downwards, the `seg.name` of EVERY node
(literal, ignored `-` or capturing) differs from every key that is live when the node is tried:
the keys in `used` and the names of the capturing segments above it on the chain.

This is what makes `ps ++ captures chain` the exact answer of the matcher: for every abandoned child, whatever its
kind, `matchFrom` puts the previous value of the child's name back (`restoreParam`, the D30 repair); under `NamesOk`
there is none (for literal children the name is `""`; the condition then says that `""` is not a live key) and the
undo is a deletion (`P19.restoreParam_fresh`).  The law WITHOUT `NamesOk` is in
`RestoreMatch.lean` (`P19.matchChildren_restore`, `P19.matchChildren_miss_restore`).  It is implied by the usual
well-formedness (`NamesStrict` below: non-literal names pairwise distinct along a chain, literal
names `""`, capturing names non-empty): see `NamesOkL_of_strict`. -/
def Node.NamesOk (used : List Bytes) : Node → Prop
  | .mk _ _ _ _ _ cs => NamesOkL used cs
def NamesOkL (used : List Bytes) : List Node → Prop
  | [] => True
  | c :: cs =>
    c.seg.name ∉ used ∧
    Node.NamesOk (if c.seg.kind ≠ .str ∧ ¬ c.seg.ignoreName then c.seg.name :: used else used) c ∧
    NamesOkL used cs
end

mutual
instance Node.decNamesOk (used : List Bytes) : (n : Node) → Decidable (Node.NamesOk used n)
  | .mk _ _ _ _ _ cs => by unfold Node.NamesOk; exact decNamesOkL used cs
instance decNamesOkL (used : List Bytes) : (cs : List Node) → Decidable (NamesOkL used cs)
  | [] => by unfold NamesOkL; exact instDecidableTrue
  | c :: cs => by
    unfold NamesOkL
    have := Node.decNamesOk (if c.seg.kind ≠ .str ∧ ¬ c.seg.ignoreName then c.seg.name :: used else used) c
    have := decNamesOkL used cs
    infer_instance
end

theorem Node.namesOk_iff (used : List Bytes) (n : Node) : Node.NamesOk used n ↔ NamesOkL used n.children := by
  cases n; simp [Node.NamesOk, Node.children]

theorem NamesOkL_iff {used : List Bytes} {cs : List Node} :
    NamesOkL used cs ↔ ∀ c ∈ cs, c.seg.name ∉ used ∧
      NamesOkL (if c.seg.kind ≠ .str ∧ ¬ c.seg.ignoreName then c.seg.name :: used else used) c.children := by
  induction cs with
  | nil => exact ⟨nofun, fun _ => trivial⟩
  | cons d cs ih => rw [NamesOkL, ih, List.forall_mem_cons, Node.namesOk_iff, and_assoc]

theorem NamesOkL_mem {used : List Bytes} {cs : List Node} (h : NamesOkL used cs) {c : Node} (hc : c ∈ cs) :
    c.seg.name ∉ used ∧
    Node.NamesOk (if c.seg.kind ≠ .str ∧ ¬ c.seg.ignoreName then c.seg.name :: used else used) c :=
  let ⟨h1, h2⟩ := NamesOkL_iff.1 h c hc
  ⟨h1, (Node.namesOk_iff _ c).2 h2⟩

/-- The index fast path of the node can only select a literal child: whatever the first byte of the
path, the child at position `indexes[b]` (position 0 for a byte without entry, as Go's map read)
is a string segment.  `matchAt` does not undo a capture, so this is needed for "a miss leaves no
trace"; `buildIndexes` after `sortChildren` establishes it (literal children sort first and only
their first bytes are entered in the index). -/
def IdxLit (n : Node) : Prop :=
  n.indexes ≠ [] → ∀ (b : UInt8) (c : Node), n.children[(idxLookup n.indexes b).getD 0]? = some c → c.seg.kind = .str

theorem IdxLit.of_positions {n : Node}
    (h : ∀ i ∈ 0 :: n.indexes.map (·.2), ∀ c, n.children[i]? = some c → c.seg.kind = .str) : IdxLit n := by
  intro _ b c hc
  refine h _ ?_ c hc
  unfold idxLookup
  cases hf : n.indexes.find? (·.1 = b) with
  | none => simp
  | some e =>
    simp only [Option.map_some, Option.getD_some]
    exact List.mem_cons_of_mem _ (List.mem_map_of_mem (List.mem_of_find?_eq_some hf))

theorem IdxLit.of_nil {n : Node} (h : n.indexes = []) : IdxLit n := fun hne => absurd h hne

mutual
/-- The "textbook" form: along every chain the names of the non-literal segments (ignored ones
included) are pairwise distinct and not in `used`. -/
def Node.NamesStrict (used : List Bytes) : Node → Prop
  | .mk _ _ _ _ _ cs => NamesStrictL used cs
def NamesStrictL (used : List Bytes) : List Node → Prop
  | [] => True
  | c :: cs =>
    (c.seg.kind = .str ∨ c.seg.name ∉ used) ∧
    Node.NamesStrict (if c.seg.kind = .str then used else c.seg.name :: used) c ∧
    NamesStrictL used cs
end

/-- Literal segments have the empty name, capturing segments a non-empty one (what `newSegment`
produces: `cleanName` can return `""` only together with the `-` flag, for `{-}`). -/
def SegNameWf (n : Node) : Prop :=
  (n.seg.kind = .str → n.seg.name = []) ∧ (n.seg.kind ≠ .str ∧ ¬ n.seg.ignoreName → n.seg.name ≠ [])

theorem namesOk_of_strict_all :
    (∀ n : Node, ∀ U used : List Bytes,
      Node.NamesStrict U n → AllL SegNameWf n.children → (∀ k ∈ used, k ∈ U) → [] ∉ used → Node.NamesOk used n) ∧
    ∀ cs : List Node, ∀ U used : List Bytes,
      NamesStrictL U cs → AllL SegNameWf cs → (∀ k ∈ used, k ∈ U) → [] ∉ used → NamesOkL used cs := by
  refine Node.induct (fun _ _ _ _ _ cs ih => ih) (fun _ _ _ _ _ _ => trivial) ?_
  intro c cs ihc ih U used h hw hs he
  have hwc : SegNameWf c := Node.All.head hw.1
  refine ⟨?_, ?_, ih U used h.2.2 hw.2 hs he⟩
  · rcases h.1 with hstr | hnot
    · rw [hwc.1 hstr]; exact he
    · exact fun hu => hnot (hs _ hu)
  have hc := h.2.1
  by_cases hcap : c.seg.kind ≠ .str ∧ ¬ c.seg.ignoreName
  · -- a capturing segment enters its name, which is not empty, on both sides
    rw [if_neg hcap.1] at hc
    rw [if_pos hcap]
    refine ihc _ _ hc (Node.All.tail hw.1)
      (List.forall_mem_cons.2 ⟨List.mem_cons_self, fun k hk => List.mem_cons_of_mem _ (hs k hk)⟩) fun hmem => ?_
    rcases List.mem_cons.1 hmem with h0 | h0
    · exact hwc.2 hcap h0.symm
    · exact he h0
  · rw [if_neg hcap]
    refine ihc _ _ hc (Node.All.tail hw.1) (fun k hk => ?_) he
    split
    · exact hs k hk
    · exact List.mem_cons_of_mem _ (hs k hk)

theorem Node.namesOk_of_strict : (n : Node) → (U used : List Bytes) →
    Node.NamesStrict U n → AllL SegNameWf n.children → (∀ k ∈ used, k ∈ U) → [] ∉ used → Node.NamesOk used n :=
  namesOk_of_strict_all.1

theorem NamesOkL_of_strict : (cs : List Node) → (U used : List Bytes) →
    NamesStrictL U cs → AllL SegNameWf cs → (∀ k ∈ used, k ∈ U) → [] ∉ used → NamesOkL used cs :=
  namesOk_of_strict_all.2

mutual
/-- Every node's `pattern` is its parent's pattern followed by its own segment text. -/
def Node.PatternOk : Node → Prop
  | .mk _ p _ _ _ cs => PatternOkL p cs
def PatternOkL (pp : Bytes) : List Node → Prop
  | [] => True
  | c :: cs => c.pattern = pp ++ c.seg.value ∧ Node.PatternOk c ∧ PatternOkL pp cs
end

theorem PatternOkL_mem {pp : Bytes} {cs : List Node} (h : PatternOkL pp cs) {c : Node} (hc : c ∈ cs) :
    c.pattern = pp ++ c.seg.value ∧ Node.PatternOk c := by
  induction cs with
  | nil => cases hc
  | cons d cs ih =>
    simp only [PatternOkL] at h
    rcases List.mem_cons.1 hc with rfl | hc
    · exact ⟨h.1, h.2.1⟩
    · exact ih h.2.2 hc

theorem Node.patternOk_iff (n : Node) : Node.PatternOk n ↔ PatternOkL n.pattern n.children := by
  cases n; simp [Node.PatternOk, Node.pattern, Node.children]

theorem chain_pattern {n m : Node} {segs : List Seg} (hc : Chain n segs m) (hp : Node.PatternOk n) :
    m.pattern = n.pattern ++ (segs.map (·.value)).flatten ∧ Node.PatternOk m := by
  induction hc with
  | nil n => simp [hp]
  | cons hmem _ ih =>
    obtain ⟨e, hpc⟩ := PatternOkL_mem ((Node.patternOk_iff _).1 hp) hmem
    obtain ⟨e', hm⟩ := ih hpc
    refine ⟨?_, hm⟩
    rw [e', e]; simp

theorem Node.Spells.pattern {n x : Node} {p : List Nat} {P : Bytes} (h : n.Spells p P x)
    (hn : Node.PatternOk n) : x.pattern = n.pattern ++ P := by
  obtain ⟨segs, hch, _, rfl⟩ := h.chain
  exact (chain_pattern hch hn).1

/-- Nodes with one pattern are reached by one index path: the pattern says what the path spells. -/
theorem Node.Spells.inj {n x y : Node} {p q : List Nat} {P Q : Bytes} (hx : n.Spells p P x)
    (hy : n.Spells q Q y) (hn : Node.PatternOk n) (hd : Node.All Node.Det n) (e : x.pattern = y.pattern) :
    p = q ∧ x = y := by
  cases List.append_cancel_left ((hx.pattern hn).symm.trans (e.trans (hy.pattern hn)))
  exact hx.unique hd hy

end Mux
