/-
  Mux.Proofs.Recover — the `defer recover()` control flow of `Router.serveContext` and `Group.ServeHTTP` (C16): which
  panic `runCall` raises, the outcome of a call in terms of `callScript` (`withRecover_runCall`), `rejectPath` (in whose
  terms C16 reads the loop of `Group.serve`) and the recover flag a fault of that loop carries.
-/
import Mux.Proofs.Group
import Mux.Proofs.Head
namespace Mux

theorem mwPanic_none_iff (pc : PanicCfg) (h : Handler) :
    mwPanic pc h = none ↔ ∀ w ∈ h.wraps, lookupNat pc.mws w.mw = none := by
  unfold mwPanic
  rw [List.head?_eq_none_iff, List.filterMap_eq_nil_iff]
  simp only [List.mem_reverse]

/-- The outermost panicking middleware wins: `wraps` is stored innermost first, so it is the
last element of the list that panics. -/
theorem mwPanic_some_iff (pc : PanicCfg) (h : Handler) (v : Nat) :
    mwPanic pc h = some v ↔
      ∃ pre w post, h.wraps = pre ++ w :: post ∧ lookupNat pc.mws w.mw = some v ∧
        ∀ w' ∈ post, lookupNat pc.mws w'.mw = none := by
  unfold mwPanic
  rw [List.head?_filterMap, List.findSome?_eq_some_iff]
  -- a decomposition of the reversed list is one of the list, read backwards
  constructor
  · rintro ⟨a, w, b, hr, hw, ha⟩
    refine ⟨b.reverse, w, a.reverse, ?_, hw, fun w' hw' => ha w' (List.mem_reverse.1 hw')⟩
    rw [← List.reverse_reverse h.wraps, hr]; simp
  · rintro ⟨pre, w, post, hw, hv, hpost⟩
    exact ⟨post.reverse, w, pre.reverse, by rw [hw]; simp, hv, fun w' hw' => hpost w' (List.mem_reverse.1 hw')⟩

theorem runCall_user_iff {pc : PanicCfg} {scripts : Scripts} {c : Call} {v : Nat} :
    runCall pc scripts c = .error (.user v) ↔
      mwPanic pc c.handler = some v ∨
        (mwPanic pc c.handler = none ∧ basePanic pc c.handler.base = some v) :=
  runCall_error_iff.trans callScript_user_iff

theorem withRecover_true (hs : Hdr) (x : Except PanicVal Rec) :
    withRecover true hs x =
      match x with
      | .ok r => .normal r
      | .error v => .recovered v (({ hdr := hs } : Rec).writeHeader 500) := by
  cases x <;> rfl

theorem withRecover_normal {rc : Bool} {hs : Hdr} {x : Except PanicVal Rec} {acts : List Act} {hw : Bool} {rec : Rec} :
    withRecover rc hs x acts hw = .normal rec ↔ x = .ok rec := by
  unfold withRecover
  cases x with
  | ok r => simp
  | error v => cases rc <;> simp

theorem withRecover_false (hs : Hdr) (x : Except PanicVal Rec) :
    withRecover false hs x =
      match x with
      | .ok r => .normal r
      | .error v => .panicked v := by
  cases x <;> rfl

/-- The outcome of a call (`finish` on `.call c`): the handler's script answers, or after a panic the recovery
function's — on the same writer and the same headers — or the panic escapes. -/
theorem withRecover_runCall (pc : PanicCfg) (scripts : Scripts) (c : Call) :
    withRecover c.recover c.respHeaders (runCall pc scripts c) c.recActs c.headWrap =
      match callScript pc scripts c with
      | .ok acts => .normal (recRec acts c.headWrap c.respHeaders)
      | .error v => if c.recover then .recovered v (recRec c.recActs c.headWrap c.respHeaders) else .panicked v := by
  rw [runCall_eq_callScript]
  cases callScript pc scripts c with
  | ok acts => rfl
  | error v => cases c.recover <;> rfl

/-- What escapes `finish`: the panic of a call that no `recover()` surrounds, or a fault outside every one. -/
theorem finish_panicked (pc : PanicCfg) (scripts : Scripts) (s : ServeRes) (v : PanicVal)
    (h : (s.finish pc scripts).2 = .panicked v) :
    (∃ c, s = .call c ∧ c.recover = false ∧ runCall pc scripts c = .error v) ∨
      (∃ n, s = .fault n false ∧ v = .fault) := by
  cases s with
  | unsupported => cases h
  | fault n rc =>
    cases rc
    · cases h; exact .inr ⟨n, rfl, rfl⟩
    · cases h
  | call c =>
    cases hr : runCall pc scripts c with
    | ok r => rw [finish_call_ok hr] at h; cases h
    | error v' =>
      rw [finish_call_error hr] at h
      cases hc : c.recover with
      | true => rw [hc] at h; cases h
      | false => rw [hc] at h; cases h; exact .inl ⟨c, rfl, hc, hr⟩

/-- The request path after every matcher of the list has rejected (`none`: some matcher did not
reject). -/
def rejectPath (env : Env) (hostsTab : Nat → Option Hosts) (req : Req) : List (Nat × Matcher) → Bytes → Option Bytes
  | [], path => some path
  | (_, m) :: rest, path =>
    match m.run env hostsTab req path [] with
    | .reject p _ => rejectPath env hostsTab req rest p
    | _ => none

/-- A rejecting matcher leaves the path as it was (`run_reject_path`), so the path after the list is the one before it. -/
theorem rejectPath_eq_some_iff {env : Env} {hostsTab : Nat → Option Hosts} {req : Req} {l : List (Nat × Matcher)}
    {path p : Bytes} :
    rejectPath env hostsTab req l path = some p ↔ p = path ∧ AllReject env hostsTab req l path := by
  unfold AllReject
  induction l with
  | nil => simp [rejectPath, eq_comm]
  | cons e l ih =>
    obtain ⟨rid, m⟩ := e
    rw [rejectPath, List.forall_mem_cons]
    cases hm : m.run env hostsTab req path [] with
    | reject p' ps =>
      cases run_reject_path env hostsTab m hm
      exact ih.trans (and_congr_right fun _ => (and_iff_right ⟨_, _, rfl⟩).symm)
    | _ => exact ⟨nofun, fun ⟨_, ⟨_, _, h⟩, _⟩ => nomatch h⟩

theorem go_fault (env : Env) (hostsTab : Nat → Option Hosts) (rt : RTab) (g : Group) (req : Req)
    (l : List (Nat × Matcher)) (path : Bytes) (s : Nat) (rc : Bool)
    (h : Group.serve.go env hostsTab rt g req l path = .fault s rc) :
    rc = false ∨ ∃ e ∈ l, ∃ r, rt.get? e.1 = some r ∧ rc = r.recover := by
  rcases go_cases h with ⟨_, ⟨⟩⟩ |
    ⟨pre, rid, m, post, rfl, _, ⟨s', _, hgo⟩ | ⟨_, ⟨⟩⟩ | ⟨p, ps, _, ⟨_, hgo⟩ | ⟨r, hr, hgo⟩⟩⟩
  · cases hgo; exact .inl rfl
  · cases hgo; exact .inl rfl
  · exact .inr ⟨(rid, m), by simp, r, hr, (Router.serveContext_fault_iff.1 hgo).2⟩

end Mux
