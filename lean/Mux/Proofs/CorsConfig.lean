/-
  Mux.Proofs.CorsConfig — the configuration side of C11 / C12: `Cors.sanitize` with its `let`s resolved
  (`Cors.sanitize_eq`), `Cors.headerIsAllowed`, and the two decisions of `Cors.handle` (`granted`, `preOK`) in terms of
  the `sanitize` arguments; before them the string helpers they need (`joinWith`, `splitComma`, `intToBytes`).
-/
import Mux.Proofs.Cors
namespace Mux

theorem joinWith_eq_nil_iff (sep : Bytes) (hsep : sep ≠ []) (l : List Bytes) :
    joinWith sep l = [] ↔ l = [] ∨ l = [[]] := by
  match l with
  | [] => simp [joinWith]
  | [x] => simp [joinWith]
  | x :: y :: r => simp [joinWith, hsep]

theorem ByteArray_toList_loop_length (bs : ByteArray) (i : Nat) (r : List UInt8) :
    (ByteArray.toList.loop bs i r).length = r.length + (bs.size - i) := by
  fun_induction ByteArray.toList.loop bs i r with
  | case1 i r h ih => rw [ih]; simp; omega
  | case2 i r h => simp; omega

theorem bytesOfString_eq_nil_iff (s : String) : bytesOfString s = [] ↔ s = "" := by
  constructor
  · intro h
    have := congrArg List.length h
    simp only [bytesOfString, ByteArray.toList, ByteArray_toList_loop_length] at this
    simpa using this
  · rintro rfl; decide +kernel

theorem intToBytes_ne_nil (n : Int) : intToBytes n ≠ [] := by
  unfold intToBytes
  rw [Ne, bytesOfString_eq_nil_iff]
  show Int.repr n ≠ ""
  intro h
  have hl := congrArg String.length h
  cases n with
  | ofNat m =>
    have := @Nat.length_repr_pos m
    simp [Int.repr] at hl
  | negSucc m =>
    simp [Int.repr] at hl

theorem splitComma_ne_nil (s : Bytes) : splitComma s ≠ [] := by
  fun_cases splitComma s <;> exact List.cons_ne_nil _ _

theorem joinWith_splitComma (s : Bytes) : joinWith [44] (splitComma s) = s := by
  fun_induction splitComma s with
  | case1 => rfl
  | case2 r ih =>
    cases hsr : splitComma r with
    | nil => exact absurd hsr (splitComma_ne_nil r)
    | cons x xs => exact congrArg (44 :: ·) (hsr ▸ ih)
  | case3 b r hb hsr ih => exact absurd hsr (splitComma_ne_nil r)
  | case4 b r hb y ys hsr ih =>
    rw [← ih, hsr]
    cases ys <;> rfl

theorem splitComma_no_comma (s : Bytes) : ∀ x ∈ splitComma s, (44 : UInt8) ∉ x := by
  fun_induction splitComma s with
  | case1 => exact List.forall_mem_cons.2 ⟨List.not_mem_nil, nofun⟩
  | case2 r ih => exact List.forall_mem_cons.2 ⟨List.not_mem_nil, ih⟩
  | case3 b r hb hsr ih => exact absurd hsr (splitComma_ne_nil r)
  | case4 b r hb y ys hsr ih =>
    obtain ⟨hy, hys⟩ := List.forall_mem_cons.1 (hsr ▸ ih)
    exact List.forall_mem_cons.2 ⟨fun h => (List.mem_cons.1 h).elim (fun e => hb e.symm) hy, hys⟩

section
variable (origins allowHeaders exposed : List Bytes) (maxAge : Int) (cred : Bool)

/-- `sanitize` with its `let`s resolved: the two constructor errors, else the configuration in terms of the arguments
(`Join` of an empty list is empty; `"*," + "Authorization"` evaluated). -/
theorem Cors.sanitize_eq :
    Cors.sanitize origins allowHeaders exposed maxAge cred =
      if maxAge < -1 ∨ ([42] ∈ origins ∧ cred = true) then none
      else some {
        origins := origins, anyOrigins := decide ([42] ∈ origins), deny := decide (origins = []),
        allowHeaders := allowHeaders, anyHeaders := decide ([42] ∈ allowHeaders),
        allowHeadersString :=
          if [42] ∈ allowHeaders then bytesOfString "*,Authorization" else joinWith [44] allowHeaders,
        exposedHeadersString := joinWith [44] exposed,
        maxAgeString := if maxAge = 0 then [] else intToBytes maxAge,
        allowCredentials := cred } := by
  unfold Cors.sanitize
  by_cases h1 : maxAge < -1
  · simp [h1]
  · by_cases h2 : [42] ∈ origins ∧ cred = true
    · simp [h1, h2]
    · have ha : (if allowHeaders.length > 0 then joinWith [44] allowHeaders else []) = joinWith [44] allowHeaders := by
        cases allowHeaders <;> rfl
      have he : (if exposed.length > 0 then joinWith [44] exposed else []) = joinWith [44] exposed := by
        cases exposed <;> rfl
      simp [h1, h2, ha, he, star_authorization]

end

section
variable {origins allowHeaders exposed : List Bytes} {maxAge : Int} {cred : Bool} {c : Cors}

/-- What `sanitize` accepted and what it built from its arguments, field by field. -/
structure Cors.Sanitized (origins allowHeaders exposed : List Bytes) (maxAge : Int) (cred : Bool) (c : Cors) :
    Prop where
  maxAge_ge : -1 ≤ maxAge
  not_star_cred : ¬ ([42] ∈ origins ∧ cred = true)
  anyOrigins : c.anyOrigins = decide ([42] ∈ origins)
  deny : c.deny = decide (origins = [])
  anyHeaders : c.anyHeaders = decide ([42] ∈ allowHeaders)
  allowHeadersString : c.allowHeadersString =
    if [42] ∈ allowHeaders then bytesOfString "*,Authorization" else joinWith [44] allowHeaders
  exposedHeadersString : c.exposedHeadersString = joinWith [44] exposed
  maxAgeString : c.maxAgeString = if maxAge = 0 then [] else intToBytes maxAge
  allowCredentials : c.allowCredentials = cred
  -- last, because these two field names shadow the parameters
  origins : c.origins = origins
  allowHeaders : c.allowHeaders = allowHeaders

theorem Cors.sanitized (hs : Cors.sanitize origins allowHeaders exposed maxAge cred = some c) :
    Cors.Sanitized origins allowHeaders exposed maxAge cred c := by
  rw [Cors.sanitize_eq] at hs
  by_cases h : maxAge < -1 ∨ ([42] ∈ origins ∧ cred = true)
  · rw [if_pos h] at hs
    cases hs
  · rw [if_neg h] at hs
    cases hs
    exact ⟨by omega, fun h' => h (.inr h'), rfl, rfl, rfl, rfl, rfl, rfl, rfl, rfl, rfl⟩

theorem Cors.headerIsAllowed_iff (c : Cors) (rh : Hdr) :
    c.headerIsAllowed rh = true ↔
      c.anyHeaders = true ∨ trimSpace (rh.get hACRH) = [] ∨
      ∀ item ∈ splitComma (trimSpace (rh.get hACRH)),
        ∃ a ∈ c.allowHeaders, toLower a = toLower (trimSpace item) := by
  unfold Cors.headerIsAllowed
  by_cases h1 : c.anyHeaders = true
  · simp [h1]
  · by_cases h2 : trimSpace (rh.get hACRH) = []
    · simp [h2]
    · simp [h1, h2, equalFoldAscii]

theorem Cors.granted_iff (hs : Cors.sanitize origins allowHeaders exposed maxAge cred = some c)
    (nm : List Bytes) (method path : Bytes) (rh : Hdr) :
    c.granted nm method path rh ↔
      origins ≠ [] ∧
      (Cors.isPreflight method path rh → rh.get hACRM ∈ nm ∧ c.headerIsAllowed rh = true) ∧
      ([42] ∈ origins ∨ rh.get hOrigin ∈ origins) := by
  have h := Cors.sanitized hs
  simp [Cors.granted, Cors.prePass, h.origins, h.anyOrigins, h.deny]

theorem Cors.preOK_iff (hs : Cors.sanitize origins allowHeaders exposed maxAge cred = some c)
    (nm : List Bytes) (method path : Bytes) (rh : Hdr) :
    c.preOK nm method path rh ↔
      origins ≠ [] ∧ Cors.isPreflight method path rh ∧ rh.get hACRM ∈ nm := by
  simp [Cors.preOK, (Cors.sanitized hs).deny]

/-- The grant from the hypotheses the C12 theorems are stated with. -/
theorem Cors.granted_of (hs : Cors.sanitize origins allowHeaders exposed maxAge cred = some c)
    {nm : List Bytes} {method path : Bytes} {rh : Hdr} (hne : origins ≠ [])
    (hor : c.anyOrigins = true ∨ rh.get hOrigin ∈ origins) (hp : c.prePass nm method path rh) :
    c.granted nm method path rh := by
  have h := Cors.sanitized hs
  exact ⟨by simp [h.deny, hne], hp, h.origins ▸ hor⟩

theorem Cors.granted_values (hs : Cors.sanitize origins allowHeaders exposed maxAge cred = some c)
    {nm : List Bytes} (na : Bytes) {method path : Bytes} {rh : Hdr} (hg : c.granted nm method path rh) :
    let h := c.handle nm na [] method path rh
    h.values hACAO = [if c.anyOrigins = true then [42] else rh.get hOrigin] ∧
    h.values hACAC = (if cred = true then [bytesOfString "true"] else []) ∧
    h.values hACEH = (if exposed ≠ [] ∧ exposed ≠ [[]] then [joinWith [44] exposed] else []) := by
  have h := Cors.sanitized hs
  refine ⟨?_, ?_, ?_⟩
  · rw [Cors.values_handle_ACAO, if_pos hg]
  · simp [Cors.values_handle_ACAC, hg, h.allowCredentials]
  · simp [Cors.values_handle_ACEH, hg, h.exposedHeadersString, joinWith_eq_nil_iff]
end

end Mux
