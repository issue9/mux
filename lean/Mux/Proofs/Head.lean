/-
  Header maps, the recorder and `headResponse` (C08), and `runCall` (C08, C16).  The recorder under `headResponse` is related
  to the plain one by a simulation (`HeadSim`: status, header map and snapshot agree, Content-Length aside); the body, the
  value of Content-Length and the case where nothing is sent are facts about `runHead` alone.  `runCall` is the panic checks
  and the choice of the script (`callScript`), then that script on the writer the call was handed (`recRec`).
-/
import Mux.Proofs.Params
import Mux.Model.Call
namespace Mux

/-! `Hdr` is an `AMap` of value lists: `Del` is `AMap.erase`, `Set` and `Add` are instances of `AMap.upd`, and the laws
below are the ones of `Mux/Proofs/Params.lean` read for headers. -/

namespace Hdr

theorem set_eq_upd (h : Hdr) (k v : Bytes) : h.set k v = AMap.upd h k (fun _ => [v]) := rfl
theorem add_eq_upd (h : Hdr) (k v : Bytes) : h.add k v = AMap.upd h k (fun vs => vs.getD [] ++ [v]) := rfl

theorem get_eq (h : Hdr) (k : Bytes) : h.get k = ((AMap.get? h k).getD []).headD [] := by
  unfold get AMap.get?
  cases List.find? (fun e => decide (e.1 = k)) h with
  | none => rfl
  | some e => obtain ⟨_, vs⟩ := e; cases vs <;> rfl

theorem has_del_ne (h : Hdr) {k k' : Bytes} (hne : k' ≠ k) : (h.del k).has k' = h.has k' :=
  AMap.contains_erase_ne h hne

theorem del_set_ne (h : Hdr) {k k' : Bytes} (v : Bytes) (hne : k' ≠ k) :
    (h.set k' v).del k = (h.del k).set k' v :=
  AMap.erase_upd_ne h (fun _ => [v]) hne

theorem del_add_ne (h : Hdr) {k k' : Bytes} (v : Bytes) (hne : k' ≠ k) :
    (h.add k' v).del k = (h.del k).add k' v :=
  AMap.erase_upd_ne h (fun vs => vs.getD [] ++ [v]) hne

theorem del_del_comm (h : Hdr) (k k' : Bytes) : (h.del k').del k = (h.del k).del k' :=
  AMap.erase_erase_comm h k k'

theorem del_set_self (h : Hdr) (k v : Bytes) : (h.set k v).del k = h.del k :=
  AMap.erase_upd_self h k (fun _ => [v])

theorem del_add_self (h : Hdr) (k v : Bytes) : (h.add k v).del k = h.del k :=
  AMap.erase_upd_self h k (fun vs => vs.getD [] ++ [v])

theorem del_del_self (h : Hdr) (k : Bytes) : (h.del k).del k = h.del k := by
  simp [del, List.filter_filter]

theorem del_set_congr {h h' : Hdr} {c : Bytes} (k v : Bytes) (e : h.del c = h'.del c) :
    (h.set k v).del c = (h'.set k v).del c :=
  AMap.erase_upd_congr k (fun _ => [v]) e

theorem del_add_congr {h h' : Hdr} {c : Bytes} (k v : Bytes) (e : h.del c = h'.del c) :
    (h.add k v).del c = (h'.add k v).del c :=
  AMap.erase_upd_congr k (fun vs => vs.getD [] ++ [v]) e

theorem del_del_congr {h h' : Hdr} {c : Bytes} (k : Bytes) (e : h.del c = h'.del c) :
    (h.del k).del c = (h'.del k).del c := by
  rw [del_del_comm, del_del_comm h', e]

theorem get_set_self (h : Hdr) (k v : Bytes) : (h.set k v).get k = v := by
  rw [get_eq, set_eq_upd, AMap.get?_upd, if_pos rfl]; rfl

theorem get_set_ne (h : Hdr) {k k' : Bytes} (v : Bytes) (hne : k' ≠ k) :
    (h.set k' v).get k = h.get k := by
  rw [get_eq, get_eq, set_eq_upd, AMap.get?_upd, if_neg (Ne.symm hne)]

theorem get_add_ne (h : Hdr) {k k' : Bytes} (v : Bytes) (hne : k' ≠ k) :
    (h.add k' v).get k = h.get k := by
  rw [get_eq, get_eq, add_eq_upd, AMap.get?_upd, if_neg (Ne.symm hne)]

theorem get_del_ne (h : Hdr) {k k' : Bytes} (hne : k' ≠ k) : (h.del k').get k = h.get k := by
  rw [get_eq, get_eq, show h.del k' = AMap.erase h k' from rfl, AMap.get?_erase, if_neg (Ne.symm hne)]

end Hdr

/-- The status the client sees: an unset status is the implicit 200. -/
def Rec.status (r : Rec) : Nat := r.code.getD 200

def Act.key : Act → Option Bytes
  | .setHeader k _ => some k
  | .addHeader k _ => some k
  | .delHeader k => some k
  | _ => none

def written : List Act → Nat
  | [] => 0
  | .write n :: as => n + written as
  | _ :: as => written as

theorem informational_200 : informational 200 = false := by decide
theorem informational_101 : informational 101 = false := by decide

theorem informational_iff (c : Nat) : informational c = true ↔ 100 ≤ c ∧ c ≤ 199 ∧ c ≠ 101 := by
  simp [informational, and_assoc]

/-- The flag `headResponse.WriteHeader` stores: `status < 100 || status > 199 || status == 101`. -/
theorem not_informational_iff (c : Nat) : (!informational c) = true ↔ c < 100 ∨ c > 199 ∨ c = 101 := by
  rw [Bool.not_eq_true', ← Bool.not_eq_true, informational_iff]
  omega

theorem Rec.writeHeader_info (r : Rec) (c : Nat) (hi : informational c = true) : r.writeHeader c = r := by
  unfold Rec.writeHeader; rw [if_pos hi]
theorem Rec.writeHeader_some (r : Rec) (c x : Nat) (h : r.code = some x) : r.writeHeader c = r := by
  unfold Rec.writeHeader; rw [h]; split <;> rfl
theorem Rec.writeHeader_first (r : Rec) (c : Nat) (hi : informational c = false) (h : r.code = none) :
    r.writeHeader c = { r with code := some c, snap := some r.hdr } := by
  unfold Rec.writeHeader; rw [hi, h]; rfl
theorem Rec.writeHeader_hdr (r : Rec) (c : Nat) : (r.writeHeader c).hdr = r.hdr := by
  unfold Rec.writeHeader; split
  · rfl
  · split <;> rfl
theorem Rec.writeHeader_body (r : Rec) (c : Nat) : (r.writeHeader c).body = r.body := by
  unfold Rec.writeHeader; split
  · rfl
  · split <;> rfl
theorem Rec.write_some (r : Rec) (n x : Nat) (h : r.code = some x) : r.write n = { r with body := r.body + n } := by
  unfold Rec.write; rw [Rec.writeHeader_some _ _ _ h]
theorem Rec.write_first (r : Rec) (n : Nat) (h : r.code = none) :
    r.write n = { r with code := some 200, snap := some r.hdr, body := r.body + n } := by
  unfold Rec.write; rw [Rec.writeHeader_first _ _ informational_200 h]

theorem runGet_code (acts : List Act) (r : Rec) (x : Nat) (h : r.code = some x) : (runGet acts r).code = some x := by
  induction acts generalizing r with
  | nil => exact h
  | cons a as ih =>
    cases a with
    | writeHeader c => simp only [runGet]; exact ih _ (by rw [Rec.writeHeader_some _ _ _ h]; exact h)
    | write n => simp only [runGet]; exact ih _ (by rw [Rec.write_some _ _ _ h]; exact h)
    | _ => simp only [runGet]; exact ih _ h

theorem runHead_body (acts : List Act) (sz : Nat) (wr : Bool) (r : Rec) :
    (runHead acts sz wr r).body = r.body := by
  induction acts generalizing sz wr r with
  | nil => rfl
  | cons a as ih =>
    cases a <;> simp only [runHead, ih]
    · cases wr
      · exact Rec.writeHeader_body r _
      · rfl

/-- The simulation relation between the recorder under `headResponse{size, wrote}` and the recorder
of the plain GET run after the same prefix of the script. -/
structure HeadSim (wr : Bool) (rh rg : Rec) : Prop where
  hdr : rh.hdr.del hContentLength = rg.hdr.del hContentLength
  status : rh.status = rg.status
  wrote : wr = true → ∃ x, rg.code = some x
  notyet : wr = false → rh.code = rg.code

/-- Snapshot part of the simulation: the wrapper's recorder has no snapshot yet, or the GET recorder has sent its
header too and the two snapshots agree, Content-Length aside.  It is kept apart because, unlike `HeadSim`, it does
not hold between an arbitrary recorder and itself. -/
def SnapSim (rh rg : Rec) : Prop :=
  rh.snap = none ∨
    ((∃ x, rg.code = some x) ∧
      ∃ s s', rh.snap = some s ∧ rg.snap = some s' ∧ s.del hContentLength = s'.del hContentLength)

theorem headSim_init (r0 : Rec) : HeadSim false r0 r0 := ⟨rfl, rfl, nofun, fun _ => rfl⟩

theorem HeadSim.withHdr {wr : Bool} {rh rg : Rec} (h : HeadSim wr rh rg) {hh hg : Hdr}
    (e : hh.del hContentLength = hg.del hContentLength) : HeadSim wr { rh with hdr := hh } { rg with hdr := hg } :=
  ⟨e, h.status, h.wrote, h.notyet⟩

theorem headSim_writeHeader (wr : Bool) (rh rg : Rec) (c : Nat) (h : HeadSim wr rh rg) :
    HeadSim (if wr then true else !informational c) (if wr then rh else rh.writeHeader c) (rg.writeHeader c) ∧
    (SnapSim rh rg → SnapSim (if wr then rh else rh.writeHeader c) (rg.writeHeader c)) := by
  cases wr with
  | true =>
    obtain ⟨x, hx⟩ := h.wrote rfl
    rw [Rec.writeHeader_some _ _ _ hx]
    exact ⟨h, id⟩
  | false =>
    show HeadSim (!informational c) (rh.writeHeader c) (rg.writeHeader c) ∧
      (SnapSim rh rg → SnapSim (rh.writeHeader c) (rg.writeHeader c))
    have hc := h.notyet rfl
    cases hi : informational c with
    | true =>
      rw [Rec.writeHeader_info _ _ hi, Rec.writeHeader_info _ _ hi]
      exact ⟨h, id⟩
    | false =>
      cases hg : rg.code with
      | some x =>
        rw [Rec.writeHeader_some _ _ _ hg, Rec.writeHeader_some _ _ _ (hc.trans hg)]
        exact ⟨⟨h.hdr, h.status, fun _ => ⟨x, hg⟩, nofun⟩, id⟩
      | none =>
        rw [Rec.writeHeader_first _ _ hi hg, Rec.writeHeader_first _ _ hi (hc.trans hg)]
        exact ⟨⟨h.hdr, rfl, fun _ => ⟨c, rfl⟩, nofun⟩, fun _ => .inr ⟨⟨c, rfl⟩, _, _, rfl, rfl, h.hdr⟩⟩

theorem headSim_write (wr : Bool) (rh rg : Rec) (n : Nat) (v : Bytes) (h : HeadSim wr rh rg) :
    HeadSim true { rh with hdr := rh.hdr.set hContentLength v } (rg.write n) ∧
    (SnapSim rh rg → SnapSim { rh with hdr := rh.hdr.set hContentLength v } (rg.write n)) := by
  have hhdr : (rh.hdr.set hContentLength v).del hContentLength = rg.hdr.del hContentLength := by
    rw [Hdr.del_set_self]; exact h.hdr
  cases hg : rg.code with
  | some x =>
    rw [Rec.write_some _ _ _ hg]
    exact ⟨⟨hhdr, h.status, fun _ => ⟨x, hg⟩, nofun⟩, id⟩
  | none =>
    -- the implicit 200: the wrapper has forwarded nothing yet, so its recorder has no status and no snapshot
    have hwr : wr = false := by
      cases wr with
      | false => rfl
      | true => obtain ⟨x, hx⟩ := h.wrote rfl; rw [hg] at hx; cases hx
    have hc : rh.code = none := (h.notyet hwr).trans hg
    rw [Rec.write_first _ _ hg]
    refine ⟨⟨hhdr, ?_, fun _ => ⟨200, rfl⟩, nofun⟩, fun hs => .inl ?_⟩
    · show rh.code.getD 200 = 200
      rw [hc]; rfl
    · rcases hs with hs | ⟨⟨x, hx⟩, _⟩
      · exact hs
      · rw [hg] at hx; cases hx

theorem headSim_run (acts : List Act) (sz : Nat) (wr : Bool) (rh rg : Rec) (h : HeadSim wr rh rg) :
    (∃ wr', HeadSim wr' (runHead acts sz wr rh) (runGet acts rg)) ∧
    (SnapSim rh rg → SnapSim (runHead acts sz wr rh) (runGet acts rg)) := by
  induction acts generalizing sz wr rh rg with
  | nil => exact ⟨⟨wr, h⟩, id⟩
  | cons a as ih =>
    cases a with
    | setHeader k v => exact ih _ _ _ _ (h.withHdr (Hdr.del_set_congr k v h.hdr))
    | addHeader k v => exact ih _ _ _ _ (h.withHdr (Hdr.del_add_congr k v h.hdr))
    | delHeader k => exact ih _ _ _ _ (h.withHdr (Hdr.del_del_congr k h.hdr))
    | writeHeader c =>
      have hstep := headSim_writeHeader wr rh rg c h
      have hrest := ih sz _ _ _ hstep.1
      exact ⟨hrest.1, fun hs => hrest.2 (hstep.2 hs)⟩
    | write n =>
      have hstep := headSim_write wr rh rg n (natToBytes (sz + n)) h
      have hrest := ih (sz + n) _ _ _ hstep.1
      exact ⟨hrest.1, fun hs => hrest.2 (hstep.2 hs)⟩

/-- If the handler leaves Content-Length alone, the live header map shows the byte count from the first `Write` on
(or already does). -/
theorem runHead_length_gen (acts : List Act) (sz : Nat) (wr : Bool) (r : Rec)
    (hclean : ∀ a ∈ acts, a.key ≠ some hContentLength)
    (hw : (∃ n, Act.write n ∈ acts) ∨ r.hdr.get hContentLength = natToBytes sz) :
    (runHead acts sz wr r).hdr.get hContentLength = natToBytes (sz + written acts) := by
  induction acts generalizing sz wr r with
  | nil => exact hw.elim (fun ⟨_, h⟩ => nomatch h) id
  | cons a as ih =>
    have hclean' : ∀ a ∈ as, a.key ≠ some hContentLength := fun a ha => hclean a (List.mem_cons_of_mem _ ha)
    have hk := hclean a (List.mem_cons_self ..)
    -- an action other than `Write` that leaves Content-Length alone hands the hypothesis on to the rest of the script
    have pass : ∀ r' : Rec, (∀ n, Act.write n ≠ a) → r'.hdr.get hContentLength = r.hdr.get hContentLength →
        (∃ n, Act.write n ∈ as) ∨ r'.hdr.get hContentLength = natToBytes sz :=
      fun r' ha hr' => hw.imp (fun ⟨n, hn⟩ => ⟨n, (List.mem_cons.1 hn).resolve_left (ha n)⟩) (hr'.trans ·)
    cases a with
    | setHeader k v => exact ih _ _ _ hclean' (pass _ nofun (Hdr.get_set_ne _ _ fun e => hk (congrArg some e)))
    | addHeader k v => exact ih _ _ _ hclean' (pass _ nofun (Hdr.get_add_ne _ _ fun e => hk (congrArg some e)))
    | delHeader k => exact ih _ _ _ hclean' (pass _ nofun (Hdr.get_del_ne _ fun e => hk (congrArg some e)))
    | writeHeader c =>
      refine ih _ _ _ hclean' (pass _ nofun ?_)
      cases wr
      · exact congrArg (fun h => Hdr.get h hContentLength) (Rec.writeHeader_hdr r c)
      · rfl
    | write n =>
      simp only [runHead, written]
      rw [ih _ _ _ hclean' (.inr (Hdr.get_set_self _ _ _)), Nat.add_assoc]

/-- Without a FINAL `WriteHeader` (informational ones are allowed) status and snapshot stay as they were: on a recorder
that has sent nothing, nothing has been sent when the handler returns, and the live header map (with the accumulated
Content-Length) is what `net/http` sends. -/
theorem runHead_unsent (acts : List Act) (sz : Nat) (wr : Bool) (r : Rec)
    (hnw : ∀ c, Act.writeHeader c ∈ acts → informational c = true) :
    (runHead acts sz wr r).code = r.code ∧ (runHead acts sz wr r).snap = r.snap := by
  induction acts generalizing sz wr r with
  | nil => exact ⟨rfl, rfl⟩
  | cons a as ih =>
    have h' : ∀ c, Act.writeHeader c ∈ as → informational c = true := fun c hc => hnw c (List.mem_cons_of_mem _ hc)
    cases a with
    | writeHeader c =>
      simp only [runHead]
      rw [(ih _ _ _ h').1, (ih _ _ _ h').2]
      cases wr
      · show (r.writeHeader c).code = r.code ∧ (r.writeHeader c).snap = r.snap
        rw [Rec.writeHeader_info _ _ (hnw c (List.mem_cons_self ..))]; exact ⟨rfl, rfl⟩
      · exact ⟨rfl, rfl⟩
    | _ => exact ih _ _ _ h'

def Call.rec0 (c : Call) : Rec := { hdr := c.respHeaders }

/-- The value with which the outermost panicking middleware panics (`wraps` is innermost first). -/
def mwPanic (pc : PanicCfg) (h : Handler) : Option Nat :=
  (h.wraps.reverse.filterMap (fun w => lookupNat pc.mws w.mw)).head?

def basePanic (pc : PanicCfg) : Base → Option Nat
  | .user id => lookupNat pc.handlers id
  | b => lookupNat pc.bases b.code

/-- `node.AllowHeader()` of the matched node (empty without a node). -/
def Call.allow (c : Call) : Bytes :=
  match c.node with
  | some n => n.allow
  | none => []

/-- The script `runCall` runs (or the panic raised before/instead of it).  It does not look at
`c.headWrap`. -/
def callScript (pc : PanicCfg) (scripts : Scripts) (c : Call) : Except PanicVal (List Act) :=
  match mwPanic pc c.handler with
  | some v => .error (.user v)
  | none =>
    match basePanic pc c.handler.base with
    | some v => .error (.user v)
    | none =>
      match c.handler.script scripts c.allow with
      | none => .error .fault
      | some acts => .ok acts

theorem runCall_eq (pc : PanicCfg) (scripts : Scripts) (c : Call) :
    runCall pc scripts c =
      match mwPanic pc c.handler with
      | some v => .error (.user v)
      | none =>
        match basePanic pc c.handler.base with
        | some v => .error (.user v)
        | none =>
          match c.handler.script scripts c.allow with
          | none => .error .fault
          | some acts => .ok (if c.headWrap then runHead acts 0 false c.rec0 else runGet acts c.rec0) := by
  obtain ⟨⟨base, wraps⟩, node, ok, params, routerName, respHeaders, headWrap, path, recover⟩ := c
  cases base <;> rfl

/-- A call that returns leaves the record of its script on the writer it was handed, as the recovery function does
(`recRec`). -/
theorem runCall_eq_callScript (pc : PanicCfg) (scripts : Scripts) (c : Call) :
    runCall pc scripts c = (callScript pc scripts c).map (recRec · c.headWrap c.respHeaders) := by
  rw [runCall_eq]; unfold callScript
  split
  · rfl
  · split
    · rfl
    · split <;> rfl

theorem callScript_headWrap (pc : PanicCfg) (scripts : Scripts) (c : Call) (b : Bool) :
    callScript pc scripts { c with headWrap := b } = callScript pc scripts c := rfl

section
variable {pc : PanicCfg} {scripts : Scripts} {c : Call}

theorem callScript_ok_iff {acts : List Act} :
    callScript pc scripts c = .ok acts ↔
      mwPanic pc c.handler = none ∧ basePanic pc c.handler.base = none ∧
        c.handler.script scripts c.allow = some acts := by
  fun_cases callScript pc scripts c <;> simp [*]

theorem callScript_user_iff {v : Nat} :
    callScript pc scripts c = .error (.user v) ↔
      mwPanic pc c.handler = some v ∨ (mwPanic pc c.handler = none ∧ basePanic pc c.handler.base = some v) := by
  fun_cases callScript pc scripts c <;> simp [*]

theorem runCall_error_iff {v : PanicVal} :
    runCall pc scripts c = .error v ↔ callScript pc scripts c = .error v := by
  rw [runCall_eq_callScript]
  cases callScript pc scripts c <;> simp [Except.map]

theorem runCall_ok_iff {rec : Rec} :
    runCall pc scripts c = .ok rec ↔
      mwPanic pc c.handler = none ∧ basePanic pc c.handler.base = none ∧
        ∃ acts, c.handler.script scripts c.allow = some acts ∧
          rec = if c.headWrap then runHead acts 0 false c.rec0 else runGet acts c.rec0 := by
  rw [runCall_eq_callScript, map_ok_iff]
  simp only [callScript_ok_iff]
  exact ⟨fun ⟨acts, ⟨h1, h2, h3⟩, e⟩ => ⟨h1, h2, acts, h3, e⟩, fun ⟨h1, h2, acts, h3, e⟩ => ⟨acts, ⟨h1, h2, h3⟩, e⟩⟩

theorem finish_call_ok {rec : Rec} (h : runCall pc scripts c = .ok rec) :
    (ServeRes.call c).finish pc scripts = (some c, .normal rec) := by
  rw [ServeRes.finish, h]; rfl

theorem finish_call_error {v : PanicVal} (h : runCall pc scripts c = .error v) :
    (ServeRes.call c).finish pc scripts =
      (some c, if c.recover then .recovered v (recRec c.recActs c.headWrap c.respHeaders) else .panicked v) := by
  rw [ServeRes.finish, h]; rfl

end

end Mux
