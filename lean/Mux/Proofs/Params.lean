/-
  Mux.Proofs.Params — the laws of the association-list maps `AMap` (`Params`, header maps, handler maps, the abstract
  table), all of them: `get?`/`contains`/`keys` against `set`, `erase`, `upd`, filters and value maps; the context pool.
-/
import Mux.Model.Ctx
import Mux.Proofs.FoldRules
namespace Mux

namespace AMap
variable {V : Type}

@[simp] theorem get?_nil (k : Bytes) : AMap.get? ([] : AMap V) k = none := rfl

theorem get?_cons (e : Bytes × V) (m : AMap V) (k : Bytes) :
    AMap.get? (e :: m) k = if e.1 = k then some e.2 else AMap.get? m k := by
  unfold AMap.get?
  by_cases h : e.1 = k <;> simp [h]

@[simp] theorem contains_nil (k : Bytes) : AMap.contains ([] : AMap V) k = false := rfl

theorem contains_cons (e : Bytes × V) (m : AMap V) (k : Bytes) :
    AMap.contains (e :: m) k = (decide (e.1 = k) || AMap.contains m k) := rfl

theorem contains_eq_isSome (m : AMap V) (k : Bytes) : m.contains k = (m.get? k).isSome := by
  rw [Bool.eq_iff_iff, get?, Option.isSome_map, List.find?_isSome, contains, List.any_eq_true]

theorem contains_iff (m : AMap V) (k : Bytes) : m.contains k = true ↔ k ∈ m.keys := by
  simp only [contains, keys, List.any_eq_true, List.mem_map, decide_eq_true_eq]

theorem contains_false_iff (m : AMap V) (k : Bytes) : m.contains k = false ↔ k ∉ m.keys := by
  rw [← contains_iff, Bool.not_eq_true]

theorem get?_isSome_iff (m : AMap V) (k : Bytes) : (m.get? k).isSome ↔ k ∈ m.keys := by
  rw [← contains_eq_isSome]; exact contains_iff m k

theorem exists_get?_of_mem {m : AMap V} {k : Bytes} (h : k ∈ m.keys) : ∃ v, m.get? k = some v :=
  Option.isSome_iff_exists.1 ((get?_isSome_iff m k).2 h)

theorem get?_eq_none_iff (m : AMap V) (k : Bytes) : m.get? k = none ↔ k ∉ m.map (·.1) := by
  rw [← Option.not_isSome_iff_eq_none, get?_isSome_iff]; rfl

theorem get?_append (m₁ m₂ : AMap V) (k : Bytes) :
    AMap.get? (m₁ ++ m₂) k = (AMap.get? m₁ k).or (AMap.get? m₂ k) := by
  unfold AMap.get?
  rw [List.find?_append]
  cases List.find? _ m₁ <;> rfl

theorem keys_mapVals (hs : AMap V) (φ : Bytes → V → V) :
    AMap.keys (hs.map (fun e => (e.1, φ e.1 e.2))) = hs.keys := by
  simp [AMap.keys, List.map_map, Function.comp_def]

theorem get?_mapVals (hs : AMap V) (φ : Bytes → V → V) (k : Bytes) :
    AMap.get? (hs.map (fun e => (e.1, φ e.1 e.2))) k = (hs.get? k).map (φ k) := by
  unfold AMap.get?
  rw [List.find?_map, Option.map_map, Option.map_map]
  show Option.map (fun e => φ e.1 e.2) (hs.find? (·.1 = k)) = Option.map (fun e => φ k e.2) (hs.find? (·.1 = k))
  -- the entry found has the key `k`
  refine Option.map_congr fun e he => ?_
  have hk : e.1 = k := by simpa using List.find?_some he
  rw [hk]

theorem get?_mapAt (m : AMap V) (k : Bytes) (f : V → V) (k' : Bytes) :
    AMap.get? (m.map fun e => if e.1 = k then (e.1, f e.2) else e) k' =
      (m.get? k').map fun v => if k' = k then f v else v := by
  rw [show m.map (fun e => if e.1 = k then (e.1, f e.2) else e) = m.map fun e => (e.1, if e.1 = k then f e.2 else e.2)
    from List.map_congr_left fun e _ => by split <;> rfl]
  exact get?_mapVals m (fun k' v => if k' = k then f v else v) k'

/-- Go's `m[k] = g(m[k])`: the entries with key `k` are rewritten, or a new one is appended.  `AMap.set` is the
instance with a constant `g`; so is `Hdr.set`, and `Hdr.add` appends to the old value. -/
def upd (m : AMap V) (k : Bytes) (g : Option V → V) : AMap V :=
  if m.contains k then m.map (fun e => if e.1 = k then (k, g (some e.2)) else e) else m ++ [(k, g none)]

theorem upd_entry_fst (k : Bytes) (g : Option V → V) (e : Bytes × V) :
    (if e.1 = k then (k, g (some e.2)) else e).1 = e.1 := by
  split
  · exact (‹e.1 = k›).symm
  · rfl

theorem get?_upd (m : AMap V) (k k' : Bytes) (g : Option V → V) :
    (m.upd k g).get? k' = if k' = k then some (g (m.get? k)) else m.get? k' := by
  unfold upd
  rw [contains_eq_isSome]
  cases hg : m.get? k with
  | some v =>
    rw [if_pos (show (some v).isSome = true from rfl), show m.map (fun e => if e.1 = k then (k, g (some e.2)) else e) =
        m.map fun e => if e.1 = k then (e.1, g (some e.2)) else e
      from List.map_congr_left fun e _ => by split <;> simp [*], get?_mapAt m k fun v => g (some v)]
    by_cases h2 : k' = k
    · simp [h2, hg]
    · simp [h2]
  | none =>
    rw [if_neg (by simp), get?_append, get?_cons, get?_nil]
    by_cases h2 : k' = k
    · simp [h2, hg]
    · simp [h2, Ne.symm h2]

theorem get?_set (m : AMap V) (k k' : Bytes) (v : V) :
    (m.set k v).get? k' = if k' = k then some v else m.get? k' :=
  get?_upd m k k' (fun _ => v)

theorem keys_filterKeys (m : AMap V) (p : Bytes → Bool) : AMap.keys (m.filter fun e => p e.1) = m.keys.filter p := by
  simp [AMap.keys, List.filter_map, Function.comp_def]

theorem get?_filterKeys (m : AMap V) (p : Bytes → Bool) (k : Bytes) :
    AMap.get? (m.filter fun e => p e.1) k = if p k then m.get? k else none := by
  unfold get?
  rw [List.find?_filter]
  -- on an entry under `k` the filter says `p k`
  have : (fun e : Bytes × V => decide (p e.1 = true ∧ decide (e.1 = k) = true)) = fun e => p k && decide (e.1 = k) := by
    funext e
    by_cases h : e.1 = k <;> simp [h]
  rw [this]
  cases p k <;> simp

theorem get?_erase (m : AMap V) (k k' : Bytes) :
    (m.erase k).get? k' = if k' = k then none else m.get? k' := by
  refine (get?_filterKeys m (fun a => decide (a ≠ k)) k').trans ?_
  by_cases h : k' = k <;> simp [h]

theorem contains_erase_ne (m : AMap V) {k k' : Bytes} (hne : k' ≠ k) : (m.erase k).contains k' = m.contains k' := by
  rw [contains_eq_isSome, contains_eq_isSome, get?_erase, if_neg hne]

theorem erase_map (m : AMap V) (k : Bytes) (f : Bytes × V → Bytes × V) (hf : ∀ e, (f e).1 = e.1) :
    erase (m.map f) k = (erase m k).map f := by
  unfold erase
  rw [List.filter_map]
  congr 2; funext e; simp [hf]

theorem erase_map_id (m : AMap V) (k : Bytes) (f : Bytes × V → Bytes × V) (hf : ∀ e, e.1 ≠ k → f e = e) :
    (erase m k).map f = erase m k := by
  have : ∀ e ∈ erase m k, f e = id e := by
    intro e he
    simp only [erase, List.mem_filter, decide_eq_true_eq] at he
    exact hf e he.2
  rw [List.map_congr_left this, List.map_id]

theorem erase_upd_self (m : AMap V) (k : Bytes) (g : Option V → V) : (m.upd k g).erase k = m.erase k := by
  unfold upd
  split
  · rw [erase_map _ _ _ (upd_entry_fst k g)]
    exact erase_map_id _ _ _ (by intro e he; simp [he])
  · simp [erase, List.filter_append]

theorem erase_upd_ne (m : AMap V) {k k' : Bytes} (g : Option V → V) (hne : k' ≠ k) :
    (m.upd k' g).erase k = (m.erase k).upd k' g := by
  unfold upd
  rw [contains_erase_ne m hne]
  split
  · exact erase_map _ _ _ (upd_entry_fst k' g)
  · simp [erase, List.filter_append, hne]

theorem erase_erase_comm (m : AMap V) (k k' : Bytes) : (m.erase k').erase k = (m.erase k).erase k' := by
  simp only [erase, List.filter_filter]
  congr 1; funext e; exact Bool.and_comm _ _

theorem erase_upd_congr {m m' : AMap V} {c : Bytes} (k : Bytes) (g : Option V → V) (e : m.erase c = m'.erase c) :
    (m.upd k g).erase c = (m'.upd k g).erase c := by
  by_cases hk : k = c
  · subst hk; rw [erase_upd_self, erase_upd_self, e]
  · rw [erase_upd_ne m g hk, erase_upd_ne m' g hk, e]

theorem length_set (m : AMap V) (k : Bytes) (v : V) :
    (m.set k v).length = if (m.get? k).isSome then m.length else m.length + 1 := by
  unfold AMap.set
  rw [contains_eq_isSome]
  split
  · exact List.length_map _
  · exact List.length_append

theorem keys_upd (m : AMap V) (k : Bytes) (g : Option V → V) :
    (m.upd k g).map (·.1) = if m.contains k then m.map (·.1) else m.map (·.1) ++ [k] := by
  unfold AMap.upd
  split
  · rw [List.map_map]
    exact List.map_congr_left fun e _ => upd_entry_fst k g e
  · exact List.map_append

theorem keys_set (m : AMap V) (k : Bytes) (v : V) :
    (m.set k v).map (·.1) = if m.contains k then m.map (·.1) else m.map (·.1) ++ [k] :=
  keys_upd m k fun _ => v

theorem nodup_keys_upd (m : AMap V) (k : Bytes) (g : Option V → V) (h : (m.map (·.1)).Nodup) :
    ((m.upd k g).map (·.1)).Nodup := by
  rw [keys_upd]
  split
  · exact h
  · rename_i hc
    exact h.snoc fun hk => hc ((contains_iff m k).2 hk)

theorem nodup_keys_set (m : AMap V) (k : Bytes) (v : V) (h : (m.map (·.1)).Nodup) :
    ((m.set k v).map (·.1)).Nodup :=
  nodup_keys_upd m k (fun _ => v) h

theorem keys_erase (m : AMap V) (k : Bytes) :
    (m.erase k).map (·.1) = (m.map (·.1)).filter (· ≠ k) :=
  keys_filterKeys m fun a => decide (a ≠ k)

theorem nodup_keys_erase (m : AMap V) (k : Bytes) (h : (m.map (·.1)).Nodup) :
    ((m.erase k).map (·.1)).Nodup := by
  rw [keys_erase]; exact h.filter _

theorem length_erase (m : AMap V) (k : Bytes) (h : (m.map (·.1)).Nodup) :
    (m.erase k).length = if (m.get? k).isSome then m.length - 1 else m.length := by
  -- counted on the keys: without repetitions, filtering `k` out is core's `List.erase`
  have hk : (m.erase k).length = ((m.map (·.1)).erase k).length := by
    rw [h.erase_eq_filter, ← List.length_map (·.1), keys_erase]
    exact congrArg _ (List.filter_congr fun x _ => Bool.eq_iff_iff.2 (decide_eq_true_iff.trans bne_iff_ne.symm))
  rw [hk, List.length_erase, List.length_map, ← contains_eq_isSome]
  simp only [contains_iff, keys]

/-- Without the unique-key invariant only this direction of `mem_iff_get?` holds. -/
theorem mem_of_get? (m : AMap V) (k : Bytes) (v : V) (h : m.get? k = some v) : (k, v) ∈ m := by
  obtain ⟨e, he, rfl⟩ := Option.map_eq_some_iff.1 h
  have hk : e.1 = k := by simpa using List.find?_some he
  exact hk ▸ List.mem_of_find?_eq_some he

theorem mem_iff_get? (m : AMap V) (k : Bytes) (v : V) (h : (m.map (·.1)).Nodup) :
    (k, v) ∈ m ↔ m.get? k = some v := by
  refine ⟨fun hm => ?_, mem_of_get? m k v⟩
  induction m with
  | nil => cases hm
  | cons e m ih =>
    rw [List.map_cons, List.nodup_cons] at h
    rw [get?_cons]
    rcases List.mem_cons.1 hm with rfl | hm
    · rw [if_pos rfl]
    · rw [if_neg (fun he => h.1 (List.mem_map.2 ⟨(k, v), hm, he.symm⟩)), ih h.2 hm]

theorem get?_perm {a b : AMap V} (h : a.Perm b) (hnd : a.keys.Nodup) (q : Bytes) : a.get? q = b.get? q :=
  -- with unique keys a lookup is a membership (`mem_iff_get?`), and the two maps have the same entries
  Option.ext fun v => by
    rw [← mem_iff_get? a q v hnd, ← mem_iff_get? b q v ((h.map _).nodup_iff.1 hnd), h.mem_iff]

theorem mem_keys_set (hs : AMap V) (k a : Bytes) (v : V) :
    a ∈ (hs.set k v).keys ↔ a ∈ hs.keys ∨ a = k := by
  show a ∈ (hs.set k v).map (·.1) ↔ _
  rw [keys_set]
  split
  · next hk => exact ⟨.inl, fun h => h.elim id (· ▸ (contains_iff _ _).1 hk)⟩
  · simp [keys]

theorem mem_upd {hs : AMap V} {k : Bytes} {g : Option V → V} {e : Bytes × V} (he : e ∈ hs.upd k g) :
    e ∈ hs ∨ ∃ o, e = (k, g o) := by
  unfold AMap.upd at he
  split at he
  · obtain ⟨e0, he0, rfl⟩ := List.mem_map.1 he
    split
    · exact .inr ⟨_, rfl⟩
    · exact .inl he0
  · exact (List.mem_append.1 he).imp_right fun h => ⟨none, List.mem_singleton.1 h⟩

theorem mem_set {hs : AMap V} {k : Bytes} {v : V} {e : Bytes × V} (he : e ∈ hs.set k v) :
    e ∈ hs ∨ e = (k, v) :=
  (mem_upd (g := fun _ => v) he).imp_right fun ⟨_, h⟩ => h

theorem set_fresh {m : AMap V} {k : Bytes} (v : V) (h : k ∉ m.keys) : m.set k v = m ++ [(k, v)] := by
  simp [set, (contains_false_iff m k).2 h]

theorem erase_fresh {m : AMap V} {k : Bytes} (h : k ∉ m.keys) : m.erase k = m :=
  List.filter_eq_self.2 fun _ he => decide_eq_true fun hk => h (hk ▸ List.mem_map_of_mem he)

theorem erase_set_fresh {m : AMap V} {k : Bytes} (v : V) (h : k ∉ m.keys) : (m.set k v).erase k = m := by
  rw [set_fresh v h]
  have := erase_fresh h
  unfold erase at this ⊢
  rw [List.filter_append, this]
  simp

theorem set_of_contains {m : AMap V} {k : Bytes} (v : V) (h : m.contains k = true) :
    m.set k v = m.map (fun e => if e.1 = k then (k, v) else e) := by
  unfold AMap.set; rw [if_pos h]

theorem set_self {m : AMap V} (hnd : m.keys.Nodup) {k : Bytes} {v : V} (h : m.get? k = some v) : m.set k v = m := by
  have hc : m.contains k = true := by rw [contains_eq_isSome, h]; rfl
  rw [set_of_contains v hc]
  -- the one entry under `k` is `(k, v)`
  refine (List.map_congr_left fun e he => ?_).trans (List.map_id m)
  split
  · next hk =>
    have := (mem_iff_get? m e.1 e.2 hnd).1 he
    rw [hk, h] at this
    exact Prod.ext hk.symm (Option.some.inj this)
  · rfl

theorem set_set (m : AMap V) (k : Bytes) (c v : V) : (m.set k c).set k v = m.set k v := by
  by_cases hc : m.contains k = true
  · have hc' : (m.set k c).contains k = true := by
      rw [contains_eq_isSome, get?_set]; simp
    rw [set_of_contains v hc', set_of_contains c hc, set_of_contains v hc, List.map_map]
    apply List.map_congr_left
    intro e _
    by_cases hk : e.1 = k <;> simp [hk]
  · have hk : k ∉ m.keys := fun hmem => hc ((contains_iff m k).2 hmem)
    -- `m` has no entry under `k`, so the rewriting of `set` changes only the appended one
    have hid := erase_map_id m k (fun e => if e.1 = k then (k, v) else e) fun e he => if_neg he
    rw [erase_fresh hk] at hid
    rw [set_fresh c hk, set_fresh v hk, set_of_contains v (by simp [AMap.contains]), List.map_append, hid]
    simp

theorem keys_append (m m' : AMap V) : (m ++ m').keys = m.keys ++ m'.keys := by
  simp [keys]

theorem map_fst {β : Type} (m : AMap V) (f : Bytes → β) : m.map (fun e => f e.1) = m.keys.map f := by
  simp [keys, List.map_map, Function.comp_def]

theorem get?_append_fresh {m m' : AMap V} {k : Bytes} (h : k ∉ m.keys) : (m ++ m').get? k = m'.get? k := by
  rw [get?_append, (get?_eq_none_iff m k).2 h]; rfl

/-- Filtering by value needs unique keys: a dropped entry must not uncover a second one under the same key. -/
theorem get?_filterVals (m : AMap V) (P : V → Bool) (hnd : m.keys.Nodup) (k : Bytes) :
    AMap.get? (m.filter fun e => P e.2) k = (m.get? k).filter P :=
  Option.ext fun v => by
    rw [← mem_iff_get? _ k v (hnd.sublist (List.filter_sublist.map _)), List.mem_filter, mem_iff_get? m k v hnd,
      Option.filter_eq_some_iff]

end AMap

namespace P18
variable {V : Type}

theorem get?_set_self (m : AMap V) (k : Bytes) (v : V) : (m.set k v).get? k = some v := by
  rw [AMap.get?_set]; simp

theorem get?_set_other (m : AMap V) {k k' : Bytes} (v : V) (h : k' ≠ k) : (m.set k v).get? k' = m.get? k' := by
  rw [AMap.get?_set]; simp [h]

theorem get?_erase_self (m : AMap V) (k : Bytes) : (m.erase k).get? k = none := by
  rw [AMap.get?_erase]; simp

theorem get?_erase_other (m : AMap V) {k k' : Bytes} (h : k' ≠ k) : (m.erase k).get? k' = m.get? k' := by
  rw [AMap.get?_erase]; simp [h]

end P18

theorem Pool.newContext_fst (p : Pool) : p.newContext.1 = {} := by
  cases p <;> rfl

/-- `NewContext` then `Destroy` of a context small enough to be kept: the pool holds what it held, or the one context. -/
theorem Pool.length_recycle (pool : Pool) (c : Ctx) (h : c.params.length ≤ destroyMaxSize) :
    (pool.newContext.2.destroy c).length = max pool.length 1 := by
  unfold Pool.destroy
  rw [if_pos h]
  cases pool with
  | nil => rfl
  | cons c' rest => simp [Pool.newContext]

end Mux
