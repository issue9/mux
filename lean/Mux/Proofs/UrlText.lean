/-
  Mux.Proofs.UrlText — the byte-level substitution `Spec.substText` (Mux/Spec/UrlText.lean) agrees with the
  model's non-strict URL building (`split`, then `urlLoop`) on EVERY pattern that `Split` accepts — no
  well-formedness hypothesis: nested `{`, stray `}`, an unclosed `{…` are covered.  The scan is run piece by piece
  (`scanPieces`); a piece of each of the three shapes (`P9.Shape`) substitutes as the segment `NewSegment` builds of it does.
-/
import Mux.Spec.UrlText
import Mux.Proofs.UrlToks
namespace Mux.P28
open Mux Mux.Spec Mux.P9 Mux.P13

/-- Append under `Option`: both parts must be there. -/
def app2 : Option Bytes → Option Bytes → Option Bytes
  | some a, some b => some (a ++ b)
  | _, _ => none

theorem app2_some_nil (x : Option Bytes) : app2 x (some []) = x := by
  cases x <;> simp [app2]

theorem app2_assoc (x y z : Option Bytes) : app2 (app2 x y) z = app2 x (app2 y z) := by
  cases x <;> cases y <;> cases z <;> simp [app2]

theorem app2_some_left (a : Bytes) (y : Option Bytes) : app2 (some a) y = y.map (a ++ ·) := by
  cases y <;> simp [app2]

theorem substFrom_lit (ps : AMap Bytes) (x r : Bytes) (hx : startByte ∉ x) :
    substFrom ps none (x ++ r) = (substFrom ps none r).map (x ++ ·) := by
  induction x with
  | nil => simp
  | cons b x ih =>
    simp only [List.mem_cons, not_or] at hx
    have hb : ¬ b = startByte := fun e => hx.1 e.symm
    simp only [List.cons_append, substFrom, hb, if_false]
    rw [ih hx.2]
    cases substFrom ps none r <;> simp

theorem substFrom_lit_nil (ps : AMap Bytes) (x : Bytes) (hx : startByte ∉ x) : substFrom ps none x = some x := by
  have := substFrom_lit ps x [] hx
  simpa [substFrom] using this

theorem substFrom_body (ps : AMap Bytes) (body w r : Bytes) (hw : endByte ∉ w) :
    substFrom ps (some body) (w ++ endByte :: r) = app2 (ps.get? (tokName (body ++ w))) (substFrom ps none r) := by
  induction w generalizing body with
  | nil =>
    simp only [List.nil_append, substFrom, if_true, List.append_nil]
    cases ps.get? (tokName body) <;> cases substFrom ps none r <;> simp [app2]
  | cons b w ih =>
    simp only [List.mem_cons, not_or] at hw
    have hb : ¬ b = endByte := fun e => hw.1 e.symm
    simp only [List.cons_append, substFrom, hb, if_false]
    rw [ih _ hw.2]
    simp

theorem substFrom_no_end (ps : AMap Bytes) (p : Bytes) (hp : endByte ∉ p) (st : Option Bytes) :
    substFrom ps st p = some ((match st with | none => [] | some b => startByte :: b) ++ p) := by
  fun_induction substFrom ps st p with
  | case1 => rfl
  | case2 r ih => rw [ih (List.not_mem_of_not_mem_cons hp)]; rfl
  | case3 b r hb ih => rw [ih (List.not_mem_of_not_mem_cons hp)]; rfl
  | case4 body => exact congrArg some (List.append_nil _).symm
  | case5 body r v u hv hu ih => exact absurd List.mem_cons_self hp
  | case6 body r hx ih => exact absurd List.mem_cons_self hp
  | case7 body b r hb ih =>
    rw [ih (List.not_mem_of_not_mem_cons hp)]
    exact congrArg (fun l => some (startByte :: l)) (List.append_assoc body [b] r)

theorem substText_tok (ps : AMap Bytes) (body suf r : Bytes) (hb : endByte ∉ body) :
    substFrom ps none (tok body suf ++ r) = app2 (ps.get? (tokName body)) (substFrom ps none (suf ++ r)) := by
  simp only [tok, List.cons_append, substFrom, if_true, List.append_assoc]
  have := substFrom_body ps [] body (suf ++ r) hb
  exact this

/-- After a closed piece the scan is outside a token: it splits there. -/
theorem substFrom_closed (ps : AMap Bytes) {v : Bytes} (hv : ClosedPiece v) (r : Bytes) :
    substFrom ps none (v ++ r) = app2 (substFrom ps none v) (substFrom ps none r) := by
  rcases hv with hv | ⟨body, suf, rfl, hb, hs⟩
  · rw [substFrom_lit ps v r hv, substFrom_lit_nil ps v hv, app2_some_left]
  · rw [substText_tok ps body suf r hb, substFrom_lit ps suf r hs]
    have := substText_tok ps body suf [] hb
    simp only [List.append_nil] at this
    rw [this, substFrom_lit_nil ps suf hs, app2_assoc, app2_some_left]

/-- Running the scan piece by piece. -/
def scanPieces (ps : AMap Bytes) : List Bytes → Option Bytes
  | [] => some []
  | v :: vs => app2 (substFrom ps none v) (scanPieces ps vs)

/-- The piece in progress is closed or an open `{w` (`CurShape`); the scan of the whole text splits before every piece
that follows a closed one (`substFrom_closed`), and only a closed piece is followed by another.  The cases are the
equations of `splitAux`: the end of the text; `{` outside a token with nothing, with a piece in progress; another byte
outside; `}` inside; another byte inside. -/
theorem splitAux_scan (ps : AMap Bytes) (st : Bool) (cur rest : Bytes) (h : CurShape st cur) :
    scanPieces ps (splitAux st cur rest) = substFrom ps none (cur ++ rest) := by
  fun_induction splitAux st cur rest with
  | case1 st cur => rw [scanPieces, scanPieces, app2_some_nil, List.append_nil]
  | case2 rest ih => exact ih ⟨[], rfl, List.not_mem_nil⟩
  | case3 cur rest hc ih =>
    rw [scanPieces, ih ⟨[], rfl, List.not_mem_nil⟩, substFrom_closed ps h]
    rfl
  | case4 cur b rest hb ih => rw [List.append_cons cur b rest]; exact ih (closed_snoc h hb)
  | case5 cur rest ih => rw [List.append_cons cur endByte rest]; exact ih (open_close h)
  | case6 cur b rest hb ih => rw [List.append_cons cur b rest]; exact ih (open_snoc h hb)

theorem splitString_scan (ps : AMap Bytes) (p : Bytes) : scanPieces ps (splitString p) = substText ps p :=
  splitAux_scan ps false [] p (.inl List.not_mem_nil)

theorem take_indexByte (b : UInt8) (x : Bytes) :
    x.take ((indexByte b x).getD x.length) = x.takeWhile (· ≠ b) := by
  fun_induction indexByte b x with
  | case1 => rfl
  | case2 cs => exact (List.takeWhile_cons_of_neg (by simp)).symm
  | case3 c cs hc ih =>
    rw [List.length_cons, Option.getD_map (· + 1), List.take_succ_cons, ih,
      List.takeWhile_cons_of_pos (by simpa using hc)]

/-- The specification's name of a token body is the model's. -/
theorem tokName_eq (body : Bytes) : tokName body = (bodyName body).1 := by
  unfold tokName bodyName
  rw [take_indexByte]
  cases body.takeWhile (· ≠ separatorByte) with
  | nil => rfl
  | cons b r =>
    simp only [stripIgn]
    split <;> rfl

/-- What a segment contributes to the URL. -/
def segSubst (ps : AMap Bytes) (s : Seg) : Option Bytes :=
  if s.kind = .str then some s.value else (ps.get? s.name).map (· ++ s.suffix)

theorem seg_subst_piece (ps : AMap Bytes) {ic : Interceptors} {q : Bytes} {s : Seg} (hq : Shape q)
    (h : newSegment ic q = .ok s) : segSubst ps s = substFrom ps none q := by
  rcases hq with (hq | ⟨body, suf, rfl, hb, hs⟩) | hq
  · have := newSegment_str_of_noStart h hq
    subst this
    simp [segSubst, substFrom_lit_nil ps q hq]
  · obtain ⟨hk, hsuf, hn, _⟩ := newSegment_tok_fields hb h
    have := substText_tok ps body suf [] hb
    simp only [List.append_nil] at this
    rw [this, substFrom_lit_nil ps suf hs, segSubst, if_neg hk, hsuf, hn, tokName_eq]
    cases ps.get? (bodyName body).1 <;> simp [app2]
  · have := newSegment_str_of_noEnd h hq.noEnd
    subst this
    rw [substFrom_no_end ps _ hq.noEnd none]
    rfl

/-- `urlLoop` as an `Option`: the only error is the missing parameter. -/
def optUrl : Option Bytes → Except Err Bytes
  | some u => .ok u
  | none => .error .missingParam

theorem urlLoop_cons_segSubst (ps : AMap Bytes) (s : Seg) (segs : List Seg) (o : Option Bytes)
    (h : urlLoop ps segs = optUrl o) : urlLoop ps (s :: segs) = optUrl (app2 (segSubst ps s) o) := by
  simp only [urlLoop, segSubst, bind, Except.bind, pure, Except.pure]
  by_cases hk : s.kind = .str
  · simp only [hk, if_true, h]
    cases o <;> simp [optUrl, app2]
  · simp only [hk, if_false]
    cases ps.get? s.name with
    | none => simp [optUrl, app2]
    | some v =>
      simp only [h]
      cases o <;> simp [optUrl, app2]

theorem splitLoop_scan (ps : AMap Bytes) {ic : Interceptors} : ∀ (vs : List Bytes) (flag : Bool) (names : List Bytes)
    (segs : List Seg), (∀ q ∈ vs, Shape q) → splitLoop ic vs flag names = .ok segs →
    urlLoop ps segs = optUrl (scanPieces ps vs)
  | [], _, _, segs, _, h => by
    simp only [splitLoop, Except.ok.injEq] at h
    subst h
    rfl
  | v :: vs, flag, names, segs, hsh, h => by
    obtain ⟨_, _, seg, segs', h1, _, h2, rfl⟩ := splitLoop_cons_inv h
    have ih := splitLoop_scan ps vs _ _ segs' (fun q hq => hsh q (List.mem_cons_of_mem _ hq)) h2
    rw [urlLoop_cons_segSubst ps seg segs' _ ih, seg_subst_piece ps (hsh v List.mem_cons_self) h1]
    rfl

theorem urlLoop_split_text {ic : Interceptors} {p : Bytes} {segs : List Seg} (h : split ic p = .ok segs)
    (ps : AMap Bytes) : urlLoop ps segs = optUrl (substText ps p) := by
  rw [← splitString_scan ps p]
  exact splitLoop_scan ps _ _ _ segs (splitString_shape p) (split_ok_iff.1 h).2

/-- `Interceptors.URL` of a non-empty pattern as one equation: the error of `Split`, or the substitution into the text. -/
theorem url_eq_text (ic : Interceptors) {p : Bytes} (hp : p ≠ []) (ps : AMap Bytes) :
    ic.url p ps = match split ic p with
      | .error e => .error e
      | .ok _ => optUrl (substText ps p) := by
  unfold Interceptors.url
  rw [if_neg hp]
  cases hs : split ic p with
  | error e => rfl
  | ok segs => exact urlLoop_split_text hs ps

end Mux.P28
