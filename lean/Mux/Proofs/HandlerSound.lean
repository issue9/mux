/-
  `Tree.handler` on top of the matcher.  Outside the TRACE short-circuit it is the matcher's result `Tree.matched`
  followed by `Tree.answer` (`handlerNoTrace_eq`), and the answer of a matched node with handlers is a function
  `Node.answer` of its entries for the method and for the 405 key.  `Tree.handler_ordinary`, `Tree.handler_none` and
  `Tree.handler_root` say which call of the matcher an answer comes from; soundness is `matchChildren_walk` behind them,
  for any tracking of the parameters (`Tracking.handler_found`, `Tracking.handler_404`).
-/
import Mux.Proofs.MatchSound
namespace Mux

/-- The handler reported for node `n` and `method` agrees with the node's handler map: a found
handler is the entry of `method` (and `method` is not the 405 key `""`); otherwise `method` has no
entry (or is `""`) and the handler is the node's 405 entry (the zero value when there is none). -/
def HandlerAgrees (n : Node) (method : Bytes) (f : Found) : Prop :=
  (f.ok = true → method ≠ mNotAllowed ∧ n.handlers.get? method = some f.handler) ∧
  (f.ok = false → (method = mNotAllowed ∨ n.handlers.get? method = none) ∧
      f.handler = (n.handlers.get? mNotAllowed).getD { base := .nil })

/-- What `Tree.handler` matched, independently of the method. -/
def Tree.matched (env : Env) (t : Tree) (path : Bytes) (ps : Params) : MR :=
  if path = [42] ∨ path = [] then .hit t.root ps else t.root.matchChildren env t.ic path ps

def Tree.notFoundAnswer (t : Tree) (ps : Params) : Found :=
  { node := none, handler := t.notFound, ok := false, params := ps }

/-- The answer of a matched node that has handlers: its entry for the method, or else its 405 entry. -/
def Node.answer (n : Node) (method : Bytes) (ps : Params) : Found :=
  match (if method = mNotAllowed then none else n.handlers.get? method) with
  | some h => { node := some n, handler := h, ok := true, params := ps }
  | none => { node := some n, handler := (n.handlers.get? mNotAllowed).getD { base := .nil }, ok := false, params := ps }

/-- What `Tree.handler` makes of the matcher's result, outside the TRACE short-circuit. -/
def Tree.answer (t : Tree) (method : Bytes) : MR → HR
  | .fault s => .fault s
  | .unsupported => .unsupported
  | .miss ps => .res (t.notFoundAnswer ps)
  | .hit n ps => .res (if n.handlers = [] then t.notFoundAnswer ps else n.answer method ps)

theorem handlerNoTrace_eq (env : Env) (t : Tree) (path : Bytes) (ps : Params) (method : Bytes) :
    Tree.handler.Tree.handlerNoTrace env t path ps method = t.answer method (t.matched env path ps) := by
  unfold Tree.handler.Tree.handlerNoTrace
  show (match t.matched env path ps with | .fault s => _ | .unsupported => _ | .miss ps' => _ | .hit n ps' => _) = _
  cases t.matched env path ps with
  | fault s => rfl
  | unsupported => rfl
  | miss ps' => rfl
  | hit n ps' =>
    simp only [Tree.answer, Node.size, List.length_eq_zero_iff]
    split
    · rfl
    · unfold Node.answer
      cases (if method = mNotAllowed then none else n.handlers.get? method) with
      | some h => rfl
      | none => cases n.handlers.get? mNotAllowed <;> rfl

@[simp] theorem Node.answer_node (n : Node) (method : Bytes) (ps : Params) : (n.answer method ps).node = some n := by
  unfold Node.answer; split <;> rfl

@[simp] theorem Node.answer_params (n : Node) (method : Bytes) (ps : Params) : (n.answer method ps).params = ps := by
  unfold Node.answer; split <;> rfl

theorem Node.answer_of_get {n : Node} {method : Bytes} {h : Handler} (ps : Params) (hm : method ≠ mNotAllowed)
    (hg : n.handlers.get? method = some h) :
    n.answer method ps = { node := some n, handler := h, ok := true, params := ps } := by
  unfold Node.answer; rw [if_neg hm, hg]

theorem Node.answer_of_none {n : Node} {method : Bytes} (ps : Params)
    (hg : method = mNotAllowed ∨ n.handlers.get? method = none) :
    n.answer method ps =
      { node := some n, handler := (n.handlers.get? mNotAllowed).getD { base := .nil }, ok := false, params := ps } := by
  have : (if method = mNotAllowed then none else n.handlers.get? method) = none := by
    split
    · rfl
    · next hm => exact hg.resolve_left hm
  unfold Node.answer; rw [this]

theorem Node.answer_agrees (n : Node) (method : Bytes) (ps : Params) : HandlerAgrees n method (n.answer method ps) := by
  by_cases hg : method = mNotAllowed ∨ n.handlers.get? method = none
  · rw [Node.answer_of_none ps hg]; exact ⟨nofun, fun _ => ⟨hg, rfl⟩⟩
  · obtain ⟨hm, hg⟩ := not_or.1 hg
    obtain ⟨h, hg⟩ := Option.ne_none_iff_exists'.1 hg
    rw [Node.answer_of_get ps hm hg]; exact ⟨fun _ => ⟨hm, hg⟩, nofun⟩

theorem Node.answer_congr {n n' : Node} {method : Bytes} (ps : Params)
    (hget : method ≠ mNotAllowed → n'.handlers.get? method = n.handlers.get? method)
    (hget0 : n'.handlers.get? mNotAllowed = n.handlers.get? mNotAllowed) :
    n'.answer method ps = { n.answer method ps with node := some n' } := by
  have : (if method = mNotAllowed then none else n'.handlers.get? method) =
      (if method = mNotAllowed then none else n.handlers.get? method) := by
    split
    · rfl
    · next h => exact hget h
  unfold Node.answer
  rw [this, hget0]
  split <;> rfl

theorem Tree.answer_res {t : Tree} {method : Bytes} {r : MR} {f : Found} (h : t.answer method r = .res f) :
    (∃ ps, r = .miss ps ∧ f = t.notFoundAnswer ps) ∨
    (∃ n ps, r = .hit n ps ∧ n.handlers = [] ∧ f = t.notFoundAnswer ps) ∨
    (∃ n ps, r = .hit n ps ∧ n.handlers ≠ [] ∧ f = n.answer method ps) := by
  cases r with
  | fault s => cases h
  | unsupported => cases h
  | miss ps => exact .inl ⟨ps, rfl, (HR.res.inj h).symm⟩
  | hit n ps =>
    simp only [Tree.answer, HR.res.injEq] at h
    split at h
    · next h0 => exact .inr (.inl ⟨n, ps, rfl, h0, h.symm⟩)
    · next h0 => exact .inr (.inr ⟨n, ps, rfl, h0, h.symm⟩)

theorem Tree.answer_unsupported {t : Tree} {method : Bytes} {r : MR} :
    t.answer method r = .unsupported ↔ r = .unsupported := by
  cases r <;> simp [Tree.answer]

/-- Only the matcher leaves the modelled domain: every branch after a hit answers with `.res`. -/
theorem handlerNoTrace_unsupported {env : Env} {t : Tree} {path : Bytes} {ps : Params} {method : Bytes}
    (h : Tree.handler.Tree.handlerNoTrace env t path ps method = .unsupported) :
    t.matched env path ps = .unsupported :=
  Tree.answer_unsupported.1 ((handlerNoTrace_eq env t path ps method).symm.trans h)

theorem Tree.handler_cases (env : Env) (t : Tree) (path : Bytes) (ps : Params) (method : Bytes) :
    (∃ h, t.trace = some h ∧ method = mTRACE ∧
        t.handler env path ps method = .res { node := some t.root, handler := h, ok := true, params := ps }) ∨
    ((t.trace = none ∨ method ≠ mTRACE) ∧
        t.handler env path ps method = Tree.handler.Tree.handlerNoTrace env t path ps method) := by
  unfold Tree.handler
  cases ht : t.trace with
  | none => exact Or.inr ⟨Or.inl rfl, rfl⟩
  | some h =>
    by_cases hm : method = mTRACE
    · exact Or.inl ⟨h, rfl, hm, by simp [hm]⟩
    · exact Or.inr ⟨Or.inr hm, by simp [hm]⟩

theorem Tree.handler_trace (env : Env) (t : Tree) (path : Bytes) (ps : Params) (h : Handler) (htr : t.trace = some h) :
    t.handler env path ps mTRACE = .res { node := some t.root, handler := h, ok := true, params := ps } := by
  unfold Tree.handler
  simp [htr]

theorem Tree.handler_noTrace {env : Env} {t : Tree} {path : Bytes} {ps : Params} {method : Bytes}
    (h : t.trace = none ∨ method ≠ mTRACE) :
    t.handler env path ps method = Tree.handler.Tree.handlerNoTrace env t path ps method := by
  rcases Tree.handler_cases env t path ps method with ⟨h', ht, hm, _⟩ | ⟨_, e⟩
  · rcases h with h | h
    · rw [h] at ht; cases ht
    · exact absurd hm h
  · exact e

theorem Tree.handler_not_ok {env : Env} {t : Tree} {path : Bytes} {ps : Params} {method : Bytes} {f : Found}
    (h : t.handler env path ps method = .res f) (hok : f.ok = false) : t.trace = none ∨ method ≠ mTRACE := by
  rcases Tree.handler_cases env t path ps method with ⟨h', _, _, e⟩ | ⟨hd, _⟩
  · rw [h] at e; cases e; cases hok
  · exact hd

/-- A successful dispatch always names the node (so the `none => []` arm of `serveContext` is dead). -/
theorem Tree.handler_ok_node {env : Env} {t : Tree} {path : Bytes} {ps : Params} {method : Bytes} {f : Found}
    (h : t.handler env path ps method = .res f) (hok : f.ok = true) : ∃ n, f.node = some n := by
  rcases Tree.handler_cases env t path ps method with ⟨_, _, _, e⟩ | ⟨_, e⟩
  · cases e.symm.trans h
    exact ⟨_, rfl⟩
  · rw [e, handlerNoTrace_eq] at h
    rcases Tree.answer_res h with ⟨_, _, rfl⟩ | ⟨_, _, _, _, rfl⟩ | ⟨n, _, _, _, rfl⟩
    · cases hok
    · cases hok
    · exact ⟨n, n.answer_node _ _⟩

theorem Tree.handler_node {env : Env} {t : Tree} {path : Bytes} {ps : Params} {method : Bytes} {f : Found} {n : Node}
    (htr : t.trace = none ∨ method ≠ mTRACE) (h : t.handler env path ps method = .res f) (hf : f.node = some n) :
    ∃ ps', t.matched env path ps = .hit n ps' ∧ n.handlers ≠ [] ∧ f = n.answer method ps' := by
  rw [Tree.handler_noTrace htr, handlerNoTrace_eq] at h
  rcases Tree.answer_res h with ⟨_, _, rfl⟩ | ⟨_, _, _, _, rfl⟩ | ⟨m, ps', hr, hne, rfl⟩
  · cases hf
  · cases hf
  · rw [Node.answer_node] at hf
    cases hf
    exact ⟨ps', hr, hne, rfl⟩

theorem Tree.matched_of_ne {env : Env} {t : Tree} {path : Bytes} {ps : Params} (h1 : path ≠ []) (h2 : path ≠ [42]) :
    t.matched env path ps = t.root.matchChildren env t.ic path ps := by
  unfold Tree.matched
  rw [if_neg]
  rintro (h | h)
  · exact h2 h
  · exact h1 h

theorem Tree.matched_of_eq {env : Env} {t : Tree} {path : Bytes} {ps : Params} (h : path = [] ∨ path = [42]) :
    t.matched env path ps = .hit t.root ps := by
  unfold Tree.matched
  rw [if_pos (Or.symm h)]

theorem Tree.handler_ordinary {env : Env} {t : Tree} {path : Bytes} {ps : Params} {method : Bytes} {f : Found}
    (hp : path ≠ []) (hs : path ≠ [42]) (htr : t.trace = none ∨ method ≠ mTRACE)
    (h : t.handler env path ps method = .res f) :
    (t.root.matchChildren env t.ic path ps = .miss f.params ∧ f.node = none ∧ f.handler = t.notFound ∧ f.ok = false) ∨
    ∃ n, t.root.matchChildren env t.ic path ps = .hit n f.params ∧ n.handlers ≠ [] ∧ f.node = some n ∧
      HandlerAgrees n method f := by
  rw [Tree.handler_noTrace htr, handlerNoTrace_eq, Tree.matched_of_ne hp hs] at h
  rcases Tree.answer_res h with ⟨ps', hr, rfl⟩ | ⟨m, ps', hr, hnil, _⟩ | ⟨m, ps', hr, hne, rfl⟩
  · exact .inl ⟨hr, rfl, rfl, rfl⟩
  · exact absurd hnil (Node.matchChildren_hit_handlers hr)
  · exact .inr ⟨m, (m.answer_params method ps').symm ▸ hr, hne, m.answer_node _ _, m.answer_agrees _ _⟩

theorem Tree.handler_none {env : Env} {t : Tree} {path : Bytes} {ps : Params} {method : Bytes} {f : Found}
    (h : t.handler env path ps method = .res f) (hf : f.node = none) :
    f.handler = t.notFound ∧ f.ok = false ∧
      (f.params = ps ∨ t.root.matchChildren env t.ic path ps = .miss f.params) := by
  rcases Tree.handler_cases env t path ps method with ⟨h', _, _, e⟩ | ⟨htr, e⟩
  · rw [e] at h
    cases h
    cases hf
  by_cases hpath : path = [] ∨ path = [42]
  · rw [e, handlerNoTrace_eq, Tree.matched_of_eq hpath] at h
    rcases Tree.answer_res h with ⟨_, hr, _⟩ | ⟨_, _, hr, _, rfl⟩ | ⟨m, _, _, _, rfl⟩
    · cases hr
    · cases hr
      exact ⟨rfl, rfl, .inl rfl⟩
    · rw [m.answer_node] at hf; cases hf
  · rcases Tree.handler_ordinary (fun h => hpath (.inl h)) (fun h => hpath (.inr h)) htr h with
      ⟨hr, _, hh, hok⟩ | ⟨n, _, _, hsome, _⟩
    · exact ⟨hh, hok, .inr hr⟩
    · rw [hsome] at hf; cases hf

/-- **Soundness of `Tree.handler`** (C01), for any tracking of the parameters. -/
theorem Tracking.handler_found {TN : Node → Params → Prop} {TL : List Node → Params → Prop} (T : Tracking TN TL)
    {env : Env} {t : Tree} {path : Bytes} {ps : Params} {method : Bytes} {f : Found} {n : Node}
    (hp : path ≠ []) (hs : path ≠ [42]) (htr : t.trace = none ∨ method ≠ mTRACE)
    (h : t.handler env path ps method = .res f) (hf : f.node = some n) :
    Walk env t.ic TN t.root path ps n f.params ∧ HandlerAgrees n method f := by
  rcases Tree.handler_ordinary hp hs htr h with ⟨_, hnone, _⟩ | ⟨m, hr, _, hsome, hag⟩
  · rw [hnone] at hf; cases hf
  · rw [hsome] at hf
    cases hf
    exact ⟨(matchChildren_walk env t.ic T t.root path ps).of_hit hr, hag⟩

/-- `Tracking.handler_found` with the index path read as a chain (`Walk.chain`): the statement of `C01_found` before the
tracking is chosen. -/
theorem Tracking.handler_found_chain {TN : Node → Params → Prop} {TL : List Node → Params → Prop} (T : Tracking TN TL)
    {env : Env} {t : Tree} {path : Bytes} {ps : Params} {method : Bytes} {f : Found} {n : Node}
    (hp : path ≠ []) (hs : path ≠ [42]) (htr : t.trace = none ∨ method ≠ mTRACE)
    (h : t.handler env path ps method = .res f) (hf : f.node = some n) :
    ∃ chain : List (Seg × Bytes),
      chain ≠ [] ∧ Chain t.root (chain.map (·.1)) n ∧ path = instChain chain ∧
      (∀ sv ∈ chain, P13.CapOk env t.ic sv.1 sv.2) ∧
      (TN t.root ps → f.params = P19.setCaps ps (captures chain)) ∧ n.handlers ≠ [] ∧ HandlerAgrees n method f := by
  obtain ⟨hw, hag⟩ := T.handler_found hp hs htr h hf
  obtain ⟨chain, h1, h2, h3, h4, h5⟩ := hw.chain
  exact ⟨chain, fun e => hp (h2.trans (congrArg instChain e)), h1, h2, h3, h5, h4, hag⟩

theorem Tracking.handler_404 {TN : Node → Params → Prop} {TL : List Node → Params → Prop} (T : Tracking TN TL)
    {env : Env} {t : Tree} {path : Bytes} {ps : Params} {method : Bytes} {f : Found} (ht : TN t.root ps)
    (h : t.handler env path ps method = .res f) (hf : f.node = none) :
    f.params = ps ∧ f.handler = t.notFound ∧ f.ok = false := by
  obtain ⟨hh, hok, hps | hr⟩ := Tree.handler_none h hf
  · exact ⟨hps, hh, hok⟩
  · exact ⟨(matchChildren_walk env t.ic T t.root path ps).of_miss hr ht, hh, hok⟩

/-- The hypotheses on the tree and the incoming parameters under which `Tree.handler` tracks the
parameters exactly by names. -/
structure Tree.Tracks (t : Tree) (ps : Params) : Prop where
  names : NamesOkL ps.keys t.root.children
  idx : Node.All IdxLit t.root

theorem Tree.Tracks.trackN {t : Tree} {ps : Params} (hT : t.Tracks ps) : TrackN ps.keys t.root ps :=
  ⟨(Node.namesOk_iff _ _).2 hT.names, hT.idx, fun _ hk => hk⟩

/-- General form of `C01_found` (arbitrary incoming parameters, as `Group` dispatch needs), with the call of
`Segment.Match` behind every value. -/
theorem Tree.handler_found_cap {env : Env} {t : Tree} {path : Bytes} {ps : Params} {method : Bytes} {f : Found}
    {n : Node} (hT : t.Tracks ps) (hp : path ≠ []) (hs : path ≠ [42]) (htr : t.trace = none ∨ method ≠ mTRACE)
    (h : t.handler env path ps method = .res f) (hf : f.node = some n) :
    ∃ chain : List (Seg × Bytes),
      chain ≠ [] ∧ Chain t.root (chain.map (·.1)) n ∧ path = instChain chain ∧
      (∀ sv ∈ chain, P13.CapOk env t.ic sv.1 sv.2) ∧
      f.params = ps ++ captures chain ∧ n.handlers ≠ [] ∧ HandlerAgrees n method f :=
  let ⟨chain, h0, h1, h2, h3, h5, h6⟩ := trackNames.handler_found_chain hp hs htr h hf
  ⟨chain, h0, h1, h2, h3, (h5 ⟨_, hT.trackN⟩).trans (setCaps_names hT.trackN.1 h1 fun _ hk => hk), h6⟩

theorem Tree.handler_found {env : Env} {t : Tree} {path : Bytes} {ps : Params} {method : Bytes} {f : Found} {n : Node}
    (hT : t.Tracks ps) (hp : path ≠ []) (hs : path ≠ [42]) (htr : t.trace = none ∨ method ≠ mTRACE)
    (h : t.handler env path ps method = .res f) (hf : f.node = some n) :
    ∃ chain : List (Seg × Bytes),
      chain ≠ [] ∧ Chain t.root (chain.map (·.1)) n ∧ path = instChain chain ∧
      (∀ sv ∈ chain, sv.1.Satisfies env t.ic sv.2) ∧
      f.params = ps ++ captures chain ∧ n.handlers ≠ [] ∧ HandlerAgrees n method f :=
  let ⟨chain, h0, h1, h2, h3, h5⟩ := Tree.handler_found_cap hT hp hs htr h hf
  ⟨chain, h0, h1, h2, fun sv hsv => (h3 sv hsv).satisfies, h5⟩

/-- General form of `C01_404`. -/
theorem Tree.handler_404 {env : Env} {t : Tree} {path : Bytes} {ps : Params} {method : Bytes} {f : Found}
    (hT : t.Tracks ps) (h : t.handler env path ps method = .res f) (hf : f.node = none) :
    f.params = ps ∧ f.handler = t.notFound ∧ f.ok = false :=
  trackNames.handler_404 ⟨_, hT.trackN⟩ h hf

/-- `""` and `*` address the root: no matching happens, the parameters are returned as they came. -/
theorem Tree.handler_root {env : Env} {t : Tree} {path : Bytes} {ps : Params} {method : Bytes} {f : Found}
    (hpath : path = [] ∨ path = [42]) (h : t.handler env path ps method = .res f) :
    f.params = ps ∧ (f.node = some t.root ∨ (f.node = none ∧ t.root.handlers = [])) ∧
    (t.root.handlers ≠ [] → f.node = some t.root) := by
  rcases Tree.handler_cases env t path ps method with ⟨h', _, _, e⟩ | ⟨_, e⟩
  · rw [e] at h
    simp only [HR.res.injEq] at h
    subst h
    exact ⟨rfl, Or.inl rfl, fun _ => rfl⟩
  · rw [e, handlerNoTrace_eq, Tree.matched_of_eq hpath] at h
    rcases Tree.answer_res h with ⟨_, hr, _⟩ | ⟨_, _, hr, hnil, rfl⟩ | ⟨_, _, hr, _, rfl⟩
    · cases hr
    · cases hr
      exact ⟨rfl, Or.inr ⟨rfl, hnil⟩, fun hne => absurd hnil hne⟩
    · cases hr
      exact ⟨Node.answer_params .., Or.inl (Node.answer_node ..), fun _ => Node.answer_node ..⟩

end Mux
