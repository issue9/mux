/-
  Every history of the development (`Tree.run`, `Router.run`, `grun`, `runF`, `hostsRun`, `RWLock.run`, `runAll`, …) is
  `List.foldl step`; `foldl_inv`, `foldl_filterMap_of_step` (translation into another machine's history) and `foldl_keyed`
  (projection of a history on a keyed table to one key) carry every lift to histories.  The `findSome?` rules compare a
  search over candidates with one over other candidates or with another acceptor (the regexp engine, Regex.lean);
  `forall_or_first_not` splits a list at the first entry that fails a predicate (the loop of `Group.serve`);
  `getElem?_eq_some_iff_append` reads a position as a split of the list.  Last, the rules by which a chain of `Except`
  stages is taken apart (`bind_ok_iff`, `map_ok_iff`, `bind_eq_error`, `ite_error_eq_ok`, …): every registration function of
  the model is such a chain.
-/
namespace List
variable {σ τ α β κ : Type}

theorem foldl_inv {I : σ → Prop} {f : σ → α → σ} {l : List α} (step : ∀ s, ∀ a ∈ l, I s → I (f s a)) :
    ∀ {s : σ}, I s → I (l.foldl f s) := by
  induction l with
  | nil => exact id
  | cons a l ih => exact fun h => ih (fun s b hb => step s b (mem_cons_of_mem _ hb)) (step _ a mem_cons_self h)

theorem foldl_filterMap_of_step (π : σ → τ) {f : σ → α → σ} {g : τ → β → τ} {tr : α → Option β}
    (step : ∀ s a, π (f s a) = (tr a).elim (π s) (g (π s))) (l : List α) (s : σ) :
    π (l.foldl f s) = (l.filterMap tr).foldl g (π s) := by
  induction l generalizing s with
  | nil => rfl
  | cons a l ih =>
    rw [foldl_cons, ih, step, filterMap_cons]
    cases tr a <;> rfl

theorem foldl_map_of_step (π : σ → τ) {f : σ → α → σ} {g : τ → β → τ} {tr : α → β}
    (step : ∀ s a, π (f s a) = g (π s) (tr a)) (l : List α) (s : σ) :
    π (l.foldl f s) = (l.map tr).foldl g (π s) := by
  rw [← filterMap_eq_map]; exact foldl_filterMap_of_step π (tr := some ∘ tr) step l s

theorem foldl_option_map (f : σ → α → σ) (l : List α) (o : Option σ) :
    l.foldl (fun o a => o.map (f · a)) o = o.map (l.foldl f ·) := by
  induction l generalizing o with
  | nil => cases o <;> rfl
  | cons a l ih => rw [foldl_cons, ih]; cases o <;> rfl

theorem foldl_keyed [DecidableEq κ] {T ε : Type} (get : T → κ → ε) {app : T → κ → α → T} {own : ε → α → ε}
    (happ : ∀ t k k' a, get (app t k a) k' = if k' = k then own (get t k) a else get t k')
    (l : List (κ × α)) (t : T) (k : κ) :
    get (l.foldl (fun t e => app t e.1 e.2) t) k = ((l.filter (·.1 = k)).map (·.2)).foldl own (get t k) := by
  induction l generalizing t with
  | nil => rfl
  | cons e l ih =>
    rw [foldl_cons, ih, happ, filter_cons]
    by_cases h : e.1 = k
    · subst h; simp
    · simp [h, Ne.symm h]

theorem findSome?_flatMap {α β γ : Type} (l : List α) (f : α → List β) (k : β → Option γ) :
    (l.flatMap f).findSome? k = l.findSome? fun x => (f x).findSome? k := by
  induction l with
  | nil => rfl
  | cons x l ih =>
    rw [List.flatMap_cons, List.findSome?_append, ih, List.findSome?_cons]
    cases (f x).findSome? k <;> rfl

theorem flatMap_filter_of {α β : Type} {l : List α} {f : α → List β} {q : α → Bool} (h : ∀ x ∈ l, ¬ q x → f x = []) :
    l.flatMap f = (l.filter q).flatMap f := by
  induction l with
  | nil => rfl
  | cons x l ih =>
    have ih := ih fun z hz => h z (List.mem_cons_of_mem _ hz)
    by_cases hx : q x
    · rw [List.filter_cons_of_pos hx, List.flatMap_cons, List.flatMap_cons, ih]
    · rw [List.filter_cons_of_neg hx, List.flatMap_cons, h x List.mem_cons_self hx, List.nil_append, ih]

theorem findSome?_filter {α β : Type} {l : List α} {f : α → Option β} {y : β} {p : α → Bool}
    (h : l.findSome? f = some y) (hp : ∀ x ∈ l, f x = some y → p x) : (l.filter p).findSome? f = some y := by
  obtain ⟨l₁, a, l₂, rfl, ha, hl₁⟩ := findSome?_eq_some_iff.1 h
  rw [filter_append, filter_cons_of_pos (hp a (mem_append_right _ mem_cons_self) ha)]
  exact findSome?_eq_some_iff.2 ⟨_, a, _, rfl, ha, fun x hx => hl₁ x (mem_filter.1 hx).1⟩

theorem findSome?_rel {α β γ : Type} {l : List α} {F : α → Option β} {g : α → Option γ} {Y : β} {R : γ → Prop}
    (h : l.findSome? F = some Y) (hn : ∀ x ∈ l, F x = none → g x = none)
    (hy : ∀ x ∈ l, F x = some Y → ∃ y, g x = some y ∧ R y) : ∃ y, l.findSome? g = some y ∧ R y := by
  obtain ⟨l₁, a, l₂, rfl, ha, hl₁⟩ := findSome?_eq_some_iff.1 h
  obtain ⟨y, hg, hr⟩ := hy a (mem_append_right _ mem_cons_self) ha
  exact ⟨y, findSome?_eq_some_iff.2 ⟨l₁, a, l₂, rfl, hg, fun x hx => hn x (mem_append_left _ hx) (hl₁ x hx)⟩, hr⟩

theorem findSome?_unique {α β : Type} {l : List α} {f : α → Option β} {a : α} {y : β} (ha : a ∈ l) (hf : f a = some y)
    (hn : ∀ x ∈ l, x ≠ a → f x = none) : l.findSome? f = some y := by
  obtain ⟨l₁, l₂, rfl, hl₁⟩ := eq_append_cons_of_mem ha
  exact findSome?_eq_some_iff.2 ⟨l₁, a, l₂, rfl, hf, fun x hx => hn x (mem_append_left _ hx) fun e => hl₁ (e ▸ hx)⟩

theorem forall_or_first_not {α : Type} (P : α → Prop) (l : List α) :
    (∀ x ∈ l, P x) ∨ ∃ pre x post, l = pre ++ x :: post ∧ (∀ y ∈ pre, P y) ∧ ¬ P x := by
  induction l with
  | nil => exact .inl nofun
  | cons a l ih =>
    by_cases ha : P a
    · refine ih.imp (fun h => List.forall_mem_cons.2 ⟨ha, h⟩) fun ⟨pre, x, post, hl, hpre, hx⟩ => ?_
      exact ⟨a :: pre, x, post, by rw [hl]; rfl, List.forall_mem_cons.2 ⟨ha, hpre⟩, hx⟩
    · exact .inr ⟨[], a, l, rfl, nofun, ha⟩

theorem Nodup.snoc {l : List α} (h : l.Nodup) {a : α} (ha : a ∉ l) : (l ++ [a]).Nodup :=
  nodup_append.2 ⟨h, nodup_cons.2 ⟨not_mem_nil, nodup_nil⟩, fun _ hb _ hc hbc => ha (mem_singleton.1 hc ▸ hbc ▸ hb)⟩

theorem getElem?_eq_some_iff_append {cs : List α} {i : Nat} {c : α} :
    cs[i]? = some c ↔ ∃ l1 l2, cs = l1 ++ c :: l2 ∧ l1.length = i := by
  constructor
  · intro h
    obtain ⟨hlt, rfl⟩ := getElem?_eq_some_iff.1 h
    exact ⟨cs.take i, cs.drop (i + 1), by rw [getElem_cons_drop, take_append_drop],
      length_take_of_le (Nat.le_of_lt hlt)⟩
  · rintro ⟨l1, l2, rfl, rfl⟩
    simp

end List

namespace Mux

theorem bind_ok_iff {ε α β} {x : Except ε α} {k : α → Except ε β} {b : β} :
    (x >>= k) = .ok b ↔ ∃ a, x = .ok a ∧ k a = .ok b := by
  cases x <;> simp [bind, Except.bind]

theorem map_ok_iff {ε α β} {f : α → β} {x : Except ε α} {b : β} : x.map f = .ok b ↔ ∃ a, x = .ok a ∧ b = f a := by
  cases x <;> simp [Except.map, eq_comm]

theorem pure_ok_iff {ε α} {a b : α} : (pure a : Except ε α) = .ok b ↔ a = b :=
  ⟨Except.ok.inj, fun h => h ▸ rfl⟩

theorem bind_eq_error {ε α β} {x : Except ε α} {f : α → Except ε β} {e : ε} (h : x >>= f = .error e) :
    x = .error e ∨ ∃ a, x = .ok a ∧ f a = .error e := by
  cases x with
  | error e' => cases h; exact .inl rfl
  | ok a => exact .inr ⟨a, rfl, h⟩

theorem ite_error_eq_ok {ε α} {c : Prop} [Decidable c] {e : ε} {x : Except ε α} {a : α} :
    (if c then .error e else x) = .ok a ↔ ¬ c ∧ x = .ok a := by
  by_cases h : c <;> simp [h]

theorem ite_error_eq_error {ε α} {c : Prop} [Decidable c] {e e' : ε} {x : Except ε α} :
    (if c then .error e else x) = .error e' ↔ (c ∧ e = e') ∨ (¬ c ∧ x = .error e') := by
  by_cases h : c <;> simp [h]

end Mux
