/-
  The node invariant `Good` (I-meth: method index, key shape, HEAD follows GET), kept by the handler-map operations
  `addMethodsNode`, `removeMethods`, `applyMw`, and the tree invariant `TreeInv` (the root is special, every node below
  it is `Good`), kept by every operation of a history (`Tree.step`), hence by `Tree.run`.
-/
import Mux.Proofs.TreeOps
import Mux.Proofs.Render
import Mux.Proofs.HandlerMap
namespace Mux

/-- A key is admissible: the 405 key, or a known method that is not TRACE when TRACE is configured. -/
def KeyAdm (hasTrace : Bool) (k : Bytes) : Prop :=
  k = mNotAllowed ∨ (k ∈ methodsTable ∧ (hasTrace = true → k ≠ mTRACE))

/-- HEAD's stored handler has the same base as GET's. -/
def HeadBase (hs : AMap Handler) : Prop :=
  ∀ hg hh, hs.get? mGET = some hg → hs.get? mHEAD = some hh → hh.base = hg.base

/-- What holds of a handler map at every point of `addMethods`/`Remove`. -/
structure KeyPre (hasTrace : Bool) (hs : AMap Handler) : Prop where
  nodup : hs.keys.Nodup
  head_iff : mHEAD ∈ hs.keys ↔ mGET ∈ hs.keys
  adm : ∀ k ∈ hs.keys, KeyAdm hasTrace k
  headBase : HeadBase hs

/-- Key shape of a node that has handlers. -/
structure KeyShape (hasTrace : Bool) (hs : AMap Handler) : Prop extends KeyPre hasTrace hs where
  options : mOPTIONS ∈ hs.keys
  notAllowed : mNotAllowed ∈ hs.keys

/-- The `(methodIndex, handlers)` part of `Good`. -/
def GoodQ (hasTrace : Bool) (mi : Nat) (hs : AMap Handler) : Prop :=
  mi = nodeMethodIndex hasTrace hs ∧ (hs = [] ∨ KeyShape hasTrace hs)

/-- The node invariant: the method index is the one computed from the handlers (I-meth), the keys have the shape
`KeyShape` (with HEAD's base following GET's), and the stored positions are in range. -/
def Good (hasTrace : Bool) : Node → Prop := NodeOk (GoodQ hasTrace)

theorem GoodQ_empty (ht : Bool) : GoodQ ht 0 [] := by
  refine ⟨?_, .inl rfl⟩
  simp [nodeMethodIndex]

theorem KeyPre_nil (ht : Bool) : KeyPre ht [] :=
  ⟨by simp [AMap.keys], by simp [AMap.keys], by simp [AMap.keys], by intro hg hh h; simp [AMap.get?] at h⟩

@[simp] theorem wrapWith_base (h : Handler) (m p r : Bytes) (ms : List Nat) : (wrapWith h m p r ms).base = h.base := rfl

theorem wrapWith_wrapWith (h : Handler) (m p r : Bytes) (a b : List Nat) :
    wrapWith (wrapWith h m p r a) m p r b = wrapWith h m p r (a ++ b) := by
  simp [wrapWith, List.append_assoc]

theorem wrapWith_nil (h : Handler) (m p r : Bytes) : wrapWith h m p r [] = h := by
  simp [wrapWith]

theorem nodeMethodIndex_congr (ht : Bool) {hs hs' : AMap Handler} (h : hs'.keys = hs.keys) :
    nodeMethodIndex ht hs' = nodeMethodIndex ht hs := by
  unfold nodeMethodIndex
  have h1 : hs'.map (fun e => methodBit e.1) = hs.map (fun e => methodBit e.1) := by
    rw [AMap.map_fst, AMap.map_fst, h]
  have h2 : hs'.length = hs.length := by
    have := congrArg List.length h
    simpa [AMap.keys] using this
  rw [h1, h2]

theorem GoodQ_add {t : Tree} {h : Handler} {p : Bytes} {ms : List Nat} {methods : List Bytes} {n n' : Node}
    (hq : GoodQ t.hasTrace n.methodIndex n.handlers) (he : t.addMethodsNode h p ms methods n = .ok n') :
    GoodQ t.hasTrace n'.methodIndex n'.handlers := by
  obtain ⟨_, c2, c3, _, c5, c6, c7, _, c9, _⟩ := method_consts_ne
  obtain ⟨_, t2, t3, _, _⟩ := mem_table_consts
  have hpre : KeyPre t.hasTrace n.handlers := hq.2.elim (fun h0 => h0 ▸ KeyPre_nil _) (·.toKeyPre)
  obtain ⟨ok, _, nd, _⟩ := addMethodsNode_map he
  have keys := addMethodsNode_mem_keys he
  have hmi : n'.methodIndex = nodeMethodIndex t.hasTrace n'.handlers := by
    obtain ⟨_, _, rfl⟩ := addMethodsNode_ok_iff.1 he; rfl
  refine ⟨hmi, .inr ⟨⟨nd hpre.nodup, ?_, fun k hk => ?_, fun a b ha hb => ?_⟩, ?_, ?_⟩⟩
  · rw [keys, keys, hpre.head_iff, ok.head_iff]
    simp [c2, c3, c5, c6]
  · rcases (keys k).1 hk with hk | (hk | ⟨rfl, _⟩) | rfl | rfl
    · exact hpre.adm k hk
    · exact .inr (ok.adm k hk)
    · exact .inr ⟨t2, fun _ => c7⟩
    · exact .inr ⟨t3, fun _ => c9⟩
    · exact .inl rfl
  · rcases addMethodsNode_get_head he with ⟨hg, hh⟩ | ⟨hg, hh⟩
    · cases hg.symm.trans ha
      cases hh.symm.trans hb
      rfl
    · exact hpre.headBase a b (hg ▸ ha) (hh ▸ hb)
  · exact (keys _).2 (.inr (.inr (.inl rfl)))
  · exact (keys _).2 (.inr (.inr (.inr rfl)))

theorem GoodQ_remove {ht : Bool} {methods : List Bytes} {n : Node} (hq : GoodQ ht n.methodIndex n.handlers) :
    GoodQ ht (removeMethods ht methods n).methodIndex (removeMethods ht methods n).handlers := by
  refine ⟨rfl, ?_⟩
  rcases removeMethods_eq ht methods n with ⟨h0, _⟩ | ⟨_, h0⟩
  · exact .inl h0
  rcases hq.2 with hnil | hs
  · left; rw [h0, hnil]; rfl
  right
  have key : ∀ k, k ∈ (removeMethods ht methods n).handlers.keys ↔ k ∈ n.handlers.keys ∧ ¬ Erased methods k := by
    intro k; rw [h0, mem_keys_notErased]
  refine ⟨⟨?_, ?_, fun k hk => hs.adm k ((key k).1 hk).1, fun a b ha hb => ?_⟩, ?_, ?_⟩
  · exact hs.nodup.sublist ((removeMethods_sublist ht methods n).map _)
  · rw [key, key, hs.head_iff, erased_head_iff]
  · exact hs.headBase a b (removeMethods_get ha).1 (removeMethods_get hb).1
  · exact (key _).2 ⟨hs.options, (not_erased_auto methods).1⟩
  · exact (key _).2 ⟨hs.notAllowed, (not_erased_auto methods).2⟩

theorem GoodQ_applyMw (ht : Bool) (router : Bytes) (ms : List Nat) (mi : Nat) (hs : AMap Handler) (p : Bytes)
    (h : GoodQ ht mi hs) : GoodQ ht mi (hs.map (fun e => (e.1, wrapWith e.2 e.1 p router ms))) := by
  -- wrapping changes neither the keys nor the base of a handler
  have hk := AMap.keys_mapVals hs (fun k v => wrapWith v k p router ms)
  refine ⟨h.1.trans (nodeMethodIndex_congr ht hk).symm, h.2.imp (fun h0 => by subst h0; rfl) fun h0 => ?_⟩
  refine ⟨⟨hk ▸ h0.nodup, hk ▸ h0.head_iff, hk ▸ h0.adm, fun a b ha hb => ?_⟩, hk ▸ h0.options, hk ▸ h0.notAllowed⟩
  rw [AMap.get?_mapVals hs (fun k v => wrapWith v k p router ms)] at ha hb
  obtain ⟨a0, ha0, rfl⟩ := Option.map_eq_some_iff.1 ha
  obtain ⟨b0, hb0, rfl⟩ := Option.map_eq_some_iff.1 hb
  exact h0.headBase a0 b0 ha0 hb0

/-- The invariant of a whole tree. The root is special: its handlers are `{OPTIONS, ""}` forever and
its method index is `rootMethodIndex`; every node below it is `Good`. -/
structure TreeInv (t : Tree) : Prop where
  rootKeys : t.root.handlers.keys = [mOPTIONS, mNotAllowed]
  rootMi : t.root.methodIndex = rootMethodIndex t.hasTrace t.counts
  rootIdx : IdxOk t.root
  below : AllL (Good t.hasTrace) t.root.children

theorem TreeInv.of_root {t : Tree} (h : TreeInv t) {root' : Node} {counts' : AMap Nat}
    (hh : root'.handlers = t.root.handlers) (hi : IdxOk root')
    (ha : AllL (Good t.hasTrace) root'.children) :
    TreeInv { t with counts := counts',
                     root := root'.setHandlers root'.handlers (rootMethodIndex t.hasTrace counts') } := by
  refine ⟨?_, ?_, ?_, ?_⟩
  · simp only [Node.setHandlers, Node.handlers_mk]; rw [hh]; exact h.rootKeys
  · simp [Node.setHandlers, Tree.hasTrace]
  · intro e he
    simpa [Node.setHandlers] using hi e (by simpa [Node.setHandlers] using he)
  · simpa [Node.setHandlers, Tree.hasTrace] using ha

/-- The configuration of a tree: what no operation changes. -/
def Tree.SameCfg (t t' : Tree) : Prop :=
  t'.hasTrace = t.hasTrace ∧ t'.name = t.name ∧ t'.ic = t.ic ∧
    t'.optionsBase = t.optionsBase ∧ t'.notAllowedBase = t.notAllowedBase

theorem Tree.SameCfg.refl (t : Tree) : t.SameCfg t := ⟨rfl, rfl, rfl, rfl, rfl⟩

theorem Tree.SameCfg.trans {a b c : Tree} (h1 : a.SameCfg b) (h2 : b.SameCfg c) : a.SameCfg c :=
  ⟨h2.1.trans h1.1, h2.2.1.trans h1.2.1, h2.2.2.1.trans h1.2.2.1, h2.2.2.2.1.trans h1.2.2.2.1,
    h2.2.2.2.2.trans h1.2.2.2.2⟩

theorem hasTrace_applyMiddleware (t : Tree) (ms : List Nat) : (t.applyMiddleware ms).hasTrace = t.hasTrace := by
  simp [Tree.applyMiddleware, Tree.hasTrace]

theorem sameCfg_step (t : Tree) (op : TOp) : t.SameCfg (t.step op) := by
  rcases t.step_cases op with h | ⟨ms, rfl⟩ | ⟨_, _, _, h⟩
  · rw [h]; exact .refl t
  · exact ⟨hasTrace_applyMiddleware t ms, rfl, rfl, rfl, rfl⟩
  · rw [h]; exact ⟨rfl, rfl, rfl, rfl, rfl⟩

theorem sameCfg_run (t : Tree) (ops : List TOp) : t.SameCfg (t.run ops) :=
  Tree.run_inv (I := t.SameCfg) (fun t' op _ h => h.trans (sameCfg_step t' op)) (.refl t)

theorem inv_new (name : Bytes) (ic : Interceptors) (nf : Handler) (tr : Option Handler)
    (ob : Base := .options) (nb : Base := .notAllowed) : TreeInv (Tree.new name ic nf tr ob nb) := by
  refine ⟨?_, ?_, ?_, ?_⟩
  · simp [Tree.new, AMap.keys]
  · simp [Tree.new, Tree.hasTrace]
  · intro e he; simp [Tree.new] at he
  · simp [Tree.new, AllL]

theorem GoodQ_keeps (t : Tree) (op : TOp) : op.Keeps t (GoodQ t.hasTrace) := by
  cases op with
  | add p h ms methods => exact fun _ _ => GoodQ_add
  | remove p methods => exact fun _ => GoodQ_remove
  | clean pre => trivial
  | use ms => exact GoodQ_applyMw t.hasTrace t.name ms

theorem inv_use {t : Tree} (ms : List Nat) (hinv : TreeInv t) : TreeInv (t.applyMiddleware ms) := by
  obtain ⟨_, _, hm, hh, _, _⟩ := applyMw_fields t.name ms t.root
  obtain ⟨_, hi, ha⟩ := (applyMw_edit t.name ms t.root).nodeOk (TOp.Keeps.own (GoodQ_keeps t (.use ms)))
    hinv.rootIdx hinv.below
  refine ⟨?_, ?_, hi, ?_⟩
  · show (t.root.applyMw t.name ms).handlers.keys = _
    rw [hh, AMap.keys_mapVals t.root.handlers (fun k v => wrapWith v k t.root.pattern t.name ms)]
    exact hinv.rootKeys
  · show (t.root.applyMw t.name ms).methodIndex = rootMethodIndex (t.applyMiddleware ms).hasTrace t.counts
    rw [hm, hasTrace_applyMiddleware]; exact hinv.rootMi
  · show AllL (Good (t.applyMiddleware ms).hasTrace) (t.root.applyMw t.name ms).children
    rw [hasTrace_applyMiddleware]; exact ha

theorem inv_step {t : Tree} (hinv : TreeInv t) (op : TOp) : TreeInv (t.step op) := by
  rcases t.step_cases op with h | ⟨ms, rfl⟩ | ⟨root', counts', hy, h⟩
  · rw [h]; exact hinv
  · exact inv_use ms hinv
  · obtain ⟨hh, hi, ha⟩ := hy.below (GoodQ_empty _) (GoodQ_keeps t op) hinv.rootIdx hinv.below
    rw [h]; exact hinv.of_root hh hi ha

theorem inv_run {t : Tree} (hinv : TreeInv t) (ops : List TOp) : TreeInv (t.run ops) :=
  Tree.run_inv (I := TreeInv) (fun _ op _ h => inv_step h op) hinv

end Mux
