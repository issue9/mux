/-
  Mux.Proofs.CorsExamples — concrete configurations, requests and a router used by the
  non-vacuity `example`s of C11 / C12.
-/
import Mux.Proofs.CorsConfig
import Mux.Proofs.CorsFinal
namespace Mux

deriving instance DecidableEq for Cors

namespace CorsEx

def origin : Bytes := bytesOfString "https://a.example"
def evil : Bytes := bytesOfString "https://evil.example"
def xId : Bytes := bytesOfString "X-Id"
def path : Bytes := bytesOfString "/a"
/-- `node.Methods()` / `node.AllowHeader()` of a node with a GET handler. -/
def nodeMethods : List Bytes := [mGET, mHEAD, mOPTIONS]
def nodeAllow : Bytes := bytesOfString "GET, HEAD, OPTIONS"

/-- `WithCORS([origin], ["Content-Type","X-Id"], ["X-Id"], 3600, true)` after `sanitize`. -/
def cfg : Cors :=
  { origins := [origin], anyOrigins := false, deny := false, allowHeaders := [hContentType, xId],
    allowHeadersString := bytesOfString "Content-Type,X-Id", anyHeaders := false,
    exposedHeadersString := xId, maxAgeString := bytesOfString "3600", allowCredentials := true }

/-- `WithCORS(["*"], ["*"], [], -1, false)` after `sanitize`. -/
def cfgStar : Cors :=
  { origins := [[42]], anyOrigins := true, deny := false, allowHeaders := [[42]],
    allowHeadersString := bytesOfString "*,Authorization", anyHeaders := true,
    exposedHeadersString := [], maxAgeString := bytesOfString "-1", allowCredentials := false }

/-- No `WithCORS` origins. -/
def cfgDeny : Cors := { deny := true }

/-- A browser-style preflight: lower-case header names, odd spacing. -/
def preflight : Hdr :=
  [(hOrigin, [origin]), (hACRM, [mGET]), (hACRH, [bytesOfString " content-type , x-id"])]
/-- Preflight for a method the node does not serve. -/
def preflightDelete : Hdr := [(hOrigin, [origin]), (hACRM, [mDELETE])]
/-- Preflight asking for a header outside the allowed list. -/
def preflightEvilHeader : Hdr :=
  [(hOrigin, [origin]), (hACRM, [mGET]), (hACRH, [bytesOfString "content-type,x-evil"])]
/-- A simple (non-preflight) request from the listed origin / from another origin. -/
def simple : Hdr := [(hOrigin, [origin])]
def simpleEvil : Hdr := [(hOrigin, [evil])]

def env : Env := ⟨fun _ _ => true⟩

/-- The tree of `NewRouter("r", WithCORS(…))` after `Handle("/a", h1, GET)`: the value the model's
`Router.new` / `Router.handle` compute (checked with `#eval` during development; written out
because `decide` cannot unfold the well-founded `getNode` used by `Tree.add`). -/
def tree : Tree :=
  { root := .mk { value := [], kind := .str, name := [], ignoreName := false, rule := [], suffix := [],
                  endpoint := false, re := .eps } [] 257
      [(mOPTIONS, { base := .options, wraps := [] }), (mNotAllowed, { base := .notAllowed, wraps := [] })] []
      [.mk { value := path, kind := .str, name := [], ignoreName := false, rule := [], suffix := [],
             endpoint := false, re := .eps } path 385
        [(mHEAD, { base := .user 1, wraps := [] }), (mGET, { base := .user 1, wraps := [] }),
         (mOPTIONS, { base := .options, wraps := [] }), (mNotAllowed, { base := .notAllowed, wraps := [] })] [] []],
    counts := [(mGET, 1)], ic := [], name := bytesOfString "r",
    notFound := { base := .notFound, wraps := [] }, trace := none,
    optionsBase := .options, notAllowedBase := .notAllowed }

def router : Router := { tree := tree, cors := cfg }

/-- `serveContext` ends in a call with `ok = true`, a node, and exactly these response headers. -/
def servedOK (r : Router) (req : Req) (want : Hdr) : Bool :=
  match r.serveContext env req [] with
  | .call c => c.ok && c.node.isSome && (c.respHeaders == want)
  | _ => false

/-- `serveContext` ends in a call with `ok = false` (404 / 405). -/
def servedNotOK (r : Router) (req : Req) : Bool :=
  match r.serveContext env req [] with
  | .call c => !c.ok
  | _ => false

end CorsEx
end Mux
