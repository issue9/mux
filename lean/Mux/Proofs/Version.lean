/-
  Helper lemmas for C15 (version matchers): `normVersion`, `pathVersionMatch`, `headerVersionMatch`
  and the two `Matcher.run` cases.
-/
import Mux.Proofs.Syntax
namespace Mux

theorem hasPrefix_dropLast {s v : Bytes} (h : hasPrefix s v = true) : hasPrefix s v.dropLast = true := by
  rw [hasPrefix_iff] at *
  exact (List.dropLast_prefix v).trans h

/-- What `normVersion` makes of a non-empty `v` (`normVersion_eq`); `C15.slashed` is this expression. -/
def withSlashes (v : Bytes) : Bytes :=
  (if v.head? = some 47 then [] else [47]) ++ v ++ (if v.getLast? = some 47 then [] else [47])

theorem normVersion_eq (v : Bytes) (h : v ≠ []) : normVersion v = some (withSlashes v) := by
  obtain ⟨c, cs, rfl⟩ := List.exists_cons_of_ne_nil h
  have hl : (47 :: c :: cs).getLast? = (c :: cs).getLast? := List.getLast?_cons_cons
  by_cases hc : c = 47
  · subst hc
    by_cases hs : (47 :: cs : Bytes).getLast? = some 47 <;> simp [normVersion, withSlashes, hs]
  · by_cases hs : (c :: cs).getLast? = some 47 <;> simp [normVersion, withSlashes, hc, hs, hl]

/-- Also for `v = []` (`"//"`), which `normVersion` refuses. -/
theorem withSlashes_shape (v : Bytes) :
    (withSlashes v).head? = some 47 ∧ (withSlashes v).getLast? = some 47 ∧ withSlashes v ≠ [] := by
  have hh : (withSlashes v).head? = some 47 := by
    unfold withSlashes
    by_cases h : v.head? = some 47
    · rw [if_pos h, List.nil_append, List.head?_append, h]; rfl
    · rw [if_neg h]; rfl
  have hl : (withSlashes v).getLast? = some 47 := by
    unfold withSlashes
    by_cases h : v.getLast? = some 47
    · rw [if_pos h, List.append_nil, List.getLast?_append, h]; rfl
    · rw [if_neg h, List.getLast?_append]; rfl
  exact ⟨hh, hl, fun e => by rw [e] at hh; cases hh⟩

/-- The loop of `NewPathVersion`: it panics iff some version is empty, and otherwise slashes every version. -/
theorem mapM_normVersion_eq (vs : List Bytes) :
    vs.mapM normVersion = if [] ∈ vs then none else some (vs.map withSlashes) := by
  induction vs with
  | nil => simp
  | cons v vs ih =>
    rw [List.mapM_cons, ih]
    by_cases hv : v = []
    · subst hv; simp [normVersion]
    · rw [normVersion_eq v hv]
      have hv' : ¬ [] = v := fun e => hv e.symm
      by_cases hm : [] ∈ vs
      · simp [hm]
      · simp [hm, hv']

theorem sliceE_dropLast (site : Nat) (v : Bytes) : sliceE site v 0 (v.length - 1) = .ok v.dropLast := by
  unfold sliceE
  rw [if_pos ⟨Nat.zero_le _, Nat.sub_le _ _⟩, List.dropLast_eq_take]
  rfl

theorem pathVersionMatch_cons (param ver : Bytes) (vers : List Bytes) (p : Bytes) (ps : Params) :
    pathVersionMatch param (ver :: vers) p ps =
      if hasPrefix p ver then
        .ok (some (p.drop (ver.length - 1), if param ≠ [] then ps.set param ver.dropLast else ps))
      else pathVersionMatch param vers p ps := by
  rw [pathVersionMatch]
  by_cases h : hasPrefix p ver = true
  · simp only [h, if_true, sliceE_dropLast, bind, Except.bind, pure, Except.pure, hasPrefix_dropLast h,
      List.length_dropLast]
  · simp only [h]; rfl

theorem pathVersionMatch_eq_find (param : Bytes) (vers : List Bytes) (p : Bytes) (ps : Params) :
    pathVersionMatch param vers p ps =
      match vers.find? (hasPrefix p) with
      | none => .ok none
      | some ver => .ok (some (p.drop (ver.length - 1), if param ≠ [] then ps.set param ver.dropLast else ps)) := by
  induction vers with
  | nil => rfl
  | cons ver vers ih =>
    rw [pathVersionMatch_cons, List.find?_cons]
    by_cases h : hasPrefix p ver = true
    · simp [h]
    · simp only [h, ih]; rfl

theorem pathVersionMatch_ne_error (param : Bytes) (vers : List Bytes) (p : Bytes) (ps : Params) (e : Err) :
    pathVersionMatch param vers p ps ≠ .error e := by
  rw [pathVersionMatch_eq_find]
  cases vers.find? (hasPrefix p) <;> simp

/-- With a normalised version (`… ++ "/"`) the rewritten path still starts with `/` and is what follows the
version segment. -/
theorem drop_of_prefix_slash (p ver : Bytes) (h : hasPrefix p ver = true) (hl : ver.getLast? = some 47) :
    ∃ rest, p = ver.dropLast ++ 47 :: rest ∧ p.drop (ver.length - 1) = 47 :: rest := by
  obtain ⟨seg, rfl⟩ := List.getLast?_eq_some_iff.1 hl
  obtain ⟨rest, rfl⟩ := (hasPrefix_iff _ _).1 h
  refine ⟨rest, by rw [List.dropLast_concat, List.append_assoc]; rfl, ?_⟩
  rw [List.length_append, List.length_singleton, Nat.add_sub_cancel, List.append_assoc, List.drop_left]
  rfl

theorem run_pathVersion (env : Env) (tab : Nat → Option Hosts) (param : Bytes) (vers : List Bytes)
    (req : Req) (path : Bytes) (ps : Params) :
    (Matcher.pathVersion param vers).run env tab req path ps =
      match vers.find? (hasPrefix path) with
      | none => .reject path ps
      | some ver => .accept (path.drop (ver.length - 1))
          (if param ≠ [] then ps.set param ver.dropLast else ps) := by
  rw [Matcher.run, pathVersionMatch_eq_find]
  cases vers.find? (hasPrefix path) <;> rfl

/-- The same over a list of versions given through `f` (the constructor stores `vs.map slashed`). -/
theorem run_pathVersion_map (env : Env) (tab : Nat → Option Hosts) (param : Bytes) (f : Bytes → Bytes) (vs : List Bytes)
    (req : Req) (path : Bytes) (ps : Params) :
    (Matcher.pathVersion param (vs.map f)).run env tab req path ps =
      match vs.find? (fun v => hasPrefix path (f v)) with
      | none => .reject path ps
      | some v => .accept (path.drop ((f v).length - 1))
          (if param ≠ [] then ps.set param (f v).dropLast else ps) := by
  rw [run_pathVersion, List.find?_map, Function.comp_def]
  cases List.find? (fun v => hasPrefix path (f v)) vs <;> rfl

theorem run_headerVersion (env : Env) (tab : Nat → Option Hosts) (param key : Bytes) (vers : List Bytes)
    (req : Req) (path : Bytes) (ps : Params) :
    (Matcher.headerVersion param key vers).run env tab req path ps =
      match headerVersionMatch param key vers req ps with
      | some ps' => .accept path ps'
      | none => .reject path ps := by
  rw [Matcher.run]
  cases headerVersionMatch param key vers req ps <;> rfl

theorem headerVersionMatch_iff (param key : Bytes) (versions : List Bytes) (req : Req) (ps ps' : Params) :
    headerVersionMatch param key versions req ps = some ps' ↔
      req.headers.get hAccept ≠ [] ∧ ∃ mp, req.acceptParams = some mp ∧
        ((mp.get? key).getD []) ∈ versions ∧
        ps' = (if param ≠ [] then ps.set param ((mp.get? key).getD []) else ps) := by
  unfold headerVersionMatch
  by_cases h1 : req.headers.get hAccept = []
  · simp [h1]
  · cases h2 : req.acceptParams with
    | none => simp [h1]
    | some mp =>
      simp only [h1, if_false, Option.ite_none_right_eq_some, List.contains_iff_mem, Option.some.injEq, ne_eq,
        not_false_eq_true, true_and, exists_eq_left', eq_comm (a := ps')]

end Mux
