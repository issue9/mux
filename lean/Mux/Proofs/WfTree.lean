/-
  The structural invariant of the tree below the root (`WfL`): every segment is `NewSegment` of its own well-formed
  text (I-seg), parameter names are pairwise distinct along every chain, an endpoint node (`…}`) has no children, and
  siblings are kept apart (different texts; same kind ⇒ nothing `longestPrefix` would split off).  The restructuring
  step of `getNode` cannot fail on such a tree for a validated pattern and re-establishes the invariant.
-/
import Mux.Proofs.GnStep
import Mux.Proofs.CutPoint
import Mux.Proofs.MatchHyps
namespace Mux.P9
open Mux

mutual
/-- A node below the root, given the parameter names `used` on the chain above it.  The third clause (a text ending
with `}` has no children) is what `getNode` maintains by only going on below a node whose text does not end with
`}` (`PiecesOk.cont`): a cut never lies directly after `}`, and a piece that follows a `}` starts with `{`, which
`Split` has refused as `adjacent`. -/
def Node.Wf (ic : Interceptors) (used : List Bytes) : Node → Prop
  | .mk s _ _ _ _ cs =>
    SegOk ic s ∧ (s.kind = .str ∨ s.name ∉ used) ∧ (lastByte s.value = endByte → cs = []) ∧
      WfL ic (usedBelow used s) cs
def WfL (ic : Interceptors) (used : List Bytes) : List Node → Prop
  | [] => True
  | c :: cs => Node.Wf ic used c ∧ (∀ d ∈ cs, SibDisj c.seg d.seg) ∧ WfL ic used cs
end

theorem Node.wf_iff (ic : Interceptors) (used : List Bytes) (n : Node) :
    Node.Wf ic used n ↔ SegOk ic n.seg ∧ (n.seg.kind = .str ∨ n.seg.name ∉ used) ∧
      (lastByte n.seg.value = endByte → n.children = []) ∧ WfL ic (usedBelow used n.seg) n.children := by
  cases n; simp [Node.Wf]

theorem WfL_iff (ic : Interceptors) (used : List Bytes) (cs : List Node) :
    WfL ic used cs ↔ (∀ c ∈ cs, Node.Wf ic used c) ∧ cs.Pairwise (fun a b => SibDisj a.seg b.seg) := by
  induction cs with
  | nil => simp [WfL]
  | cons c cs ih =>
    simp only [WfL, ih, List.mem_cons, forall_eq_or_imp, List.pairwise_cons]
    constructor
    · rintro ⟨h1, h2, h3, h4⟩; exact ⟨⟨h1, h3⟩, h2, h4⟩
    · rintro ⟨⟨h1, h3⟩, h2, h4⟩; exact ⟨h1, h2, h3, h4⟩

theorem WfL_perm {ic : Interceptors} {used : List Bytes} {as bs : List Node} (hp : as.Perm bs) :
    WfL ic used as ↔ WfL ic used bs := by
  rw [WfL_iff, WfL_iff]
  have h1 : (∀ c ∈ as, Node.Wf ic used c) ↔ (∀ c ∈ bs, Node.Wf ic used c) :=
    ⟨fun h c hc => h c (hp.mem_iff.2 hc), fun h c hc => h c (hp.mem_iff.1 hc)⟩
  rw [h1, hp.pairwise_iff (fun {a b} h => SibDisj.symm h)]

theorem WfL_sublist {ic : Interceptors} {used : List Bytes} {as bs : List Node} (hs : as.Sublist bs)
    (h : WfL ic used bs) : WfL ic used as := by
  rw [WfL_iff] at *
  exact ⟨fun c hc => h.1 c (hs.subset hc), h.2.sublist hs⟩

theorem WfL_mem {ic : Interceptors} {used : List Bytes} {cs : List Node} (h : WfL ic used cs) {c : Node}
    (hc : c ∈ cs) : Node.Wf ic used c := ((WfL_iff ic used cs).1 h).1 c hc

theorem WfL_nil (ic : Interceptors) (used : List Bytes) : WfL ic used [] := by simp [WfL]

theorem WfL_values {ic : Interceptors} {used : List Bytes} {cs : List Node} (h : WfL ic used cs) :
    cs.Pairwise (fun a b => a.seg.value ≠ b.seg.value) :=
  ((WfL_iff ic used cs).1 h).2.imp (fun h => h.1)

theorem WfL_set {ic : Interceptors} {used : List Bytes} {cs : List Node} {j : Nat} {x p' : Node}
    (h : WfL ic used cs) (hx : cs[j]? = some x) (hseg : p'.seg = x.seg) (hp : Node.Wf ic used p') :
    WfL ic used (cs.set j p') := by
  rw [WfL_iff] at *
  refine ⟨?_, ?_⟩
  · intro c hc
    rcases List.mem_or_eq_of_mem_set hc with hc | hc
    · exact h.1 c hc
    · exact hc ▸ hp
  · have hj : j < cs.length := (List.getElem?_eq_some_iff.1 hx).1
    have hxe : cs[j] = x := (List.getElem?_eq_some_iff.1 hx).2
    have e : (cs.set j p').map (·.seg) = cs.map (·.seg) := by
      rw [List.map_set]
      apply List.ext_getElem?
      intro i
      rw [List.getElem?_set]
      split
      · rename_i hij
        subst hij
        simp [hj, hseg, hxe]
      · rfl
    have key : ∀ l : List Node, l.Pairwise (fun a b => SibDisj a.seg b.seg) ↔ (l.map (·.seg)).Pairwise SibDisj := by
      intro l; rw [List.pairwise_map]
    rw [key, e, ← key]
    exact h.2

theorem hasDupValues_false {cs : List Node} (h : cs.Pairwise (fun a b => a.seg.value ≠ b.seg.value)) :
    hasDupValues cs = false :=
  (hasDupValues_iff cs).2 h

theorem sortNode_succeeds {n : Node} (h1 : n.children.Pairwise (fun a b => a.seg.value ≠ b.seg.value))
    (h2 : ∀ c ∈ n.children, c.seg.value ≠ []) :
    ∃ idx, sortNode n = .ok (n.setChildren (sortChildren n.children) idx) := by
  obtain ⟨idx, hidx⟩ := buildIndexes_ok (cs := sortChildren n.children)
    (fun c hc => h2 c ((sortChildren_perm _).mem_iff.1 hc))
  refine ⟨idx, ?_⟩
  unfold sortNode
  simp [hasDupValues_false h1, hidx, bind, Except.bind, pure, Except.pure]

theorem childPos_some {cs : List Node} {v : Bytes} {c : Node} (hc : c ∈ cs) (hv : c.seg.value = v) :
    ∃ j x, childPos cs v = some j ∧ cs[j]? = some x ∧ x.seg.value = v := by
  unfold childPos
  cases h : cs.findIdx? (fun c => c.seg.value = v) with
  | none =>
    rw [List.findIdx?_eq_none_iff] at h
    have := h c hc
    simp [hv] at this
  | some j =>
    rw [List.findIdx?_eq_some_iff_getElem] at h
    obtain ⟨hj, hp, _⟩ := h
    exact ⟨j, cs[j], rfl, by simp [hj], by simpa using hp⟩

theorem childPos_inv {cs : List Node} {v : Bytes} {j : Nat} (h : childPos cs v = some j) :
    ∃ x, cs[j]? = some x ∧ x.seg.value = v :=
  childPos_spec h

theorem similarity_le0 {c seg : Seg} (h : c.similarity seg ≤ 0) (h1 : c.similarity seg ≠ -1) :
    SibDisj seg c := by
  have hne : seg.value ≠ c.value := fun e => h1 (Seg.similarity_neg_one_iff.2 e)
  exact ⟨hne, fun hk => Seg.similarity_same_kind hne hk ▸ h⟩

theorem splitLoop_lit {ic : Interceptors} {w : Bytes} {rest : List Bytes} (flag : Bool) {names : List Bytes}
    {segs' : List Seg} (hw : NoBrace w) (hne : w ≠ []) (hlen : w.length ≤ maxInt16)
    (h : splitLoop ic rest (decide (lastByte w = endByte)) names = .ok segs') :
    splitLoop ic (w :: rest) flag names = .ok ({ value := w } :: segs') :=
  splitLoop_cons_ok hne (fun hh => hw.1 (List.mem_of_mem_head? hh.2)) (newSegment_noStart ic hw.1 hlen) (.inl rfl) h

theorem lastByte_drop {v : Bytes} {L : Nat} (h : L < v.length) : lastByte (v.drop L) = lastByte v := by
  simp only [lastByte, List.length_drop, List.getElem?_drop]
  congr 2
  omega

/-- `NoBrace` of a concrete text, by evaluation of a Boolean (deciding the two `∉` is slow to check). -/
theorem noBrace_of_all {v : Bytes} (h : v.all (fun b => b != startByte && b != endByte) = true) : NoBrace v := by
  simp only [List.all_eq_true, Bool.and_eq_true, bne_iff_ne] at h
  exact ⟨fun hm => (h _ hm).1 rfl, fun hm => (h _ hm).2 rfl⟩

theorem pairwise_mem_ne {α : Type} {R : α → α → Prop} {l : List α} (hs : ∀ a b, R a b → R b a)
    (hl : l.Pairwise R) {a b : α} (ha : a ∈ l) (hb : b ∈ l) (hne : a ≠ b) : R a b := by
  induction l with
  | nil => cases ha
  | cons x l ih =>
    rw [List.pairwise_cons] at hl
    rcases List.mem_cons.1 ha with ha | ha <;> rcases List.mem_cons.1 hb with hb | hb
    · exact absurd (ha.trans hb.symm) hne
    · exact ha ▸ hl.1 b hb
    · exact hb ▸ hs _ _ (hl.1 a ha)
    · exact ih hl.2 ha hb

theorem removeNodes_values {cs : List Node} {v : Bytes}
    (h : cs.Pairwise (fun a b => a.seg.value ≠ b.seg.value)) : ∀ d ∈ removeNodes cs v, d.seg.value ≠ v := by
  induction cs with
  | nil => simp [removeNodes]
  | cons c cs ih =>
    rw [List.pairwise_cons] at h
    simp only [removeNodes]
    split
    · rename_i hc
      intro d hd e
      exact h.1 d hd (hc.trans e.symm)
    · rename_i hc
      intro d hd
      rcases List.mem_cons.1 hd with rfl | hd
      · exact hc
      · exact ih h.2 d hd

theorem WfL_of_getElem? {ic : Interceptors} {used : List Bytes} {cs : List Node} (h : WfL ic used cs)
    {i : Nat} {c : Node} (hc : cs[i]? = some c) : Node.Wf ic used c :=
  WfL_mem h (List.mem_of_getElem? hc)

def lowerOf (c : Node) (L : Nat) : Node := c.setSeg { value := c.seg.value.drop L }

def upperOf (n c : Node) (L : Nat) (s1 : Seg) : Node :=
  .mk s1 (n.pattern ++ s1.value) 0 [] [] [lowerOf c L]

/-- What is known of the cut `L = longestPrefix c.value v > 0` between the text of an existing sibling `c` and a new
piece `v` whose segment `seg` has the same kind: `L` is a legal cut position of `c`, and what is left of `v` has no
`{` (`v` being a piece of `splitString`). -/
structure SimCut (c seg : Seg) (v : Bytes) (L : Nat) : Prop where
  kind : c.kind = seg.kind
  lp : longestPrefix c.value v = (L : Int)
  pos : 0 < L
  cut : CutAt c.value L
  tail : startByte ∉ v.drop L

/-- What the four cases of `GnCase` (GnStep.lean) amount to on a well-formed sibling list, with `scanChildren` and
`sortNode` replaced by their results there; `gnPrep_shape` shows that the step succeeds in one of them. -/
inductive GShape (ic : Interceptors) (n : Node) (v : Bytes) (rest : List Bytes) (seg : Seg) : GStep → Prop
  /-- a child with exactly this segment exists -/
  | ident (i : Nat) (c : Node) : n.children[i]? = some c → c.seg = seg →
      GShape ic n v rest seg ⟨n, i, c, restCont rest⟩
  /-- no child shares anything with the segment: a new leaf -/
  | leaf (idx : List (UInt8 × Nat)) (j : Nat) :
      (∀ d ∈ n.children, SibDisj seg d.seg) →
      GShape ic n v rest seg
        ⟨n.setChildren (sortChildren (n.children ++ [newLeaf n.pattern seg])) idx, j, newLeaf n.pattern seg,
          restCont rest⟩
  /-- a child's whole text is a proper prefix of the segment: descend with the remainder -/
  | desc (i : Nat) (c : Node) (L : Nat) : n.children[i]? = some c → SimCut c.seg seg v L →
      L = c.seg.value.length → L < v.length → GShape ic n v rest seg ⟨n, i, c, some (v.drop L, rest)⟩
  /-- a child shares a proper prefix of its text with the segment: split it; the upper half `s1` keeps kind and
  name, both halves satisfy I-seg, and the upper half is kept apart from the remaining siblings -/
  | split (i : Nat) (c : Node) (L : Nat) (s1 : Seg) (idx : List (UInt8 × Nat)) (j : Nat) :
      n.children[i]? = some c → SimCut c.seg seg v L → L < c.seg.value.length → s1.value = c.seg.value.take L →
      s1.kind = c.seg.kind → s1.name = c.seg.name → SegOk ic s1 → SegOk ic { value := c.seg.value.drop L } →
      (∀ d ∈ removeNodes n.children c.seg.value, SibDisj d.seg s1) →
      GShape ic n v rest seg
        ⟨n.setChildren (sortChildren (removeNodes n.children c.seg.value ++ [upperOf n c L s1])) idx, j,
          upperOf n c L s1, if v.length ≤ L then restCont rest else some (v.drop L, rest)⟩

theorem Node.Wf.segOk {ic : Interceptors} {used : List Bytes} {n : Node} (h : Node.Wf ic used n) : SegOk ic n.seg :=
  ((Node.wf_iff ic used n).1 h).1

theorem WfL_segOk {ic : Interceptors} {used : List Bytes} {cs : List Node} (h : WfL ic used cs) :
    ∀ c ∈ cs, SegOk ic c.seg := fun _ hc => (WfL_mem h hc).segOk

theorem sortNode_append {n : Node} {cs : List Node} {x : Node}
    (hvals : cs.Pairwise (fun a b => a.seg.value ≠ b.seg.value)) (hne : ∀ c ∈ cs, c.seg.value ≠ [])
    (hx : x.seg.value ≠ []) (hnew : ∀ d ∈ cs, d.seg.value ≠ x.seg.value) :
    ∃ idx j, sortNode (n.setChildren (cs ++ [x]) n.indexes) = .ok (n.setChildren (sortChildren (cs ++ [x])) idx) ∧
      childPos (sortChildren (cs ++ [x])) x.seg.value = some j := by
  have hv1 : (cs ++ [x]).Pairwise (fun a b => a.seg.value ≠ b.seg.value) :=
    List.pairwise_append.2 ⟨hvals, List.pairwise_singleton _ _, fun a ha b hb => List.mem_singleton.1 hb ▸ hnew a ha⟩
  have hv2 : ∀ c ∈ cs ++ [x], c.seg.value ≠ [] := List.forall_mem_append.2 ⟨hne, List.forall_mem_singleton.2 hx⟩
  obtain ⟨idx, hsort⟩ := sortNode_succeeds (n := n.setChildren (cs ++ [x]) n.indexes)
    (by rw [setChildren_children]; exact hv1) (by rw [setChildren_children]; exact hv2)
  rw [setChildren_children, setChildren_setChildren] at hsort
  obtain ⟨j, _, hj, _, _⟩ := childPos_some (cs := sortChildren (cs ++ [x])) (c := x)
    ((sortChildren_perm _).mem_iff.2 (by simp)) rfl
  exact ⟨idx, j, hsort, hj⟩

theorem gnPrep_shape {ic : Interceptors} {used : List Bytes} {n : Node} {v : Bytes} (rest : List Bytes) {seg : Seg}
    (hwf : WfL ic used n.children) (hseg : newSegment ic v = .ok seg) (hvne0 : v ≠ []) (hvg : Shape v) :
    ∃ s, gnPrep ic n v rest = .ok s ∧ GShape ic n v rest seg s := by
  have hsv : seg.value = v := newSegment_value ic v seg hseg
  have hvals := WfL_values hwf
  have hne : ∀ c ∈ n.children, c.seg.value ≠ [] := fun c hc => (WfL_segOk hwf c hc).ne
  have hscan := scanChildren_spec seg n.children 0 0 0
  cases hsc : scanChildren seg n.children 0 0 0 with
  | identical i =>
    rw [hsc] at hscan
    obtain ⟨c, hc, hval⟩ := hscan
    replace hc := List.mem_zipIdx_iff_getElem?.1 hc
    replace hval := Seg.similarity_neg_one_iff.1 hval
    refine ⟨_, gnPrep_ok_iff.2 ⟨seg, hseg, .identical hsc hc⟩, .ident i c hc ?_⟩
    have h1 := (WfL_of_getElem? hwf hc).segOk.seg
    rw [← hval, hsv, hseg] at h1
    cases h1; rfl
  | best l b =>
    rw [hsc] at hscan
    obtain ⟨a1, a2, a3⟩ := hscan
    by_cases hl : l ≤ 0
    · have hdis : ∀ d ∈ n.children, SibDisj seg d.seg := fun d hd =>
        similarity_le0 (Int.le_trans (a1 d hd).2 hl) (a1 d hd).1
      obtain ⟨idx, j, hsort, hj⟩ := sortNode_append (n := n) (x := newLeaf n.pattern seg) hvals hne
        (by rw [← hsv] at hvne0; exact hvne0) (fun d hd e => (hdis d hd).1 e.symm)
      refine ⟨_, gnPrep_ok_iff.2 ⟨seg, hseg, .leaf hsc hl hsort ?_⟩, .leaf idx j hdis⟩
      rw [setChildren_children, ← hsv]
      exact hj
    · obtain ⟨c, hc, _⟩ := a3.resolve_left fun e => hl (Int.le_of_eq e.1)
      replace hc := List.mem_zipIdx_iff_getElem?.1 hc
      obtain ⟨hL0, hkind, hlp⟩ := similar_lp hsc (Int.not_le.1 hl) hc
      rw [hsv] at hlp
      have hcok := (WfL_of_getElem? hwf hc).segOk
      obtain ⟨L, hL, _, hLc, hLv, hpre, hcut, htail, s1, hu⟩ :=
        cutPoint1 hcok hseg hvg hkind (hlp ▸ Int.natCast_pos.2 hL0)
      obtain rfl : L = l.toNat := Int.ofNat.inj (hL.symm.trans hlp)
      have hcutv : SimCut c.seg seg v l.toNat := ⟨hkind, hlp, hL0, hcut, htail⟩
      by_cases hcl : c.seg.value.length ≤ l.toNat
      · -- `v` is not the text of `c`, which the scan would have found identical
        have hvl : l.toNat < v.length := by
          refine Nat.lt_of_le_of_ne hLv fun e => (a1 c (List.mem_of_getElem? hc)).1 (Seg.similarity_neg_one_iff.2 ?_)
          rw [hsv, ← List.take_of_length_le (Nat.le_of_eq e.symm), ← hpre, List.take_of_length_le hcl]
        refine ⟨_, gnPrep_ok_iff.2 ⟨seg, hseg, .descend hsc (Int.not_le.1 hl) hc hcl⟩, ?_⟩
        rw [if_neg (Nat.not_le_of_lt hvl)]
        exact .desc b c _ hc hcutv (Nat.le_antisymm hLc hcl) hvl
      · have hlt : l.toNat < c.seg.value.length := Nat.lt_of_not_le hcl
        obtain ⟨hsp, hs1ok, hs2ok⟩ := hu.split hlt
        have hs1v : s1.value = c.seg.value.take l.toNat := newSegment_value ic _ s1 hu.seg
        have hpw := ((WfL_iff ic used n.children).1 hwf).2
        have hdis : ∀ d ∈ removeNodes n.children c.seg.value, SibDisj d.seg s1 := by
          intro d hd
          have hdm : d ∈ n.children := (removeNodes_sublist _ _).subset hd
          have hdc' : SibDisj d.seg c.seg :=
            pairwise_mem_ne (R := fun a b : Node => SibDisj a.seg b.seg) (fun a b h => h.symm) hpw hdm
              (List.mem_of_getElem? hc) (fun e => removeNodes_values hvals d hd (by rw [e]))
          exact hdc'.take (WfL_segOk hwf d hdm) hcok hcut hs1ok hs1v hu.kind
        obtain ⟨idx, j, hsort, hj⟩ := sortNode_append (n := n) (x := upperOf n c l.toNat s1)
          (hvals.sublist (removeNodes_sublist _ c.seg.value))
          (fun c' hc' => hne c' ((removeNodes_sublist _ _).subset hc')) hs1ok.ne (fun d hd => (hdis d hd).1)
        exact ⟨_, gnPrep_ok_iff.2 ⟨seg, hseg,
            .split (ret := upperOf n c l.toNat s1) hsc (Int.not_le.1 hl) hc hcl hsp (sortNode_single ..) hsort hj⟩,
          .split b c _ s1 idx j hc hcutv hlt hs1v hu.kind hu.name hs1ok hs2ok hdis⟩

theorem WfL_append_single {ic : Interceptors} {used : List Bytes} {cs : List Node} {x : Node}
    (h : WfL ic used cs) (hx : Node.Wf ic used x) (hd : ∀ d ∈ cs, SibDisj d.seg x.seg) :
    WfL ic used (cs ++ [x]) := by
  rw [WfL_iff] at *
  exact ⟨List.forall_mem_append.2 ⟨h.1, List.forall_mem_singleton.2 hx⟩,
    List.pairwise_append.2 ⟨h.2, List.pairwise_singleton _ _, fun a ha b hb => List.mem_singleton.1 hb ▸ hd a ha⟩⟩

theorem usedBelow_congr (used : List Bytes) {a b : Seg} (hk : a.kind = b.kind) (hn : a.name = b.name) :
    usedBelow used a = usedBelow used b := by
  unfold usedBelow; rw [hk, hn]

theorem wf_lowerOf {ic : Interceptors} {used : List Bytes} {c : Node} {L : Nat} (hcw : Node.Wf ic used c)
    (hcut : CutAt c.seg.value L) (hok : SegOk ic { value := c.seg.value.drop L }) :
    Node.Wf ic (usedBelow used c.seg) (lowerOf c L) := by
  rw [Node.wf_iff]
  exact ⟨hok, .inl rfl, fun h => absurd h (hcut.drop_noBrace.last_ne hok.ne), ((Node.wf_iff ic used c).1 hcw).2.2.2⟩

theorem wf_newLeaf {ic : Interceptors} {used : List Bytes} (pat : Bytes) {seg : Seg} (hok : SegOk ic seg)
    (hfresh : seg.kind = .str ∨ seg.name ∉ used) : Node.Wf ic used (newLeaf pat seg) := by
  rw [Node.wf_iff]
  exact ⟨hok, hfresh, fun _ => rfl, WfL_nil _ _⟩

/-- `ContX` with what is known of the last byte of `parent`'s text: when the piece is used up it is `}` only if `v`
ends with `}`; when a remainder of `v` goes below `parent` it is not `}`. -/
def ContOk (v : Bytes) (rest : List Bytes) (s : GStep) : Prop :=
  (s.cont = restCont rest ∧ (lastByte s.parent.seg.value = endByte → lastByte v = endByte)) ∨
    (∃ L, 0 < L ∧ L < v.length ∧ NoBrace (v.drop L) ∧ s.cont = some (v.drop L, rest) ∧
      lastByte s.parent.seg.value ≠ endByte)

theorem GShape.wf {ic : Interceptors} {used : List Bytes} {n : Node} {v : Bytes} {rest : List Bytes} {seg : Seg}
    {s : GStep} (hs : GShape ic n v rest seg s) (hwf : WfL ic used n.children) (hok : SegOk ic seg)
    (hsv : seg.value = v) (hfresh : seg.kind = .str ∨ seg.name ∉ used) :
    WfL ic used s.n1.children ∧ Node.Wf ic used s.parent ∧ s.parent.seg.kind = seg.kind ∧
      s.parent.seg.name = seg.name ∧ ContOk v rest s := by
  -- the new segment satisfies I-seg, so what a cut leaves of it is brace-free, and the names agree
  have hstrong : ∀ {c : Seg} {L : Nat}, SegOk ic c → SimCut c seg v L → NoBrace (v.drop L) ∧ c.name = seg.name := by
    intro c L hcok hcut
    obtain ⟨_, hdv, hname, _⟩ := cutPointX hcok hok hcut.kind (by rw [hsv]; exact hcut.lp) hcut.pos
    rw [hsv] at hdv
    exact ⟨hdv, hname⟩
  cases hs with
  | ident i c hc hcs =>
    refine ⟨hwf, WfL_of_getElem? hwf hc, by rw [hcs], by rw [hcs], .inl ⟨rfl, ?_⟩⟩
    rw [hcs, hsv]
    exact id
  | leaf idx j hdis =>
    have hleaf := wf_newLeaf (used := used) n.pattern hok hfresh
    refine ⟨?_, hleaf, rfl, rfl, .inl ⟨rfl, ?_⟩⟩
    · exact (WfL_perm (sortChildren_perm _)).2 (WfL_append_single hwf hleaf (fun d hd => (hdis d hd).symm))
    · rw [← hsv]
      exact id
  | desc i c L hc hcut hLeq hLv =>
    have hcw := WfL_of_getElem? hwf hc
    obtain ⟨hdv, hname⟩ := hstrong hcw.segOk hcut
    refine ⟨hwf, hcw, hcut.kind, hname, .inr ⟨L, hcut.pos, hLv, hdv, rfl, ?_⟩⟩
    have := hcut.cut.last.1
    rwa [List.take_of_length_le (Nat.le_of_eq hLeq.symm)] at this
  | split i c L s1 idx j hc hcut hLc hs1v hk1 hn1 hs1ok hs2ok hdis =>
    have hcw := WfL_of_getElem? hwf hc
    obtain ⟨hdv, hname⟩ := hstrong hcw.segOk hcut
    have hlast1 : lastByte s1.value ≠ endByte := by rw [hs1v]; exact hcut.cut.last.1
    have hcfresh := ((Node.wf_iff ic used c).1 hcw).2.1
    -- the lower half keeps the children of `c`, below the same names
    have hlow : Node.Wf ic (usedBelow used s1) (lowerOf c L) :=
      usedBelow_congr used hk1 hn1 ▸ wf_lowerOf hcw hcut.cut hs2ok
    have hup : Node.Wf ic used (upperOf n c L s1) :=
      ⟨hs1ok, by rw [hk1, hn1]; exact hcfresh, fun h => absurd h hlast1, hlow, fun _ h => absurd h List.not_mem_nil,
        trivial⟩
    refine ⟨?_, hup, hk1.trans hcut.kind, hn1.trans hname, ?_⟩
    · exact (WfL_perm (sortChildren_perm _)).2
        (WfL_append_single (WfL_sublist (removeNodes_sublist _ _) hwf) hup hdis)
    · by_cases hvl : v.length ≤ L
      · exact .inl ⟨if_pos hvl, fun h => absurd h hlast1⟩
      · exact .inr ⟨L, hcut.pos, Nat.lt_of_not_le hvl, hdv, if_neg hvl, hlast1⟩

/-- What `Split` has established about the pieces still to be inserted below a node whose chain
carries the parameter names `used`. -/
structure PiecesOk (ic : Interceptors) (used : List Bytes) (v : Bytes) (rest : List Bytes) : Prop where
  split : ∃ flag segs, splitLoop ic (v :: rest) flag used = .ok segs
  wf : ∀ x ∈ v :: rest, WfPiece x
  heads : ∀ x ∈ rest, x.head? = some startByte

/-- What the continuation of a step is: the remaining pieces, or the brace-free rest of the current piece. -/
def ContX (v : Bytes) (rest : List Bytes) (s : GStep) : Prop :=
  s.cont = restCont rest ∨
    ∃ L, 0 < L ∧ L < v.length ∧ NoBrace (v.drop L) ∧ s.cont = some (v.drop L, rest)


/-- Only the new segment and the names `used` matter, not the table the stored segments were parsed under. -/
theorem piecesOk_contX {ic : Interceptors} {used : List Bytes} {v : Bytes} {rest : List Bytes} {seg : Seg}
    {s : GStep} (hp : PiecesOk ic used v rest) (hseg : newSegment ic v = .ok seg)
    (hub : usedBelow used s.parent.seg = usedBelow used seg) (hc : ContX v rest s)
    {v' : Bytes} {rest' : List Bytes} (hcont : s.cont = some (v', rest')) :
    PiecesOk ic (usedBelow used s.parent.seg) v' rest' := by
  obtain ⟨flag, segs, hsplit⟩ := hp.split
  obtain ⟨hvne, _, seg', segs', hseg', _, hrest, _⟩ := splitLoop_cons_inv hsplit
  rw [hseg] at hseg'
  cases hseg'
  rw [← hub] at hrest
  rcases hc with h1 | ⟨L, hL0, hLv, hnb, h1⟩
  · rw [h1] at hcont
    have hr := restCont_some hcont
    subst hr
    exact ⟨⟨_, _, hrest⟩, fun x hx => hp.wf x (List.mem_cons_of_mem _ hx),
      fun x hx => hp.heads x (List.mem_cons_of_mem _ hx)⟩
  · rw [h1] at hcont
    simp only [Option.some.injEq, Prod.mk.injEq] at hcont
    obtain ⟨rfl, rfl⟩ := hcont
    have hdne : v.drop L ≠ [] := fun e => by have := List.drop_eq_nil_iff.1 e; omega
    have hlen : (v.drop L).length ≤ maxInt16 := by
      have := newSegment_len hseg
      simp; omega
    rw [← lastByte_drop hLv] at hrest
    refine ⟨⟨false, _, splitLoop_lit false hnb hdne hlen hrest⟩, ?_, hp.heads⟩
    intro x hx
    rcases List.mem_cons.1 hx with rfl | hx
    · exact .inl hnb
    · exact hp.wf x (List.mem_cons_of_mem _ hx)

theorem ContOk.toContX {v : Bytes} {rest : List Bytes} {s : GStep} (h : ContOk v rest s) : ContX v rest s :=
  h.imp (·.1) fun ⟨L, h1, h2, h3, h4, _⟩ => ⟨L, h1, h2, h3, h4⟩

/-- The node the search continues in does not end with `}`, so it may receive children. -/
theorem PiecesOk.cont {ic : Interceptors} {used : List Bytes} {v : Bytes} {rest : List Bytes} {seg : Seg}
    {s : GStep} (hp : PiecesOk ic used v rest) (hseg : newSegment ic v = .ok seg)
    (hk : s.parent.seg.kind = seg.kind) (hn : s.parent.seg.name = seg.name) (hc : ContOk v rest s)
    {v' : Bytes} {rest' : List Bytes} (hcont : s.cont = some (v', rest')) :
    lastByte s.parent.seg.value ≠ endByte ∧ PiecesOk ic (usedBelow used s.parent.seg) v' rest' := by
  refine ⟨?_, piecesOk_contX hp hseg (usedBelow_congr used hk hn) hc.toContX hcont⟩
  rcases hc with ⟨h1, h2⟩ | ⟨L, _, _, _, _, h2⟩
  · rw [h1] at hcont
    have hr := restCont_some hcont
    subst hr
    -- a piece after `}` starts with `{`, which `Split` has refused as adjacent
    obtain ⟨flag, segs, hsplit⟩ := hp.split
    obtain ⟨_, _, seg', _, hseg', _, hrest, _⟩ := splitLoop_cons_inv hsplit
    exact fun hlast => (splitLoop_cons_inv hrest).2.1 ⟨by simpa using h2 hlast, hp.heads v' (by simp)⟩
  · exact h2

/-- **`getNode` cannot fail after the validation.** On a well-formed sibling list, for pieces that
`Split` accepted (well-formed, the later ones starting with `{`): `getNode` succeeds and the
restructured sibling list is well-formed again. -/
theorem getNode_wf (ic : Interceptors) (n : Node) (v : Bytes) (rest : List Bytes) :
    ∀ used, WfL ic used n.children → PiecesOk ic used v rest →
      ∃ r, getNode ic n v rest = .ok r ∧ WfL ic used r.1.children := by
  induction n, v, rest using getNode_induction ic with
  | step n v rest ih =>
    intro used hwf hp
    obtain ⟨flag, segs, hsplit⟩ := hp.split
    obtain ⟨hvne, _, seg, segs', hseg, hfresh, _, _⟩ := splitLoop_cons_inv hsplit
    have hok : SegOk ic seg := SegOk.of_newSegment hseg (hp.wf v (by simp)) hvne
    have hsv : seg.value = v := newSegment_value ic v seg hseg
    obtain ⟨s, hprep, hshape⟩ := gnPrep_shape rest hwf hseg hvne (hp.wf v (by simp)).shape
    obtain ⟨hwf1, hpar, hk, hn, hcontok⟩ := hshape.wf hwf hok hsv hfresh
    cases hcont : s.cont with
    | none => exact ⟨_, getNode_ok_iff.2 ⟨s, hprep, .inl ⟨hcont, rfl⟩⟩, hwf1⟩
    | some vr =>
      obtain ⟨v', rest'⟩ := vr
      obtain ⟨hlast, hp'⟩ := hp.cont hseg hk hn hcontok hcont
      obtain ⟨_, hpfresh, _, hpch⟩ := (Node.wf_iff ic used s.parent).1 hpar
      obtain ⟨⟨p', path⟩, hr', hwf'⟩ := ih s v' rest' hprep hcont _ hpch hp'
      have f1 : p'.seg = s.parent.seg := getNode_seg hr'
      refine ⟨_, getNode_ok_iff.2 ⟨s, hprep, .inr ⟨v', rest', p', path, hcont, hr', rfl⟩⟩, ?_⟩
      refine WfL_set hwf1 (gnPrep_top hprep).2 f1 ?_
      rw [Node.wf_iff, f1]
      exact ⟨hpar.segOk, hpfresh, fun h => absurd h hlast, hwf'⟩

end Mux.P9
