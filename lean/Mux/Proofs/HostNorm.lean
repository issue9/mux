/-
  Mux.Proofs.HostNorm — host normalisation of `Hosts.Match` (match.go) as byte-string logic: `normHost` is port stripping
  (`stripPort`: what follows the last `:` if it is digits only), then bracket stripping (`stripBrackets`) and lower-casing
  (`normHost_spec`); it keeps ASCII hosts ASCII (`P30.isAscii_normHost`).
-/
import Mux.Proofs.Syntax
import Mux.Proofs.Tok
namespace Mux.P12
open Mux

def isUpper (b : UInt8) : Prop := 65 ≤ b ∧ b ≤ 90

instance (b : UInt8) : Decidable (isUpper b) := by unfold isUpper; infer_instance

theorem lowerByte_of_not_upper {b : UInt8} (h : ¬ isUpper b) : lowerByte b = b := if_neg h

theorem lowerByte_of_upper {b : UInt8} (h : isUpper b) : lowerByte b = b + 32 := if_pos h

theorem toNat_add_32 {b : UInt8} (h : isUpper b) : (b + 32).toNat = b.toNat + 32 := by
  have h2 : b.toNat ≤ 90 := h.2
  rw [UInt8.toNat_add]
  exact Nat.mod_eq_of_lt (Nat.lt_of_le_of_lt (Nat.add_le_add_right h2 32) (by decide))

theorem lowerByte_upper_range {b : UInt8} (h : isUpper b) : 97 ≤ lowerByte b ∧ lowerByte b ≤ 122 := by
  rw [lowerByte_of_upper h]
  show 97 ≤ (b + 32).toNat ∧ (b + 32).toNat ≤ 122
  rw [toNat_add_32 h]
  exact ⟨Nat.add_le_add_right h.1 32, Nat.add_le_add_right h.2 32⟩

theorem lowerByte_not_upper (b : UInt8) : ¬ isUpper (lowerByte b) := by
  by_cases h : isUpper b
  · exact fun hu => absurd (Nat.le_trans (lowerByte_upper_range h).1 hu.2) (by decide)
  · rw [lowerByte_of_not_upper h]; exact h

theorem lowerByte_idem (b : UInt8) : lowerByte (lowerByte b) = lowerByte b :=
  lowerByte_of_not_upper (lowerByte_not_upper b)

theorem lowerByte_eq_self_iff (b : UInt8) : lowerByte b = b ↔ ¬ isUpper b :=
  ⟨fun h => h ▸ lowerByte_not_upper b, lowerByte_of_not_upper⟩

theorem toLower_nil : toLower [] = [] := rfl
theorem toLower_cons (b : UInt8) (s : Bytes) : toLower (b :: s) = lowerByte b :: toLower s := rfl
theorem toLower_append (s t : Bytes) : toLower (s ++ t) = toLower s ++ toLower t := List.map_append
theorem toLower_length (s : Bytes) : (toLower s).length = s.length := List.length_map _

theorem toLower_idem (s : Bytes) : toLower (toLower s) = toLower s := by
  simp only [toLower, List.map_map, Function.comp_def, lowerByte_idem]

theorem toLower_getElem? (s : Bytes) (i : Nat) : (toLower s)[i]? = s[i]?.map lowerByte := List.getElem?_map

theorem toLower_eq_self_iff (s : Bytes) : toLower s = s ↔ ∀ b ∈ s, ¬ isUpper b := by
  induction s with
  | nil => simp [toLower]
  | cons c cs ih => rw [toLower_cons, List.cons.injEq, ih, lowerByte_eq_self_iff, List.forall_mem_cons]

theorem toLower_no_upper (s : Bytes) : ∀ b ∈ toLower s, ¬ isUpper b := by
  intro b hb
  obtain ⟨a, _, rfl⟩ := List.mem_map.1 hb
  exact lowerByte_not_upper a

def isDigit (b : UInt8) : Bool := decide (48 ≤ b ∧ b ≤ 57)

theorem isDigit_iff (b : UInt8) : isDigit b = true ↔ 48 ≤ b ∧ b ≤ 57 := decide_eq_true_iff

theorem not_isDigit_colon : isDigit 58 = false := by decide

theorem all_isDigit_iff (ds : Bytes) : ds.all isDigit = true ↔ ∀ d ∈ ds, 48 ≤ d ∧ d ≤ 57 := by
  simp only [List.all_eq_true, isDigit_iff]

theorem validOptionalPort_cons (c : UInt8) (rest : Bytes) :
    validOptionalPort (c :: rest) = (decide (c = 58) && rest.all isDigit) := by
  rw [validOptionalPort, Bool.decide_and, Bool.decide_eq_true]
  rfl

theorem validOptionalPort_iff (p : Bytes) :
    validOptionalPort p = true ↔ p = [] ∨ ∃ ds, p = 58 :: ds ∧ ∀ d ∈ ds, 48 ≤ d ∧ d ≤ 57 := by
  cases p with
  | nil => simp [validOptionalPort]
  | cons c rest =>
    rw [validOptionalPort_cons, Bool.and_eq_true, decide_eq_true_eq, all_isDigit_iff]
    simp only [reduceCtorEq, List.cons.injEq, false_or]
    exact ⟨fun ⟨hc, h⟩ => ⟨rest, ⟨hc, rfl⟩, h⟩, fun ⟨ds, ⟨hc, e⟩, h⟩ => ⟨hc, e ▸ h⟩⟩

/-! `lastIndexByte` is characterised through the split `s = pre ++ b :: tl` at the position it returns, with `b ∉ tl`
(`indexByte`, being `findIdx?`, by core's lemma). -/

theorem getElem?_split (pre tl : Bytes) (b : UInt8) : (pre ++ b :: tl)[pre.length]? = some b := by
  rw [List.getElem?_append_right (Nat.le_refl _), Nat.sub_self]; rfl

theorem getElem?_split_succ (pre tl : Bytes) (b : UInt8) (k : Nat) : (pre ++ b :: tl)[pre.length + (k + 1)]? = tl[k]? := by
  rw [List.getElem?_append_right (Nat.le_add_right _ _), Nat.add_sub_cancel_left, List.getElem?_cons_succ]

theorem not_mem_tl_iff {pre tl : Bytes} {b : UInt8} :
    b ∉ tl ↔ ∀ j, pre.length < j → (pre ++ b :: tl)[j]? ≠ some b := by
  constructor
  · intro hn j hj e
    obtain ⟨k, rfl⟩ := Nat.exists_eq_add_of_lt hj
    rw [Nat.add_assoc, getElem?_split_succ] at e
    exact hn (List.mem_of_getElem? e)
  · intro h hm
    obtain ⟨k, hk⟩ := List.mem_iff_getElem?.1 hm
    exact h _ (Nat.lt_add_of_pos_right (Nat.succ_pos k)) (by rw [getElem?_split_succ]; exact hk)

theorem indexByte_append_of_not_mem {b : UInt8} {pre : Bytes} (tl : Bytes) (h : b ∉ pre) :
    indexByte b (pre ++ b :: tl) = some pre.length := by
  rw [P9.indexByte_append_of_not_mem h]
  simp [indexByte]

theorem indexByte_eq_some_iff {b : UInt8} {s : Bytes} {i : Nat} :
    indexByte b s = some i ↔ s[i]? = some b ∧ ∀ j, j < i → s[j]? ≠ some b := by
  rw [indexByte_eq_findIdx?, List.findIdx?_eq_some_iff_getElem]
  simp only [beq_iff_eq]
  constructor
  · rintro ⟨hlt, hb, hmin⟩
    exact ⟨List.getElem?_eq_some_iff.2 ⟨hlt, hb⟩, fun j hj e => hmin j hj (List.getElem?_eq_some_iff.1 e).2⟩
  · rintro ⟨h1, h2⟩
    obtain ⟨hlt, hb⟩ := List.getElem?_eq_some_iff.1 h1
    exact ⟨hlt, hb, fun j hj e => h2 j hj (List.getElem?_eq_some_iff.2 ⟨Nat.lt_trans hj hlt, e⟩)⟩

theorem lastIndexByte_append {b : UInt8} (pre : Bytes) {tl : Bytes} (h : b ∉ tl) :
    lastIndexByte b (pre ++ b :: tl) = some pre.length := by
  unfold lastIndexByte
  have hr : (pre ++ b :: tl).reverse = tl.reverse ++ b :: pre.reverse := by simp
  rw [hr, indexByte_append_of_not_mem _ (by simpa using h)]
  simp only [List.length_append, List.length_cons, List.length_reverse, Option.some.injEq]
  rw [← Nat.add_assoc, Nat.add_sub_cancel, Nat.add_sub_cancel]

theorem exists_last_split {b : UInt8} {s : Bytes} (h : b ∈ s) : ∃ pre tl, s = pre ++ b :: tl ∧ b ∉ tl := by
  obtain ⟨as, bs, hs, hn⟩ := List.eq_append_cons_of_mem (List.mem_reverse.2 h)
  refine ⟨bs.reverse, as.reverse, ?_, by simpa using hn⟩
  rw [← List.reverse_reverse s, hs]
  simp

theorem lastIndexByte_eq_none_iff {b : UInt8} {s : Bytes} : lastIndexByte b s = none ↔ b ∉ s := by
  unfold lastIndexByte
  rw [← List.mem_reverse, ← indexByte_eq_none_iff]
  cases indexByte b s.reverse <;> simp

theorem lastIndexByte_eq_some_iff {b : UInt8} {s : Bytes} {i : Nat} :
    lastIndexByte b s = some i ↔ s[i]? = some b ∧ ∀ j, i < j → s[j]? ≠ some b := by
  constructor
  · intro h
    have hm : b ∈ s := Decidable.of_not_not fun hn => by rw [lastIndexByte_eq_none_iff.2 hn] at h; cases h
    obtain ⟨pre, tl, rfl, hn⟩ := exists_last_split hm
    rw [lastIndexByte_append pre hn] at h
    cases h
    exact ⟨getElem?_split pre tl b, not_mem_tl_iff.1 hn⟩
  · rintro ⟨h1, h2⟩
    obtain ⟨pre, tl, rfl, rfl⟩ := List.getElem?_eq_some_iff_append.1 h1
    exact lastIndexByte_append pre (not_mem_tl_iff.2 h2)

/-- `splitLastColon h = some (host, tl)` iff `h = host ++ ":" ++ tl` and `tl` contains no `:`
(`splitLastColon_eq_some_iff`): the split at the LAST colon. -/
def splitLastColon : Bytes → Option (Bytes × Bytes)
  | [] => none
  | c :: cs =>
    match splitLastColon cs with
    | some (a, t) => some (c :: a, t)
    | none => if c = 58 then some ([], cs) else none

/-- Remove `:port` — the part from the last `:` on — iff everything after that `:` is ASCII digits
(possibly none). -/
def stripPort (h : Bytes) : Bytes :=
  match splitLastColon h with
  | some (host, tl) => if tl.all isDigit then host else h
  | none => h

/-- Remove one leading `[` and one trailing `]` iff both are present. -/
def stripBrackets (h : Bytes) : Bytes :=
  match h with
  | [] => []
  | c :: rest => if c = 91 ∧ rest.getLast? = some 93 then rest.dropLast else h

theorem splitLastColon_none {s : Bytes} (h : 58 ∉ s) : splitLastColon s = none := by
  induction s with
  | nil => rfl
  | cons c cs ih =>
    simp only [List.mem_cons, not_or] at h
    simp only [splitLastColon, ih h.2]
    rw [if_neg (fun e => h.1 e.symm)]

theorem splitLastColon_append (pre : Bytes) {tl : Bytes} (h : 58 ∉ tl) :
    splitLastColon (pre ++ 58 :: tl) = some (pre, tl) := by
  induction pre with
  | nil => simp [splitLastColon, splitLastColon_none h]
  | cons c cs ih => simp only [List.cons_append, splitLastColon, ih]

theorem splitLastColon_eq_some_iff {s host tl : Bytes} :
    splitLastColon s = some (host, tl) ↔ s = host ++ 58 :: tl ∧ 58 ∉ tl := by
  refine ⟨fun h => ?_, fun ⟨h1, h2⟩ => h1 ▸ splitLastColon_append host h2⟩
  by_cases hm : (58 : UInt8) ∈ s
  · obtain ⟨pre, t, rfl, hn⟩ := exists_last_split hm
    rw [splitLastColon_append pre hn] at h
    cases h
    exact ⟨rfl, hn⟩
  · rw [splitLastColon_none hm] at h; cases h

theorem stripPort_no_colon {h : Bytes} (hn : 58 ∉ h) : stripPort h = h := by
  unfold stripPort; rw [splitLastColon_none hn]

theorem stripPort_append (host : Bytes) {tl : Bytes} (hn : 58 ∉ tl) :
    stripPort (host ++ 58 :: tl) = if tl.all isDigit then host else host ++ 58 :: tl := by
  unfold stripPort; rw [splitLastColon_append host hn]

theorem not_mem_of_all_digits {ds : Bytes} (h : ∀ d ∈ ds, 48 ≤ d ∧ d ≤ 57) : (58 : UInt8) ∉ ds :=
  fun hm => absurd (h 58 hm) (by decide)

/-- The port step of `Hosts.Match` as the Go code computes it. -/
def stripPortGo (h : Bytes) : Bytes :=
  match lastIndexByte 58 h with
  | some i => if validOptionalPort (h.drop i) then h.take i else h
  | none => h

theorem stripPortGo_eq (h : Bytes) : stripPortGo h = stripPort h := by
  unfold stripPortGo
  by_cases hm : (58 : UInt8) ∈ h
  · obtain ⟨pre, tl, rfl, hn⟩ := exists_last_split hm
    rw [lastIndexByte_append pre hn, stripPort_append pre hn]
    simp only [List.drop_left, List.take_left, validOptionalPort_cons, decide_true, Bool.true_and]
  · rw [lastIndexByte_eq_none_iff.2 hm, stripPort_no_colon hm]

/-- The bracket step of `Hosts.Match` as the Go code computes it. -/
def stripBracketsGo (h : Bytes) : Bytes :=
  if hasPrefix h [91] ∧ hasSuffix h [93] then (h.take (h.length - 1)).drop 1 else h

theorem hasSuffix_singleton (h : Bytes) (b : UInt8) : hasSuffix h [b] = true ↔ h.getLast? = some b := by
  rw [hasSuffix, isPrefixOf_iff, List.reverse_prefix, List.getLast?_eq_some_iff]
  exact exists_congr fun _ => eq_comm

theorem hasPrefix_singleton (h : Bytes) (b : UInt8) : hasPrefix h [b] = true ↔ h.head? = some b := by
  rw [hasPrefix_iff, List.head?_eq_some_iff]
  exact exists_congr fun _ => eq_comm

theorem stripBracketsGo_eq (h : Bytes) : stripBracketsGo h = stripBrackets h := by
  unfold stripBracketsGo stripBrackets
  cases h with
  | nil => simp [hasPrefix]
  | cons c rest =>
    simp only [hasPrefix_singleton, hasSuffix_singleton, List.head?_cons, Option.some.injEq]
    by_cases hc : c = 91
    · subst hc
      have hl : (91 :: rest).getLast? = some 93 ↔ rest.getLast? = some 93 := by
        cases rest with
        | nil => simp
        | cons d ds => simp [List.getLast?_cons_cons]
      simp only [hl, true_and]
      split
      · cases rest <;> simp [List.dropLast_eq_take]
      · rfl
    · simp [hc]

theorem normHost_eq_go (h : Bytes) : normHost h = toLower (stripBracketsGo (stripPortGo h)) := rfl

theorem stripBrackets_brackets (mid : Bytes) : stripBrackets (91 :: (mid ++ [93])) = mid := by
  simp [stripBrackets]

theorem stripBrackets_other (h : Bytes) (hn : ¬ ∃ mid, h = 91 :: (mid ++ [93])) : stripBrackets h = h := by
  cases h with
  | nil => rfl
  | cons c rest =>
    refine if_neg fun ⟨hc, hl⟩ => hn ?_
    obtain ⟨mid, rfl⟩ := List.getLast?_eq_some_iff.1 hl
    exact ⟨mid, by rw [hc]⟩

theorem normHost_spec (h : Bytes) : normHost h = toLower (stripBrackets (stripPort h)) := by
  rw [normHost_eq_go, stripPortGo_eq, stripBracketsGo_eq]

end Mux.P12

namespace Mux.P30
open Mux Mux.P12

/-! The normalised host of an ASCII host is ASCII, so the matcher never leaves the modelled regexp domain. -/

theorem lowerByte_lt {b : UInt8} (h : b < 128) : lowerByte b < 128 := by
  by_cases hu : isUpper b
  · have h2 : (lowerByte b).toNat ≤ 122 := (lowerByte_upper_range hu).2
    exact Nat.lt_of_le_of_lt h2 (by decide)
  · rw [lowerByte_of_not_upper hu]; exact h

theorem isAscii_toLower {s : Bytes} (h : isAscii s = true) : isAscii (toLower s) = true := by
  rw [isAscii_iff] at h ⊢
  intro b hb
  unfold toLower at hb
  obtain ⟨a, ha, rfl⟩ := List.mem_map.1 hb
  exact lowerByte_lt (h a ha)

theorem isAscii_normHost {h : Bytes} (ha : isAscii h = true) : isAscii (normHost h) = true := by
  rw [normHost_eq_go]
  refine isAscii_toLower (isAscii_of_subset (fun b hb => ?_) ha)
  have h1 : ∀ b ∈ stripPortGo h, b ∈ h := by
    intro b hb
    unfold stripPortGo at hb
    split at hb
    · split at hb
      · exact List.mem_of_mem_take hb
      · exact hb
    · exact hb
  unfold stripBracketsGo at hb
  split at hb
  · exact h1 b (List.mem_of_mem_take (List.mem_of_mem_drop hb))
  · exact h1 b hb

end Mux.P30
