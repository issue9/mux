/-
  Mux.Proofs.WOkOps — the pattern-aware invariant `NodeW P` goes through every edit whose replacements of handler maps
  keep `P` (`Node.Edit.nodeW`), hence through a successful `Add`, `Remove` or `Clean` (`TOp.Yields.nodeW`: `Add`
  addresses the node with the registered pattern, `TOp.Yields.editAt`), and through `Node.applyMw`, which changes `P`
  (`applyMw_W`); `PatternOk` (every stored pattern is the parent's pattern followed by the node's segment text) holds of
  every reachable tree (`Tree.Reach.patternOk`).
-/
import Mux.Proofs.WOkGetNode
import Mux.Proofs.TreeReach
namespace Mux.P10
open Mux

variable {P : Bytes → AMap Handler → Prop}

/-- `NodeW P` through an edit: the closed part `PatK` and the part `P` of the nodes' own data, each by its rule. -/
theorem _root_.Mux.Node.Edit.nodeW {H : Node → Node → Prop}
    (hH : ∀ n n', H n n' → P n.pattern n.handlers → P n.pattern n'.handlers) {n n' : Node}
    (h : Node.Edit H n n') (hn : NodeW P n) : NodeW P n' := by
  obtain ⟨hk, hq⟩ := (NodeW_iff_All n).1 hn
  obtain ⟨hq1, hq2⟩ := h.ownQ (Q := fun _ hs p => P p hs)
    (fun n n' hh hs hq => by unfold P9.OwnQ; rw [hs.2.1]; exact hH _ _ hh hq) hq.tail
  exact (NodeW_iff_All n').2 ⟨h.closed PatK.closed hk, (Node.All_iff _ _).2 ⟨hq1 hq.head, hq2⟩⟩

/-- `Use` replaces `P` by another predicate, so it is not an edit that keeps `P`: its own walk. -/
theorem applyMw_W {P' : Bytes → AMap Handler → Prop} (router : Bytes) (ms : List Nat)
    (hQ : ∀ (p : Bytes) (hs : AMap Handler), P p hs →
      P' p (hs.map (fun e => (e.1, wrapWith e.2 e.1 p router ms)))) :
    ∀ n : Node, NodeW P n → NodeW P' (n.applyMw router ms) := by
  intro n
  induction n using Node.induction with
  | step n ih =>
    intro h
    obtain ⟨_, hp, _, hh, _, hc⟩ := applyMw_fields router ms n
    rw [NodeW_iff, ListW_iff] at h ⊢
    rw [hp, hh, hc, applyMwL_eq_map]
    refine ⟨hQ _ _ h.1, fun c' hc' => ?_⟩
    obtain ⟨c, hcm, rfl⟩ := List.mem_map.1 hc'
    obtain ⟨hcs, hcp, _⟩ := applyMw_fields router ms c
    exact ⟨by rw [hcp, hcs]; exact (h.2 c hcm).1, ih c hcm (h.2 c hcm).2⟩

/-- The update that `op` makes to the handler map of the node it addresses keeps `P` (no condition on `Use`, which
changes `P`: `applyMw_W`). -/
def _root_.Mux.TOp.KeepsW (t : Tree) (P : Bytes → AMap Handler → Prop) : TOp → Prop
  | .add p h ms methods => ∀ n n' : Node, n.pattern = p → P p n.handlers →
      t.addMethodsNode h p ms (effMethods methods) n = .ok n' → P p n'.handlers
  | .remove _ methods => ∀ n : Node, P n.pattern n.handlers → P n.pattern (removeMethods t.hasTrace methods n).handlers
  | .clean _ => True
  | .use _ => True

theorem add_at {t : Tree} {p v : Bytes} {h : Handler} {ms : List Nat} {methods rest : List Bytes} {root1 root2 : Node}
    {path : List Nat} (hk : Node.All PatK t.root) (h0 : t.root.pattern = []) (hsp : splitString p = v :: rest)
    (hget : getNode t.ic t.root v rest = .ok (root1, path))
    (hmod : root1.modifyAt (t.addMethodsNode h p ms methods) path = .ok root2) :
    ∃ i path' n0 n', path = i :: path' ∧ root1.getAt path = some n0 ∧ n0.pattern = p ∧
      t.addMethodsNode h p ms methods n0 = .ok n' ∧ root2.getAt path = some n' ∧
      Node.Edit (fun x x' => x = n0 ∧ x' = n') root1 root2 := by
  obtain ⟨n0, hn0, hn0p⟩ := getNode_target t.ic t.root v rest _ hk hget
  obtain ⟨m, n', hm, hn', hget', hed⟩ := modifyAt_edit_at (fun _ _ h => addMethodsNode_shape h) hmod
  cases hn0.symm.trans hm
  obtain ⟨i, path, rfl⟩ := List.exists_cons_of_ne_nil (P9.getNode_top _ _ _ _ _ hget).2.1
  refine ⟨i, path, n0, n', rfl, hn0, ?_, hn', hget', hed⟩
  rw [hn0p, h0]; exact splitString_cons_join hsp

/-- `TOp.Yields.edit` on a tree with consistent patterns: the node `Add` installs handlers on is the one `getNode`
has made for the registered pattern. -/
theorem _root_.Mux.TOp.Yields.editAt {t : Tree} {op : TOp} {root' : Node} {counts' : AMap Nat}
    (hy : op.Yields t root' counts') (hk : Node.All PatK t.root) (h0 : t.root.pattern = []) :
    ∃ root1, op.Grows t root1 ∧
      Node.Edit (fun m m' => op.own t m m' ∧ ∀ p h ms methods, op = .add p h ms methods → m.pattern = p) root1 root' ∧
      root'.own = t.root.own := by
  -- for `Remove` and `Clean` this is `TOp.Yields.edit`; only `Add` has something to say about the pattern
  obtain ⟨rootE, hgE, hedE, hoE⟩ := hy.edit
  cases hy with
  | @add p h ms methods v rest root1 path _ _ hp _ hsp hget hmod hsplit =>
    have hg : (TOp.add p h ms methods).Grows t root1 := .add (hsp ▸ splitString_pieces_nonempty p hp) hsplit hsp hget
    obtain ⟨i, path, n0, n', rfl, _, hn0p, hn', _, hed⟩ := add_at hk h0 hsp hget hmod
    refine ⟨root1, hg, hed.mono ?_, (Node.modifyAt_cons_own hmod).trans hg.own⟩
    rintro _ _ ⟨rfl, rfl⟩
    refine ⟨hn', fun _ _ _ _ e => ?_⟩
    cases e
    exact hn0p
  | remove | clean => exact ⟨rootE, hgE, hedE.mono fun _ _ hh => ⟨hh, nofun⟩, hoE⟩

/-- **`NodeW P` through a successful `Add`, `Remove` or `Clean`**, root included, when the update of the handler map
keeps `P`; the root keeps its own data. -/
theorem _root_.Mux.TOp.Yields.nodeW (hP0 : ∀ p, P p []) {t : Tree} {op : TOp} {root' : Node} {counts' : AMap Nat}
    (hy : op.Yields t root' counts') (hop : op.KeepsW t P) (hW : NodeW P t.root) (h0 : t.root.pattern = []) :
    NodeW P root' ∧ root'.own = t.root.own := by
  obtain ⟨root1, h1, he, ho⟩ := hy.editAt ((NodeW_iff_All _).1 hW).1 h0
  refine ⟨he.nodeW (fun m m' hh hm => ?_) ?_, ho⟩
  · cases op with
    | add p h ms methods => rw [hh.2 p h ms methods rfl] at hm ⊢; exact hop m m' (hh.2 p h ms methods rfl) hm hh.1
    | remove p methods => rw [show m' = _ from hh.1]; exact hop m hm
    | clean pre => exact hh.1.elim
    | use ms => cases hy
  · cases h1 with
    | root => exact hW
    | add _ _ _ hget =>
      rw [NodeW_iff, P9.getNode_pattern hget, P9.getNode_handlers hget]
      exact ⟨((NodeW_iff _).1 hW).1, getNode_W t.ic P hP0 t.root _ _ _ ((NodeW_iff _).1 hW).2 hget⟩

/-- The node a successful `Tree.add` installs the handlers on: `n0`, with the registered pattern, fresh or a copy of a
node of the old tree (`From`); `n'` takes its place. -/
theorem Tree.add_target {t t' : Tree} {p : Bytes} {h : Handler} {ms : List Nat} {methods : List Bytes}
    (hk : Node.PatternOk t.root) (h0 : t.root.pattern = []) (he : t.add p h ms methods = .ok t') :
    ∃ path n0 n', path ≠ [] ∧ From t.root n0 ∧ n0.pattern = p ∧
      t.addMethodsNode h p ms (effMethods methods) n0 = .ok n' ∧ t'.root.getAt path = some n' := by
  obtain ⟨_, v, rest, root1, path, root2, _, _, hsp, hget, hmod, rfl⟩ := Tree.add_ok he
  obtain ⟨i, path, n0, n', rfl, hn0, hn0p, hn', hget', _⟩ := add_at ((patternOk_iff_All _).1 hk) h0 hsp hget hmod
  refine ⟨i :: path, n0, n', List.cons_ne_nil _ _, getNode_from hget n0 (getAt_mem_below hn0), hn0p, hn', ?_⟩
  show (root2.setHandlers _ _).getAt (i :: path) = some n'
  rw [Node.getAt_cons] at hget' ⊢
  exact hget'

def PatInv (t : Tree) : Prop := Node.PatternOk t.root ∧ t.root.pattern = []

theorem patInv_new (name : Bytes) (ic : Interceptors) (nf : Handler) (tr : Option Handler) (ob nb : Base) :
    PatInv (Tree.new name ic nf tr ob nb) := by
  refine ⟨?_, rfl⟩
  simp [Tree.new, Node.PatternOk, PatternOkL]

theorem patInv_step {t : Tree} (h : PatInv t) (op : TOp) : PatInv (t.step op) := by
  obtain ⟨_, hpat, ha⟩ := P8.step_closed PatK.closed t op
    (fun _ _ _ _ _ _ _ _ _ _ hg => P9.getNode_localK (PatK.gnLocal t.ic) ((patternOk_iff_All _).1 h.1) trivial hg)
    ((patternOk_iff_All _).1 h.1)
  exact ⟨(patternOk_iff_All _).2 ha, hpat.trans h.2⟩

theorem patInv_run {t : Tree} (h : PatInv t) (ops : List TOp) : PatInv (t.run ops) :=
  Tree.run_inv (I := PatInv) (fun _ op _ h => patInv_step h op) h

theorem Tree.Reach.patternOk {t : Tree} (h : t.Reach) : Node.PatternOk t.root ∧ t.root.pattern = [] := by
  obtain ⟨name, ic, nf, tr, ob, nb, ops, rfl⟩ := h
  exact patInv_run (patInv_new name ic nf tr ob nb) ops

end Mux.P10
