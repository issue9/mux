/-
  Every stored handler (and the tree's `notFound`, `trace`, OPTIONS/405 bases) has a base satisfying `B`, provided
  every registered handler does.  With `B := (· ≠ .nil)` this is "no stored handler of a router tree is nil".
-/
import Mux.Proofs.TreeServe
namespace Mux

/-- The method index is an argument only so that `ValsQ B` fits `NodeOk`. -/
def ValsQ (B : Base → Prop) (_mi : Nat) (hs : AMap Handler) : Prop := ∀ e ∈ hs, B e.2.base

structure TreeVals (B : Base → Prop) (t : Tree) : Prop where
  nodes : Node.All (NodeOk (ValsQ B)) t.root
  optionsBase : B t.optionsBase
  notAllowedBase : B t.notAllowedBase
  notFound : B t.notFound.base
  trace : ∀ h, t.trace = some h → B h.base

/-- The handlers an operation brings in satisfy `B`. -/
def TOp.BasesOk (B : Base → Prop) : TOp → Prop
  | .add _ h _ _ => B h.base
  | _ => True

variable {B : Base → Prop}

theorem ValsQ_add {t : Tree} {h : Handler} (hB : B h.base) (hob : B t.optionsBase) (hnb : B t.notAllowedBase)
    {p : Bytes} {ms : List Nat} {methods : List Bytes} {n n' : Node} (hq : ValsQ B n.methodIndex n.handlers)
    (he : t.addMethodsNode h p ms methods n = .ok n') : ValsQ B n'.methodIndex n'.handlers := by
  intro e hmem
  -- an entry is old, the registered handler, or an automatic one
  rcases (addMethodsNode_map he).2.2.2 e hmem with h1 | h1 | ⟨b, hb, h1⟩
  · exact hq e h1
  · rw [h1]; exact hB
  · rw [h1]
    unfold autoBase at hb
    split at hb
    · cases hb; exact hob
    · split at hb
      · cases hb; exact hnb
      · cases hb

theorem ValsQ_remove {ht : Bool} {methods : List Bytes} {n : Node} (hq : ValsQ B n.methodIndex n.handlers) :
    ValsQ B (removeMethods ht methods n).methodIndex (removeMethods ht methods n).handlers :=
  fun e he => hq e ((removeMethods_sublist ht methods n).subset he)

theorem ValsQ_applyMw (router : Bytes) (ms : List Nat) (mi : Nat) (hs : AMap Handler) (p : Bytes)
    (h : ValsQ B mi hs) : ValsQ B mi (hs.map (fun e => (e.1, wrapWith e.2 e.1 p router ms))) := by
  intro e he
  rw [List.mem_map] at he
  obtain ⟨e0, he0, rfl⟩ := he
  exact h e0 he0

theorem vals_new (name : Bytes) (ic : Interceptors) (nf : Handler) (tr : Option Handler) (ob nb : Base)
    (hnf : B nf.base) (htr : ∀ h, tr = some h → B h.base) (hob : B ob) (hnb : B nb) :
    TreeVals B (Tree.new name ic nf tr ob nb) := by
  refine ⟨?_, hob, hnb, hnf, htr⟩
  simp only [Tree.new, Node.All, AllL, and_true]
  refine ⟨?_, by intro e he; simp at he⟩
  intro e he
  simp at he
  rcases he with rfl | rfl
  · exact hob
  · exact hnb

theorem ValsQ_keeps {t : Tree} {op : TOp} (hop : op.BasesOk B) (hob : B t.optionsBase) (hnb : B t.notAllowedBase) :
    op.Keeps t (ValsQ B) := by
  cases op with
  | add p h ms methods => exact fun _ _ => ValsQ_add hop hob hnb
  | remove p methods => exact fun _ => ValsQ_remove
  | clean pre => trivial
  | use ms => exact ValsQ_applyMw t.name ms

theorem vals_step {t : Tree} (hv : TreeVals B t) (op : TOp) (hop : op.BasesOk B) : TreeVals B (t.step op) := by
  have hn := step_All (fun _ _ _ h => h) (fun e he => nomatch he) (ValsQ_keeps hop hv.optionsBase hv.notAllowedBase) hv.nodes
  rcases t.step_cases op with h | ⟨ms, rfl⟩ | ⟨_, _, _, h⟩
  · rw [h]; exact hv
  · refine ⟨hn, hv.optionsBase, hv.notAllowedBase, hv.notFound, fun h hh => ?_⟩
    obtain ⟨h0, hh0, rfl⟩ := Option.map_eq_some_iff.1 hh
    exact hv.trace h0 hh0
  · rw [h] at hn ⊢
    exact ⟨hn, hv.optionsBase, hv.notAllowedBase, hv.notFound, hv.trace⟩

theorem vals_run {t : Tree} (hv : TreeVals B t) (ops : List TOp) (hops : ∀ op ∈ ops, op.BasesOk B) :
    TreeVals B (t.run ops) :=
  Tree.run_inv (I := TreeVals B) (fun _ op hop h => vals_step h op (hops op hop)) hv

theorem TreeVals.get {t : Tree} (hv : TreeVals B t) {n : Node} (hn : n ∈ t.root.nodes) {k : Bytes}
    {h : Handler} (hg : n.handlers.get? k = some h) : B h.base :=
  (((All_iff_nodes _).1 _).1 hv.nodes n hn).1 _ (AMap.mem_of_get? _ _ _ hg)

theorem FoundSpec.base {t : Tree} (hv : TreeVals B t) {method : Bytes} {f : Found}
    (hf : FoundSpec t method f) : B f.handler.base := by
  cases hf with
  | notFound _ h _ => rw [h]; exact hv.notFound
  | trace h ht _ _ hh _ => rw [hh]; exact hv.trace h ht
  | found n _ hn _ _ hg _ => exact hv.get hn hg
  | notAllowed n _ hn _ _ hg _ => exact hv.get hn hg

theorem handler_base {t : Tree} (hinv : TreeInv t) (hv : TreeVals B t) {env : Env} {path : Bytes} {ps : Params}
    {method : Bytes} {f : Found} (h : t.handler env path ps method = .res f) : B f.handler.base :=
  (handler_foundSpec hinv h).base hv

end Mux
