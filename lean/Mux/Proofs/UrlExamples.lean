/-
  Mux.Proofs.UrlExamples — a reached tree for the non-vacuity examples of C10 (strict / inverse):
  interceptor `digit`; `GET /p/{id:digit}/a` then `GET /p/{id:digit}/author/{n:\d+}`.  The second route's
  chain is `/p/` · `{id:digit}/a` · `uthor/` · `{n:\d+}` while `Split` of its pattern cuts
  `/p/` · `{id:digit}/author/` · `{n:\d+}` (and, without interceptors, reads `digit` as a regexp).
-/
import Mux.Proofs.UrlTree
import Mux.Proofs.RunFuel
import Mux.Proofs.DecEq
namespace Mux.P13
open Mux Mux.P9 Mux.P10

def xIc : Interceptors := [(bytesOfString "digit", 0)]
def xEnv : Env := ⟨fun _ p => matchDigit p⟩
def xT0 : Tree := Tree.new [114] xIc { base := .notFound } none
def xPa : Bytes := bytesOfString "/p/{id:digit}/a"
def xPb : Bytes := bytesOfString "/p/{id:digit}/author/{n:\\d+}"
def xOps : List TOp := [.add xPa { base := .user 1 } [] [mGET], .add xPb { base := .user 2 } [] [mGET]]
def xT : Tree := xT0.run xOps

theorem xOps_wf : ∀ op ∈ xOps, op.wf = true := by
  simp only [xOps, xPa, xPb, bytesOfString_eq_data]; decide +kernel

theorem xT_reach : ReachWf xT := (P14.ReachAll.of_history _ _ _ _ _ _ xOps xOps_wf).reachWf

def xPs : AMap Bytes := [(bytesOfString "id", bytesOfString "5"), (bytesOfString "n", bytesOfString "42")]
def xPath : Bytes := bytesOfString "/p/5/author/42"

/-- The chain of the second route, as stored in the tree. -/
def xChain : List Seg :=
  [{ value := bytesOfString "/p/" },
   { value := bytesOfString "{id:digit}/a", kind := .icpt, name := bytesOfString "id", rule := bytesOfString "digit",
     suffix := bytesOfString "/a" },
   { value := bytesOfString "uthor/" },
   { value := bytesOfString "{n:\\d+}", kind := .rx, name := bytesOfString "n", rule := bytesOfString "\\d+",
     re := .plus ⟨false, clsDigit⟩ }]

/-- The node of the second route. -/
def xLeaf : Node :=
  .mk { value := bytesOfString "{n:\\d+}", kind := .rx, name := bytesOfString "n", rule := bytesOfString "\\d+",
        re := .plus ⟨false, clsDigit⟩ } xPb 385 (getHandlers { base := .user 2 }) [] []

/-- The reached tree below the root: the nodes of `xChain`, with routes at the second and the last. -/
def xKids : List Node :=
  [.mk { value := bytesOfString "/p/" } (bytesOfString "/p/") 0 [] []
    [.mk { value := bytesOfString "{id:digit}/a", kind := .icpt, name := bytesOfString "id", rule := bytesOfString "digit",
           suffix := bytesOfString "/a" } xPa 385 (getHandlers { base := .user 1 }) []
      [.mk { value := bytesOfString "uthor/" } (bytesOfString "/p/{id:digit}/author/") 0 [] [] [xLeaf]]]]

/-- What `Split` without interceptors makes of the second route's pattern: `digit` is read as a regexp. -/
def xSplit : List Seg :=
  [{ value := bytesOfString "/p/" },
   { value := bytesOfString "{id:digit}/author/", kind := .rx, name := bytesOfString "id", rule := bytesOfString "digit",
     suffix := bytesOfString "/author/",
     re := .seq (.seq (.seq (.seq (.cls ⟨false, [(100, 100)]⟩) (.cls ⟨false, [(105, 105)]⟩)) (.cls ⟨false, [(103, 103)]⟩))
       (.cls ⟨false, [(105, 105)]⟩)) (.cls ⟨false, [(116, 116)]⟩) },
   { value := bytesOfString "{n:\\d+}", kind := .rx, name := bytesOfString "n", rule := bytesOfString "\\d+",
     re := .plus ⟨false, clsDigit⟩ }]

/-- Kernel evaluation of a goal about these definitions, their strings converted by `bytesOfString_eq_data`. -/
local macro "x_eval" : tactic =>
  `(tactic| (simp only [xT0, xIc, xPa, xPb, xOps, xPs, xPath, xKids, xLeaf, xSplit, bytesOfString_eq_data]
             decide +kernel))

theorem xPb_split : split [] xPb = .ok xSplit := by x_eval

/-- The history, evaluated once; the facts below are read off the explicit tree. -/
theorem xT_eq : xT = { xT0 with root := .mk { value := [] } [] 257 xT0.root.handlers [] xKids, counts := [(mGET, 2)] } := by
  rw [xT, Tree.run_eq_F]; x_eval

theorem xT_routes : xT.routes = [([42], [mOPTIONS]), (xPa, [mGET, mHEAD, mOPTIONS]), (xPb, [mGET, mHEAD, mOPTIONS])] := by
  rw [xT_eq]; x_eval

theorem xT_chain : ∃ n, xT.root.getAt [0, 0, 0, 0] = some n ∧ Chain xT.root xChain n ∧ n.pattern = xPb := by
  have h : xT.root.getAt [0, 0, 0, 0] = some xLeaf ∧ xT.root.segsAt [0, 0, 0, 0] = some xChain := by
    rw [xT_eq]; x_eval
  obtain ⟨segs, h1, h2, _⟩ := getAt_chain _ _ _ h.1
  rw [h.2] at h1
  cases h1
  exact ⟨xLeaf, h.1, h2, rfl⟩

/-- The strict builds on the reached tree, evaluated together. -/
theorem xT_url_eval :
    xT.url xEnv xPb xPs = .ok xPath ∧
    xT.url xEnv xPb [(bytesOfString "id", bytesOfString "x"), (bytesOfString "n", bytesOfString "42")] = .error .badValue ∧
    xT.url xEnv xPb [(bytesOfString "id", bytesOfString "5"), (bytesOfString "n", bytesOfString "4a")] = .error .badValue ∧
    xT.url xEnv xPb [(bytesOfString "id", bytesOfString "5")] = .error .missingParam ∧
    xT.url xEnv xPb [] = .error .missingParam ∧
    xT.url xEnv (bytesOfString "/p/{id:digit}/aut") xPs = .error .notRoute := by
  rw [xT_eq]; x_eval

theorem xT_url_ok : xT.url xEnv xPb xPs = .ok xPath := xT_url_eval.1

/-- interceptor parameter violated (`id = x`) -/
theorem xT_url_badIcpt :
    xT.url xEnv xPb [(bytesOfString "id", bytesOfString "x"), (bytesOfString "n", bytesOfString "42")] = .error .badValue :=
  xT_url_eval.2.1

/-- regexp parameter not satisfied over its whole length (`n = 4a`) -/
theorem xT_url_badRx :
    xT.url xEnv xPb [(bytesOfString "id", bytesOfString "5"), (bytesOfString "n", bytesOfString "4a")] = .error .badValue :=
  xT_url_eval.2.2.1

theorem xT_url_missing : xT.url xEnv xPb [(bytesOfString "id", bytesOfString "5")] = .error .missingParam :=
  xT_url_eval.2.2.2.1

/-- also with empty params: the route is looked up and its parameters are required -/
theorem xT_url_empty : xT.url xEnv xPb [] = .error .missingParam := xT_url_eval.2.2.2.2.1

/-- an interior node's pattern (`/p/{id:digit}/a` + `ut`) is not a route -/
theorem xT_url_notRoute : xT.url xEnv (bytesOfString "/p/{id:digit}/aut") xPs = .error .notRoute :=
  xT_url_eval.2.2.2.2.2

theorem xT_dispatch : ∃ f n, xT.handler xEnv xPath [] mGET = .res f ∧ f.node = some n ∧ n.pattern = xPb ∧
    f.params = xPs := by
  have h1 : (match xT.handler xEnv xPath [] mGET with
      | .res f => (f.node == some xLeaf) && (f.params == xPs)
      | _ => false) = true := by
    rw [xT_eq]; x_eval
  split at h1
  · rename_i f e1
    simp only [Bool.and_eq_true, beq_iff_eq] at h1
    exact ⟨f, xLeaf, e1, h1.1, rfl, h1.2⟩
  · cases h1

/-! A second reached tree: `GET /w/{x:.+}` (a rule with a wide class). -/

def yP : Bytes := bytesOfString "/w/{x:.+}"
def yOps : List TOp := [.add yP { base := .user 1 } [] [mGET]]
def yT : Tree := xT0.run yOps

theorem yOps_wf : ∀ op ∈ yOps, op.wf = true := by decide +kernel

theorem yT_reach : ReachWf yT := (P14.ReachAll.of_history _ _ _ _ _ _ yOps yOps_wf).reachWf

/-- a non-ASCII value under `.+`: outside the modelled domain -/
theorem yT_url_unsupported : yT.url xEnv yP [(bytesOfString "x", [200])] = .error .unsupported := by
  rw [yT, Tree.run_eq_F]; simp only [yOps, yP, xT0, xIc, bytesOfString_eq_data]; decide +kernel

theorem yT_url_ok : yT.url xEnv yP [(bytesOfString "x", bytesOfString "a/b")] = .ok (bytesOfString "/w/a/b") := by
  rw [yT, Tree.run_eq_F]; simp only [yOps, yP, xT0, xIc, bytesOfString_eq_data]; decide +kernel

end Mux.P13
