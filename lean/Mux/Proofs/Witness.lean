/-
  C03_witness under its weakest hypothesis, `P17.MatchChain`: every segment of the chain of a live node consumes, on the
  witness request, exactly the text it contributed.  Then the chain is a reaching index path of that request and records
  the witness values (`reaches_of_matchChain`); the matcher returns the first reaching index path in depth-first order
  (`P15.complete_node`), so the request is never answered 404, and an index path before the chain's ends in the pattern's
  own node, a node below it, or a node in the subtree of an EARLIER sibling where the two chains diverge (`Wins`,
  `Diverges`).  Where a node is reached by one index path only (`P13.UniqHyp`) an answer by the pattern's own node reports
  exactly the witness values (`ReachesBy.unique`, `P26.witness_exact_tree`).  When `MatchChain` holds is in `WitnessVals.lean`.
-/
import Mux.Proofs.Frame
import Mux.Proofs.ResolveReach
import Mux.Proofs.UrlTree
namespace Mux.P14
open Mux Mux.P11

theorem kind_param {k : Kind} (h1 : k ≠ .str) (h2 : k ≠ .rx) : k = .icpt ∨ k = .named := by
  cases k
  · exact absurd rfl h1
  · exact .inl rfl
  · exact absurd rfl h2
  · exact .inr rfl

/-- `Wins n segs x q`: `q` may answer the witness request of the chain `segs` from `n` to `x`: it is `x` or a
node below `x`, or it lies in the subtree of a sibling `d` that comes BEFORE the chain's node `c` in the child
list of some node of the chain (so `d`'s kind does not come after `c`'s kind in the order
literal < interceptor < regexp < named). -/
inductive Wins : Node → List Seg → Node → Node → Prop
  | here {x q : Node} : q ∈ x.nodes → Wins x [] x q
  | earlier {n c d x q : Node} {segs : List Seg} {i j : Nat} : n.children[i]? = some c → n.children[j]? = some d →
      j < i → d.seg.kind.rank ≤ c.seg.kind.rank → Chain c segs x → q ∈ d.nodes → Wins n (c.seg :: segs) x q
  | step {n c x q : Node} {segs : List Seg} : c ∈ n.children → Wins c segs x q → Wins n (c.seg :: segs) x q

theorem live_chain {t : Tree} (hinv : AllInv t) {p m : Bytes} (h : (tableOf t).has p m) :
    ∃ (x : Node) (segs : List Seg), Chain t.root segs x ∧ segs ≠ [] ∧ x.pattern = p ∧
      p = (segs.map (·.value)).flatten ∧ x.handlers.contains m = true := by
  obtain ⟨x, hx, rfl, hm⟩ := (has_iff_node _ p m).1 h
  have hxn : x ∈ t.root.nodes := by rw [Node.nodes_eq]; exact List.mem_cons_of_mem _ hx
  obtain ⟨segs, hch⟩ := mem_nodes_chain t.root x hxn
  have hpat := (chain_pattern hch hinv.patternOk).1
  rw [hinv.rootPat, List.nil_append] at hpat
  refine ⟨x, segs, hch, ?_, rfl, hpat, (AMap.contains_iff _ _).2 (mem_regKeys.1 hm).1⟩
  rintro rfl
  cases hch
  -- the root is not below itself: the patterns below the root are not empty
  obtain ⟨r, hr, hp⟩ := P11.below_pattern t.ic t.root hinv.ti.sh _ hx
  rw [hinv.rootPat, List.nil_append] at hp
  exact hr hp.symm

/-- `q` answers instead of (or as) `x`: the chains of `x` and `q` share the nodes up to `n`; either `n = x`
and `q` is `x` or lies below it, or below `n` the chain of `x` continues with the child `c` and `q` lies in
the subtree of a child `d` that comes before `c` in child order, `d`'s kind not after `c`'s. -/
def Diverges (root : Node) (segs : List Seg) (x q : Node) : Prop :=
  ∃ (pre post : List Seg) (n : Node), segs = pre ++ post ∧ Chain root pre n ∧ Chain n post x ∧
    ((post = [] ∧ q ∈ x.nodes) ∨
      ∃ (c d : Node) (i j : Nat) (post' : List Seg), post = c.seg :: post' ∧ n.children[i]? = some c ∧
        n.children[j]? = some d ∧ j < i ∧ d.seg.kind.rank ≤ c.seg.kind.rank ∧ Chain c post' x ∧ q ∈ d.nodes)

theorem Wins.diverges {n x q : Node} {segs : List Seg} (h : Wins n segs x q) : Diverges n segs x q := by
  induction h with
  | here hq => exact ⟨[], [], _, rfl, .nil _, .nil _, .inl ⟨rfl, hq⟩⟩
  | @earlier n c d x q segs i j hc hd hlt hrank hch hq =>
    exact ⟨[], c.seg :: segs, n, rfl, .nil _, .cons (List.mem_of_getElem? hc) hch,
      .inr ⟨c, d, i, j, segs, rfl, hc, hd, hlt, hrank, hch, hq⟩⟩
  | @step n c x q segs hc _ ih =>
    obtain ⟨pre, post, m, e, h1, h2, h3⟩ := ih
    exact ⟨c.seg :: pre, post, m, by rw [e]; rfl, .cons hc h1, h2, h3⟩

theorem chain_of_segsAt (p : List Nat) (n x : Node) (segs : List Seg) (h1 : n.getAt p = some x)
    (h2 : n.segsAt p = some segs) : Chain n segs x := by
  obtain ⟨segs', hs, hc, _⟩ := getAt_chain p n x h1
  rw [hs] at h2
  cases h2
  exact hc

end Mux.P14

namespace Mux.P17
open Mux Mux.P11 Mux.P14

/-- Every segment of the chain, applied to the witness path from its own position on, consumes exactly the text it
contributed (`s.inst v`) and leaves the instantiation of the rest of the chain. -/
def MatchChain (env : Env) (ic : Interceptors) : List (Seg × Bytes) → Prop
  | [] => True
  | sv :: rest =>
    (∃ cap, sv.1.match env ic (sv.1.inst sv.2 ++ instChain rest) = .yes cap (instChain rest)) ∧
      MatchChain env ic rest

def yesWith (R : Bytes) : MatchRes → Bool
  | .yes _ R' => R' == R
  | _ => false

theorem exists_yes_iff (m : MatchRes) (R : Bytes) : (∃ cap, m = .yes cap R) ↔ yesWith R m = true := by
  cases m with
  | yes cap R' =>
    simp only [yesWith, MatchRes.yes.injEq, beq_iff_eq]
    exact ⟨fun ⟨_, _, h⟩ => h, fun h => ⟨cap, rfl, h⟩⟩
  | no => simp [yesWith]
  | unsupported => simp [yesWith]

instance (m : MatchRes) (R : Bytes) : Decidable (∃ cap, m = .yes cap R) :=
  decidable_of_iff _ (exists_yes_iff m R).symm

instance MatchChain.dec (env : Env) (ic : Interceptors) : (chain : List (Seg × Bytes)) → Decidable (MatchChain env ic chain)
  | [] => isTrue trivial
  | _ :: rest =>
    have := MatchChain.dec env ic rest
    inferInstanceAs (Decidable (_ ∧ _))

theorem cap_eq_of_inst {s : Seg} {cap v R : Bytes} (hk : s.kind ≠ .str) (h : s.inst cap ++ R = s.inst v ++ R) :
    cap = v := by
  have h' : s.inst cap = s.inst v := List.append_cancel_right h
  by_cases hrx : s.kind = .rx
  · simp only [Seg.inst, hrx] at h'
    exact List.append_cancel_right h'
  · rw [Seg.inst_param (kind_param hk hrx), Seg.inst_param (kind_param hk hrx)] at h'
    split at h'
    · exact h'
    · exact List.append_cancel_right h'

theorem record_cap_eq {s : Seg} {cap v R : Bytes} (h : s.inst cap ++ R = s.inst v ++ R) (ps : Params) :
    s.record cap ps = s.record v ps := by
  unfold Seg.record
  split
  · rename_i hc
    rw [cap_eq_of_inst hc.1 h]
  · rfl

/-- Under `MatchChain` the witness chain is a reaching index path of the witness request; it records the witness
values, and whatever is reached by that index path or by one that comes before it in depth-first order `Wins`. -/
theorem reaches_of_matchChain {ic0 : Interceptors} (env : Env) (ic : Interceptors) (chain : List (Seg × Bytes))
    (n x : Node) (hch : Chain n (chain.map (·.1)) x) (hx : x.handlers ≠ []) (hs2 : Node.All (P8.SOk2 ic0) n)
    (hmc : MatchChain env ic chain) (ps : Params) :
    ∃ is, P15.ReachesBy env ic n (instChain chain) ps is x (P19.setCaps ps (captures chain)) ∧
      ∀ is' q ps'', P15.ReachesBy env ic n (instChain chain) ps is' q ps'' → (is' = is ∨ P15.Before is' is) →
        Wins n (chain.map (·.1)) x q := by
  induction hch using Chain.vals_induction generalizing ps with
  | nil => exact ⟨[], .here hx, fun is' q ps'' hr _ => .here hr.mem_nodes⟩
  | @cons n c v rest hc hrest ih =>
    obtain ⟨⟨cap, hm⟩, hmrest⟩ := hmc
    obtain ⟨i, hi⟩ := List.getElem?_of_mem hc
    obtain ⟨is0, hr0, hw⟩ := ih (AllL_mem hs2.tail hc) hmrest (c.seg.record cap ps)
    -- the segment consumed the text it contributed, so what it captured is the witness value (if it records one)
    have e : P19.setCaps (c.seg.record cap ps) (captures rest) = P19.setCaps ps (captures ((c.seg, v) :: rest)) := by
      rw [record_cap_eq ((Seg.match_sound env ic c.seg _ cap _ hm).1.symm.trans rfl) ps, P19.setCaps_record]
    rw [e] at hr0
    refine ⟨i :: is0, .child hi hm hr0, fun is' q ps'' hr hord => ?_⟩
    -- an index path through the same child goes on below it as the chain does, or before it
    rcases hord with rfl | h
    · exact .step hc (hw is0 q ps'' (hr.cons_inv hi hm) (.inl rfl))
    · cases h with
      | tail h' => exact .step hc (hw _ q ps'' (hr.cons_inv hi hm) (.inr h'))
      | lt hlt =>
        generalize instChain ((c.seg, v) :: rest) = path at hr
        cases hr with
        | child hj _ hr' =>
          exact .earlier hi hj hlt (P8.RankSorted.getElem_le hs2.head.1.sorted (Nat.le_of_lt hlt) hj hi) hrest
            hr'.mem_nodes

/-- **The witness request is not missed, and a hit is a `Wins` node** — under `MatchChain`: the matcher returns the
first reaching index path in depth-first order (`P15.complete_node`), and the chain is one. -/
theorem witness_node_match {ic0 : Interceptors} (env : Env) (ic : Interceptors)
    (chain : List (Seg × Bytes)) (n x : Node) (hch : Chain n (chain.map (·.1)) x) (hx : x.handlers ≠ [])
    (hs2 : Node.All (P8.SOk2 ic0) n) (hmc : MatchChain env ic chain)
    (ps : Params) (hnd : ps.keys.Nodup) :
    (∀ ps', n.matchChildren env ic (instChain chain) ps ≠ .miss ps') ∧
    (∀ q ps', n.matchChildren env ic (instChain chain) ps = .hit q ps' → Wins n (chain.map (·.1)) x q) := by
  obtain ⟨is, hr, hw⟩ := reaches_of_matchChain env ic chain n x hch hx hs2 hmc ps
  obtain ⟨_, hmiss, hhit⟩ := P15.complete_node P19.trackRestore env ic n hs2 (instChain chain) ps
    ⟨P8.All_idxLit_of_SOk _ (P8.SOk2.all_SOk _ hs2), hnd⟩
  refine ⟨fun ps' h => (hmiss ps' h).2 is x _ hr, fun q ps' h => ?_⟩
  obtain ⟨is', hr', hfirst⟩ := hhit q ps' h
  exact hw is' q ps' hr' ((hfirst is x _ hr).imp Eq.symm id)

/-- **C03_witness** on a tree satisfying the invariants: the witness request of a live node is answered
with a node that has handlers (never 404); for an ordinary request (not `""`, `*`, nor TRACE on a tracing tree)
that node `Diverges` from `x`. -/
theorem witness_tree_match {t : Tree} (hinv : AllInv t) (env : Env) (chain : List (Seg × Bytes)) (x : Node)
    (hch : Chain t.root (chain.map (·.1)) x) (hx : x.handlers ≠ [])
    (hs : MatchChain env t.ic chain) (method : Bytes) (f : Found)
    (hres : t.handler env (instChain chain) [] method = .res f) :
    ∃ q, f.node = some q ∧ q.handlers ≠ [] ∧
      (instChain chain ≠ [] → instChain chain ≠ [42] → (t.trace = none ∨ method ≠ mTRACE) →
        Diverges t.root (chain.map (·.1)) x q) := by
  obtain ⟨hmiss, hhit⟩ := witness_node_match (ic0 := t.ic) env t.ic chain t.root x hch hx hinv.s2.all hs
    [] List.nodup_nil
  have hroot := hinv.treeInv.root_handlers_ne
  by_cases hp : instChain chain = [] ∨ instChain chain = [42]
  · exact ⟨t.root, (Tree.handler_root hp hres).2.2 hroot, hroot, fun h1 h2 => (hp.elim h1 h2).elim⟩
  by_cases htr : t.trace = none ∨ method ≠ mTRACE
  · rcases Tree.handler_ordinary (fun e => hp (.inl e)) (fun e => hp (.inr e)) htr hres with
      ⟨hr, _⟩ | ⟨q, hr, hne, hnode, _⟩
    · exact (hmiss _ hr).elim
    · exact ⟨q, hnode, hne, fun _ _ _ => (hhit q _ hr).diverges⟩
  · -- the TRACE short-circuit answers with the root
    rcases Tree.handler_cases env t (instChain chain) [] method with ⟨_, _, _, e⟩ | ⟨htr', _⟩
    · rw [e] at hres
      cases hres
      exact ⟨t.root, rfl, hroot, fun _ _ h3 => (htr h3).elim⟩
    · exact (htr htr').elim

theorem witness_tree_found {t : Tree} (hinv : AllInv t) (env : Env) (chain : List (Seg × Bytes)) (x : Node)
    (hch : Chain t.root (chain.map (·.1)) x) (hx : x.handlers ≠ []) (hs : MatchChain env t.ic chain) (method : Bytes) :
    (∀ s, t.handler env (instChain chain) [] method ≠ .fault s) ∧
    ∀ f, t.handler env (instChain chain) [] method = .res f → ∃ q, f.node = some q ∧ q.handlers ≠ [] :=
  ⟨handler_no_fault hinv.treeInv env _ _ _, fun f hres =>
    let ⟨q, h1, h2, _⟩ := witness_tree_match hinv env chain x hch hx hs method f hres
    ⟨q, h1, h2⟩⟩

theorem witness_tree_winner {t : Tree} (hinv : AllInv t) (env : Env) (chain : List (Seg × Bytes)) (x : Node)
    (hch : Chain t.root (chain.map (·.1)) x) (hx : x.handlers ≠ []) (hs : MatchChain env t.ic chain) (method : Bytes)
    {f : Found} {q : Node} (hp : instChain chain ≠ []) (hstar : instChain chain ≠ [42])
    (htr : t.trace = none ∨ method ≠ mTRACE) (hres : t.handler env (instChain chain) [] method = .res f)
    (hq : f.node = some q) : Diverges t.root (chain.map (·.1)) x q := by
  obtain ⟨q', h1, _, h3⟩ := witness_tree_match hinv env chain x hch hx hs method f hres
  cases h1.symm.trans hq
  exact h3 hp hstar htr

/-- **C03_witness, table form**: every live pair of the table has a chain in the tree whose witness requests —
for all values under which the chain matches — do not fault and are answered by a node that `Diverges` from the
pattern's own node. -/
theorem witness_table_match {t : Tree} (hinv : AllInv t) (env : Env) {p m : Bytes} (h : (tableOf t).has p m) :
    ∃ (x : Node) (segs : List Seg), Chain t.root segs x ∧ segs ≠ [] ∧ x.pattern = p ∧
      p = (segs.map (·.value)).flatten ∧ x.handlers.contains m = true ∧
      ∀ vs : List Bytes, vs.length = segs.length → MatchChain env t.ic (segs.zip vs) →
        (∀ s, t.handler env (instChain (segs.zip vs)) [] m ≠ .fault s) ∧
        ∀ f, t.handler env (instChain (segs.zip vs)) [] m = .res f →
          ∃ q, f.node = some q ∧ q.handlers ≠ [] ∧
            (instChain (segs.zip vs) ≠ [] → instChain (segs.zip vs) ≠ [42] → (t.trace = none ∨ m ≠ mTRACE) →
              Diverges t.root segs x q) := by
  obtain ⟨x, segs, hch, hne, hp, hflat, hm⟩ := live_chain hinv h
  refine ⟨x, segs, hch, hne, hp, hflat, hm, fun vs hlen hmc => ?_⟩
  have hmap : (segs.zip vs).map (·.1) = segs := List.map_fst_zip (by omega)
  have hlive : x.handlers ≠ [] := by
    intro e; rw [e] at hm; simp [AMap.contains] at hm
  refine ⟨handler_no_fault hinv.treeInv env _ _ _, fun f hres => ?_⟩
  obtain ⟨q, h1, h2, h3⟩ := witness_tree_match hinv env _ x (by rw [hmap]; exact hch) hlive hmc m f hres
  exact ⟨q, h1, h2, fun a b c => hmap ▸ h3 a b c⟩

end Mux.P17

namespace Mux.P15
open Mux Mux.P13

section
variable {env : Env} {ic : Interceptors} {n x : Node} {path : Bytes} {ps ps' : Params} {is : List Nat}

/-- Where a node is reached by one index path only, at most one reaching index path ends in it: what is left of the
parameters depends on the node reached alone. -/
theorem ReachesBy.unique (hu : UniqHyp n) {is' : List Nat} {ps'' : Params}
    (h : ReachesBy env ic n path ps is x ps') (h' : ReachesBy env ic n path ps is' x ps'') : is' = is ∧ ps'' = ps' := by
  suffices e : is' = is by subst e; exact ⟨rfl, (h.deterministic h').2⟩
  -- both index paths go along the one chain from `n` to `x`, so they are both empty or both spell a text
  obtain ⟨segs, hs, hc, hl⟩ := getAt_chain _ n x h.getAt
  obtain ⟨segs', hs', hc', hl'⟩ := getAt_chain _ n x h'.getAt
  cases chain_unique hc hc' hu
  match is, is', hl.symm.trans hl' with
  | [], [], _ => rfl
  | i :: js, i' :: js', _ =>
    exact (Node.Spells.inj ⟨List.cons_ne_nil _ _, h'.getAt, segs, hs', rfl⟩
      ⟨List.cons_ne_nil _ _, h.getAt, segs, hs, rfl⟩ hu.pat hu.det rfl).1
end
end Mux.P15

namespace Mux.P26
open Mux Mux.P11 Mux.P13 Mux.P14 Mux.P15 Mux.P17

theorem witness_exact_tree {t : Tree} (hinv : AllInv t) (hu : UniqHyp t.root) (env : Env)
    (chain : List (Seg × Bytes)) (x : Node) (hch : Chain t.root (chain.map (·.1)) x)
    (hm : MatchChain env t.ic chain) (method : Bytes) (f : Found)
    (hp : instChain chain ≠ []) (hstar : instChain chain ≠ [42]) (htr : t.trace = none ∨ method ≠ mTRACE)
    (hres : t.handler env (instChain chain) [] method = .res f) (hq : f.node = some x) :
    f.params = captures chain := by
  have hk : ∀ k ∈ AMap.keys ([] : Params), k ∈ ([] : List Bytes) := by simp [AMap.keys]
  obtain ⟨⟨is, psR, his, hpsR⟩, _⟩ := trackNames.handler_found hp hstar htr hres hq
  obtain ⟨is0, hr0, _⟩ := reaches_of_matchChain env t.ic chain t.root x hch his.handlers hinv.s2.all hm []
  rw [hpsR ⟨[], hinv.namesRoot, hinv.idxLit, hk⟩, (hr0.unique hu his).2, setCaps_names hinv.namesRoot hch hk]
  rfl

end Mux.P26
