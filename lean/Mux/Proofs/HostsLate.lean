/-
  Mux.Proofs.HostsLate — the private tree of a `Hosts` matcher after ANY history of
      Add (domain with balanced, non-nested braces) | Delete | RegisterInterceptor(rule)
  — `RegisterInterceptor` at any time, also while stored regexp segments use `rule` — satisfies the two
  hypotheses of the matcher-soundness theorems, `NamesOkL []` and `IdxLit`; on an ASCII host `Hosts.Match` accepts or
  rejects (`HostsLateWf.match_cases`), and `Hosts.Delete` leaves every host resolved to ANOTHER domain matched as before
  (`delete_frame_late`) and every rejected host rejected (`delete_no_new_late`).
-/
import Mux.Proofs.StructDistinct
import Mux.Proofs.HostsReach
import Mux.Proofs.WOkOps
import Mux.Proofs.Names
import Mux.Proofs.TableFrame
namespace Mux.P17
open Mux Mux.P8 Mux.P9 Mux.P12 Mux.P14

/-- The invariant that survives a late registration: every stored segment is `newSegment ic₀` of its own text for SOME
table `ic₀` (the one in force when the segment was made), parameter names are pairwise distinct along every chain
(`WfXL`), children are ordered by kind and the index is the built one (`SX`).  It does not mention the current table,
so `RegisterInterceptor` keeps it trivially. -/
structure LateInv (t : Tree) : Prop where
  wf : WfXL [] t.root.children
  sx : Node.All SX t.root

theorem LateInv.remove {t t' : Tree} {p : Bytes} {methods : List Bytes}
    (hinv : LateInv t) (he : t.remove p methods = .ok t') : LateInv t' := by
  obtain ⟨root1, h1, hed, _⟩ := t.step_edit (.remove p methods)
  simp only [Tree.step, he] at hed
  cases h1
  exact ⟨hed.wfX [] hinv.wf, hed.closed SX.closed hinv.sx⟩

/-- `LateInv` with `SX3` in place of `SX`, and `PatternOk`, which the frame property of `Delete` needs; the induction over
the history is done for this one. -/
structure LateInv3 (t : Tree) : Prop where
  wf : WfXL [] t.root.children
  sx3 : Node.All SX3 t.root
  pat : P10.PatInv t

theorem LateInv3.toLateInv {t : Tree} (h : LateInv3 t) : LateInv t := ⟨h.wf, AllSX_of_SX3 _ h.sx3⟩

theorem LateInv3.new (name : Bytes) (ic : Interceptors) (nf : Handler) (tr : Option Handler) (ob nb : Base) :
    LateInv3 (Tree.new name ic nf tr ob nb) := by
  refine ⟨by simp [Tree.new, WfXL], ?_, P10.patInv_new name ic nf tr ob nb⟩
  simp only [Tree.new, Node.All, AllL, and_true]
  exact SX3.closed.empty _ _ _ _

/-- The table is not part of the invariant. -/
theorem LateInv3.setIc {t : Tree} (h : LateInv3 t) (ic' : Interceptors) : LateInv3 { t with ic := ic' } :=
  ⟨h.wf, h.sx3, h.pat⟩

/-- Every operation keeps the invariant, `Add` for a well-formed pattern: it is `getNode` run with the current table,
then an edit of the root. -/
theorem LateInv3.step {t : Tree} (hinv : LateInv3 t) {op : TOp} (hop : P9.PatOk op) : LateInv3 (t.step op) := by
  obtain ⟨root1, h1, he, _⟩ := t.step_edit op
  have hpat := P10.patInv_step hinv.pat op
  cases h1 with
  | root => exact ⟨he.wfX [] hinv.wf, he.closed SX3.closed hinv.sx3, hpat⟩
  | @add p _ _ _ v rest _ _ _ hpieces hsplit hsp hget =>
    exact ⟨he.wfX [] (getNode_wfX t.ic t.root v rest [] _ hinv.wf (piecesOk_of_split hop hsplit hsp) hget),
      he.closed SX3.closed (getNode_localK (SX3.gnLocal t.ic) hinv.sx3
        (fun x hx => ⟨hop x (hsp ▸ hx), hpieces x hx⟩) hget), hpat⟩

/-- `Add` registers a domain whose lower-cased text has balanced, non-nested braces; `Delete` and
`RegisterInterceptor` are arbitrary — in particular `RegisterInterceptor(rule)` may come after domains that use
`rule` as a regular expression. -/
def HOp.lateOk : HOp → Prop
  | .add d => WfPattern (toLower d) = true
  | .delete _ => True
  | .registerInterceptor _ _ => True

theorem HOp.lateOk.of_opOk {hs : Hosts} {op : HOp} (h : hostsOpOk hs op) : HOp.lateOk op := by
  cases op with
  | add d => exact h
  | delete d => trivial
  | registerInterceptor id rule => trivial

/-- A matcher made by `NewHosts` and such a history. -/
def HostsLateWf (hs : Hosts) : Prop := ∃ ops, (∀ op ∈ ops, HOp.lateOk op) ∧ hs = hostsRun Hosts.empty ops

theorem hostsStep_late3 {hs : Hosts} (h : LateInv3 hs.tree) {op : HOp} (hop : HOp.lateOk op) :
    LateInv3 (hostsStep hs op).tree := by
  rw [hostsStep_tree]
  cases op with
  | add d => exact h.step (op := .add _ _ _ _) ((P11.wfPattern_iff_P9 _).1 hop)
  | delete d => exact h.step (op := .remove _ _) trivial
  | registerInterceptor id rule => dsimp only; split; exact h; exact h.setIc _

theorem HostsLateWf.inv3 {hs : Hosts} (h : HostsLateWf hs) : LateInv3 hs.tree := by
  obtain ⟨ops, hok, rfl⟩ := h
  exact List.foldl_inv (I := fun hs : Hosts => LateInv3 hs.tree) (fun _ op hop h => hostsStep_late3 h (hok op hop))
    (LateInv3.new _ _ _ _ _ _)

theorem HostsLateWf.inv {hs : Hosts} (h : HostsLateWf hs) : LateInv hs.tree := h.inv3.toLateInv

theorem HostsLateWf.reach {hs : Hosts} (h : HostsLateWf hs) : HostsReach hs := by
  obtain ⟨ops, _, rfl⟩ := h
  exact ⟨ops, rfl⟩

theorem HostsLateWf.names {hs : Hosts} (h : HostsLateWf hs) : NamesOkL [] hs.tree.root.children :=
  namesOk_of_wfX h.inv.wf

theorem HostsLateWf.idxLit {hs : Hosts} (h : HostsLateWf hs) : Node.All IdxLit hs.tree.root :=
  All_idxLit_of_SX _ h.inv.sx

theorem HostsLateWf.step {hs : Hosts} (h : HostsLateWf hs) {op : HOp} (hop : HOp.lateOk op) :
    HostsLateWf (hostsStep hs op) := by
  obtain ⟨ops, hok, rfl⟩ := h
  exact ⟨ops ++ [op], List.forall_mem_append.2 ⟨hok, List.forall_mem_singleton.2 hop⟩, (hostsRun_snoc _ ops op).symm⟩

theorem HostsLateWf.of_reachWf {hs : Hosts} (h : HostsReachWf hs) : HostsLateWf hs :=
  h.induction (I := HostsLateWf) ⟨[], nofun, rfl⟩ fun _ _ _ hop hl => hl.step (.of_opOk hop)

/-- For an ASCII host whose normal form addresses a node below the root, the matcher misses or hits (no fault; the
suffix of a regexp segment, whatever table it was parsed under, is ASCII, so an ASCII text never leaves the modelled
regexp domain) and `Hosts.Match` rejects, nothing left behind, or accepts with the parameters of the hit. -/
theorem HostsLateWf.match_cases {hs : Hosts} (hr : HostsLateWf hs) (env : Env) {host : Bytes} (ha : isAscii host = true)
    (hne : normHost host ≠ []) (hstar : normHost host ≠ [42]) (path : Bytes) :
    (hs.tree.root.matchChildren env hs.tree.ic (normHost host) [] = .miss [] ∧
      hs.match env host path [] = .reject path []) ∨
    ∃ n q, hs.tree.root.matchChildren env hs.tree.ic (normHost host) [] = .hit n q ∧
      hs.match env host path [] = .accept path q := by
  have hrx : Node.All RxAscii hs.tree.root := (AllL_mono fun _ => SX3.rxAscii).1 _ hr.inv3.sx3
  rw [Hosts.match_matched env hs host path [] ha, Tree.matched_of_ne hne hstar]
  cases hm : hs.tree.root.matchChildren env hs.tree.ic (normHost host) [] with
  | fault s => exact absurd hm (matchChildren_no_fault env hs.tree.ic hs.tree.root hr.reach.inv.allIdx _ _ s)
  | unsupported => exact absurd hm (matchChildren_supported env _ _ hrx _ [] (P30.isAscii_normHost ha))
  | miss q =>
    cases (matchChildren_walk env _ trackNames _ _ []).of_miss hm ⟨[], (Node.namesOk_iff _ _).2 hr.names, hr.idxLit, nofun⟩
    exact .inl ⟨rfl, rfl⟩
  | hit n q => exact .inr ⟨n, q, rfl, hr.reach.get.outcome_hit hne hm path⟩

theorem HostsLateWf.namesRoot {hs : Hosts} (h : HostsLateWf hs) : Node.NamesOk [] hs.tree.root :=
  (Node.namesOk_iff [] hs.tree.root).2 h.names

/-! The frame property of `Delete`: trees satisfying the table-free `SX3` are matched by the scan (`P11.Scanned`), like
those satisfying `P8.SOk2 ic0` (`Mux/Proofs/Frame.lean`), so the frame theorem of `Mux/Proofs/TableFrame.lean` applies;
beyond that it needs `PatternOk` only. -/

open Mux.P11

/-- The first-byte index of sorted children with non-empty texts and distinct first bytes is the table `IndexOk`
describes, whatever tables the segments were parsed under. -/
theorem scanned_sx3 : Scanned SX3 where
  closed := SX3.closed
  idxLit := fun h => All_idxLit_of_SX _ (AllSX_of_SX3 _ h)
  scan := fun env ic _ _ _ h hnd =>
    P8.matchChildren_eq_scan_idx env ic
      (P8.indexOk_of_sorted h.head.sorted (fun c hc => (h.head.segs c hc).elim fun _ hc0 => hc0.ne) h.head.index
        h.head.distinct)
      P19.trackRestore ⟨(All_idxLit_of_SX _ (AllSX_of_SX3 _ h)).tail, hnd⟩

theorem remove_frameX {t t' : Tree} (hinv : LateInv3 t) {p : Bytes} {methods : List Bytes}
    (he : t.remove p methods = .ok t') (env : Env) (rp : Bytes) :
    FrameRel (fun pt => pt = p) (t.matched env rp []) (t'.matched env rp []) := by
  rcases remove_matched scanned_sx3 hinv.pat.1 hinv.pat.2 hinv.sx3 he with rfl | ⟨x, _, rfl, _, _, _, _, hm⟩
  · exact FrameRel.refl _ _
  · exact (hm env rp).frame

theorem outcome_frame {E : Bytes → Prop} {r r' : MR} (h : FrameRel E r r') (path : Bytes)
    (hr : (∃ q, r = .miss q) ∨ ∃ n q, r = .hit n q ∧ ¬ E n.pattern) :
    P12.Hosts.outcome path r' = P12.Hosts.outcome path r := by
  rcases hr with ⟨q, rfl⟩ | ⟨n, q, rfl, hn⟩
  · rw [show r' = .miss q from h]
  · obtain ⟨n', rfl, _, hh⟩ := h hn
    simp only [P12.Hosts.outcome, hh]

theorem delete_frame_late (env : Env) {hs hs' : Hosts} (h : HostsLateWf hs) {d : Bytes} (hd : hs.delete d = .ok hs')
    (host path : Bytes) (ha : isAscii host = true) {f : Found} {q : Node}
    (hres : hs.tree.handler env (normHost host) [] mGET = .res f) (hq : f.node = some q)
    (hne : q.pattern ≠ toLower d) :
    hs'.match env host path [] = hs.match env host path [] := by
  obtain ⟨t', he, rfl⟩ := P12.Hosts.delete_ok hd
  obtain ⟨ps', hm, _⟩ := Tree.handler_node (.inr P12.mGET_ne_mTRACE) hres hq
  rw [P12.Hosts.match_matched env _ host path [] ha, P12.Hosts.match_matched env hs host path [] ha]
  exact outcome_frame (remove_frameX h.inv3 he env _) path (.inr ⟨q, ps', hm, hne⟩)

/-- `Delete` creates no match: a host rejected before is rejected afterwards, in the same way. -/
theorem delete_no_new_late (env : Env) {hs hs' : Hosts} (h : HostsLateWf hs) {d : Bytes} (hd : hs.delete d = .ok hs')
    {host path p : Bytes} {q : Params} (hrej : hs.match env host path [] = .reject p q) :
    hs'.match env host path [] = .reject p q := by
  have ha := P12.Hosts.isAscii_of_match hrej nofun
  by_cases hroot : normHost host = [] ∨ normHost host = [42]
  · -- the root never has a `GET` entry, and `hs'` is the next state of the history
    have hr' : HostsReach hs' := P12.hostsStep_delete hd ▸ h.reach.step (.delete d)
    rw [P12.Hosts.match_root env h.reach.inv host path [] ha hroot] at hrej
    rw [P12.Hosts.match_root env hr'.inv host path [] ha hroot]
    exact hrej
  · -- below the root a rejection is a miss, and a miss stays a miss
    obtain ⟨t', he, rfl⟩ := P12.Hosts.delete_ok hd
    rw [P12.Hosts.match_matched env _ host path [] ha] at hrej ⊢
    obtain ⟨_, hm⟩ := h.reach.get.miss_of_reject (fun e => hroot (.inl e)) (fun e => hroot (.inr e)) hrej
    exact (outcome_frame (remove_frameX h.inv3 he env _) path (.inl ⟨q, hm⟩)).trans hrej

theorem valsNE_of_wfX : (n : Node) → (used : List Bytes) → WfXL used n.children →
    AllL (fun c => c.seg.value ≠ []) n.children :=
  fun n used h => (AllL_mono fun c (hc : SegOkX c.seg) => hc.elim fun _ hok => hok.ne).2 _ (Node.wfX_segs n used h)

theorem delete_ok_late {hs : Hosts} (h : HostsLateWf hs) (d : Bytes) :
    ∃ hs', hs.delete d = .ok hs' ∧ hs' = P12.hostsStep hs (.delete d) := by
  obtain ⟨t', ht'⟩ := P9.remove_ok (t := hs.tree) (valsNE_of_wfX _ [] h.inv.wf) (toLower d) []
  have hd : hs.delete d = .ok { hs with tree := t' } := by rw [P12.Hosts.delete_eq, ht']; rfl
  exact ⟨_, hd, (P12.hostsStep_delete hd).symm⟩

end Mux.P17
