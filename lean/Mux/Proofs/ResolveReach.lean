/-
  C02 part B3 of `C02resolve.lean` (completeness of the depth-first search), at tree level and independent of any reference
  resolver.  `complete_node`: on every node of a tree with the structural invariant (`SOk2`: kind-sorted children, exact
  index, distinct first bytes of literal siblings), on parameters tracked by any `Tracking` (`complete_names`: the
  hypotheses on names of `C02_priority`; the witness theorems use `P19.trackRestore`), `matchChildren` never faults, a miss
  leaves the parameters alone and NO index path reaches anything (`ReachesBy`, MatchSound.lean), and a hit is reached by the
  index path that comes first, in depth-first order (`Before`, `First`), among those that reach anything.
-/
import Mux.Proofs.ScanSpec
import Mux.Proofs.StructDistinct
import Mux.Proofs.HandlerSound
namespace Mux.P15
open Mux Mux.P8

theorem ReachesBy.mem_nodes {env : Env} {ic : Interceptors} {n : Node} {path : Bytes} {ps : Params} {is : List Nat}
    {m : Node} {ps' : Params} (h : ReachesBy env ic n path ps is m ps') : m ∈ n.nodes :=
  let ⟨_, _, hch, _⟩ := getAt_chain _ _ _ h.getAt
  chain_mem_nodes hch

theorem reachesBy_below {env : Env} {ic : Interceptors} {n : Node} {path : Bytes} {ps : Params} {is : List Nat}
    {m : Node} {ps' : Params} (h : ReachesBy env ic n path ps is m ps') (hp : path ≠ []) : m ∈ nodesL n.children := by
  cases h with
  | here _ => exact absurd rfl hp
  | child hi _ hr => exact mem_nodesL_iff.2 ⟨_, List.mem_of_getElem? hi, hr.mem_nodes⟩

/-- `Before is js`: the depth-first search, trying the children in list order and a node's own
"path used up" case LAST, visits the index path `is` strictly before `js`. -/
inductive Before : List Nat → List Nat → Prop where
  | self {i : Nat} {is : List Nat} : Before (i :: is) []
  | lt {i j : Nat} {is js : List Nat} : i < j → Before (i :: is) (j :: js)
  | tail {i : Nat} {is js : List Nat} : Before is js → Before (i :: is) (i :: js)

theorem Before.irrefl : ∀ is : List Nat, ¬ Before is is
  | [], h => by cases h
  | i :: is, h => by
    cases h with
    | lt h => omega
    | tail h => exact Before.irrefl is h

theorem Before.trans {a b c : List Nat} (h1 : Before a b) (h2 : Before b c) : Before a c := by
  induction h1 generalizing c with
  | self => cases h2
  | lt h =>
    cases h2 with
    | self => exact .self
    | lt h' => exact .lt (by omega)
    | tail _ => exact .lt h
  | tail _ ih =>
    cases h2 with
    | self => exact .self
    | lt h' => exact .lt h'
    | tail h' => exact .tail (ih h')

theorem Before.asymm {a b : List Nat} (h1 : Before a b) (h2 : Before b a) : False :=
  Before.irrefl a (h1.trans h2)

theorem Before.total : ∀ a b : List Nat, a = b ∨ Before a b ∨ Before b a
  | [], [] => .inl rfl
  | [], _ :: _ => .inr (.inr .self)
  | _ :: _, [] => .inr (.inl .self)
  | i :: is, j :: js => by
    rcases Nat.lt_trichotomy i j with h | rfl | h
    · exact .inr (.inl (.lt h))
    · rcases Before.total is js with rfl | h | h
      · exact .inl rfl
      · exact .inr (.inl (.tail h))
      · exact .inr (.inr (.tail h))
    · exact .inr (.inr (.lt h))

/-- The index path `is` comes first, in depth-first order, among those that reach anything from `n`. -/
def First (env : Env) (ic : Interceptors) (n : Node) (path : Bytes) (ps : Params) (is : List Nat) : Prop :=
  ∀ is' m' ps'', ReachesBy env ic n path ps is' m' ps'' → is' = is ∨ Before is is'

theorem First.le {env : Env} {ic : Interceptors} {n : Node} {path : Bytes} {ps : Params} {i j : Nat} {is js : List Nat}
    (h : First env ic n path ps (i :: is)) {m : Node} {ps' : Params} (hr : ReachesBy env ic n path ps (j :: js) m ps') :
    i ≤ j := by
  rcases h _ _ _ hr with e | hb
  · exact Nat.le_of_eq (List.cons.inj e).1.symm
  · cases hb with
    | lt h => exact Nat.le_of_lt h
    | tail _ => exact Nat.le_refl _

theorem First.child {env : Env} {ic : Interceptors} {n : Node} {path : Bytes} {ps : Params} {i : Nat} {is : List Nat}
    (h : First env ic n path ps (i :: is)) {c : Node} {cap rest : Bytes} (hi : n.children[i]? = some c)
    (hm : c.seg.match env ic path = .yes cap rest) : First env ic c rest (c.seg.record cap ps) is := by
  intro js m' ps'' hj
  rcases h _ _ _ (.child hi hm hj) with e | hb
  · exact .inl (List.cons.inj e).2
  · cases hb with
    | lt h => omega
    | tail h => exact .inr h

/-- The node's own "path used up" case comes last: when it is first, nothing is reached through a child. -/
theorem First.nil {env : Env} {ic : Interceptors} {n : Node} {path : Bytes} {ps : Params}
    (h : First env ic n path ps []) {j : Nat} {js : List Nat} {m : Node} {ps' : Params} :
    ¬ ReachesBy env ic n path ps (j :: js) m ps' := by
  intro hr
  rcases h _ _ _ hr with e | hb
  · cases e
  · cases hb

/-- No fault, a miss hands the parameters back and nothing is reachable, a hit is the first reaching index path in
depth-first order. -/
def CompleteAt (env : Env) (ic : Interceptors) (n : Node) (path : Bytes) (ps : Params) : Prop :=
  (∀ s, n.matchChildren env ic path ps ≠ .fault s) ∧
  (∀ ps', n.matchChildren env ic path ps = .miss ps' →
    ps' = ps ∧ ∀ is m ps'', ¬ ReachesBy env ic n path ps is m ps'') ∧
  (∀ m ps', n.matchChildren env ic path ps = .hit m ps' →
    ∃ is, ReachesBy env ic n path ps is m ps' ∧ First env ic n path ps is)

/-- `CompleteAt` on parameters tracked at `n` (`TN n ps`, for a `Tracking`). -/
def Complete (env : Env) (ic : Interceptors) (TN : Node → Params → Prop) (n : Node) : Prop :=
  ∀ (path : Bytes) (ps : Params), TN n ps → CompleteAt env ic n path ps

section
variable {TN : Node → Params → Prop} {TL : List Node → Params → Prop} (T : Tracking TN TL)
include T

theorem no_reach_of_miss {env : Env} {ic : Interceptors} {cs : List Node} {c : Node} (hc : c ∈ cs)
    (hC : Complete env ic TN c) {path : Bytes} {ps ps1 : Params} (ht : TL cs ps)
    (hmiss : tryChild env ic c path ps = .miss ps1) {cap rest : Bytes} (hm : c.seg.match env ic path = .yes cap rest)
    {is : List Nat} {m : Node} {ps' : Params} (hr : ReachesBy env ic c rest (c.seg.record cap ps) is m ps') : False := by
  rcases tryChild_miss_cases hmiss with h | ⟨cap2, rest2, ps2, hm2, hsub⟩
  · rw [h] at hm; cases hm
  · rw [hm] at hm2; cases hm2
    exact ((hC rest _ (T.child cap ht hc)).2.1 ps2 hsub).2 is m ps' hr

/-- When every child misses, only the node's own "path used up" case can reach anything. -/
theorem reach_nil_of_allMiss {env : Env} {ic : Interceptors} {n : Node} (hC : ∀ c ∈ n.children, Complete env ic TN c)
    {path : Bytes} {ps : Params} (ht : TL n.children ps) (hall : AllMiss env ic n.children path ps)
    {is : List Nat} {m : Node} {ps' : Params} (hr : ReachesBy env ic n path ps is m ps') : is = [] := by
  cases hr with
  | here _ => rfl
  | child hi hm hr' =>
    have hc := List.mem_of_getElem? hi
    exact (no_reach_of_miss T hc (hC _ hc) ht (hall _ hc) hm hr').elim

theorem complete_node (env : Env) (ic : Interceptors) {ic0 : Interceptors} :
    ∀ n : Node, Node.All (SOk2 ic0) n → Complete env ic TN n :=
  Node.induction fun n ih' hall path ps hT => by
  have ih : ∀ c ∈ n.children, Complete env ic TN c := fun c hc => ih' c hc (AllL_mem hall.tail hc)
  have hS : Node.All (SOk ic0) n := SOk2.all_SOk _ hall
  have ht : TL n.children ps := T.children hT
  have hq : ScanQuiet env ic n.children path ps := T.quiet ht
  refine ⟨matchChildren_no_fault env ic n ((AllL_mono fun _ h => SOk.idxOk h).1 _ hS) path ps, ?_⟩
  rw [matchChildren_eq_scan_of env ic hS (fun _ => hall.head.2.distinct) T ht]
  refine ⟨?_, ?_⟩
  · -- a miss: nothing is reachable
    intro ps' h
    obtain ⟨rfl, hall', hself⟩ := (scan_miss_iff hq ps').1 h
    refine ⟨rfl, ?_⟩
    intro is m ps'' hr
    cases reach_nil_of_allMiss T ih ht hall' hr
    cases hr with
    | here hh => exact hself ⟨rfl, hh⟩
  · -- a hit: the first chain in depth-first order
    intro m ps' h
    rcases (scan_hit_iff hq m ps').1 h with ⟨i, c, hi, hhit, hbefore⟩ | ⟨hall', hp, hh, rfl, rfl⟩
    · have hc := List.mem_of_getElem? hi
      obtain ⟨cap, rest, hm, hsub⟩ := (tryChild_hit_iff env ic c path ps m ps').1 hhit
      obtain ⟨is, hreach, hfirst⟩ := (ih c hc rest _ (T.child cap ht hc)).2.2 m ps' hsub
      refine ⟨i :: is, .child hi hm hreach, ?_⟩
      intro is' m' ps'' hr
      cases hr with
      | here _ => exact .inr .self
      | @child _ _ _ j c' cap' rest' js _ _ hj hm' hr' =>
        rcases Nat.lt_trichotomy j i with hlt | rfl | hgt
        · have hc' := List.mem_of_getElem? hj
          exact (no_reach_of_miss T hc' (ih _ hc') ht (hbefore j hlt c' hj) hm' hr').elim
        · rcases hfirst js m' ps'' ((ReachesBy.child hj hm' hr').cons_inv hi hm) with rfl | hb
          · exact .inl rfl
          · exact .inr (.tail hb)
        · exact .inr (.lt hgt)
    · subst hp
      exact ⟨[], .here hh, fun is' m' ps'' hr => .inl (reach_nil_of_allMiss T ih ht hall' hr)⟩
end

theorem complete_names (env : Env) (ic : Interceptors) {ic0 : Interceptors} {n : Node} (hall : Node.All (SOk2 ic0) n)
    (path : Bytes) (ps : Params) (used : List Bytes) (hN : NamesOkL used n.children) (hk : ∀ k ∈ ps.keys, k ∈ used) :
    CompleteAt env ic n path ps :=
  complete_node trackNames env ic n hall path ps
    ⟨used, (Node.namesOk_iff used n).2 hN, All_idxLit_of_SOk _ (SOk2.all_SOk _ hall), hk⟩

theorem complete_iff (env : Env) (ic : Interceptors) {ic0 : Interceptors} {n : Node} (hall : Node.All (SOk2 ic0) n)
    (path : Bytes) (ps : Params) (used : List Bytes) (hN : NamesOkL used n.children) (hk : ∀ k ∈ ps.keys, k ∈ used)
    (hsup : n.matchChildren env ic path ps ≠ .unsupported) :
    (n.matchChildren env ic path ps = .miss ps ↔ ¬ ∃ m ps', Reaches env ic n path ps m ps') ∧
    ((∃ m ps', n.matchChildren env ic path ps = .hit m ps') ↔ ∃ m ps', Reaches env ic n path ps m ps') := by
  obtain ⟨hf, hmiss, hhit⟩ := complete_names env ic hall path ps used hN hk
  cases hres : n.matchChildren env ic path ps with
  | miss ps2 =>
    obtain ⟨rfl, hno⟩ := hmiss ps2 hres
    have hnone : ¬ ∃ m ps', Reaches env ic n path ps2 m ps' := fun ⟨m, ps', hr⟩ =>
      let ⟨is, his⟩ := reaches_iff.1 hr
      hno is m ps' his
    exact ⟨⟨fun _ => hnone, fun _ => rfl⟩, ⟨fun ⟨_, _, h⟩ => (by cases h), fun h => (hnone h).elim⟩⟩
  | hit m1 ps1 =>
    obtain ⟨is, his, _⟩ := hhit m1 ps1 hres
    have hr : ∃ m ps', Reaches env ic n path ps m ps' := ⟨m1, ps1, reaches_iff.2 ⟨is, his⟩⟩
    exact ⟨⟨fun h => (by cases h), fun hno => (hno hr).elim⟩, ⟨fun _ => hr, fun _ => ⟨m1, ps1, rfl⟩⟩⟩
  | fault s => exact (hf s hres).elim
  | unsupported => exact (hsup hres).elim

theorem supported_node (env : Env) (ic : Interceptors) {ic0 : Interceptors} {n : Node} (hall : Node.All (SOk ic0) n)
    (path : Bytes) (ps : Params) (hp : isAscii path = true) : n.matchChildren env ic path ps ≠ .unsupported :=
  matchChildren_supported env ic n ((AllL_mono fun _ h => SOk.rxAscii h).1 _ hall) path ps hp

/-- On a tree with the invariants of a well-formed history an ASCII path is always answered (`.res`): no fault, and
the matcher stays inside the modelled regexp dialect. -/
theorem handler_total {t : Tree} {ic0 : Interceptors} (hti : TreeInv t) (hs : Node.All (SOk ic0) t.root) (env : Env)
    (path : Bytes) (hasc : isAscii path = true) (method : Bytes) : ∃ f, t.handler env path [] method = .res f := by
  rcases handler_spec hti env path [] method with ⟨f, h1, _⟩ | h1
  · exact ⟨f, h1⟩
  · exfalso
    rcases Tree.handler_cases env t path [] method with ⟨h', _, _, e⟩ | ⟨_, e⟩
    · rw [e] at h1; cases h1
    · rw [e] at h1
      have hm := handlerNoTrace_unsupported h1
      unfold Tree.matched at hm
      split at hm
      · cases hm
      · exact supported_node env t.ic hs path [] hasc hm

end Mux.P15
