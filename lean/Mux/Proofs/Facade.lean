/-
  Mux.Proofs.Facade — façade programs (`Prefix`, nested `Prefix`, `Resource`) and their translation
  into plain `Router` calls (`runF_router`); of the translation: its `Use` arguments are those of the program
  (`useMs_desugar`), the façade table is a function of the program alone (`tabOf`, `runF_tab`), every object of the
  table is the flat form of its ancestry chain (`FChain`, `tabOf_get`), and a registration through an object is one
  `Handle` on the concatenated pattern (`regOf_desugar`).
-/
import Mux.Proofs.FoldRules
import Mux.Proofs.RouterBasic
namespace Mux.P10
open Mux

/-- One call of a façade program.  Façade objects live in a table (in creation order); an operation
names the façade it goes through by its index.  An index that is out of range cannot be written
in Go; in the model such an operation does nothing (in both the program and its translation). -/
inductive FOp where
  /-- `r.Prefix(pattern, m...)` -/
  | newPrefix (pattern : Bytes) (m : List Nat)
  /-- `r.Resource(pattern, m...)` -/
  | newResource (pattern : Bytes) (m : List Nat)
  /-- `p.Prefix(pattern, m...)` on façade `parent` -/
  | subPrefix (parent : Nat) (pattern : Bytes) (m : List Nat)
  /-- `p.Resource(pattern, m...)` on façade `parent` -/
  | subResource (parent : Nat) (pattern : Bytes) (m : List Nat)
  /-- `p.Handle(pattern, h, m, methods...)` (`Get/Post/…/Any` are special cases) -/
  | handle (f : Nat) (pattern : Bytes) (h : Nat) (m : List Nat) (methods : List Bytes)
  /-- `res.Handle(h, m, methods...)` of a `Resource`: the pattern argument is `""` -/
  | resHandle (f : Nat) (h : Nat) (m : List Nat) (methods : List Bytes)
  /-- `p.Remove(pattern, methods...)` -/
  | remove (f : Nat) (pattern : Bytes) (methods : List Bytes)
  /-- `res.Remove(methods...)` -/
  | resRemove (f : Nat) (methods : List Bytes)
  /-- `p.Clean()` of a `Prefix` -/
  | prefixClean (f : Nat)
  /-- `res.Clean()` of a `Resource` -/
  | resourceClean (f : Nat)
  /-- `p.URL(strict, pattern, ps)` / `res.URL(strict, ps)` (`pattern = ""`): an observation -/
  | url (f : Nat) (strict : Bool) (pattern : Bytes) (ps : AMap Bytes)
  /-- a plain call on the router itself, interleaved (`Use`, `Handle`, `Remove`, `Clean`) -/
  | router (op : ROp)
  /-- `r.URL(strict, pattern, ps)` on the router itself -/
  | routerUrl (strict : Bool) (pattern : Bytes) (ps : AMap Bytes)
  deriving Repr

/-- The translated program: plain router operations and URL queries. -/
inductive DOp where
  | op (o : ROp)
  | url (strict : Bool) (pattern : Bytes) (ps : AMap Bytes)
  deriving Repr

/-- A failing façade call panics in Go; as in `Router.step` the router is then unchanged. -/
def orKeep (r : Router) (x : Except Err Router) : Router :=
  match x with
  | .ok r' => r'
  | .error _ => r

/-- State of the façade interpreter: the router, the façade objects, the URL results so far. -/
structure FState where
  router : Router
  tab : List Facade := []
  out : List (Except Err Bytes) := []

/-- The façade table after one operation (façade creation never looks at the router). -/
def tabStep (tab : List Facade) : FOp → List Facade
  | .newPrefix p m => tab ++ [Facade.ofRouter p m]
  | .newResource p m => tab ++ [Facade.ofRouter p m]
  | .subPrefix i p m => match tab[i]? with
    | some f => tab ++ [f.sub p m]
    | none => tab
  | .subResource i p m => match tab[i]? with
    | some f => tab ++ [f.sub p m]
    | none => tab
  | _ => tab

/-- One step of the façade interpreter, with the façade objects as in Go (`Facade.*` of the model). -/
def FState.step (env : Env) (s : FState) (op : FOp) : FState :=
  match op with
  | .handle i p h m methods => match s.tab[i]? with
    | some f => { s with router := orKeep s.router (f.handle s.router p h m methods) }
    | none => s
  | .resHandle i h m methods => match s.tab[i]? with
    | some f => { s with router := orKeep s.router (f.handle s.router [] h m methods) }
    | none => s
  | .remove i p methods => match s.tab[i]? with
    | some f => { s with router := orKeep s.router (f.remove s.router p methods) }
    | none => s
  | .resRemove i methods => match s.tab[i]? with
    | some f => { s with router := orKeep s.router (f.remove s.router [] methods) }
    | none => s
  | .prefixClean i => match s.tab[i]? with
    | some f => { s with router := orKeep s.router (f.prefixClean s.router) }
    | none => s
  | .resourceClean i => match s.tab[i]? with
    | some f => { s with router := orKeep s.router (f.resourceClean s.router) }
    | none => s
  | .url i strict p ps => match s.tab[i]? with
    | some f => { s with out := s.out ++ [f.url env s.router strict p ps] }
    | none => s
  | .router o => { s with router := s.router.step o }
  | .routerUrl strict p ps => { s with out := s.out ++ [s.router.url env strict p ps] }
  | op => { s with tab := tabStep s.tab op }

def runF (env : Env) (s : FState) (prog : List FOp) : FState := prog.foldl (FState.step env) s

/-- The plain calls one façade operation stands for, given the façade table. -/
def desugarOp (tab : List Facade) : FOp → List DOp
  | .handle i p h m methods => match tab[i]? with
    | some f => [.op (.handle (f.pattern ++ p) h (m ++ f.ms) methods)]
    | none => []
  | .resHandle i h m methods => match tab[i]? with
    | some f => [.op (.handle f.pattern h (m ++ f.ms) methods)]
    | none => []
  | .remove i p methods => match tab[i]? with
    | some f => [.op (.remove (f.pattern ++ p) methods)]
    | none => []
  | .resRemove i methods => match tab[i]? with
    | some f => [.op (.remove f.pattern methods)]
    | none => []
  | .prefixClean i => match tab[i]? with
    | some f => [.op (.clean f.pattern)]
    | none => []
  | .resourceClean i => match tab[i]? with
    | some f => [.op (.remove f.pattern [])]
    | none => []
  | .url i strict p ps => match tab[i]? with
    | some f => [.url strict (f.pattern ++ p) ps]
    | none => []
  | .router o => [.op o]
  | .routerUrl strict p ps => [.url strict p ps]
  | _ => []

/-- `desugar`: patterns and middleware lists are concatenated exactly as `router.go:222-359` does. -/
def desugarFrom (tab : List Facade) : List FOp → List DOp
  | [] => []
  | op :: rest => desugarOp tab op ++ desugarFrom (tabStep tab op) rest

def desugar (prog : List FOp) : List DOp := desugarFrom [] prog

/-- The plain-router interpreter of the translated program. -/
structure DState where
  router : Router
  out : List (Except Err Bytes) := []

def DState.step (env : Env) (s : DState) : DOp → DState
  | .op o => { s with router := s.router.step o }
  | .url strict p ps => { s with out := s.out ++ [s.router.url env strict p ps] }

def runD (env : Env) (s : DState) (prog : List DOp) : DState := prog.foldl (DState.step env) s

def plainOps : List DOp → List ROp
  | [] => []
  | .op o :: rest => o :: plainOps rest
  | .url _ _ _ :: rest => plainOps rest

/-- A faithful encoding of `ROp` into a type with decidable equality (for `decide` in examples). -/
structure RCode where
  tag : Nat
  pattern : Bytes
  h : Nat
  m : List Nat
  methods : List Bytes
  deriving DecidableEq, Repr

def ropCode : ROp → RCode
  | .handle p h m methods => ⟨0, p, h, m, methods⟩
  | .remove p methods => ⟨1, p, 0, [], methods⟩
  | .clean pre => ⟨2, pre, 0, [], []⟩
  | .use m => ⟨3, [], 0, m, []⟩

theorem ropCode_injective : ∀ a b : ROp, ropCode a = ropCode b → a = b := by
  intro a b h
  -- the tag fixes the constructor, the other fields are its arguments
  cases a <;> cases b <;> cases h <;> rfl

theorem step_desugar (env : Env) (s : FState) (op : FOp) :
    (s.step env op).tab = tabStep s.tab op ∧
    runD env ⟨s.router, s.out⟩ (desugarOp s.tab op) = ⟨(s.step env op).router, (s.step env op).out⟩ := by
  cases op with
  | handle i _ _ _ _ | remove i _ _ | prefixClean i | resourceClean i | url i _ _ _ =>
    simp only [FState.step, desugarOp, tabStep]
    cases s.tab[i]? <;> exact ⟨rfl, rfl⟩
  | resHandle i _ _ _ | resRemove i _ =>
    -- the façade call appends the empty pattern argument
    simp only [FState.step, desugarOp, tabStep]
    cases s.tab[i]? with
    | none => exact ⟨rfl, rfl⟩
    | some f => exact ⟨rfl, by simp only [Facade.handle, Facade.remove, List.append_nil]; rfl⟩
  | _ => exact ⟨rfl, rfl⟩

theorem runD_append (env : Env) (s : DState) (a b : List DOp) : runD env s (a ++ b) = runD env (runD env s a) b := by
  simp [runD, List.foldl_append]

theorem runF_desugar (env : Env) (prog : List FOp) : ∀ s : FState,
    runD env ⟨s.router, s.out⟩ (desugarFrom s.tab prog) =
      ⟨(runF env s prog).router, (runF env s prog).out⟩ := by
  induction prog with
  | nil => intro s; rfl
  | cons op rest ih =>
    intro s
    obtain ⟨h1, h2⟩ := step_desugar env s op
    simp only [desugarFrom, runD_append, h2, runF, List.foldl_cons]
    rw [← h1]
    exact ih (s.step env op)

theorem runD_router (env : Env) (prog : List DOp) (s : DState) :
    (runD env s prog).router = s.router.run (plainOps prog) := by
  fun_induction plainOps prog generalizing s with
  | case1 => rfl
  | case2 o rest ih => exact ih (s.step env (.op o))
  | case3 st p ps rest ih => exact ih (s.step env (.url st p ps))

theorem runF_router (env : Env) (r0 : Router) (prog : List FOp) :
    (runF env { router := r0 } prog).router = r0.run (plainOps (desugar prog)) := by
  rw [← runD_router env (desugar prog) { router := r0 }]
  exact (congrArg DState.router (runF_desugar env prog { router := r0 })).symm

end Mux.P10

namespace Mux.P18
open Mux Mux.P10

def fopUse : FOp → Option (List Nat)
  | .router (.use m) => some m
  | _ => none

def progUseMs (prog : List FOp) : List Nat := (prog.filterMap fopUse).flatten

theorem plainOps_append (a b : List DOp) : plainOps (a ++ b) = plainOps a ++ plainOps b := by
  fun_induction plainOps a with
  | case1 => rfl
  | case2 o rest ih => exact congrArg (o :: ·) ih
  | case3 st p ps rest ih => exact ih

theorem useArgs_desugarOp (tab : List Facade) (op : FOp) :
    (plainOps (desugarOp tab op)).filterMap useArg = (fopUse op).toList := by
  cases op with
  | router o => cases o <;> rfl
  | handle i _ _ _ _ | resHandle i _ _ _ | remove i _ _ | resRemove i _ | prefixClean i | resourceClean i
  | url i _ _ _ =>
    simp only [desugarOp, fopUse]
    cases tab[i]? <;> rfl
  | _ => rfl

theorem useArgs_desugarFrom (prog : List FOp) : ∀ tab : List Facade,
    (plainOps (desugarFrom tab prog)).filterMap useArg = prog.filterMap fopUse := by
  induction prog with
  | nil => intro _; rfl
  | cons op rest ih =>
    intro tab
    rw [desugarFrom, plainOps_append, List.filterMap_append, useArgs_desugarOp, ih, List.filterMap_cons]
    cases fopUse op <;> rfl

theorem useMs_desugar (prog : List FOp) :
    ((plainOps (desugar prog)).filterMap useArg).flatten = progUseMs prog := by
  unfold desugar progUseMs
  rw [useArgs_desugarFrom]

def tabOf (prog : List FOp) : List Facade := prog.foldl tabStep []

theorem runF_tab (env : Env) (prog : List FOp) (s : FState) : (runF env s prog).tab = prog.foldl tabStep s.tab :=
  (List.foldl_map_of_step FState.tab (tr := id) (fun s op => (step_desugar env s op).1) prog s).trans
    (by rw [List.map_id])

theorem desugarFrom_append (a b : List FOp) : ∀ tab : List Facade,
    desugarFrom tab (a ++ b) = desugarFrom tab a ++ desugarFrom (a.foldl tabStep tab) b := by
  induction a with
  | nil => intro _; rfl
  | cons op a ih => intro tab; simp [desugarFrom, ih]

/-- The ancestry of a façade object: the `(pattern, middlewares)` arguments of the creating calls, OUTERMOST first
(`r.Prefix(p₁, m₁…).Prefix(p₂, m₂…).Resource(p₃, m₃…)` is `[(p₁, m₁), (p₂, m₂), (p₃, m₃)]`). -/
abbrev FChain := List (Bytes × List Nat)

/-- The full pattern prefix of the object: the pieces concatenated outside-in. -/
def FChain.pattern (ch : FChain) : Bytes := (ch.map (·.1)).flatten
/-- Its middlewares as they are appended to a registration: INNERMOST façade first, outermost last. -/
def FChain.ms (ch : FChain) : List Nat := (ch.reverse.map (·.2)).flatten
/-- The façade object (`Facade` of the model) it denotes. -/
def FChain.flat (ch : FChain) : Facade := ⟨ch.pattern, ch.ms⟩

def chainStep (ct : List FChain) : FOp → List FChain
  | .newPrefix p m => ct ++ [[(p, m)]]
  | .newResource p m => ct ++ [[(p, m)]]
  | .subPrefix i p m => match ct[i]? with
    | some ch => ct ++ [ch ++ [(p, m)]]
    | none => ct
  | .subResource i p m => match ct[i]? with
    | some ch => ct ++ [ch ++ [(p, m)]]
    | none => ct
  | _ => ct

/-- The ancestry chains of the façade table a program builds (same indices as the table). -/
def chainsOf (prog : List FOp) : List FChain := prog.foldl chainStep []

theorem flat_sub (ch : FChain) (p : Bytes) (m : List Nat) : ch.flat.sub p m = FChain.flat (ch ++ [(p, m)]) := by
  simp [FChain.flat, FChain.pattern, FChain.ms, Facade.sub]

theorem tabStep_flat (ct : List FChain) (op : FOp) :
    tabStep (ct.map FChain.flat) op = (chainStep ct op).map FChain.flat := by
  cases op with
  | newPrefix p m | newResource p m =>
    simp [tabStep, chainStep, FChain.flat, FChain.pattern, FChain.ms, Facade.ofRouter]
  | subPrefix i p m | subResource i p m =>
    simp only [tabStep, chainStep, List.getElem?_map]
    cases ct[i]? with
    | none => rfl
    | some ch => simp [flat_sub]
  | _ => rfl

theorem tabOf_flat (prog : List FOp) : tabOf prog = (chainsOf prog).map FChain.flat :=
  ((List.foldl_map_of_step (List.map FChain.flat) (tr := id) (fun ct op => (tabStep_flat ct op).symm) prog []).trans
    (by rw [List.map_id]; rfl)).symm

theorem tabOf_get (prog : List FOp) (i : Nat) : (tabOf prog)[i]? = ((chainsOf prog)[i]?).map FChain.flat := by
  rw [tabOf_flat, List.getElem?_map]

/-- The registrations of a façade program: `p.Handle(pattern, h, m, methods…)` (also `Get/Post/…/Any`) and
`res.Handle(h, m, methods…)` of a `Resource` (pattern argument `""`). -/
def regOf : FOp → Option (Nat × Bytes × Nat × List Nat × List Bytes)
  | .handle i pat h m methods => some (i, pat, h, m, methods)
  | .resHandle i h m methods => some (i, [], h, m, methods)
  | _ => none

theorem regOf_desugar {op : FOp} {i : Nat} {pat : Bytes} {h : Nat} {m : List Nat} {methods : List Bytes}
    (hreg : regOf op = some (i, pat, h, m, methods)) {tab : List Facade} {f : Facade} (hf : tab[i]? = some f) :
    desugarOp tab op = [.op (.handle (f.pattern ++ pat) h (m ++ f.ms) methods)] ∧ tabStep tab op = tab := by
  cases op with
  | handle | resHandle =>
    simp only [regOf, Option.some.injEq, Prod.mk.injEq] at hreg
    obtain ⟨rfl, rfl, rfl, rfl, rfl⟩ := hreg
    simp [desugarOp, hf, tabStep]
  | _ => simp [regOf] at hreg

/-- The program after the registration is translated with the table the program before it built. -/
theorem desugar_reg {op : FOp} {i : Nat} {pat : Bytes} {h : Nat} {m : List Nat} {methods : List Bytes}
    (hreg : regOf op = some (i, pat, h, m, methods)) {pre : List FOp} {f : Facade} (hf : (tabOf pre)[i]? = some f)
    (post : List FOp) :
    plainOps (desugar (pre ++ op :: post)) =
      plainOps (desugar pre) ++ .handle (f.pattern ++ pat) h (m ++ f.ms) methods ::
        plainOps (desugarFrom (tabOf pre) post) := by
  obtain ⟨hd, htab⟩ := regOf_desugar hreg hf
  unfold desugar
  rw [desugarFrom_append, plainOps_append]
  show _ ++ plainOps (desugarOp (tabOf pre) op ++ desugarFrom (tabStep (tabOf pre) op) post) = _
  rw [hd, htab]
  rfl

end Mux.P18
