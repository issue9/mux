/-
  The ambiguity check on the tree of ANY history that leaves one route (property C17, "a pattern identical up to
  parameter names to the only other route is always rejected"), after the D33 repair.  After
  `Handle("/{a}/x")`, `Handle("/{a}/y")`, `Remove("/{a}/y")` the chain of nodes to `/{a}/x` is NOT the list of segments
  `Split` makes of it (`{a}/` above `x`): a node on the chain to a route carries a literal piece of it, or a whole token
  with a PREFIX of the literal text after it.  `checkAmbiguous` finds its way down such a chain for every accepted pattern
  that is the route up to parameter names; the siblings tried on the way can only make the verdict a rejection as well.
-/
import Mux.Proofs.AmbCheck
import Mux.Proofs.UrlTree
import Mux.Proofs.UrlToks
import Mux.Proofs.ReachAll
namespace Mux.P9
open Mux Mux.P13

/-- A verdict of `checkAmbiguous` that makes `Tree.add` fail: an error, or "found, with a parameter step". -/
def Rej (r : Except Err (Option Bool)) : Prop := (∃ e, r = .error e) ∨ r = .ok (some true)

theorem noBrace_prefix_of_append {a b X Y : Bytes} (ha : NoBrace a) (h : a ++ X = b ++ Y)
    (hY : Y = [] ∨ Y.head? = some startByte) : a <+: b := by
  rcases List.append_eq_append_iff.1 h with ⟨a', hb, _⟩ | ⟨c', ha', hY'⟩
  · exact ⟨a', hb.symm⟩
  · cases c' with
    | nil => simp only [List.append_nil] at ha'; rw [ha']; exact List.prefix_refl _
    | cons x c' =>
      exfalso
      rcases hY with hY | hY
      · rw [hY] at hY'; cases hY'
      · rw [hY'] at hY
        simp only [List.cons_append, List.head?_cons, Option.some.injEq] at hY
        apply ha.1
        rw [ha', hY]
        simp

theorem SegOk.param_facts {ic : Interceptors} {s : Seg} (h : SegOk ic s) (hk : s.kind ≠ .str) :
    ∃ b suf, s.value = tok b suf ∧ NoBrace b ∧ NoBrace suf ∧ s.suffix = suf ∧
      s.name = (bodyName b).1 ∧ s.ignoreName = (bodyName b).2 ∧ s.rule = bodyRule b ∧ s.kind = bodyKind ic b := by
  obtain ⟨b, suf, hv, hb, hs, ht⟩ := h.tok_seg hk
  obtain ⟨_, h2, h3, h4, h5, h6⟩ := tokSeg_ok ht
  exact ⟨b, suf, hv, hb, hs, h5, h2, h3, h4, h6⟩

def ParamSegs (ic : Interceptors) (l : List Seg) : Prop := ∀ s ∈ l, SegOk ic s ∧ s.kind ≠ .str

theorem ParamSegs.tail {ic : Interceptors} {s : Seg} {l : List Seg} (h : ParamSegs ic (s :: l)) : ParamSegs ic l :=
  fun x hx => h x (List.mem_cons_of_mem _ hx)

theorem ParamSegs.nil (ic : Interceptors) : ParamSegs ic [] := fun _ h => by cases h

theorem ParamSegs.cons {ic : Interceptors} {s : Seg} {l : List Seg} (hs : SegOk ic s) (hk : s.kind ≠ .str)
    (h : ParamSegs ic l) : ParamSegs ic (s :: l) :=
  fun x hx => (List.mem_cons.1 hx).elim (fun e => e ▸ ⟨hs, hk⟩) (h x)

theorem ParamSegs.head_start {ic : Interceptors} {l : List Seg} (h : ParamSegs ic l) :
    (l.map (·.value)).flatten = [] ∨ (l.map (·.value)).flatten.head? = some startByte := by
  cases l with
  | nil => exact .inl rfl
  | cons s l =>
    right
    obtain ⟨hs, hk⟩ := h s (by simp)
    obtain ⟨b, suf, hv, _⟩ := hs.tok_of_kind hk
    simp [hv, tok]

theorem ParamSegs.canon {ic : Interceptors} {l : List Seg} (h : ParamSegs ic l) : Canon (l.map (·.value)) := by
  have hall : ∀ x ∈ l.map (·.value), WfPiece x ∧ x ≠ [] ∧ x.head? = some startByte := by
    intro x hx
    obtain ⟨s, hs, rfl⟩ := List.mem_map.1 hx
    obtain ⟨hok, hk⟩ := h s hs
    obtain ⟨b, suf, hv, _⟩ := hok.tok_of_kind hk
    exact ⟨hok.wf, hok.ne, by simp [hv, tok]⟩
  exact ⟨fun x hx => (hall x hx).1, fun x hx => (hall x hx).2.1,
    fun x hx => (hall x (List.mem_of_mem_tail hx)).2.2⟩

theorem ParamSegs.drop_lit {ic : Interceptors} {segs : List Seg} (hseg : ParamSegs ic segs) {y R lit : Bytes}
    (hy : NoBrace y) (h : y ++ R = lit ++ (segs.map (·.value)).flatten) :
    ∃ lit', lit = y ++ lit' ∧ R = lit' ++ (segs.map (·.value)).flatten := by
  obtain ⟨lit', rfl⟩ := noBrace_prefix_of_append hy h hseg.head_start
  rw [List.append_assoc] at h
  exact ⟨lit', rfl, List.append_cancel_left h⟩

theorem ParamSegs.drop_tok {ic : Interceptors} {segs : List Seg} (hseg : ParamSegs ic segs) {b sc R lit : Bytes}
    (hb : NoBrace b) (hsc : NoBrace sc) (hlit : NoBrace lit)
    (h : tok b sc ++ R = lit ++ (segs.map (·.value)).flatten) :
    ∃ s segs' d, lit = [] ∧ segs = s :: segs' ∧ s.value = tok b (sc ++ d) ∧ NoBrace d ∧ d.length ≤ maxInt16 ∧
      R = d ++ (segs'.map (·.value)).flatten := by
  have hl0 : lit = [] := by
    cases lit with
    | nil => rfl
    | cons y l =>
      exfalso
      simp only [tok, List.cons_append, List.cons.injEq] at h
      exact hlit.1 (by rw [← h.1]; simp)
  subst hl0
  cases segs with
  | nil => simp [tok] at h
  | cons s segs' =>
    obtain ⟨hok, hk⟩ := hseg s (by simp)
    obtain ⟨bs, ss, hv, hbs, hss⟩ := hok.tok_of_kind hk
    simp only [List.nil_append, List.map_cons, List.flatten_cons] at h
    rw [hv] at h
    obtain ⟨rfl, h2⟩ := tok_append_inj hb.2 hbs.2 h
    obtain ⟨d, rfl⟩ := noBrace_prefix_of_append hsc h2 hseg.tail.head_start
    rw [List.append_assoc] at h2
    have hdl : d.length ≤ maxInt16 := by
      have := newSegment_len hok.seg
      rw [hv, tok_length, List.length_append] at this
      omega
    exact ⟨s, segs', d, rfl, rfl, hv, hss.of_suffix_append, hdl, List.append_cancel_left h2⟩

theorem ParamSegs.split {ic : Interceptors} {l : List Seg} (h : ParamSegs ic l) (hne : l ≠ []) {flag : Bool}
    {names : List Bytes} (hsl : splitLoop ic (l.map (·.value)) flag names = .ok l) :
    split ic (l.map (·.value)).flatten = .ok l :=
  split_of_pieces h.canon (by simpa using hne) hsl

theorem splitLoop_tail {ic : Interceptors} {v : Bytes} {rest : List Bytes} {flag : Bool} {names : List Bytes} {s : Seg}
    {segs : List Seg} (h : splitLoop ic (v :: rest) flag names = .ok (s :: segs)) :
    ∃ flag' names', splitLoop ic rest flag' names' = .ok segs := by
  obtain ⟨_, _, _, _, _, _, hrest, e⟩ := splitLoop_cons_inv h
  cases e
  exact ⟨_, _, hrest⟩

/-- `P` (what is left of the new pattern `p`) and `Q` (what is left of the route `q`) start with the same literal
text; after it come parameter segments that agree one by one up to names, those of `P` being what `Split` makes
of that part of `P`.  What it says of `P` alone is `GoodRest` (`AmbRel.goodRest`). -/
def AmbRel (ic : Interceptors) (P Q : Bytes) : Prop :=
  ∃ (lit : Bytes) (psegs qsegs : List Seg) (flag : Bool) (names : List Bytes),
    NoBrace lit ∧ lit.length ≤ maxInt16 ∧ P = lit ++ (psegs.map (·.value)).flatten ∧
    Q = lit ++ (qsegs.map (·.value)).flatten ∧ UpToNames psegs qsegs ∧
    splitLoop ic (psegs.map (·.value)) flag names = .ok psegs ∧ ParamSegs ic psegs ∧ ParamSegs ic qsegs

theorem AmbRel.nil_right {ic : Interceptors} {P : Bytes} (h : AmbRel ic P []) : P = [] := by
  obtain ⟨lit, psegs, qsegs, _, _, _, _, hP, hQ, hu, _, _, hq⟩ := h
  have h1 : lit = [] := by
    cases lit with
    | nil => rfl
    | cons _ _ => cases hQ
  subst h1
  cases qsegs with
  | nil => cases hu; simpa using hP
  | cons s l =>
    exfalso
    have := (hq s (by simp)).1.ne
    simp only [List.nil_append, List.map_cons, List.flatten_cons] at hQ
    exact this (List.append_eq_nil_iff.1 hQ.symm).1

theorem isAmbiguous_suffix_ne {a b : Seg} (h : a.suffix ≠ b.suffix) : a.isAmbiguous b = false := by
  unfold Seg.isAmbiguous
  simp only []
  split <;> simp [h]

/-- `c` is the token of `s0` under another name or `-` flag, followed by a prefix of `s0`'s literal suffix. -/
structure Renames (c s0 : Seg) : Prop where
  par : c.kind ≠ .str
  kind : c.kind = s0.kind
  rule : c.rule = s0.rule
  name : c.name ≠ s0.name ∨ c.ignoreName ≠ s0.ignoreName
  suffix : c.suffix <+: s0.suffix

theorem SegOk.str_fields {ic : Interceptors} {s : Seg} (h : SegOk ic s) (hk : s.kind = .str) :
    s.name = [] ∧ s.ignoreName = false := by
  have e := h.str_of_noBrace (h.kind_str_iff.1 hk).1
  exact ⟨by rw [e], by rw [e]⟩

theorem renames_of_amb {ic : Interceptors} {c s0 : Seg} (hc : SegOk ic c) (h0 : SegOk ic s0)
    (h : c.isAmbiguous s0 = true ∨ c.isAmbiguousPrefix s0 = true) : Renames c s0 := by
  rcases h with h | h
  · -- `isAmbiguous`: the same suffix; two literal segments are never ambiguous
    have key : c.kind = s0.kind ∧ c.rule = s0.rule ∧ c.suffix = s0.suffix ∧
        (c.name ≠ s0.name ∨ c.ignoreName ≠ s0.ignoreName) := by
      by_cases hi : c.ignoreName = s0.ignoreName
      · simp only [Seg.isAmbiguous, hi, ne_eq, not_true_eq_false, if_false, decide_eq_true_eq] at h
        exact ⟨h.2.2.2.1, h.2.2.2.2.1, h.2.2.2.2.2, .inl h.1⟩
      · simp only [Seg.isAmbiguous, ne_eq, hi, not_false_eq_true, if_true, decide_eq_true_eq] at h
        exact ⟨h.2.1, h.2.2.1, h.2.2.2, .inr hi⟩
    obtain ⟨hk, hr, hs, hn⟩ := key
    refine ⟨fun hks => ?_, hk, hr, hn, hs ▸ List.prefix_refl _⟩
    obtain ⟨n1, i1⟩ := hc.str_fields hks
    obtain ⟨n2, i2⟩ := h0.str_fields (hk ▸ hks)
    rcases hn with hn | hn
    · exact hn (n1.trans n2.symm)
    · exact hn (i1.trans i2.symm)
  · simp only [Seg.isAmbiguousPrefix, Bool.decide_and, Bool.and_eq_true, decide_eq_true_eq] at h
    exact ⟨h.1, h.2.1, h.2.2.1, h.2.2.2.1, (hasPrefix_iff _ _).1 h.2.2.2.2.2⟩

/-- Which of the two branches a renaming takes is decided by whether the node carries the whole suffix. -/
theorem amb_of_renames {ic : Interceptors} {c s0 : Seg} (hc : SegOk ic c) (h0 : SegOk ic s0) (hr : Renames c s0) :
    (c.suffix = s0.suffix ∧ c.isAmbiguous s0 = true) ∨
      (c.suffix ≠ s0.suffix ∧ c.isAmbiguous s0 = false ∧ c.isAmbiguousPrefix s0 = true) := by
  by_cases hs : c.suffix = s0.suffix
  · refine .inl ⟨hs, ?_⟩
    have hk0 : s0.kind ≠ .str := hr.kind ▸ hr.par
    obtain ⟨bc, sc, _, _, _, hct⟩ := hc.tok_seg hr.par
    obtain ⟨b0, s0s, _, _, _, h0t⟩ := h0.tok_seg hk0
    -- `endpoint` is a function of the kind and the suffix
    have hend : s0.endpoint = c.endpoint := by
      rw [tokSeg_endpoint hct, tokSeg_endpoint h0t, ← (tokSeg_ok hct).2.2.2.2.1, ← (tokSeg_ok h0t).2.2.2.2.1, hs,
        hr.kind]
    exact NameVariant.isAmbiguous ⟨hk0, hr.kind.symm, hr.rule.symm, hs.symm, hend,
      hr.name.symm.imp (fun h e => h e.symm) (fun h e => h e.symm)⟩
  · refine .inr ⟨hs, isAmbiguous_suffix_ne hs, ?_⟩
    obtain ⟨d, hd⟩ := hr.suffix
    have hlt : c.suffix.length < s0.suffix.length := by
      rw [← hd, List.length_append]
      have : d ≠ [] := fun e => hs (by rw [← hd, e, List.append_nil])
      have := List.length_pos_iff.2 this
      omega
    simp only [Seg.isAmbiguousPrefix, Bool.decide_and, Bool.and_eq_true, decide_eq_true_eq,
      (hasPrefix_iff _ _).2 hr.suffix, and_true]
    exact ⟨hr.par, hr.kind, hr.rule, hr.name, hlt⟩

/-- **What a parameter step consumes**, in both branches: the node is `{bc}suf`, the pattern goes on with
`{b0}suf·d…` for another body `b0` with the same rule; the step skips `{b0}suf` — the node's text with the other token
in front — and leaves `d…` to the children of the node. -/
theorem renames_consumed {ic : Interceptors} {c s0 : Seg} (hc : SegOk ic c) (h0 : SegOk ic s0)
    (hr : Renames c s0) {pat : Bytes} (hpre : s0.value <+: pat) :
    ∃ bc b0 d, c.value = tok bc c.suffix ∧ s0.value = tok b0 (c.suffix ++ d) ∧ s0.suffix = c.suffix ++ d ∧ bc ≠ b0 ∧
      bodyRule bc = bodyRule b0 ∧
      pat.take (s0.value.length - s0.suffix.length + c.suffix.length) = tok b0 c.suffix ∧
      pat.drop (s0.value.length - s0.suffix.length + c.suffix.length) = d ++ pat.drop s0.value.length ∧
      NoBrace b0 ∧ NoBrace (c.suffix ++ d) := by
  obtain ⟨bc, sc, hcv, _, _, hcs, hcn, hci, hcr, _⟩ := hc.param_facts hr.par
  obtain ⟨b0, s0s, h0v, hb0, hs0s, h0s, h0n, h0i, h0r, _⟩ := h0.param_facts (hr.kind ▸ hr.par)
  obtain ⟨d, hd⟩ := hr.suffix
  rw [hcs, h0s] at hd
  subst hd
  obtain ⟨r, hr'⟩ := hpre
  have hoff : s0.value.length - s0.suffix.length + c.suffix.length = (tok b0 sc).length := by
    rw [h0v, h0s, hcs, tok_length, tok_length]; simp only [List.length_append]; omega
  have hpat : pat = tok b0 sc ++ (d ++ r) := by
    rw [← hr', h0v, tok_append_suffix, List.append_assoc]
  refine ⟨bc, b0, d, by rw [hcs]; exact hcv, by rw [hcs]; exact h0v, by rw [hcs, h0s], ?_, ?_, ?_, ?_, hb0,
    hcs ▸ hs0s⟩
  · intro e
    subst e
    rcases hr.name with h | h
    · exact h (hcn.trans h0n.symm)
    · exact h (hci.trans h0i.symm)
  · exact (hcr.symm.trans hr.rule).trans h0r
  · rw [hoff, hcs, hpat, List.take_left]
  · have h2 : pat.drop s0.value.length = r := by rw [← hr', List.drop_left]
    rw [h2, hoff, hpat, List.drop_left]

theorem Renames.not_prefix {ic : Interceptors} {c s0 : Seg} (hr : Renames c s0) (hc : SegOk ic c) (h0 : SegOk ic s0)
    {pat : Bytes} (hpre : s0.value <+: pat) : ¬ c.value <+: pat := by
  obtain ⟨bc, sc, hcv, hbc, _, _, hcn, hci, _⟩ := hc.param_facts hr.par
  obtain ⟨b0, s0s, h0v, hb0, _, _, h0n, h0i, _⟩ := h0.param_facts (hr.kind ▸ hr.par)
  rintro ⟨r, hr'⟩
  obtain ⟨r0, hr0⟩ := hpre
  rw [← hr0, hcv, h0v] at hr'
  obtain ⟨rfl, _⟩ := tok_append_inj hbc.2 hb0.2 hr'
  exact hr.name.elim (fun h => h (hcn.trans h0n.symm)) (fun h => h (hci.trans h0i.symm))

/-- The parameter step into a node that renames the pattern's first token, with what it leaves as a text. -/
theorem Renames.desc {ic : Interceptors} {c s0 : Seg} (hr : Renames c s0) (hc : SegOk ic c) (h0 : SegOk ic s0)
    {T d : Bytes} {segs : List Seg} (hs : split ic (s0.value ++ T) = .ok (s0 :: segs)) (hd : s0.suffix = c.suffix ++ d)
    (has : Bool) : AmbDesc ic c (s0.value ++ T) has (d ++ T) true := by
  have hpre : s0.value <+: s0.value ++ T := List.prefix_append _ _
  have hnp := hr.not_prefix hc h0 hpre
  obtain ⟨_, _, d', _, _, h3, _, _, _, hdrop, _⟩ := renames_consumed hc h0 hr hpre
  rw [List.append_cancel_left (h3.symm.trans hd), List.drop_left] at hdrop
  rw [← hdrop]
  rcases amb_of_renames hc h0 hr with ⟨hsuf, ha⟩ | ⟨_, hna, hpf⟩
  · obtain ⟨_, _, e, _, _, hle⟩ := split_ok_first hs
    cases e
    have : s0.value.length - s0.suffix.length + c.suffix.length = s0.value.length := by rw [hsuf]; omega
    rw [this]
    exact .amb hnp hs ha
  · exact .pre hnp hs hna hpf

/-- **One segment of the route against one piece of the pattern.**  The node's segment `c` is a parameter, the route's
next segment `qs` is the text of `c` followed by `d`, and the pattern's first segment `ps` is `qs` up to the name.  The
check descends into the node and leaves `d` and what follows `ps`: through the literal-prefix branch where the token is
the same, through one of the two parameter branches where it is renamed. -/
theorem desc_of_variant {ic : Interceptors} {c ps qs : Seg} (hc : SegOk ic c) (hp : SegOk ic ps) (hq : SegOk ic qs)
    (hck : c.kind ≠ .str) {d T : Bytes} (hqv : qs.value = c.value ++ d) (hR : ps.value = qs.value ∨ NameVariant ps qs)
    {segs : List Seg} (hs : split ic (ps.value ++ T) = .ok (ps :: segs)) (has : Bool) :
    ∃ has', AmbDesc ic c (ps.value ++ T) has (d ++ T) has' := by
  rcases hR with hval | hvar
  · rw [hval, hqv, List.append_assoc]
    have h := AmbDesc.lit (ic := ic) (has := has) (List.prefix_append c.value (d ++ T))
    rw [List.drop_left] at h
    exact ⟨has, h⟩
  · -- `qs` is parsed from the token of `c`, so `c` is `ps` renamed
    obtain ⟨bc, sc, hcv, hbc, _, hcs, hcn, hci, hcr, hck'⟩ := hc.param_facts hck
    have hqseg := hq.seg
    rw [hqv, hcv, ← tok_append_suffix] at hqseg
    obtain ⟨_, hqs, hqn, hqi, hqr, hqk⟩ := newSegment_tok_fields hbc.2 hqseg
    obtain ⟨_, hvk, hvr, hvs, _, hvd⟩ := hvar
    have hren : Renames c ps :=
      ⟨hck, (hck'.trans hqk.symm).trans hvk.symm, (hcr.trans hqr.symm).trans hvr.symm,
        hvd.symm.imp (fun h e => h (e.symm.trans (hcn.trans hqn.symm))) (fun h e => h (e.symm.trans (hci.trans hqi.symm))),
        ⟨d, by rw [hcs, hvs, hqs]⟩⟩
    exact ⟨true, hren.desc hc hp hs (by rw [hvs, hqs, hcs]) has⟩

/-- **One level of the descent.** `c` is the segment of the next node on the chain to the route, `c.value ++ Q'` what
is left of the route.  The check descends into that node with a rest of the pattern that is again related to the rest
of the route. -/
theorem AmbRel.desc {ic : Interceptors} {c : Seg} (hc : SegOk ic c) {P Q' : Bytes} (has : Bool)
    (hrel : AmbRel ic P (c.value ++ Q')) : ∃ P' has', AmbDesc ic c P has P' has' ∧ AmbRel ic P' Q' := by
  obtain ⟨lit, psegs, qsegs, flag, names, hlit, hlen, hP, hQ, hu, hsl, hpp, hqq⟩ := hrel
  by_cases hck : c.kind = .str
  · -- a literal node: its text is part of the common literal text
    obtain ⟨lit', rfl, hQ'⟩ := hqq.drop_lit (hc.kind_str_iff.1 hck) hQ
    rw [List.append_assoc] at hP
    refine ⟨_, has, .lit ⟨_, hP.symm⟩, lit', psegs, qsegs, flag, names, hlit.of_suffix_append, ?_, ?_, hQ', hu, hsl,
      hpp, hqq⟩
    · simp only [List.length_append] at hlen; omega
    · rw [hP, List.drop_left]
  · -- a parameter node: its token is the route's next token, its suffix a prefix of that token's suffix
    obtain ⟨bc, sc, hcv, hbc, hsc⟩ := hc.tok_of_kind hck
    rw [hcv] at hQ
    obtain ⟨qs, qsegs', d, rfl, rfl, hqv, hd, hdl, hQ'⟩ := hqq.drop_tok hbc hsc hlit hQ
    cases hu with
    | @cons ps _ psegs' _ hR hu' =>
      have hsplit := hpp.split (by simp) hsl
      simp only [List.nil_append, List.map_cons, List.flatten_cons] at hP hsplit hsl
      obtain ⟨_, _, hrest⟩ := splitLoop_tail hsl
      obtain ⟨has', hdesc⟩ := desc_of_variant hc (hpp ps (by simp)).1 (hqq qs (by simp)).1 hck
        (by rw [hqv, hcv, tok_append_suffix]) hR hsplit has
      exact ⟨_, has', hP ▸ hdesc, d, psegs', qsegs', _, _, hd, hdl, rfl, hQ', hu', hrest, hpp.tail, hqq.tail⟩

/-- No node with handlers below `n` spells `P` with the texts of its chain. -/
def NoLit (n : Node) (P : Bytes) : Prop :=
  ∀ (m' : Node) (segs' : List Seg), Chain n segs' m' → m'.handlers ≠ [] → (segs'.map (·.value)).flatten ≠ P

/-- Where no parameter step has been taken, the descent took the child's own text off `P`. -/
theorem AmbDesc.noLit {ic : Interceptors} {n c : Node} {P P' : Bytes} {has has' : Bool}
    (hd : AmbDesc ic c.seg P has P' has') (hc : c ∈ n.children) (hno : has = false → NoLit n P) :
    has' = false → NoLit c P' := by
  intro hf
  rcases hd.flag with ⟨e1, e2⟩ | e
  · subst e1
    intro m' segs' hch' hm' htext
    refine hno hf m' (c.seg :: segs') (.cons hc hch') hm' ?_
    simp only [List.map_cons, List.flatten_cons, htext]
    exact e2.symm
  · rw [e] at hf; cases hf

theorem checkAmb_some_true {ic : Interceptors} : ∀ (n : Node) (P : Bytes) (has : Bool), (has = false → NoLit n P) →
    ∀ b, n.checkAmb ic P has = .ok (some b) → b = true := by
  refine checkAmb_rule (ic := ic)
    (Q := fun n P has r => (has = false → NoLit n P) → ∀ b, r = .ok (some b) → b = true) ?_ ?_ ?_ ?_
  · intro n has hno b h
    split at h
    · rename_i hl
      cases h
      cases has with
      | true => rfl
      | false => exact (hno rfl n [] (.nil n) (List.length_pos_iff.1 hl) rfl).elim
    · cases h
  · exact fun _ _ _ _ _ b h => nomatch h
  · exact fun _ _ _ _ _ _ _ b h => nomatch h
  · exact fun n c P has P' has' r _ hc hd ih hno => ih (hd.noLit hc hno)

/-- `has` says that a parameter step was taken before; without one, no node with handlers below `n` spells `P`
literally (in particular `P` is not the text of the chain). -/
theorem checkAmb_chain_rej {ic : Interceptors} {n m : Node} {segs : List Seg} (hch : Chain n segs m)
    (hm : m.handlers ≠ []) (hok : ∀ s ∈ segs, SegOk ic s) :
    ∀ (P : Bytes) (has : Bool), AmbRel ic P (segs.map (·.value)).flatten → (has = false → NoLit n P) →
      Rej (n.checkAmb ic P has) := by
  induction hch with
  | nil n =>
    intro P has hrel hno
    have hP := hrel.nil_right
    subst hP
    cases has with
    | false => exact (hno rfl n [] (.nil n) hm rfl).elim
    | true => exact .inr (by rw [Node.checkAmb_nil, if_pos (List.length_pos_iff.2 hm)])
  | @cons n c m segs hmem _ ih =>
    intro P has hrel hno
    have hcok : SegOk ic c.seg := hok _ (by simp)
    simp only [List.map_cons, List.flatten_cons] at hrel
    obtain ⟨P', has', hdesc, hrel'⟩ := hrel.desc hcok has
    have hrejc : Rej (ambStep ic c P has) := by
      rw [hdesc.step]
      exact ih hm (fun s hs => hok s (by simp [hs])) P' has' hrel' (hdesc.noLit hmem hno)
    cases hr : n.checkAmb ic P has with
    | error e => exact .inl ⟨e, rfl⟩
    | ok o =>
      cases o with
      | some b => exact .inr (by rw [checkAmb_some_true n P has hno b hr])
      | none =>
        -- a first-answer search that answers `none` has passed over `c` in silence
        rw [Node.checkAmb_of_ne ic n (hdesc.ne hcok.ne)] at hr
        rw [checkAmbL_none hr c hmem] at hrejc
        rcases hrejc with ⟨e, he⟩ | he <;> cases he

theorem split_segs_facts {ic : Interceptors} {p : Bytes} {psegs : List Seg} (hp : WfPattern p)
    (h : split ic p = .ok psegs) :
    p = (psegs.map (·.value)).flatten ∧ splitLoop ic (psegs.map (·.value)) false [] = .ok psegs ∧
      (∀ s ∈ psegs, SegOk ic s) ∧ (∀ s ∈ psegs.tail, s.kind ≠ .str) := by
  obtain ⟨hpne, hsl⟩ := split_ok_iff.1 h
  obtain ⟨hmap, hall⟩ := splitLoop_values hsl
  have hok : ∀ s ∈ psegs, SegOk ic s := by
    intro s hs
    have hval : s.value ∈ splitString p := by rw [← hmap]; exact List.mem_map_of_mem hs
    exact SegOk.of_newSegment (hall s hs) (hp _ hval) (splitString_pieces_nonempty p hpne _ hval)
  refine ⟨by rw [hmap, splitString_join], by rw [hmap]; exact hsl, hok, ?_⟩
  intro s hs hk
  have hnb : NoBrace s.value := (hok s (List.mem_of_mem_tail hs)).kind_str_iff.1 hk
  cases psegs with
  | nil => cases hs
  | cons s0 psegs' =>
    -- the pieces after the first start with `{`
    exact hnb.1 (List.mem_of_head? (splitString_tail_heads hmap.symm s.value (List.mem_map_of_mem hs)))

theorem ambRel_of_upToNames {ic : Interceptors} {p q : Bytes} {psegs qsegs : List Seg} (hp : WfPattern p)
    (hq : WfPattern q) (hsp : split ic p = .ok psegs) (hsq : split ic q = .ok qsegs) (hu : UpToNames psegs qsegs) :
    AmbRel ic p q := by
  obtain ⟨hpe, hpl, hpok, hpt⟩ := split_segs_facts hp hsp
  obtain ⟨hqe, _, hqok, hqt⟩ := split_segs_facts hq hsq
  cases hu with
  | nil => exact ⟨[], [], [], false, [], NoBrace.nil, Nat.zero_le _, by simpa using hpe, by simpa using hqe, .nil, rfl,
      ParamSegs.nil ic, ParamSegs.nil ic⟩
  | @cons ps qs psegs' qsegs' hR hu' =>
    simp only [List.tail_cons] at hpt hqt
    have hpp' : ParamSegs ic psegs' := fun s hs => ⟨hpok s (by simp [hs]), hpt s hs⟩
    have hqq' : ParamSegs ic qsegs' := fun s hs => ⟨hqok s (by simp [hs]), hqt s hs⟩
    have hps := hpok ps (by simp)
    have hqs := hqok qs (by simp)
    by_cases hk : ps.kind = .str
    · -- a literal first segment: the same text on both sides
      have hval : ps.value = qs.value := hR.resolve_right fun h => h.1 hk
      simp only [List.map_cons, List.flatten_cons] at hpe hqe hpl
      obtain ⟨_, _, hrest⟩ := splitLoop_tail hpl
      exact ⟨ps.value, psegs', qsegs', _, _, hps.kind_str_iff.1 hk, newSegment_len hps.seg, hpe, by rw [hval]; exact hqe,
        hu', hrest, hpp', hqq'⟩
    · have hkq : qs.kind ≠ .str := by
        rcases hR with h | h
        · rw [← hps.eq_of_value hqs h]; exact hk
        · rw [← h.2.1]; exact hk
      exact ⟨[], ps :: psegs', qs :: qsegs', false, [], NoBrace.nil, Nat.zero_le _, by simpa using hpe,
        by simpa using hqe, .cons hR hu', hpl, hpp'.cons hps hk, hqq'.cons hqs hkq⟩

theorem nodesL_chain {n x : Node} (hx : x ∈ nodesL n.children) : ∃ segs, Chain n segs x := by
  apply mem_nodes_chain
  cases n
  simp only [Node.nodes, List.mem_cons]
  exact .inr hx

/-- What is left of an accepted well-formed pattern when the check descends: literal text, then parameter
segments that `Split` accepts. -/
def GoodRest (ic : Interceptors) (P : Bytes) : Prop :=
  ∃ (lit : Bytes) (psegs : List Seg) (flag : Bool) (names : List Bytes),
    NoBrace lit ∧ lit.length ≤ maxInt16 ∧ P = lit ++ (psegs.map (·.value)).flatten ∧
    splitLoop ic (psegs.map (·.value)) flag names = .ok psegs ∧ ParamSegs ic psegs

theorem GoodRest.split_first {ic : Interceptors} {P : Bytes} (hg : GoodRest ic P) (hP : P ≠ []) :
    ∃ s0 segs, split ic P = .ok (s0 :: segs) ∧ SegOk ic s0 := by
  obtain ⟨lit, psegs, flag, names, hlit, hlen, hPe, hsl, hpp⟩ := hg
  by_cases hl : lit = []
  · subst hl
    simp only [List.nil_append] at hPe
    cases psegs with
    | nil => exact absurd (by simpa using hPe) hP
    | cons ps psegs' =>
      exact ⟨ps, psegs', hPe ▸ hpp.split (by simp) hsl, (hpp ps (by simp)).1⟩
  · -- the literal text is the first piece
    have hrest := splitLoop_mono ic _ flag false names [] psegs hsl (fun h => by cases h) (fun x hx => by cases hx)
    have hsl2 : splitLoop ic (lit :: psegs.map (·.value)) false [] = .ok ({ value := lit } :: psegs) :=
      splitLoop_lit false hlit hl hlen (by rw [decide_eq_false (hlit.last_ne hl)]; exact hrest)
    have hcanon : Canon (lit :: psegs.map (·.value)) := by
      have hc := hpp.canon
      refine ⟨fun x hx => (List.mem_cons.1 hx).elim (fun e => e ▸ .inl hlit) (hc.wf x),
        fun x hx => (List.mem_cons.1 hx).elim (fun e => e ▸ hl) (hc.ne x), fun x hx => ?_⟩
      simp only [List.tail_cons] at hx
      obtain ⟨s, hs, rfl⟩ := List.mem_map.1 hx
      obtain ⟨hok, hk⟩ := hpp s hs
      obtain ⟨b, suf, hv, _⟩ := hok.tok_of_kind hk
      simp [hv, tok]
    refine ⟨{ value := lit }, psegs, ?_, SegOk.lit hlit hl hlen⟩
    have := split_of_pieces hcanon (by simp) hsl2
    rw [hPe]; simpa using this

theorem GoodRest.drop_piece {ic : Interceptors} {x R : Bytes} (hg : GoodRest ic (x ++ R)) (hx : WfPiece x) :
    GoodRest ic R := by
  obtain ⟨lit, psegs, flag, names, hlit, hlen, hPe, hsl, hpp⟩ := hg
  rcases hx with hnb | ⟨b, sc, rfl, hb, hsc⟩
  · obtain ⟨lit', rfl, hR⟩ := hpp.drop_lit hnb hPe
    refine ⟨lit', psegs, flag, names, hlit.of_suffix_append, ?_, hR, hsl, hpp⟩
    simp only [List.length_append] at hlen; omega
  · obtain ⟨ps, psegs', d, rfl, rfl, hv, hd, hdl, hR⟩ := hpp.drop_tok hb hsc hlit hPe
    obtain ⟨_, _, hrest⟩ := splitLoop_tail hsl
    exact ⟨d, psegs', _, _, hd, hdl, hR, hrest, hpp.tail⟩

/-- **Every descent of the check takes a well-formed piece off the pattern**: the child's own text, the first segment's
text, or — in the `isAmbiguousPrefix` branch — the first token followed by the child's suffix. -/
theorem AmbDesc.piece {ic : Interceptors} {c : Seg} {P P' : Bytes} {has has' : Bool} (hc : SegOk ic c)
    (hg : GoodRest ic P) (hd : AmbDesc ic c P has P' has') : ∃ x, WfPiece x ∧ P = x ++ P' := by
  have first : ∀ {s0 : Seg} {segs : List Seg}, split ic P = .ok (s0 :: segs) → SegOk ic s0 ∧ s0.value <+: P := by
    intro s0 segs hs
    obtain ⟨_, _, e, hpre, _⟩ := split_ok_first hs
    cases e
    obtain ⟨s0', segs', hs', h0⟩ := hg.split_first (split_ok_iff.1 hs).1
    rw [hs] at hs'
    cases hs'
    exact ⟨h0, hpre⟩
  cases hd with
  | lit hpre =>
    obtain ⟨r, hr⟩ := hpre
    exact ⟨c.value, hc.wf, by rw [← hr, List.drop_left]⟩
  | amb _ hs _ =>
    obtain ⟨h0, r, hr⟩ := first hs
    exact ⟨_, h0.wf, by rw [← hr, List.drop_left]⟩
  | pre _ hs _ hpf =>
    obtain ⟨h0, hpre⟩ := first hs
    obtain ⟨bc, b0, d, _, _, _, _, _, h7, _, hb0, hsd⟩ :=
      renames_consumed hc h0 (renames_of_amb hc h0 (.inr hpf)) hpre
    exact ⟨tok b0 c.suffix, .inr ⟨b0, c.suffix, rfl, hb0,
      ⟨fun h => hsd.1 (List.mem_append_left _ h), fun h => hsd.2 (List.mem_append_left _ h)⟩⟩,
      by rw [← h7, List.take_append_drop]⟩

/-- **`checkAmbiguous` does not fail on a rest of an accepted well-formed pattern**, on a tree all of whose nodes
satisfy I-seg: every `Split` it calls is a `Split` of literal text followed by accepted parameter segments. -/
theorem checkAmb_good (ic : Interceptors) : (n : Node) → AllL (fun c => SegOk ic c.seg) n.children →
    (P : Bytes) → (has : Bool) → (e : Err) → GoodRest ic P → n.checkAmb ic P has ≠ .error e := by
  intro n hall P has e hg
  refine checkAmb_rule (ic := ic)
    (Q := fun n P _ r => AllL (fun c => SegOk ic c.seg) n.children → GoodRest ic P → ∀ e, r ≠ .error e)
    ?_ ?_ ?_ ?_ n P has hall hg e
  · intro n has _ _ e h; split at h <;> cases h
  · exact fun _ _ _ _ _ _ e h => nomatch h
  · intro _ P _ e hP hs _ hg
    obtain ⟨s0, segs, hsplit, _⟩ := hg.split_first hP
    rw [hsplit] at hs; cases hs
  · intro n c P has P' has' r _ hc hd ih hall hg
    have hcn := (Node.All_iff _ c).1 ((AllL_iff _ _).1 hall c hc)
    obtain ⟨x, hx, rfl⟩ := hd.piece hcn.1 hg
    exact ih hcn.2 (hg.drop_piece hx)

theorem checkAmbL_good (ic : Interceptors) : (cs : List Node) → AllL (fun c => SegOk ic c.seg) cs →
    (P : Bytes) → (has : Bool) → (e : Err) → GoodRest ic P → P ≠ [] → checkAmbL ic cs P has ≠ .error e := by
  intro cs hall P has e hg hP
  -- the loop over `cs` is the check at a node with these children
  have h := checkAmb_good ic (.mk default [] 0 [] [] cs) hall P has e hg
  rwa [Node.checkAmb_of_ne ic _ hP] at h

theorem AmbRel.goodRest {ic : Interceptors} {P Q : Bytes} (h : AmbRel ic P Q) : GoodRest ic P :=
  let ⟨lit, psegs, _, flag, names, h1, h2, h3, _, _, h4, h5, _⟩ := h
  ⟨lit, psegs, flag, names, h1, h2, h3, h4, h5⟩

theorem goodRest_of_split {ic : Interceptors} {p : Bytes} {psegs : List Seg} (hp : WfPattern p)
    (hsp : split ic p = .ok psegs) : GoodRest ic p :=
  (ambRel_of_upToNames hp hp hsp hsp (UpToNames.refl psegs)).goodRest

/-- `renames_consumed` in the `isAmbiguousPrefix` branch, where the node carries a proper prefix of the suffix (`d ≠ []`). -/
theorem ambPrefix_consumed {ic : Interceptors} {c s0 : Seg} (hc : SegOk ic c) (h0 : SegOk ic s0)
    (hp : c.isAmbiguousPrefix s0 = true) {pat : Bytes} (hpre : s0.value <+: pat) :
    ∃ bc b0 d, c.value = tok bc c.suffix ∧ s0.value = tok b0 (c.suffix ++ d) ∧ d ≠ [] ∧ bc ≠ b0 ∧
      bodyRule bc = bodyRule b0 ∧ c.kind = s0.kind ∧
      pat.take (s0.value.length - s0.suffix.length + c.suffix.length) = tok b0 c.suffix ∧
      pat.drop (s0.value.length - s0.suffix.length + c.suffix.length) = d ++ pat.drop s0.value.length := by
  have hr := renames_of_amb hc h0 (.inr hp)
  obtain ⟨bc, b0, d, h1, h2, hs, h3, h4, h5, h6, _⟩ := renames_consumed hc h0 hr hpre
  refine ⟨bc, b0, d, h1, h2, fun e => ?_, h3, h4, hr.kind, h5, h6⟩
  simp only [Seg.isAmbiguousPrefix, Bool.decide_and, Bool.and_eq_true, decide_eq_true_eq] at hp
  rw [hs, e, List.append_nil] at hp
  exact Nat.lt_irrefl _ hp.2.2.2.2.1

theorem add_error_of_rej {t : Tree} {p : Bytes} (hrej : Rej (t.root.checkAmb t.ic p false)) (h : Handler)
    (ms : List Nat) (methods : List Bytes) :
    ∃ e, t.add p h ms methods = .error e ∧ (e = .ambiguous ∨ SynErr e) := by
  rcases hrej with ⟨e, he⟩ | he
  · exact ⟨e, by simp only [Tree.add_eq, he], .inr (checkAmb_error _ _ _ _ _ he)⟩
  · exact ⟨.ambiguous, by simp only [Tree.add_eq, he, if_true], .inl rfl⟩

theorem one_route_chain {t : Tree} (hr : ReachWf t) {q : Bytes} (hq : q ∈ (tableOf t).patterns) :
    ∃ (x : Node) (segs : List Seg), Chain t.root segs x ∧ x.handlers ≠ [] ∧
      (segs.map (·.value)).flatten = q ∧ ∀ s ∈ segs, SegOk t.ic s := by
  obtain ⟨x, hx, hxq, hne⟩ := mem_tableOf_patterns.1 hq
  obtain ⟨segs, hch⟩ := nodesL_chain hx
  exact ⟨x, segs, hch, hne, (reach_chain_pattern hr hch).symm.trans hxq, reach_chain_segOk hr hch⟩

theorem live_chain_mem {t : Tree} (hr : ReachWf t) {m : Node} {segs : List Seg} (hch : Chain t.root segs m)
    (hne : segs ≠ []) (hm : m.handlers ≠ []) : (segs.map (·.value)).flatten ∈ (tableOf t).patterns :=
  mem_tableOf_patterns.2 ⟨m, chain_mem_below hch hne, reach_chain_pattern hr hch, hm⟩

theorem ambig_one_rej {t : Tree} (hr : ReachWf t) {q p : Bytes} (hone : (tableOf t).patterns = [q])
    (hp : WfPattern p) {psegs qsegs : List Seg} (hsp : split t.ic p = .ok psegs) (hsq : split t.ic q = .ok qsegs)
    (hu : UpToNames psegs qsegs) (hne : p ≠ q) : Rej (t.root.checkAmb t.ic p false) := by
  obtain ⟨x, segs, hch, hx, htext, hok⟩ := one_route_chain hr (q := q) (by rw [hone]; simp)
  have hq : WfPattern q := by
    apply (Mux.P11.wfPattern_iff_P9 q).1
    unfold Mux.WfPattern
    rw [← htext]
    exact Mux.P11.wfBraces_flatten _ (fun v hv => by
      obtain ⟨s, hs, rfl⟩ := List.mem_map.1 hv
      exact (hok s hs).wf)
  have hpne := (split_ok_iff.1 hsp).1
  have hrel : AmbRel t.ic p (segs.map (·.value)).flatten := by
    rw [htext]; exact ambRel_of_upToNames hp hq hsp hsq hu
  apply checkAmb_chain_rej hch hx hok p false hrel
  · intro _ m' segs' hch' hm' htext'
    by_cases hs : segs' = []
    · subst hs
      exact hpne (by simpa using htext'.symm)
    · have := live_chain_mem hr hch' hs hm'
      rw [hone, htext', List.mem_singleton] at this
      exact hne this

/-- **One other route, after any history.** `t` is the tree of a history of `Handle`/`Remove`/`Clean`/`Use` with
well-formed patterns; its table holds exactly one pattern `q`. `p ≠ q` is an accepted well-formed pattern whose
segments are, one by one, the same text as `q`'s or a name variant (`UpToNames`). Then `Handle p` is refused as
`ambiguous`: the check finds its way down the chain to `q` (`checkAmb_chain_rej`), and it cannot fail on the way,
because every `Split` it calls — also while a handler-less sibling left behind by a `Remove` is tried — is a
`Split` of a rest of the accepted pattern `p` (`checkAmb_good`). -/
theorem ambig_one_history {t : Tree} (hr : ReachWf t) {q p : Bytes} (hone : (tableOf t).patterns = [q])
    (hp : WfPattern p) {psegs qsegs : List Seg} (hsp : split t.ic p = .ok psegs) (hsq : split t.ic q = .ok qsegs)
    (hu : UpToNames psegs qsegs) (hne : p ≠ q) (h : Handler) (ms : List Nat) (methods : List Bytes) :
    t.add p h ms methods = .error .ambiguous := by
  rcases ambig_one_rej hr hone hp hsp hsq hu hne with ⟨e, he⟩ | he
  · exact absurd he (checkAmb_good t.ic t.root (reach_segOk hr) p false e (goodRest_of_split hp hsp))
  · simp only [Tree.add_eq, he, if_true]

/-- **One other route.** `t1` is the empty tree after ONE successful `add` of the well-formed pattern
`q`; `p ≠ q` is an accepted well-formed pattern whose segments are, one by one, the same text as `q`'s
or a name variant of it (same kind, rule, suffix, endpoint; other name or `-` flag).  Then adding `p`
to `t1` is refused as `ambiguous`. -/
theorem ambig_one (name : Bytes) (ic : Interceptors) (nf : Handler) (tr : Option Handler) (ob nb : Base)
    {q p : Bytes} {h : Handler} {ms : List Nat} {methods : List Bytes} {t1 : Tree}
    (hq : WfPattern q) (hp : WfPattern p)
    (he : (Tree.new name ic nf tr ob nb).add q h ms methods = .ok t1)
    {psegs qsegs : List Seg} (hsp : split ic p = .ok psegs) (hsq : split ic q = .ok qsegs)
    (hu : UpToNames psegs qsegs) (hne : p ≠ q) (h' : Handler) (ms' : List Nat) (methods' : List Bytes) :
    t1.add p h' ms' methods' = .error .ambiguous := by
  -- `t1` is the tree of the history `[add q]`, and the table of that history is `[q]`
  have hw : ∀ op ∈ [TOp.add q h ms methods], op.wf = true := by
    simpa [TOp.wf] using (Mux.P11.wfPattern_iff_P9 q).2 hq
  have hsim := Mux.P11.sim_history name ic nf tr ob nb _ hw
  have hrun : (Tree.new name ic nf tr ob nb).run [.add q h ms methods] = t1 := by simp [Tree.run, Tree.step, he]
  have hspec : specRun (Tree.new name ic nf tr ob nb) [.add q h ms methods] = Spec.add [] q methods := by
    simp [specRun, specRunFrom, Spec.stepWith, he]
  rw [hrun, hspec] at hsim
  have hok := (Mux.P11.tableOf_ok hsim.inv).1
  have hone : (tableOf t1).patterns = [q] :=
    List.perm_singleton.1 ((List.perm_ext_iff_of_nodup hok.nodup (List.pairwise_singleton _ q)).2 fun x => by
      rw [hsim.patterns x]
      simp [Spec.add, Spec.Table.patterns])
  have hic : t1.ic = ic := hrun ▸ (sameCfg_run (Tree.new name ic nf tr ob nb) _).2.2.1
  exact ambig_one_history ⟨name, ic, nf, tr, ob, nb, _, fun op hop => Mux.P14.wf_patOk.1 (hw op hop), hrun.symm⟩ hone hp
    (hic ▸ hsp) (hic ▸ hsq) hu hne h' ms' methods'

end Mux.P9
