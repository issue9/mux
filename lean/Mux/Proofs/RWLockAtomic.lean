/-
  Mux.Proofs.RWLockAtomic — linearizability under the lock discipline (`atomic_reachable`): the writer order
  `wlog` explains the shared state, every published response and the real-time order of the completed
  operations. One step keeps `AtomicInv` (`atomic_step`, by what the step is) on top of the exclusion invariant
  of RWLockDrf: while a thread is inside after its linearization point nobody else takes effect (`PhaseOK`, with
  `PhaseOK.grow` for the threads outside when a writer commits). The real-time clause compares stamps and is
  stepped by `Step.calls` (`rt_step`).
-/
import Mux.Proofs.RWLockDrf
namespace Mux.RWLock
variable {S : Sys}

def Config.doneW (c : Config S) : List S.Op := (c.done.filter (fun r => S.mode r.call.op)).map (·.call.op)

/-- What is known about a completed operation, relative to the writer order `wlog`. -/
structure RecOK (s0 : S.σ) (wlog : List S.Op) (now : Nat) (r : Rec S) : Prop where
  start_le : r.call.start ≤ r.lin
  lin_le : r.lin ≤ r.fin
  fin_le : r.fin ≤ wlog.length
  resp_eq : r.resp = (S.sem r.call.op (run S s0 (wlog.take r.lin))).2
  writer : S.mode r.call.op = true → wlog[r.lin]? = some r.call.op ∧ r.fin = r.lin + 1
  reader : S.mode r.call.op = false → r.fin = r.lin
  time : r.call.tStart < r.tEnd ∧ r.tEnd < now

/-- What is known about an operation in flight. -/
def PhaseOK (s0 : S.σ) (wlog : List S.Op) (now : Nat) : Phase S → Prop
  | .idle => True
  | .waiting v => v.start ≤ wlog.length ∧ v.tStart < now
  | .inside v _ none => v.start ≤ wlog.length ∧ v.tStart < now
  | .inside v _ (some (r, k)) => v.start ≤ k ∧ v.tStart < now ∧
      r = (S.sem v.op (run S s0 (wlog.take k))).2 ∧
      (S.mode v.op = true → k + 1 = wlog.length ∧ wlog[k]? = some v.op) ∧
      (S.mode v.op = false → k = wlog.length)

/-- Acquisition order = effect order = return order for writers, up to the one writer inside. -/
def LogInv (c : Config S) : Prop :=
  match c.lock with
  | .writer i => ∀ v todo lp, (c.thr i).ph = .inside v todo lp →
      match lp with
      | none => c.wacq = c.wlog ++ [v.op] ∧ c.wlog = c.doneW
      | some _ => c.wacq = c.wlog ∧ c.wlog = c.doneW ++ [v.op]
  | _ => c.wacq = c.wlog ∧ c.wlog = c.doneW

/-- Real time: an operation that returned before another one was invoked has all its effects
counted in the other's start stamp. -/
def RTInv (c : Config S) : Prop :=
  ∀ A ∈ c.done, (∀ B ∈ c.done, A.tEnd ≤ B.call.tStart → A.fin ≤ B.call.start) ∧
    ∀ j v, (c.thr j).ph.call? = some v → A.tEnd ≤ v.tStart → A.fin ≤ v.start

structure AtomicInv (s0 : S.σ) (c : Config S) : Prop where
  lock : LockInv c
  state : c.st = run S s0 c.wlog
  log : LogInv c
  phase : ∀ j, PhaseOK s0 c.wlog c.now (c.thr j).ph
  recs : ∀ r ∈ c.done, RecOK s0 c.wlog c.now r
  rt : RTInv c
  /-- the `k`-th completed writer is linearized at position `k` of the writer order -/
  lins : (c.done.filter (fun r => S.mode r.call.op)).map (·.lin) = List.range c.doneW.length

section
variable {s0 : S.σ} {progs : Nat → List S.Op} {c c' : Config S} {w : List S.Op} {n n' : Nat}

theorem RecOK.mono {r : Rec S} (h : RecOK s0 w n r)
    (x : List S.Op) (hn : n ≤ n') : RecOK s0 (w ++ x) n' r := by
  have hlen : w.length ≤ (w ++ x).length := by rw [List.length_append]; exact Nat.le_add_right _ _
  refine ⟨h.start_le, h.lin_le, Nat.le_trans h.fin_le hlen, ?_, fun hm => ?_, h.reader,
    h.time.1, Nat.lt_of_lt_of_le h.time.2 hn⟩
  · rw [List.take_append_of_le_length (Nat.le_trans h.lin_le h.fin_le)]; exact h.resp_eq
  · obtain ⟨ha, hb⟩ := h.writer hm
    refine ⟨?_, hb⟩
    have hlt : r.lin < r.fin := hb ▸ Nat.lt_succ_self _
    rw [List.getElem?_append_left (Nat.lt_of_lt_of_le hlt h.fin_le)]; exact ha

theorem RecOK.mono_now {r : Rec S} (h : RecOK s0 w n r)
    (hn : n ≤ n') : RecOK s0 w n' r := by
  rw [← List.append_nil w]; exact h.mono [] hn

theorem PhaseOK.mono_now {ph : Phase S} (h : PhaseOK s0 w n ph)
    (hn : n ≤ n') : PhaseOK s0 w n' ph := by
  match ph, h with
  | .idle, _ => trivial
  | .waiting v, h => exact ⟨h.1, Nat.lt_of_lt_of_le h.2 hn⟩
  | .inside v _ none, h => exact ⟨h.1, Nat.lt_of_lt_of_le h.2 hn⟩
  | .inside v _ (some (r, k)), h => exact ⟨h.1, Nat.lt_of_lt_of_le h.2.1 hn, h.2.2⟩

theorem PhaseOK.grow {ph : Phase S} (h : PhaseOK s0 w n ph)
    (hh : ph.held = none) (x : List S.Op) (hn : n ≤ n') : PhaseOK s0 (w ++ x) n' ph := by
  match ph, h, hh with
  | .idle, _, _ => trivial
  | .waiting v, h, _ =>
    exact ⟨Nat.le_trans h.1 (by rw [List.length_append]; exact Nat.le_add_right _ _), Nat.lt_of_lt_of_le h.2 hn⟩

theorem PhaseOK.todo {v : Call S} {todo : List (S.Loc × Bool)}
    {lp : Option (S.Resp × Nat)} (h : PhaseOK s0 w n (.inside v todo lp)) (todo' : List (S.Loc × Bool)) :
    PhaseOK s0 w n (.inside v todo' lp) := by
  match lp, h with
  | none, h => exact h
  | some (_, _), h => exact h

theorem PhaseOK.tStart_lt {ph : Phase S} (h : PhaseOK s0 w n ph)
    {v : Call S} (hv : ph.call? = some v) : v.tStart < n := by
  match ph, h, hv with
  | .waiting v, h, hv => injection hv with hv; subst hv; exact h.2
  | .inside v _ none, h, hv => injection hv with hv; subst hv; exact h.2
  | .inside v _ (some (r, k)), h, hv => injection hv with hv; subst hv; exact h.2.1

theorem PhaseOK.returns {v : Call S} {todo : List (S.Loc × Bool)} {r : S.Resp} {k : Nat}
    (h : PhaseOK s0 w n (.inside v todo (some (r, k)))) (i : Nat) : RecOK s0 w (n + 1) ⟨i, v, r, k, w.length, n⟩ := by
  obtain ⟨h1, h2, h3, h4, h5⟩ := h
  have hk : k ≤ w.length := by
    cases hm : S.mode v.op
    · exact Nat.le_of_eq (h5 hm)
    · exact (h4 hm).1 ▸ Nat.le_succ k
  exact ⟨h1, hk, Nat.le_refl _, h3, fun hm => ⟨(h4 hm).2, (h4 hm).1.symm⟩, fun hm => (h5 hm).symm, h2,
    Nat.lt_succ_self _⟩

theorem Lock.ne_writer_of_canAcq {l : Lock} {m : Bool} (en : l.canAcq m = true) (k : Nat) : l ≠ .writer k := by
  intro h; subst h; cases m <;> cases en

theorem Lock.rel_ne_writer (l : Lock) (m : Bool) (k : Nat) : l.rel m ≠ .writer k := by
  unfold Lock.rel; split <;> exact Lock.noConfusion

/-- While the lock is not write-held the three writer orders coincide. -/
theorem LogInv.quiet_iff (hl : ∀ i, c.lock ≠ .writer i) : LogInv c ↔ c.wacq = c.wlog ∧ c.wlog = c.doneW := by
  unfold LogInv
  cases hc : c.lock with
  | writer i => exact absurd hc (hl i)
  | free => exact .rfl
  | readers n => exact .rfl

/-- While thread `i` holds the lock for writing they differ by its operation, before resp. after it takes effect. -/
theorem LogInv.writer_iff {i : Nat} (hl : c.lock = .writer i) {v : Call S}
    {todo : List (S.Loc × Bool)} {lp : Option (S.Resp × Nat)} (hp : (c.thr i).ph = .inside v todo lp) :
    LogInv c ↔ match (generalizing := false) lp with
      | none => c.wacq = c.wlog ++ [v.op] ∧ c.wlog = c.doneW
      | some _ => c.wacq = c.wlog ∧ c.wlog = c.doneW ++ [v.op] := by
  unfold LogInv; rw [hl]
  refine ⟨fun h => h v todo lp hp, fun h v' todo' lp' hp' => ?_⟩
  rw [hp] at hp'; injection hp' with e1 e2 e3; subst e1 e3; exact h

/-- The frame rule for `LogInv`: a step that leaves lock, logs and completed operations alone keeps it if the thread that
moves is inside afterwards only if it was before, in the same call and on the same side of its linearization point. -/
theorem LogInv.frame (h : LogInv c) {i : Nat} {t : Thread S} {n : Nat}
    (ht : ∀ v todo lp, t.ph = .inside v todo lp → ∃ todo', (c.thr i).ph = .inside v todo' lp) :
    LogInv { c with thr := upd c.thr i t, now := n } := by
  have hp : ∀ j v todo lp, (upd c.thr i t j).ph = .inside v todo lp → ∃ todo', (c.thr j).ph = .inside v todo' lp :=
    forall_upd (P := fun j (t : Thread S) => ∀ v todo lp,
      t.ph = .inside v todo lp → ∃ todo', (c.thr j).ph = .inside v todo' lp) ht fun j v todo lp e => ⟨todo, e⟩
  revert h; unfold LogInv; dsimp only
  cases c.lock with
  | writer k => exact fun h v todo lp e => (hp k v todo lp e).elim fun todo' e' => h v todo' lp e'
  | free => exact id
  | readers m => exact id

theorem doneW_reader {r : Rec S} (h : c'.done = c.done ++ [r]) (hm : S.mode r.call.op = false) :
    c'.doneW = c.doneW := by
  unfold Config.doneW; rw [h, filter_concat_neg (p := fun r : Rec S => S.mode r.call.op) _ hm]

theorem doneW_writer {r : Rec S} (h : c'.done = c.done ++ [r]) (hm : S.mode r.call.op = true) :
    c'.doneW = c.doneW ++ [r.call.op] := by
  unfold Config.doneW; rw [h, filter_concat_pos (p := fun r : Rec S => S.mode r.call.op) _ hm, List.map_append]; rfl

theorem rt_step
    (hP : ∀ j, PhaseOK s0 c.wlog c.now (c.thr j).ph)
    (hR : ∀ r ∈ c.done, RecOK s0 c.wlog c.now r) (hT : RTInv c) (hs : Step c c') : RTInv c' := by
  unfold RTInv
  rcases hs.calls with ⟨hd, hcall⟩ | ⟨i, v, r, k, hv, hd, hcall⟩
  · -- a call invoked now is stamped with the present length of the writer order
    rw [hd]
    refine fun A hA => ⟨(hT A hA).1, fun j v hv hle => ?_⟩
    rcases hcall j v hv with h | h
    · exact (hT A hA).2 j v h hle
    · rw [h.1]; exact (hR A hA).fin_le
  · have hlt : ∀ {x : Nat}, x < c.now → ¬ c.now ≤ x := fun h h' => Nat.lt_irrefl _ (Nat.lt_of_lt_of_le h h')
    rw [hd]
    simp only [List.forall_mem_append, List.forall_mem_singleton]
    -- the new record ends now: nothing in flight or completed started later
    exact ⟨fun A hA => ⟨⟨(hT A hA).1, (hT A hA).2 i v hv⟩, fun j v' hv' => (hT A hA).2 j v' (hcall j v' hv').2⟩,
      ⟨fun B hB hle => absurd hle (hlt (Nat.lt_trans (hR B hB).time.1 (hR B hB).time.2)),
        fun hle => absurd hle (hlt ((hP i).tStart_lt hv))⟩,
      fun j v' hv' hle => absurd hle (hlt ((hP j).tStart_lt (hcall j v' hv').2))⟩

/-- One step keeps `AtomicInv`, given the two clauses that have a lemma of their own (`lockInv_reachable`,
`rt_step`; they come last so that the split on the mode rewrites them with the goal). By what the step is: what
is known of the thread that moves — its mode, who holds the lock then, what the logs look like — is found once
for all clauses. Only a writer's `commit` lets the writer order grow, and then nobody else is inside. -/
theorem atomic_step (h : AtomicInv s0 c) (hs : Step c c') : LockInv c' → RTInv c' → AtomicInv s0 c' := by
  -- the threads that do not move and the completed operations, as long as the writer order does not grow
  have others : ∀ j, PhaseOK s0 c.wlog (c.now + 1) (c.thr j).ph := fun j => (h.phase j).mono_now (Nat.le_succ _)
  have frame : ∀ {i : Nat} {t : Thread S}, PhaseOK s0 c.wlog (c.now + 1) t.ph →
      ∀ j, PhaseOK s0 c.wlog (c.now + 1) (upd c.thr i t j).ph :=
    fun ht => forall_upd (P := fun _ (t : Thread S) => PhaseOK s0 c.wlog (c.now + 1) t.ph) ht others
  have recs : ∀ r ∈ c.done, RecOK s0 c.wlog (c.now + 1) r := fun r hr => (h.recs r hr).mono_now (Nat.le_succ _)
  cases hs with
  | invoke i op rest hi =>
    exact fun hlock hrt =>
      { lock := hlock, rt := hrt, state := h.state, recs := recs, lins := h.lins
        phase := frame ⟨Nat.le_refl _, Nat.lt_succ_self _⟩
        log := h.log.frame fun _ _ _ e => nomatch e }
  | access i p v a todo lp hi =>
    exact fun hlock hrt =>
      { lock := hlock, rt := hrt, state := h.state, recs := recs, lins := h.lins
        phase := frame ((hi ▸ others i :).todo todo)
        log := h.log.frame fun _ _ _ e => by
          injection e with e1 e2 e3; subst e1 e2 e3; exact ⟨a :: todo, by rw [hi]⟩ }
  | acquire i p v hi en =>
    intro hlock hrt
    refine { lock := hlock, rt := hrt, state := h.state, recs := recs, lins := h.lins
             phase := frame (hi ▸ others i :), log := ?_ }
    -- the lock was not write-held; whether it is now is read off `LockInv` after the step, where thread `i` is inside
    have hq := (LogInv.quiet_iff (Lock.ne_writer_of_canAcq en)).1 h.log
    cases hm : S.mode v.op with
    | false => rw [hm] at hlock; exact Iff.mpr (LogInv.quiet_iff (hlock.of_reader (upd_same ..) hm)) hq
    | true =>
      rw [hm] at hlock
      exact Iff.mpr (LogInv.writer_iff (hlock.of_writer (upd_same ..) hm).1 (congrArg Thread.ph (upd_same ..)))
        ⟨congrArg (· ++ [v.op]) hq.1, hq.2⟩
  | commit i p v todo hi =>
    have hPi := others i
    rw [hi] at hPi
    cases hm : S.mode v.op with
    | false =>
      -- a reader takes effect: state, writer order and lock stay
      have hq := h.lock.of_reader hi hm
      exact fun hlock hrt =>
        { lock := hlock, rt := hrt, recs := recs, lins := h.lins
          state := (S.reader_pure v.op _ hm).trans h.state
          log := Iff.mpr (LogInv.quiet_iff hq) ((LogInv.quiet_iff hq).1 h.log)
          phase := frame ⟨hPi.1, hPi.2, by rw [List.take_length, h.state],
            fun e => absurd (hm.symm.trans e) Bool.false_ne_true, fun _ => rfl⟩ }
    | true =>
      -- a writer takes effect: it holds the lock, so the threads that do not move are outside
      obtain ⟨hl, hout⟩ := h.lock.of_writer hi hm
      obtain ⟨h1, h2⟩ := (LogInv.writer_iff hl (congrArg Thread.ph hi)).1 h.log
      exact fun hlock hrt =>
        { lock := hlock, rt := hrt, lins := h.lins
          state := (congrArg (fun s => (S.sem v.op s).1) h.state).trans (run_append S s0 c.wlog [v.op]).symm
          log := Iff.mpr (LogInv.writer_iff (by exact hl) (congrArg Thread.ph (upd_same ..))) ⟨h1, congrArg (· ++ [v.op]) h2⟩
          phase := forall_upd_ne (P := fun _ (t : Thread S) => PhaseOK s0 (c.wlog ++ [v.op]) (c.now + 1) t.ph)
            ⟨hPi.1, hPi.2, by rw [List.take_left, h.state],
              fun _ => ⟨(List.length_append (bs := [v.op])).symm, List.getElem?_concat_length⟩,
              fun e => absurd (e.symm.trans hm) Bool.false_ne_true⟩
            fun j hj => (h.phase j).grow (hout j hj) _ (Nat.le_succ _)
          recs := fun r hr => (h.recs r hr).mono _ (Nat.le_succ _) }
  | release i p v r k hi =>
    have hPi := h.phase i
    rw [hi] at hPi
    have recs' : ∀ x ∈ c.done ++ [⟨i, v, r, k, c.wlog.length, c.now⟩], RecOK s0 c.wlog (c.now + 1) x :=
      List.forall_mem_append.2 ⟨recs, List.forall_mem_singleton.2 (hPi.returns i)⟩
    cases hm : S.mode v.op with
    | false =>
      -- a reader returns: the completed writers stay
      exact fun hlock hrt =>
        { lock := hlock, rt := hrt, state := h.state, phase := frame trivial, recs := recs'
          log := Iff.mpr (LogInv.quiet_iff (Lock.rel_ne_writer _ _)) (by
            rw [doneW_reader (c := c) rfl hm]; exact (LogInv.quiet_iff (h.lock.of_reader hi hm)).1 h.log)
          lins := by
            rw [doneW_reader (c := c) rfl hm, ← h.lins]
            exact congrArg _ (filter_concat_neg (p := fun r : Rec S => S.mode r.call.op) _ hm) }
    | true =>
      -- the writer returns: it was linearized at the end of the order, which is now the completed writers
      obtain ⟨hl, _⟩ := h.lock.of_writer hi hm
      obtain ⟨ha, hw⟩ := (LogInv.writer_iff hl (congrArg Thread.ph hi)).1 h.log
      have hk : k = c.doneW.length := by
        have h6 : k + 1 = c.wlog.length := (hPi.2.2.2.1 hm).1
        rw [hw, List.length_append] at h6; exact Nat.succ.inj h6
      exact fun hlock hrt =>
        { lock := hlock, rt := hrt, state := h.state, phase := frame trivial, recs := recs'
          log := Iff.mpr (LogInv.quiet_iff (Lock.rel_ne_writer _ _)) (by rw [doneW_writer (c := c) rfl hm]; exact ⟨ha, hw⟩)
          lins := by
            rw [doneW_writer (c := c) rfl hm, List.length_append, List.length_singleton, List.range_succ, ← h.lins, hk]
            exact (congrArg _ (filter_concat_pos (p := fun r : Rec S => S.mode r.call.op) _ hm)).trans
              (List.map_append ..) }

theorem atomicInv_init (s0 : S.σ) (progs : Nat → List S.Op) : AtomicInv s0 (Config.init s0 progs) where
  lock := lockInv_reachable .init
  state := rfl
  log := ⟨rfl, rfl⟩
  phase := fun _ => trivial
  recs := fun _ h => nomatch h
  rt := fun _ h => nomatch h
  lins := rfl

theorem atomic_reachable
    (h : Reachable s0 progs c) : AtomicInv s0 c := by
  induction h with
  | init => exact atomicInv_init s0 progs
  | step hc hs ih => exact atomic_step ih hs (lockInv_reachable (hc.step hs)) (rt_step ih.phase ih.recs ih.rt hs)

end

/-- The writer order: at most the one writer that is inside separates acquisition order, effect
order and return order. In particular, whenever the lock is not write-held, the writer order is
exactly the list of COMPLETED writer operations. -/
theorem AtomicInv.writers {s0 : S.σ} {c : Config S} (h : AtomicInv s0 c) :
    (c.wacq = c.wlog ∨ ∃ op, c.wacq = c.wlog ++ [op]) ∧ (c.wlog = c.doneW ∨ ∃ op, c.wlog = c.doneW ++ [op]) ∧
    ((∀ i, c.lock ≠ .writer i) → c.wacq = c.wlog ∧ c.wlog = c.doneW) := by
  cases hl : c.lock with
  | free | readers n =>
    have := (LogInv.quiet_iff (by rw [hl]; exact fun _ => Lock.noConfusion)).1 h.log
    exact ⟨.inl this.1, .inl this.2, fun _ => this⟩
  | writer i =>
    have hK := h.lock.lockOK
    rw [hl] at hK
    obtain ⟨v, todo, lp, hp, _⟩ := Phase.inside_of_held hK.1
    have := (LogInv.writer_iff hl hp).1 h.log
    cases lp with
    | none => exact ⟨.inr ⟨_, this.1⟩, .inl this.2, fun hq => absurd rfl (hq i)⟩
    | some x => exact ⟨.inl this.1, .inr ⟨_, this.2⟩, fun hq => absurd rfl (hq i)⟩

/-- **Real-time order.** If `A` returned before `B` was invoked, `A` is linearized no later than
`B`, and strictly earlier if `A` is a writer (so `B` sees `A`'s effect). -/
theorem AtomicInv.realtime {s0 : S.σ} {c : Config S} (h : AtomicInv s0 c) {A B : Rec S}
    (hA : A ∈ c.done) (hB : B ∈ c.done) (hle : A.tEnd ≤ B.call.tStart) :
    A.lin ≤ B.lin ∧ (S.mode A.call.op = true → A.lin < B.lin) := by
  have h1 : A.fin ≤ B.lin := Nat.le_trans ((h.rt A hA).1 B hB hle) (h.recs B hB).start_le
  exact ⟨Nat.le_trans (h.recs A hA).lin_le h1, fun hm => (((h.recs A hA).writer hm).2 ▸ h1 : A.lin + 1 ≤ B.lin)⟩

end Mux.RWLock
