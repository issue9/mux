/-
  For C02: the order in which `matchChildren` tries the children, with no hypothesis on the tree.  When the miss of a
  child hands the parameters back (`ScanQuiet`) the first child that hits wins (`matchFrom_first_hit`; with the node itself
  after the scan: `P8.scan_hit_iff`, `P8.scan_miss_iff`); under hypotheses on the index (`IndexOk`) the index fast path
  returns what that linear scan returns (`indexedSearch_eq_scan`, `P8.matchChildren_eq_scan_idx`).
-/
import Mux.Proofs.MatchSound
namespace Mux

/-- One step of the scan: a result other than a miss is final. -/
def stepMR (env : Env) (ic : Interceptors) (path : Bytes) (acc : MR) (c : Node) : MR :=
  match acc with
  | .miss ps => tryChild env ic c path ps
  | r => r

theorem foldl_stepMR (env : Env) (ic : Interceptors) (path : Bytes) (cs : List Node) (r : MR) :
    cs.foldl (stepMR env ic path) r = r.onMiss fun ps => cs.foldl (stepMR env ic path) (.miss ps) := by
  cases r with
  | miss ps => rfl
  | _ =>
    induction cs with
    | nil => rfl
    | cons c cs ih => exact ih

theorem matchFrom_eq_foldl (env : Env) (ic : Interceptors) (cs : List Node) (path : Bytes) (ps : Params) :
    matchFrom env ic cs 0 path ps = cs.foldl (stepMR env ic path) (.miss ps) := by
  induction cs generalizing ps with
  | nil => rw [matchFrom_nil]; rfl
  | cons c cs ih =>
    rw [matchFrom_zero, List.foldl_cons, foldl_stepMR]
    exact congrArg (MR.onMiss _) (funext ih)

theorem matchFrom_append (env : Env) (ic : Interceptors) (pre rest : List Node) (path : Bytes) (ps : Params) :
    matchFrom env ic (pre ++ rest) 0 path ps =
      (matchFrom env ic pre 0 path ps).onMiss fun ps' => matchFrom env ic rest 0 path ps' := by
  induction pre generalizing ps with
  | nil => rw [matchFrom_nil]; rfl
  | cons c pre ih =>
    rw [List.cons_append, matchFrom_zero, matchFrom_zero]
    cases tryChild env ic c path ps with
    | miss ps1 => exact ih ps1
    | _ => rfl

theorem matchFrom_hit_iff (env : Env) (ic : Interceptors) (cs : List Node) (path : Bytes) (ps : Params) (m : Node) (ps' : Params) :
    matchFrom env ic cs 0 path ps = .hit m ps' ↔
      ∃ pre c post ps0, cs = pre ++ c :: post ∧ matchFrom env ic pre 0 path ps = .miss ps0 ∧
        tryChild env ic c path ps0 = .hit m ps' := by
  constructor
  · induction cs generalizing ps with
    | nil => rw [matchFrom_nil]; nofun
    | cons d cs ih =>
      rw [matchFrom_zero, MR.onMiss_eq_hit]
      rintro (ht | ⟨ps1, ht, h⟩)
      · exact ⟨[], d, cs, ps, rfl, matchFrom_nil .., ht⟩
      · obtain ⟨pre, c, post, ps0, e, h1, h2⟩ := ih ps1 h
        exact ⟨d :: pre, c, post, ps0, by rw [e]; rfl, by rw [matchFrom_zero, ht]; exact h1, h2⟩
  · rintro ⟨pre, c, post, ps0, rfl, h1, h2⟩
    rw [matchFrom_append, h1, MR.onMiss_miss, matchFrom_zero, h2, MR.onMiss_hit]

/-- On the siblings `cs` a miss of a child hands the parameters `ps` back: all that the scan needs of the parameters
(for any `Tracking`, `Tracking.quiet`). -/
def ScanQuiet (env : Env) (ic : Interceptors) (cs : List Node) (path : Bytes) (ps : Params) : Prop :=
  ∀ c ∈ cs, ∀ ps', tryChild env ic c path ps = .miss ps' → ps' = ps

theorem Tracking.quiet {TN : Node → Params → Prop} {TL : List Node → Params → Prop} (T : Tracking TN TL) {env : Env}
    {ic : Interceptors} {cs : List Node} {path : Bytes} {ps : Params} (ht : TL cs ps) : ScanQuiet env ic cs path ps :=
  fun _ hc _ h => T.tryChild_miss hc ht h

/-- "Child `i` is the first one that does not miss, and it hits `m`". -/
def P8.FirstHit (env : Env) (ic : Interceptors) (cs : List Node) (path : Bytes) (ps : Params) (m : Node) (ps' : Params) : Prop :=
  ∃ (i : Nat) (c : Node), cs[i]? = some c ∧ tryChild env ic c path ps = .hit m ps' ∧
    ∀ j < i, ∀ c' : Node, cs[j]? = some c' → tryChild env ic c' path ps = .miss ps

/-- "Every child misses". -/
def P8.AllMiss (env : Env) (ic : Interceptors) (cs : List Node) (path : Bytes) (ps : Params) : Prop :=
  ∀ c ∈ cs, tryChild env ic c path ps = .miss ps

theorem matchFrom_allMiss {env : Env} {ic : Interceptors} {cs : List Node} {path : Bytes} {ps : Params}
    (h : P8.AllMiss env ic cs path ps) : matchFrom env ic cs 0 path ps = .miss ps := by
  induction cs with
  | nil => exact matchFrom_nil ..
  | cons c cs ih =>
    rw [matchFrom_zero, h c List.mem_cons_self]
    exact ih fun d hd => h d (List.mem_cons_of_mem _ hd)

theorem matchFrom_miss_iff {env : Env} {ic : Interceptors} {cs : List Node} {path : Bytes} {ps : Params}
    (hq : ScanQuiet env ic cs path ps) (ps' : Params) :
    matchFrom env ic cs 0 path ps = .miss ps' ↔ ps' = ps ∧ P8.AllMiss env ic cs path ps := by
  refine ⟨fun h => ?_, fun ⟨e, hall⟩ => e.symm ▸ matchFrom_allMiss hall⟩
  -- either every child misses, or the scan ends at the first one that does not, and not with a miss
  rcases List.forall_or_first_not (fun c => tryChild env ic c path ps = .miss ps) cs with
    hall | ⟨pre, x, post, rfl, hpre, hx⟩
  · rw [matchFrom_allMiss hall] at h
    cases h
    exact ⟨rfl, hall⟩
  · rw [matchFrom_append, matchFrom_allMiss hpre, MR.onMiss_miss, matchFrom_zero, MR.onMiss_eq_miss] at h
    obtain ⟨ps1, hx', _⟩ := h
    exact absurd (hq x (List.mem_append_right _ List.mem_cons_self) ps1 hx' ▸ hx') hx

/-- **First hit wins**: `matchFrom_hit_iff`, where the children before the hit miss as `matchFrom_miss_iff` says. -/
theorem matchFrom_first_hit {env : Env} {ic : Interceptors} {cs : List Node} {path : Bytes} {ps : Params}
    (hq : ScanQuiet env ic cs path ps) (m : Node) (ps' : Params) :
    matchFrom env ic cs 0 path ps = .hit m ps' ↔ P8.FirstHit env ic cs path ps m ps' := by
  rw [matchFrom_hit_iff]
  constructor
  · rintro ⟨pre, c, post, ps0, rfl, h1, h2⟩
    obtain ⟨rfl, hall⟩ := (matchFrom_miss_iff (fun d hd => hq d (List.mem_append_left _ hd)) ps0).1 h1
    refine ⟨pre.length, c, by simp, h2, fun j hj c' hc' => hall c' ?_⟩
    rw [List.getElem?_append_left hj] at hc'
    exact List.mem_of_getElem? hc'
  · rintro ⟨i, c, hi, h2, h3⟩
    obtain ⟨hlt, rfl⟩ := List.getElem?_eq_some_iff.1 hi
    refine ⟨cs.take i, cs[i], cs.drop (i + 1), ps, by simp, ?_, h2⟩
    refine matchFrom_allMiss fun c' hc' => ?_
    obtain ⟨j, hj⟩ := List.getElem?_of_mem hc'
    have hji : j < i := Nat.lt_of_lt_of_le (List.getElem?_eq_some_iff.1 hj).1 (List.length_take_le i cs)
    rw [List.getElem?_take_of_lt hji] at hj
    exact h3 j hji c' hj

namespace P8

theorem tryChild_hit_iff (env : Env) (ic : Interceptors) (c : Node) (path : Bytes) (ps : Params) (m : Node) (ps' : Params) :
    tryChild env ic c path ps = .hit m ps' ↔
      ∃ cap rest, c.seg.match env ic path = .yes cap rest ∧
        c.matchChildren env ic rest (c.seg.record cap ps) = .hit m ps' := by
  rw [tryChild_eq]
  cases hm : c.seg.match env ic path with
  | no => simp
  | unsupported => simp
  | yes cap rest =>
    refine ⟨fun h => ⟨cap, rest, rfl, ?_⟩, ?_⟩
    · exact (MR.onMiss_eq_hit.1 h).resolve_right fun ⟨_, _, e⟩ => nomatch e
    · rintro ⟨_, _, ⟨⟩, h⟩
      exact MR.onMiss_eq_hit.2 (.inl h)

theorem tryChild_miss_cases {env : Env} {ic : Interceptors} {c : Node} {path : Bytes} {ps ps1 : Params}
    (h : tryChild env ic c path ps = .miss ps1) :
    c.seg.match env ic path = .no ∨
      ∃ cap rest ps2, c.seg.match env ic path = .yes cap rest ∧
        c.matchChildren env ic rest (c.seg.record cap ps) = .miss ps2 := by
  rw [tryChild_eq] at h
  cases hm : c.seg.match env ic path with
  | no => exact .inl rfl
  | unsupported => rw [hm] at h; cases h
  | yes cap rest =>
    rw [hm] at h
    obtain ⟨ps2, hr, _⟩ := MR.onMiss_eq_miss.1 h
    exact .inr ⟨cap, rest, ps2, rfl, hr⟩

theorem selfStep_hit_iff (n : Node) (path : Bytes) (r : MR) (m : Node) (ps' : Params) :
    selfStep n path r = .hit m ps' ↔
      r = .hit m ps' ∨ (r = .miss ps' ∧ path = [] ∧ n.handlers ≠ [] ∧ m = n) := by
  cases r with
  | miss ps2 =>
    rw [selfStep_of_miss]
    split
    · rename_i hc
      simp only [MR.hit.injEq, reduceCtorEq, false_or, MR.miss.injEq, hc.1, hc.2, ne_eq, not_false_eq_true, true_and]
      exact ⟨fun h => ⟨h.2, h.1.symm⟩, fun h => ⟨h.2.symm, h.1⟩⟩
    · rename_i hc
      simp only [reduceCtorEq, false_or, false_iff, MR.miss.injEq]
      exact fun h => hc ⟨h.2.1, h.2.2.1⟩
  | _ => simp [selfStep]

theorem selfStep_miss_iff (n : Node) (path : Bytes) (r : MR) (ps' : Params) :
    selfStep n path r = .miss ps' ↔ r = .miss ps' ∧ ¬ (path = [] ∧ n.handlers ≠ []) := by
  cases r with
  | miss ps2 =>
    rw [selfStep_of_miss]
    split
    · rename_i hc
      simp only [reduceCtorEq, false_iff]
      exact fun h => h.2 hc
    · rename_i hc
      exact ⟨fun h => ⟨h, hc⟩, fun h => h.1⟩
  | _ => simp [selfStep]

theorem scan_hit_iff {env : Env} {ic : Interceptors} {n : Node} {path : Bytes} {ps : Params}
    (hq : ScanQuiet env ic n.children path ps) (m : Node) (ps' : Params) :
    selfStep n path (matchFrom env ic n.children 0 path ps) = .hit m ps' ↔
      FirstHit env ic n.children path ps m ps' ∨
      (AllMiss env ic n.children path ps ∧ path = [] ∧ n.handlers ≠ [] ∧ m = n ∧ ps' = ps) := by
  rw [selfStep_hit_iff, matchFrom_first_hit hq, matchFrom_miss_iff hq]
  exact or_congr Iff.rfl ⟨fun ⟨⟨a, b⟩, c, d, e⟩ => ⟨b, c, d, e, a⟩, fun ⟨b, c, d, e, a⟩ => ⟨⟨a, b⟩, c, d, e⟩⟩

theorem scan_miss_iff {env : Env} {ic : Interceptors} {n : Node} {path : Bytes} {ps : Params}
    (hq : ScanQuiet env ic n.children path ps) (ps' : Params) :
    selfStep n path (matchFrom env ic n.children 0 path ps) = .miss ps' ↔
      ps' = ps ∧ AllMiss env ic n.children path ps ∧ ¬ (path = [] ∧ n.handlers ≠ []) := by
  rw [selfStep_miss_iff, matchFrom_miss_iff hq]
  exact and_assoc

end P8

theorem lit_no_of_head (env : Env) (ic : Interceptors) {c : Node} (hk : c.seg.kind = .str) {b' : UInt8} {v : Bytes}
    (hv : c.seg.value = b' :: v) {path : Bytes} (hne : path.head? ≠ some b') : c.seg.match env ic path = .no := by
  rw [Seg.match_str env ic _ _ hk, hv, if_neg]
  rintro ⟨t, rfl⟩
  exact hne rfl

theorem matchFrom_skip_no (env : Env) (ic : Interceptors) (pre rest : List Node) (path : Bytes) (ps : Params)
    (h : ∀ c ∈ pre, c.seg.match env ic path = .no) :
    matchFrom env ic (pre ++ rest) 0 path ps = matchFrom env ic rest 0 path ps := by
  induction pre with
  | nil => rfl
  | cons c pre ih =>
    rw [List.cons_append, matchFrom, h c List.mem_cons_self]
    exact ih (fun c' hc' => h c' (List.mem_cons_of_mem _ hc'))

/-- The hypotheses on the index of a node whose children are `lits ++ others`:
the children in `lits` are literals with non-empty text, the `LOOP:` part starts right after them,
the index maps the first byte of each of them to its position, and it maps nothing anywhere else.
(Pairwise distinct first bytes follow, the index being a function.)  `buildIndexes` on the sorted
children establishes this whenever literal siblings start with distinct bytes (`P8.indexOk_of_sorted` in
StructCons.lean, from `IndexExact`, `RankSorted` and `DistinctFirstBytes`). -/
structure IndexOk (idx : List (UInt8 × Nat)) (lits : List Node) : Prop where
  lit : ∀ c ∈ lits, c.seg.kind = .str
  len : idx.length = lits.length
  maps : ∀ (i : Nat) (c : Node), lits[i]? = some c → ∃ b v, c.seg.value = b :: v ∧ idxLookup idx b = some i
  range : ∀ b i, idxLookup idx b = some i → i < lits.length

/-- The search of an indexed node: fast path, then the loop after the indexed children. -/
def indexedSearch (env : Env) (ic : Interceptors) (idx : List (UInt8 × Nat)) (cs : List Node) (path : Bytes) (ps : Params) : MR :=
  match fast env ic idx cs path ps with
  | .miss ps1 => matchFrom env ic cs idx.length path ps1
  | r => r

/-- **Index fast path = linear scan.**  Under `IndexOk`, when trying an indexed literal is descending into it (which
holds for tracked parameters, `Tracking.tryChild_lit`), the indexed search returns exactly what the linear scan over all
children returns. -/
theorem indexedSearch_eq_scan (env : Env) (ic : Interceptors) {idx : List (UInt8 × Nat)} {lits others : List Node}
    (hI : IndexOk idx lits) {path : Bytes} {ps : Params}
    (hlit : ∀ c ∈ lits, tryChild env ic c path ps = descend env ic c path ps) :
    indexedSearch env ic idx (lits ++ others) path ps = matchFrom env ic (lits ++ others) 0 path ps := by
  unfold indexedSearch
  -- the loop part skips exactly the literals
  have hloop : ∀ ps1, matchFrom env ic (lits ++ others) idx.length path ps1 = matchFrom env ic others 0 path ps1 :=
    fun ps1 => by rw [hI.len, matchFrom_eq_drop, List.drop_left]
  cases path with
  | nil =>
    -- no fast path, and no literal (their texts are non-empty) matches the empty path
    rw [fast_nil_path]
    simp only
    rw [hloop, matchFrom_skip_no]
    intro c hc
    obtain ⟨j, hj⟩ := List.getElem?_of_mem hc
    obtain ⟨b', v, hv, _⟩ := hI.maps j c hj
    exact lit_no_of_head env ic (hI.lit c hc) hv nofun
  | cons b tl =>
    cases idx with
    | nil =>
      cases List.eq_nil_of_length_eq_zero hI.len.symm
      rfl
    | cons e idx' =>
      -- the fast path tries the literal `c` at the position the index gives for `b` ...
      generalize hi : (idxLookup (e :: idx') b).getD 0 = i
      have hilt : i < lits.length := by
        rw [← hi]
        cases hl : idxLookup (e :: idx') b with
        | none => exact hI.len ▸ Nat.succ_pos _
        | some i' => exact hI.range _ _ hl
      have hc : lits[i]? = some lits[i] := List.getElem?_eq_getElem hilt
      have hsplit : lits = lits.take i ++ lits[i] :: lits.drop (i + 1) := by simp
      generalize lits[i] = c at hc hsplit
      have hfast : fast env ic (e :: idx') (lits ++ others) (b :: tl) ps = tryChild env ic c (b :: tl) ps := by
        rw [hlit c (List.mem_of_getElem? hc), fast_cons, hi, matchAt_eq, (List.getElem?_append_left hilt).trans hc]
      -- ... and no literal at another position starts with `b`
      have huniq : ∀ c' ∈ lits.eraseIdx i, c'.seg.match env ic (b :: tl) = .no := by
        intro c' hc'
        obtain ⟨j, hji, hj⟩ := List.mem_eraseIdx_iff_getElem?.1 hc'
        obtain ⟨b', v', hv', hmap'⟩ := hI.maps j c' hj
        refine lit_no_of_head env ic (hI.lit c' (List.mem_of_getElem? hj)) hv' fun h => ?_
        cases h
        rw [hmap'] at hi
        exact hji hi
      rw [List.eraseIdx_eq_take_drop_succ] at huniq
      -- so the linear scan, too, is `c` followed by the children after the literals
      rw [hfast]
      conv => rhs; rw [hsplit, List.append_assoc, matchFrom_skip_no env ic _ _ _ _ fun d hd =>
        huniq d (List.mem_append_left _ hd), List.cons_append, matchFrom_zero]
      cases tryChild env ic c (b :: tl) ps with
      | miss ps' =>
        exact (hloop ps').trans (matchFrom_skip_no env ic _ _ _ _ fun d hd => huniq d (List.mem_append_right _ hd)).symm
      | _ => rfl

theorem Node.matchChildren_eq_indexedSearch (env : Env) (ic : Interceptors) (n : Node) (path : Bytes) (ps : Params) :
    n.matchChildren env ic path ps = P8.selfStep n path (indexedSearch env ic n.indexes n.children path ps) := by
  rw [matchChildren_spec]
  unfold indexedSearch
  cases fast env ic n.indexes n.children path ps <;> rfl

namespace P8

theorem matchChildren_noIndex (env : Env) (ic : Interceptors) (n : Node) (hi : n.indexes = []) (path : Bytes) (ps : Params) :
    n.matchChildren env ic path ps = selfStep n path (matchFrom env ic n.children 0 path ps) := by
  rw [Node.matchChildren_eq_indexedSearch, hi]
  rfl

/-- `matchChildren` is the scan followed by the self step at a node that has no index or whose index is the table
`IndexOk` describes, on tracked parameters (any `Tracking`): the index fast path changes nothing. -/
theorem matchChildren_eq_scan_idx (env : Env) (ic : Interceptors) {n : Node}
    (hidx : n.indexes ≠ [] → ∃ lits others, n.children = lits ++ others ∧ IndexOk n.indexes lits)
    {TN : Node → Params → Prop} {TL : List Node → Params → Prop} (T : Tracking TN TL)
    {path : Bytes} {ps : Params} (ht : TL n.children ps) :
    n.matchChildren env ic path ps = selfStep n path (matchFrom env ic n.children 0 path ps) := by
  by_cases hi : n.indexes = []
  · exact matchChildren_noIndex env ic n hi path ps
  · obtain ⟨lits, others, e, hI⟩ := hidx hi
    rw [Node.matchChildren_eq_indexedSearch]
    rw [e] at ht ⊢
    rw [indexedSearch_eq_scan env ic hI fun c hc => T.tryChild_lit (List.mem_append_left _ hc) (hI.lit c hc) ht]

end P8

/-! ## Non-vacuity of `IndexOk` / `TrackL`: two literal children `a…`, `b…` in the index, one
parameter child after them. -/

section Example
private def litA : Node := .mk { value := [97, 47] } [] 1 [([71], { base := .user 1 })] [] []
private def litB : Node := .mk { value := [98] } [] 1 [([71], { base := .user 2 })] [] []
private def parX : Node :=
  .mk { value := [123, 120, 125], kind := .named, name := [120], endpoint := true } [] 1 [([71], { base := .user 3 })] [] []

example : IndexOk [(97, 0), (98, 1)] [litA, litB] where
  lit := by decide
  len := rfl
  maps := by
    intro i c h
    match i, h with
    | 0, h => cases h; exact ⟨97, [47], rfl, rfl⟩
    | 1, h => cases h; exact ⟨98, [], rfl, rfl⟩
    | n + 2, h => simp at h
  range := by
    intro b i h
    unfold idxLookup at h
    simp only [List.find?_cons, List.find?_nil] at h
    split at h
    · cases h; decide
    · split at h
      · cases h; decide
      · cases h

example : TrackL [] ([litA, litB] ++ [parX]) [] := by
  refine ⟨by decide, ?_, by simp [AMap.keys]⟩
  simp only [litA, litB, parX, List.cons_append, List.nil_append, AllL, Node.All, and_true]
  exact ⟨IdxLit.of_nil rfl, IdxLit.of_nil rfl, IdxLit.of_nil rfl⟩
end Example

end Mux
