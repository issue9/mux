/-
  What the concrete examples rest on: decidable equality for the syntax-layer data, nodes and trees, so that an example is
  closed by kernel evaluation; the fresh tree and environment every example starts from (`P14.exT0`, `P14.exEnv`); the
  separately decidable views of an answer of `Tree.handler`, and `P14.view_spec` from them to the existential statements.
-/
import Mux.Model.Router
namespace Mux
deriving instance DecidableEq for Re
deriving instance DecidableEq for ParseRes
deriving instance DecidableEq for Seg
deriving instance DecidableEq for MatchRes
end Mux
deriving instance DecidableEq for Except

theorem Except.exists_ok {ε α : Type} {x : Except ε α} (h : x.isOk = true) : ∃ a, x = .ok a := by
  cases x with
  | ok a => exact ⟨a, rfl⟩
  | error e => cases h
namespace Mux

/- `Node` is nested in `List`, which `deriving` does not handle: the recursion over the children is written out. -/
mutual
def Node.decEq : (a b : Node) → Decidable (a = b)
  | .mk s p mi hs idx cs, .mk s' p' mi' hs' idx' cs' =>
    if h : s = s' ∧ p = p' ∧ mi = mi' ∧ hs = hs' ∧ idx = idx' then
      match Node.decEqL cs cs' with
      | isTrue hc => isTrue (by obtain ⟨rfl, rfl, rfl, rfl, rfl⟩ := h; rw [hc])
      | isFalse hc => isFalse (fun e => hc (Node.mk.inj e).2.2.2.2.2)
    else isFalse (fun e => h (by cases e; exact ⟨rfl, rfl, rfl, rfl, rfl⟩))
def Node.decEqL : (as bs : List Node) → Decidable (as = bs)
  | [], [] => isTrue rfl
  | [], _ :: _ => isFalse nofun
  | _ :: _, [] => isFalse nofun
  | a :: as, b :: bs =>
    match Node.decEq a b, Node.decEqL as bs with
    | isTrue h1, isTrue h2 => isTrue (by rw [h1, h2])
    | isFalse h1, _ => isFalse (fun e => h1 (List.cons.inj e).1)
    | _, isFalse h2 => isFalse (fun e => h2 (List.cons.inj e).2)
end

instance : DecidableEq Node := Node.decEq

/- Written out, field by field: a derived instance rewrites along each proved equation, and reducing such a rewrite makes
the kernel compare the two `root`s once more, by conversion, which is slow to check. -/
instance : DecidableEq Tree := fun a b =>
  decidable_of_iff (a.root = b.root ∧ a.counts = b.counts ∧ a.ic = b.ic ∧ a.name = b.name ∧ a.notFound = b.notFound ∧
      a.trace = b.trace ∧ a.optionsBase = b.optionsBase ∧ a.notAllowedBase = b.notAllowedBase)
    ⟨fun h => by cases a; cases b; simp only [Tree.mk.injEq]; exact h, fun h => by subst h; simp⟩

instance : DecidableEq Hosts := fun a b =>
  decidable_of_iff (a.tree = b.tree) ⟨fun h => by cases a; cases b; simp only [Hosts.mk.injEq]; exact h, fun h => by rw [h]⟩
end Mux

namespace Mux.P14
open Mux

def exT0 : Tree := Tree.new [114] [] { base := .notFound } none
def exEnv : Env := ⟨fun _ _ => true⟩

/-- Views of an answer (separately decidable). -/
def patOf : HR → Option Bytes | .res f => f.node.map (·.pattern) | _ => none
def handlerOf : HR → Option Handler | .res f => some f.handler | _ => none
def okOf : HR → Option Bool | .res f => some f.ok | _ => none
def paramsOf : HR → Option (List (Bytes × Bytes)) | .res f => some f.params | _ => none

/-- The four views as one conjunction, so that one evaluation of `r` settles them. -/
theorem view_spec {r : HR} {pat : Bytes} {h : Handler} {ok : Bool} {ps : List (Bytes × Bytes)}
    (hv : patOf r = some pat ∧ handlerOf r = some h ∧ okOf r = some ok ∧ paramsOf r = some ps) :
    ∃ f q, r = .res f ∧ f.node = some q ∧ q.pattern = pat ∧ f.handler = h ∧ f.ok = ok ∧ f.params = ps := by
  obtain ⟨h1, h2, h3, h4⟩ := hv
  cases r with
  | res f =>
    simp only [patOf, handlerOf, okOf, paramsOf, Option.some.injEq] at h1 h2 h3 h4
    cases hn : f.node with
    | none => rw [hn] at h1; simp at h1
    | some q =>
      rw [hn] at h1
      simp only [Option.map_some, Option.some.injEq] at h1
      exact ⟨f, q, rfl, hn, h1, h2, h3, h4⟩
  | fault s => simp [patOf] at h1
  | unsupported => simp [patOf] at h1

end Mux.P14
