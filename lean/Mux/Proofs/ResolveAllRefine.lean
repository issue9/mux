/-
  C02 for histories with `Remove`/`Clean`: the refinement of the reference resolver WITHOUT canonical form.  The group of
  a live child `c` consumes `c`'s text followed by `ext c` (`groups_remsL`, ResolveStatic.lean); when `ext c` is empty
  below every parameter node (`Good`), trying that group is matching `c`'s own segment and resolving the remainders below
  `c` (`triedAs_groupOf`; for a literal `c` by `resolveRems_lit`), so handler-less literal chains and dead subtrees are
  allowed (`resolvesR_node`, `resolves_tree`).  `Good` follows from the hypothesis `ParamStops` of
  `C02_resolve_all_partial` (`goodTree_of`), which holds after every add-only history (`C02_resolve_all_addonly`): the
  theorem for all histories contains the add-only one.
-/
import Mux.Proofs.ResolveHistory
import Mux.Proofs.UrlTree
namespace Mux.P16
open Mux Mux.Spec Mux.P15

/-- The hypotheses on a node: a parameter node is not followed by a literal text common to all live
routes below it, and the text of the group of a literal node is not too long for `NewSegment`. -/
def Good (c : Node) : Prop :=
  (c.seg.kind ≠ .str → ext c = []) ∧ (ext c ≠ [] → (c.seg.value ++ ext c).length ≤ maxInt16)

theorem plain_of_str {ic : Interceptors} {pp : Bytes} {c : Node} (hc : P11.ChildOk ic pp c) (hk : c.seg.kind = .str) :
    startByte ∉ c.seg.value ++ ext c := by
  rw [List.mem_append, not_or]
  refine ⟨?_, start_not_mem_lcp_leadLit (rems c)⟩
  rcases hc.1 with ⟨_, hp⟩ | ⟨ia, sa, e, _, _⟩
  · exact hp.1
  · have := (newSegment_lit_iff ic _ _ hc.2.1).1 hk
    rw [e] at this
    exact absurd ⟨by simp, by simp⟩ this

theorem triedAs_groupOf (env : Env) {ic : Interceptors} {pp : Bytes} {c : Node} (hc : P11.ChildOk ic pp c)
    (hgood : P16.Good c) : TriedAs env ic (groupOf c) c (rems c) := by
  intro k path ps
  unfold groupOf
  by_cases he : ext c = []
  · have hmem : (rems c).map (fun r => ((r.1.drop 0, r.2) : Rem)) = rems c := List.map_id' _
    rw [he, List.append_nil, List.length_nil, hmem]
    exact triedAs_of_value rfl hc.2.1 k path ps
  · -- `c` is literal and a literal text is appended to its own: both sides are prefix tests (`tryGroup_lit`), and the two
    -- tests of the right side are the one of the left (`resolveRems_lit`)
    have hk : c.seg.kind = .str := Classical.byContradiction fun h => he (hgood.1 h)
    have hstart := plain_of_str hc hk
    have hlen := hgood.2 he
    rw [← triedAs_of_value (g := { value := c.seg.value, members := rems c }) rfl hc.2.1 k path ps,
      tryGroup_lit env ic _ hstart hlen, hasPrefix_append, List.length_append, ← List.drop_drop]
    rw [List.length_append] at hlen
    rw [tryGroup_lit env ic _ (fun h => hstart (List.mem_append_left _ h)) (by show c.seg.value.length ≤ _; omega),
      resolveRems_lit env ic (R := rems c) (e := ext c) rfl he (by omega)]
    by_cases h : k = .str ∧ hasPrefix path c.seg.value = true
    · simp only [h, Bool.and_eq_true, and_self, true_and, if_true]
    · simp only [h, Bool.and_eq_true, ← and_assoc, false_and, if_false]

theorem resolvesR_node (env : Env) (ic : Interceptors) : ∀ n : Node,
    Node.All (P8.SOk ic) n → Node.All (P11.Sh ic) n → AllL P16.Good n.children → ResolvesAt env ic n (rems n) :=
  Node.induction fun n ih hall hsh hg path ps used hN hk => by
    have ihc : ∀ c ∈ n.children, ResolvesAt env ic c (rems c) := fun c hc =>
      ih c hc (AllL_mem hall.tail hc) (AllL_mem hsh.tail hc) (AllL_mem hg hc).tail
    have tried : ∀ c ∈ n.children, TriedAs env ic (groupOf c) c (rems c) := fun c hc =>
      triedAs_groupOf env (hsh.head.1 c hc) (AllL_mem hg hc).head
    refine resolves_step hall.head.sorted hN hk (fun _ => selfCanon_rems hsh.head)
      (fun c hc => ⟨rems c, ihc c hc, fun hne => ⟨_, (mem_groups_rems hsh.head).2 ⟨c, hc, hne, rfl⟩, tried c hc⟩⟩)
      (fun g hg' => ?_)
    obtain ⟨c, hc, _, rfl⟩ := (mem_groups_rems hsh.head).1 hg'
    exact ⟨c, hc, rems c, tried c hc, ihc c hc⟩

/-- At the root the node's own (empty) remainder does not matter, the path not being used up: the remainders are the
routes of the tree. -/
theorem resolves_tree (env : Env) (t : Tree) (hs : P8.StructInv2 t) (hti : P11.TInv t) (hg : AllL Good t.root.children)
    (hN : NamesOkL [] t.root.children) (path : Bytes) (hp : path ≠ []) :
    Resolves env t.ic t.root ((tableOf t).patterns.map fun p => (p, p)) path [] := by
  have hres : resolveRems env t.ic (rems t.root) path [] = resolveRems env t.ic (remsL t.root.children) path [] := by
    rw [rems_eq]
    split
    · rfl
    · exact resolveRems_cons_nil env t.ic _ _ hp []
  have h := resolvesR_node env t.ic t.root (P8.SOk2.all_SOk _ hs.all) hti.sh hg path [] [] hN (by simp [AMap.keys])
  unfold Resolves at h ⊢
  rw [hres, remsL_root hti.sh hti.rootPat, ← P11.tableOf_patterns] at h
  exact h

/-! The resolver builds the segment of a group with `NewSegment`, which rejects texts longer than `maxInt16`, and the text of
a literal group is spread over a chain of literal nodes, so no single node bounds it.  It is bounded because the chain is
a stretch of ONE piece of a live route, and every live route was accepted by `Split` when it was registered. -/

/-- Every piece of the pattern is short enough for `NewSegment`. -/
def PieceLens (p : Bytes) : Prop := ∀ q ∈ splitString p, q.length ≤ maxInt16

theorem pieceLens_of_split {ic : Interceptors} {p : Bytes} {segs : List Seg} (h : split ic p = .ok segs) : PieceLens p := by
  intro q hq
  obtain ⟨s, hs⟩ := splitLoop_ok_pieces ic _ _ _ _ (split_ok_iff.1 h).2 q hq
  exact P9.newSegment_len hs

theorem pieceLens_nil : PieceLens [] := by
  intro q hq
  rw [splitString_nil] at hq
  simp only [List.mem_singleton] at hq
  subst hq
  exact Nat.zero_le _

theorem history_lens {t : Tree} (ht : P14.ReachAll t) : ∀ p ∈ (tableOf t).patterns, PieceLens p := by
  obtain ⟨name, ic, nf, tr, ob, nb, ops, hw, rfl⟩ := ht
  exact fun p hp =>
    let ⟨_, h⟩ := P13.history_patterns_split name ic nf tr ob nb ops hw p hp
    pieceLens_of_split h

/-- `splitString` of any text that starts with `pp` emits the pieces `pre` and goes on, outside a
token, with `last` as the piece in progress. -/
def Pre (pp : Bytes) : Prop := ∃ pre last, ∀ b, splitAux false [] (pp ++ b) = pre ++ splitAux false last b

theorem Pre.nil : Pre [] := ⟨[], [], fun _ => rfl⟩

theorem Pre.child {pp v : Bytes} (h : Pre pp) (hv : P11.WfVal v) : Pre (pp ++ v) := by
  obtain ⟨pre, last, h⟩ := h
  rcases hv with ⟨_, hp⟩ | ⟨ia, sa, rfl, hia, hsa⟩
  · refine ⟨pre, last ++ v, fun b => ?_⟩
    rw [List.append_assoc, h, splitAux_append_noStart last v b hp.1]
  · refine ⟨pre ++ P9.emit last [], P9.tok ia sa, fun b => ?_⟩
    rw [List.append_assoc, h]
    have := P9.splitAux_false_tok last ia sa b hia.2 hsa.1
    simp only [P9.tok] at this ⊢
    rw [this]
    unfold P9.emit
    split <;> simp

/-- A stretch of text without `{` that follows `pp` lies inside one piece. -/
theorem len_of_pre {pp w rest : Bytes} (h : Pre pp) (hw : startByte ∉ w) (hl : PieceLens (pp ++ w ++ rest)) :
    w.length ≤ maxInt16 := by
  obtain ⟨pre, last, h⟩ := h
  have e : splitString (pp ++ w ++ rest) = pre ++ splitAux false (last ++ w) rest := by
    unfold splitString
    rw [List.append_assoc, h, splitAux_append_noStart last w rest hw]
  obtain ⟨q, tl, hq, hpre, _⟩ := P9.splitAux_first false (last ++ w) rest
  have hmem : q ∈ splitString (pp ++ w ++ rest) := by
    rw [e, hq]; simp
  have h1 := hl q hmem
  have h2 := hpre.length_le
  simp only [List.length_append] at h2
  omega

def LenGood (c : Node) : Prop := c.seg.kind = .str → ext c ≠ [] → (c.seg.value ++ ext c).length ≤ maxInt16

theorem lenGood_child {ic : Interceptors} {pp : Bytes} {c : Node} (hc : P11.ChildOk ic pp c) (hcs : Node.All (P11.Sh ic) c)
    (hpre : Pre pp) (hl : ∀ r ∈ rems c, PieceLens r.2) : LenGood c := by
  intro hk he
  obtain ⟨r, hr⟩ := List.exists_mem_of_ne_nil _ (lcp_leadLit_ne_nil_iff.1 he).1
  obtain ⟨t, ht⟩ : ext c <+: r.1 := lcp_leadLit_prefix hr
  have hstart := plain_of_str hc hk
  have hpat := rems_pattern ic c hcs hr
  have hlen := hl r hr
  rw [← hpat, hc.2.2.1, ← ht] at hlen
  have e : pp ++ c.seg.value ++ (ext c ++ t) = pp ++ (c.seg.value ++ ext c) ++ t := by simp
  rw [e] at hlen
  exact len_of_pre hpre hstart hlen

theorem lenGood_all (ic : Interceptors) :
    ∀ n : Node, Node.All (P11.Sh ic) n → Pre n.pattern → (∀ r ∈ rems n, PieceLens r.2) → AllL LenGood n.children :=
  Node.induction fun n ih hall hpre hl => by
    rw [AllL_iff]
    intro c hc
    have hco := hall.head.1 c hc
    have hlc : ∀ r ∈ rems c, PieceLens r.2 := fun r hr =>
      hl (c.seg.value ++ r.1, r.2) (mem_rems.2 (.inr (mem_remsL.2 ⟨c, hc, List.mem_map.2 ⟨r, hr, rfl⟩⟩)))
    rw [Node.All_iff]
    refine ⟨lenGood_child hco (AllL_mem hall.tail hc) hpre hlc, ih c hc (AllL_mem hall.tail hc) ?_ hlc⟩
    rw [hco.2.2.1]
    exact hpre.child hco.1

/-- **The hypothesis of `C02_resolve_all_partial`**: below no parameter node do all live routes
continue with one and the same literal byte.  (After `Remove`/`Clean` a handler-less parameter node
`{a}/` may be left with the single literal child `x`: a freshly built router would hold the ONE node
`{a}/x`, whose capture ends at the first `/x`, not at the first `/`.) -/
def ParamStops (t : Tree) : Prop := ∀ c ∈ nodesL t.root.children, c.seg.kind ≠ .str → ext c = []

instance (t : Tree) : Decidable (ParamStops t) := by unfold ParamStops; infer_instance

theorem goodTree_of {t : Tree} (hti : P11.TInv t) (hstop : ParamStops t)
    (hl : ∀ p ∈ (tableOf t).patterns, PieceLens p) : AllL Good t.root.children := by
  have hlen : AllL LenGood t.root.children := by
    refine lenGood_all t.ic t.root hti.sh (by rw [hti.rootPat]; exact Pre.nil) ?_
    intro r hr
    rcases mem_rems.1 hr with ⟨_, rfl⟩ | hr
    · rw [hti.rootPat]
      exact pieceLens_nil
    · apply hl
      rw [P11.tableOf_patterns, ← remsL_routes hti.sh]
      exact List.mem_map.2 ⟨r, hr, rfl⟩
  rw [(All_iff_nodes _).2] at hlen ⊢
  intro c hc
  refine ⟨hstop c hc, fun he => ?_⟩
  by_cases hk : c.seg.kind = .str
  · exact hlen c hc hk he
  · exact absurd (hstop c hc hk) he

theorem paramStops_of_TT {t : Tree} (hsh : Node.All (P11.Sh t.ic) t.root) (hT : AllL TT t.root.children) : ParamStops t :=
  fun c hc _ => (((All_iff_nodes _).2 _).1 (stops_of_TT t.ic t.root hsh hT) c hc).2

end Mux.P16
