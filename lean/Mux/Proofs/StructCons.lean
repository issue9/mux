/-
  Consequences of the structural invariant `SOk`: `Node.PatternOk`, `IdxLit`, the decomposition of the children into
  literal children followed by the others, and `IndexOk` (Priority.lean) under `DistinctFirstBytes`.
-/
import Mux.Proofs.Structure
import Mux.Proofs.WOk
namespace Mux.P8
open Mux

variable {ic : Interceptors}

theorem patternOk_of_SOk (n : Node) (h : Node.All (SOk ic) n) : Node.PatternOk n :=
  (P10.patternOk_iff_All n).2 ((AllL_mono fun _ hm c hc => (hm.child c hc).1).1 n h)

theorem RankSorted.getElem_le {cs : List Node} (h : RankSorted cs) {i j : Nat} {a b : Node}
    (hij : i ≤ j) (ha : cs[i]? = some a) (hb : cs[j]? = some b) : a.seg.kind.rank ≤ b.seg.kind.rank := by
  obtain ⟨hi, rfl⟩ := List.getElem?_eq_some_iff.1 ha
  obtain ⟨hj, rfl⟩ := List.getElem?_eq_some_iff.1 hb
  rcases Nat.lt_or_eq_of_le hij with hlt | rfl
  · exact (List.pairwise_iff_getElem.1 h) i j hi hj hlt
  · exact Nat.le_refl _

/-- **I-index + I-sort ⇒ `IdxLit`**: the fast path of a node with sorted children and an exact index
only selects literal children. -/
theorem idxLit_of_sorted {n : Node} (hs : RankSorted n.children) (hidx : buildIndexes n.children = .ok n.indexes) :
    IdxLit n := by
  by_cases hne : n.indexes = []
  · exact IdxLit.of_nil hne
  apply IdxLit.of_positions
  intro i hi c hc
  have hent := buildIndexes_entries hidx
  rcases List.mem_cons.1 hi with rfl | hi
  · -- position 0: some literal child exists, and literal children come first
    obtain ⟨e, he⟩ := List.exists_mem_of_ne_nil _ hne
    obtain ⟨c', hc', hk, _⟩ := hent e he
    exact kind_str_of_rank_le (hs.getElem_le (Nat.zero_le _) hc hc') hk
  · obtain ⟨e, he, rfl⟩ := List.mem_map.1 hi
    obtain ⟨c', hc', hk, _⟩ := hent e he
    rw [hc] at hc'
    cases hc'
    exact hk

theorem idxLit_of_SOk {n : Node} (h : SOk ic n) : IdxLit n := idxLit_of_sorted h.sorted h.index

theorem All_idxLit_of_SOk : ∀ n : Node, Node.All (SOk ic) n → Node.All IdxLit n :=
  (AllL_mono (fun _ h => idxLit_of_SOk h)).1

theorem AllL_idxLit_of_SOk : ∀ cs : List Node, AllL (SOk ic) cs → AllL IdxLit cs :=
  (AllL_mono (fun _ h => idxLit_of_SOk h)).2

theorem RankSorted.split_lits {cs : List Node} (h : RankSorted cs) :
    ∃ lits others, cs = lits ++ others ∧ (∀ c ∈ lits, c.seg.kind = .str) ∧ (∀ c ∈ others, c.seg.kind ≠ .str) := by
  induction cs with
  | nil => exact ⟨[], [], rfl, by simp, by simp⟩
  | cons c cs ih =>
    unfold RankSorted at h
    rw [List.pairwise_cons] at h
    by_cases hk : c.seg.kind = .str
    · obtain ⟨lits, others, e, h1, h2⟩ := ih h.2
      refine ⟨c :: lits, others, by rw [e]; rfl, ?_, h2⟩
      intro x hx
      rcases List.mem_cons.1 hx with rfl | hx
      · exact hk
      · exact h1 x hx
    · refine ⟨[], c :: cs, rfl, by simp, ?_⟩
      intro x hx hxk
      rcases List.mem_cons.1 hx with rfl | hx
      · exact hk hxk
      · exact hk (kind_str_of_rank_le (h.1 x hx) hxk)

/-- Literal children of one node start with pairwise different bytes.  NOT a consequence of
reachability: the literal patterns `{abc` and `{abd` (no closing brace) or `}a` and `}b` become two
literal siblings, because `longestPrefix` refuses to cut next to a brace — see `C02.lean`. -/
def DistinctFirstBytes (n : Node) : Prop :=
  n.children.Pairwise (fun a b => a.seg.kind = .str → b.seg.kind = .str → a.seg.value.head? ≠ b.seg.value.head?)

theorem head?_eq_headD {v : Bytes} (h : v ≠ []) : v.head? = some (v.headD 0) := by
  cases v with
  | nil => exact absurd rfl h
  | cons _ _ => rfl

/-- The index entries of a run of literal children starting at position `i`. -/
def litEntries (lits : List Node) (i : Nat) : List (UInt8 × Nat) :=
  (lits.zipIdx i).map fun e => (e.1.seg.value.headD 0, e.2)

theorem litEntries_cons (c : Node) (cs : List Node) (i : Nat) :
    litEntries (c :: cs) i = (c.seg.value.headD 0, i) :: litEntries cs (i + 1) := rfl

theorem buildIndexesLoop_others (others : List Node) (i : Nat) (acc : List (UInt8 × Nat))
    (h : ∀ c ∈ others, c.seg.kind ≠ .str) : buildIndexesLoop others i acc = .ok acc := by
  fun_induction buildIndexesLoop others i acc with
  | case1 i acc => rfl
  | case2 c cs i acc hk hv => exact absurd hk (h c List.mem_cons_self)
  | case3 c cs i acc hk b r hv ih => exact absurd hk (h c List.mem_cons_self)
  | case4 c cs i acc hk ih => exact ih fun x hx => h x (List.mem_cons_of_mem _ hx)

theorem idxSet_fresh {idx : List (UInt8 × Nat)} {b : UInt8} (i : Nat) (h : b ∉ idx.map (·.1)) :
    idxSet idx b i = idx ++ [(b, i)] := by
  unfold idxSet
  rw [if_neg]
  intro hany
  rw [List.any_eq_true] at hany
  obtain ⟨e, he, hb⟩ := hany
  exact h (List.mem_map.2 ⟨e, he, by simpa using hb⟩)

theorem buildIndexesLoop_lits : ∀ (lits others : List Node) (i : Nat) (acc : List (UInt8 × Nat)),
    (∀ c ∈ lits, c.seg.kind = .str ∧ c.seg.value ≠ []) → (∀ c ∈ others, c.seg.kind ≠ .str) →
    lits.Pairwise (fun a b => a.seg.value.head? ≠ b.seg.value.head?) →
    (∀ c ∈ lits, c.seg.value.headD 0 ∉ acc.map (·.1)) →
    buildIndexesLoop (lits ++ others) i acc = .ok (acc ++ litEntries lits i) := by
  intro lits
  induction lits with
  | nil =>
    intro others i acc _ ho _ _
    simpa [litEntries] using buildIndexesLoop_others others i acc ho
  | cons c lits ih =>
    intro others i acc hl ho hp hf
    rw [List.pairwise_cons] at hp
    obtain ⟨hk, hv⟩ := hl c List.mem_cons_self
    obtain ⟨b, v, hbv⟩ := List.exists_cons_of_ne_nil hv
    have hfb : b ∉ acc.map (·.1) := by simpa [hbv] using hf c List.mem_cons_self
    simp only [List.cons_append, buildIndexesLoop, hk, if_true, hbv]
    rw [idxSet_fresh i hfb, ih others (i + 1) (acc ++ [(b, i)]) (fun x hx => hl x (List.mem_cons_of_mem _ hx)) ho hp.2]
    · simp [litEntries_cons, hbv]
    · intro x hx hmem
      rw [List.map_append, List.mem_append] at hmem
      rcases hmem with hmem | hmem
      · exact hf x (List.mem_cons_of_mem _ hx) hmem
      · refine hp.1 x hx ?_
        rw [head?_eq_headD hv, head?_eq_headD (hl x (List.mem_cons_of_mem _ hx)).2, List.mem_singleton.1 hmem, hbv]
        rfl

theorem litEntries_length (lits : List Node) (i : Nat) : (litEntries lits i).length = lits.length := by
  rw [litEntries, List.length_map, List.length_zipIdx]

theorem litEntries_range (lits : List Node) (i : Nat) (b : UInt8) (j : Nat)
    (h : idxLookup (litEntries lits i) b = some j) : i ≤ j ∧ j < i + lits.length := by
  obtain ⟨e, he, rfl⟩ := Option.map_eq_some_iff.1 h
  obtain ⟨⟨c, k⟩, hm, rfl⟩ := List.mem_map.1 (List.mem_of_find?_eq_some he)
  exact ⟨(List.mem_zipIdx hm).1, (List.mem_zipIdx hm).2.1⟩

theorem litEntries_maps : ∀ (lits : List Node) (i k : Nat) (c : Node),
    lits.Pairwise (fun a b => a.seg.value.head? ≠ b.seg.value.head?) → (∀ c ∈ lits, c.seg.value ≠ []) →
    lits[k]? = some c → idxLookup (litEntries lits i) (c.seg.value.headD 0) = some (i + k) := by
  intro lits
  induction lits with
  | nil => intro i k c _ _ h; simp at h
  | cons d ds ih =>
    intro i k c hp hv h
    rw [List.pairwise_cons] at hp
    cases k with
    | zero =>
      simp only [List.getElem?_cons_zero, Option.some.injEq] at h
      subst h
      simp [idxLookup, litEntries_cons]
    | succ k =>
      simp only [List.getElem?_cons_succ] at h
      have hcm := List.mem_of_getElem? h
      have hne : d.seg.value.headD 0 ≠ c.seg.value.headD 0 := fun e => hp.1 c hcm (by
        rw [head?_eq_headD (hv d List.mem_cons_self), head?_eq_headD (hv c (List.mem_cons_of_mem _ hcm)), e])
      have := ih (i + 1) k c hp.2 (fun x hx => hv x (List.mem_cons_of_mem _ hx)) h
      unfold idxLookup at this ⊢
      simp only [litEntries_cons, List.find?_cons, hne, decide_false]
      rw [this]
      congr 1; omega

/-- **I-index + I-sort + distinct first bytes ⇒ `IndexOk`**: a node with a non-empty index has
the children `lits ++ others`, and the index is exactly first byte ↦ position on `lits`. -/
theorem indexOk_of_sorted {n : Node} (hs : RankSorted n.children) (hv : ∀ c ∈ n.children, c.seg.value ≠ [])
    (hi : buildIndexes n.children = .ok n.indexes) (hd : DistinctFirstBytes n) (hne : n.indexes ≠ []) :
    ∃ lits others, n.children = lits ++ others ∧ IndexOk n.indexes lits := by
  obtain ⟨lits, others, e, hl, ho⟩ := hs.split_lits
  refine ⟨lits, others, e, ?_⟩
  have hvals : ∀ c ∈ lits, c.seg.value ≠ [] := fun c hc => hv c (by rw [e]; exact List.mem_append_left _ hc)
  have hpw : lits.Pairwise (fun a b => a.seg.value.head? ≠ b.seg.value.head?) := by
    unfold DistinctFirstBytes at hd
    rw [e] at hd
    exact (List.pairwise_append.1 hd).1.imp_of_mem fun ha hb h => h (hl _ ha) (hl _ hb)
  have hidx : n.indexes = litEntries lits 0 := by
    have hb := hi
    unfold buildIndexes at hb
    split at hb
    · simp only [Except.ok.injEq] at hb; exact absurd hb.symm hne
    · rw [e, buildIndexesLoop_lits lits others 0 [] (fun c hc => ⟨hl c hc, hvals c hc⟩) ho hpw (by simp)] at hb
      simpa using hb.symm
  rw [hidx]
  refine ⟨hl, litEntries_length lits 0, ?_, ?_⟩
  · intro i c hc
    obtain ⟨b, v, hbv⟩ := List.exists_cons_of_ne_nil (hvals c (List.mem_of_getElem? hc))
    have := litEntries_maps lits 0 i c hpw hvals hc
    rw [hbv, Nat.zero_add] at this
    exact ⟨b, v, hbv, this⟩
  · intro b i hbi
    have := litEntries_range lits 0 b i hbi
    omega

theorem indexOk_of_SOk {n : Node} (h : SOk ic n) (hd : DistinctFirstBytes n) (hne : n.indexes ≠ []) :
    ∃ lits others, n.children = lits ++ others ∧ IndexOk n.indexes lits :=
  indexOk_of_sorted h.sorted (fun c hc => (h.child c hc).2.1) h.index hd hne

end Mux.P8
