/-
  I-seg, names part: on every tree reachable by a history whose registered patterns are well-formed, parameter names
  (the `-` ones included) are pairwise distinct along every root-to-node chain, literal segments carry the empty name
  and capturing segments a non-empty one.  Hence the hypothesis `NamesOkL [] root.children` of the matcher-soundness
  theorems (C01) holds.
-/
import Mux.Proofs.WfOps
import Mux.Proofs.HostsLateNames
import Mux.Proofs.RemoveNoFault
namespace Mux.P9
open Mux

/-! The names part does not depend on the table the segments were parsed under: it is read off `WfXL`, which `WfL ic`
contains (HostsLateNames.lean). -/

theorem namesStrict_of_wf (ic : Interceptors) : (n : Node) → (used : List Bytes) →
    WfL ic used n.children → Node.NamesStrict used n ∧ AllL SegNameWf n.children :=
  fun n used h => P17.namesStrict_of_wfX n used (P17.wfX_of_wf ic n used h).1

theorem namesOk_of_wf {t : Tree} (h : WellFormedTree t) : NamesOkL [] t.root.children :=
  P17.namesOk_of_wfX (P17.wfXL_of_wf t.ic _ [] h).1

/-- The parameter names along a chain of segments (literal segments contribute nothing; `-` ones
are included). -/
def chainNames (segs : List Seg) : List Bytes := (segs.filter (fun s => decide (s.kind ≠ .str))).map (·.name)

theorem NamesStrictL_mem {used : List Bytes} {cs : List Node} (h : NamesStrictL used cs) {c : Node} (hc : c ∈ cs) :
    (c.seg.kind = .str ∨ c.seg.name ∉ used) ∧
      Node.NamesStrict (if c.seg.kind = .str then used else c.seg.name :: used) c := by
  induction cs with
  | nil => cases hc
  | cons d cs ih =>
    unfold NamesStrictL at h
    rcases List.mem_cons.1 hc with rfl | hc
    · exact ⟨h.1, h.2.1⟩
    · exact ih h.2.2 hc

theorem Node.namesStrict_iff (used : List Bytes) (n : Node) : Node.NamesStrict used n ↔ NamesStrictL used n.children := by
  cases n; simp [Node.NamesStrict]

theorem chainNames_cons (s : Seg) (segs : List Seg) :
    chainNames (s :: segs) = if s.kind = .str then chainNames segs else s.name :: chainNames segs := by
  unfold chainNames
  by_cases hk : s.kind = .str <;> simp [hk]

theorem chainNames_step {used : List Bytes} {s : Seg} {segs : List Seg} (hfresh : s.kind = .str ∨ s.name ∉ used)
    (h : (chainNames segs).Nodup ∧ ∀ k ∈ chainNames segs, k ∉ usedBelow used s) :
    (chainNames (s :: segs)).Nodup ∧ ∀ k ∈ chainNames (s :: segs), k ∉ used := by
  rw [chainNames_cons]
  unfold usedBelow at h
  by_cases hk : s.kind = .str
  · rw [if_pos hk] at h ⊢
    exact h
  · rw [if_neg hk] at h ⊢
    refine ⟨List.nodup_cons.2 ⟨fun hm => h.2 _ hm List.mem_cons_self, h.1⟩, fun k hk' => ?_⟩
    rcases List.mem_cons.1 hk' with rfl | hk'
    · exact hfresh.resolve_left hk
    · exact fun hu => h.2 k hk' (List.mem_cons_of_mem _ hu)

theorem chainNames_nodup {n m : Node} {segs : List Seg} (hc : Chain n segs m) :
    ∀ used, Node.NamesStrict used n → (chainNames segs).Nodup ∧ ∀ k ∈ chainNames segs, k ∉ used := by
  induction hc with
  | nil n => exact fun used _ => ⟨List.nodup_nil, fun _ h => nomatch h⟩
  | @cons n c m segs hmem _ ih =>
    intro used hn
    obtain ⟨h1, h2⟩ := NamesStrictL_mem ((Node.namesStrict_iff used n).1 hn) hmem
    exact chainNames_step h1 (ih _ h2)

/-- **I-seg (names).** On a reachable tree (well-formed patterns): along every root-to-node chain the
parameter names are pairwise distinct. -/
theorem reach_chainNames {t : Tree} (h : ReachWf t) {m : Node} {segs : List Seg} (hc : Chain t.root segs m) :
    (chainNames segs).Nodup :=
  (chainNames_nodup hc [] (namesStrict_of_wf t.ic t.root [] h.wf).1).1

theorem reach_namesOk {t : Tree} (h : ReachWf t) : NamesOkL [] t.root.children := namesOk_of_wf h.wf

theorem wfL_all_segOk {ic : Interceptors} : ∀ (n : Node) (used : List Bytes), WfL ic used n.children →
    AllL (fun c => SegOk ic c.seg) n.children := by
  intro n
  induction n using Node.induction with
  | step n ih =>
    refine fun used h => (AllL_iff _ _).2 fun c hc => ?_
    have hcw := (Node.wf_iff ic used c).1 (((WfL_iff ic used _).1 h).1 c hc)
    exact (Node.All_iff _ c).2 ⟨hcw.1, ih c hc _ hcw.2.2.2⟩

/-- **I-seg (segments).** On a reachable tree every node below the root carries the segment that
`NewSegment` makes of its own (well-formed, non-empty) text. -/
theorem reach_segOk {t : Tree} (h : ReachWf t) : AllL (fun c => SegOk t.ic c.seg) t.root.children :=
  wfL_all_segOk t.root [] h.wf

theorem valsNonEmpty_of_wf {t : Tree} (h : WellFormedTree t) : ValsNonEmpty t := by
  have := wfL_all_segOk t.root [] h
  exact (AllL_mono (fun n (hn : SegOk t.ic n.seg) => hn.ne)).2 _ this

theorem splitLoop_names {ic : Interceptors} : ∀ {ps : List Bytes} {flag : Bool} {names : List Bytes} {segs : List Seg},
    splitLoop ic ps flag names = .ok segs →
      (chainNames segs).Nodup ∧ ∀ k ∈ chainNames segs, k ∉ names
  | [], _, _, segs, h => by
    cases h
    exact ⟨List.nodup_nil, fun _ h => nomatch h⟩
  | p :: ps, flag, names, segs, h => by
    obtain ⟨_, _, seg, segs', _, hfresh, hrest, rfl⟩ := splitLoop_cons_inv h
    exact chainNames_step hfresh (splitLoop_names hrest)

/-- The parameter names of an accepted pattern are pairwise distinct (the `names` accumulator of
`Split`). -/
theorem split_names_nodup {ic : Interceptors} {p : Bytes} {segs : List Seg} (h : split ic p = .ok segs) :
    (chainNames segs).Nodup :=
  (splitLoop_names (split_ok_iff.1 h).2).1

end Mux.P9
