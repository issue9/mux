/-
  Mux.Proofs.Clean — `Node.clean prefix` removes exactly the nodes whose pattern starts with the
  prefix (relative to the node it is called on), on every tree whose stored patterns are consistent
  (`PatternOk`).  No assumption on sibling segments is needed.
-/
import Mux.Proofs.WOk
import Mux.Proofs.TreeMethods
namespace Mux.P10
open Mux

/-- What `Routes()`, dispatch and the middleware stacks see of a node. -/
def info (n : Node) : Bytes × Nat × AMap Handler := (n.pattern, n.methodIndex, n.handlers)

/-- The `info`s of all nodes below a list of children, depth first. -/
def infosL (cs : List Node) : List (Bytes × Nat × AMap Handler) := (nodesL cs).map info

theorem infosL_nil : infosL [] = [] := rfl
theorem infosL_cons (c : Node) (cs : List Node) : infosL (c :: cs) = info c :: infosL c.children ++ infosL cs := by
  simp [infosL, nodesL, Node.nodes_eq]

/-- "keep": the pattern does not start with `pre`. -/
def keeps (pre : Bytes) (e : Bytes × Nat × AMap Handler) : Bool := !hasPrefix e.1 pre

theorem hasPrefix_append_left (pp a b : Bytes) : hasPrefix (pp ++ a) (pp ++ b) = hasPrefix a b := by
  rw [Bool.eq_iff_iff, hasPrefix_iff, hasPrefix_iff, List.prefix_append_right_inj]

theorem nodes_pattern_prefix (n : Node) (hp : Node.PatternOk n) : ∀ x ∈ n.nodes, n.pattern <+: x.pattern := by
  intro x hx
  obtain ⟨segs, hc⟩ := mem_nodes_chain n x hx
  exact ⟨_, (chain_pattern hc hp).1.symm⟩

theorem infos_child_patterns {pp : Bytes} {c : Node} (hc : c.pattern = pp ++ c.seg.value) (hp : Node.PatternOk c) :
    ∀ e ∈ info c :: infosL c.children, ∃ w, e.1 = pp ++ c.seg.value ++ w := by
  intro e he
  rw [show info c :: infosL c.children = c.nodes.map info by rw [Node.nodes_eq]; rfl] at he
  obtain ⟨x, hx, rfl⟩ := List.mem_map.1 he
  obtain ⟨w, hw⟩ := nodes_pattern_prefix c hp x hx
  exact ⟨w, by simp only [info]; rw [← hw, hc]⟩

/-- A prefix of `v ++ w` is a prefix of `v` or goes properly beyond `v`: the three things `clean` does to a child. -/
theorem hasPrefix_append_cases {v w pre : Bytes} (h : hasPrefix (v ++ w) pre = true) :
    hasPrefix v pre = true ∨ (v.length < pre.length ∧ hasPrefix pre v = true) := by
  have hp := (hasPrefix_iff _ _).1 h
  rcases Nat.lt_or_ge v.length pre.length with hlen | hlen
  · exact .inr ⟨hlen,
      (hasPrefix_iff _ _).2 (List.prefix_of_prefix_length_le (List.prefix_append _ _) hp (Nat.le_of_lt hlen))⟩
  · exact .inl ((hasPrefix_iff _ _).2 (List.prefix_of_prefix_length_le hp (List.prefix_append _ _) hlen))

/-- The prefix left for a child that `clean` enters, seen from the child. -/
theorem deeper_pattern {pp pre : Bytes} {c : Node} (hcp : c.pattern = pp ++ c.seg.value)
    (hpre : hasPrefix pre c.seg.value = true) : c.pattern ++ pre.drop c.seg.value.length = pp ++ pre := by
  obtain ⟨t, ht⟩ := (hasPrefix_iff _ _).1 hpre
  rw [hcp, List.append_assoc, ← ht]; simp

theorem clean_infos :
    ∀ (n : Node) (pre : Bytes) (n' : Node), Node.PatternOk n → n.clean pre = .ok n' →
      infosL n'.children = (infosL n.children).filter (keeps (n.pattern ++ pre)) := by
  intro n
  induction n using Node.rec (motive_2 := fun cs => ∀ pp pre cs', PatternOkL pp cs → cleanL cs pre = .ok cs' →
      infosL (cs'.filter (fun c => !hasPrefix c.seg.value pre)) = (infosL cs).filter (keeps (pp ++ pre))) with
  | mk s p mi hs idx cs ih =>
    intro pre n' hp h
    obtain ⟨cs1, idx', hcs1, _, rfl⟩ := Node.clean_ok.1 h
    exact ih p pre cs1 hp hcs1
  | nil =>
    rename_i pp pre cs' _ h
    cases h; rfl
  | cons c cs ih1 ih2 =>
    rename_i pp pre cs' hp h
    obtain ⟨cs2, hcs2, hcase⟩ := cleanL_kept_cons h
    have hcp : c.pattern = pp ++ c.seg.value := hp.1
    have hall := infos_child_patterns hcp hp.2.1
    rw [infosL_cons, List.filter_append, ← ih2 pp pre cs2 hp.2.2 hcs2]
    rcases hcase with ⟨hcond, c', hc', hkept⟩ | ⟨hdel, hkept⟩ | ⟨hcond, hdel, hkept⟩
    · -- entered: the child itself stays, below it the rest of the prefix is cleaned
      obtain ⟨_, h1, h3, h4⟩ := Node.own_eq_iff.1 (Node.clean_own hc')
      have hinfo : info c' = info c := by simp [info, h1, h3, h4]
      have hkeepc : keeps (pp ++ pre) (info c) = true := by
        simp only [keeps, info, hcp, hasPrefix_append_left, hasPrefix_of_length_lt hcond.1, Bool.not_false]
      rw [hkept, infosL_cons, List.filter_cons, hkeepc, if_pos rfl, ih1 _ c' hp.2.1 hc', deeper_pattern hcp hcond.2, hinfo]
    · -- deleted with its whole subtree
      rw [hkept, (List.filter_eq_nil_iff (l := info c :: infosL c.children)).2, List.nil_append]
      intro e he
      obtain ⟨w, hw⟩ := hall e he
      simp only [keeps, Bool.not_eq_true', Bool.not_eq_false, hw, List.append_assoc, hasPrefix_append_left]
      exact (hasPrefix_iff _ _).2 (((hasPrefix_iff _ _).1 hdel).trans (List.prefix_append _ _))
    · -- kept: nothing below it starts with the prefix
      rw [hkept, infosL_cons, (List.filter_eq_self (l := info c :: infosL c.children)).2]
      intro e he
      obtain ⟨w, hw⟩ := hall e he
      simp only [keeps, hw, List.append_assoc, hasPrefix_append_left, Bool.not_eq_true']
      exact Bool.eq_false_iff.2 fun hpw =>
        (hasPrefix_append_cases hpw).elim (fun hv => Bool.false_ne_true (hdel.symm.trans hv)) hcond

def routeOf (e : Bytes × Nat × AMap Handler) : Option (Bytes × List Bytes) :=
  if e.2.1 > 0 then some (e.1, renderMethods e.2.1) else none

theorem routesL_infos (cs : List Node) : routesL cs = (infosL cs).filterMap routeOf := by
  rw [routesL_eq, infosL, List.filterMap_map, ← List.filterMap_eq_map, List.filterMap_filter]
  congr 1
  funext n
  simp only [routeOf, info, Function.comp_apply, Node.methods, decide_eq_true_eq]
  rfl

theorem filterMap_filter_keeps (pre : Bytes) (l : List (Bytes × Nat × AMap Handler)) :
    (l.filter (keeps pre)).filterMap routeOf = (l.filterMap routeOf).filter (fun x => !hasPrefix x.1 pre) := by
  rw [List.filterMap_filter, List.filter_filterMap]
  congr 1
  funext e
  unfold routeOf keeps
  by_cases h : e.2.1 > 0
  · rw [if_pos h, Option.filter_some]
  · rw [if_neg h, Option.filter_none, ite_self]

end Mux.P10
