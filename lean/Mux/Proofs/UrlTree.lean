/-
  Mux.Proofs.UrlTree — strict URL building on reachable trees (`ReachWf`): `Tree.url` succeeds exactly on
  live routes whose chain parameters all have valid values, every error is characterised, the pattern of every
  node with handlers splits under the tree's interceptors, and the chain that dispatch reports meets the hypotheses
  under which building inverts matching (`urlLoop_captures`).
-/
import Mux.Proofs.UrlInverse
namespace Mux.P13
open Mux Mux.P9

theorem reach_tinv {t : Tree} (hr : ReachWf t) : Mux.P11.TInv t :=
  (P14.ReachAll.of_reachWf hr).inv.ti

theorem reach_uniqHyp {t : Tree} (hr : ReachWf t) : UniqHyp t.root :=
  ⟨Mux.P11.patternOk_of_sh _ _ (reach_tinv hr).sh, Mux.P11.det_of_sh _ (reach_tinv hr).sh⟩

theorem reach_chain_segOk {t : Tree} (hr : ReachWf t) {n : Node} {segs : List Seg} (hc : Chain t.root segs n) :
    ∀ s ∈ segs, SegOk t.ic s := by
  intro s hs
  obtain ⟨c, hc', rfl⟩ := chain_forall hc (reach_segOk hr) s hs
  exact hc'

theorem reach_chain_pattern {t : Tree} (hr : ReachWf t) {n : Node} {segs : List Seg} (hc : Chain t.root segs n) :
    n.pattern = (segs.map (·.value)).flatten := by
  have hinv := reach_tinv hr
  have := (chain_pattern hc (Mux.P11.patternOk_of_sh _ _ hinv.sh)).1
  rwa [hinv.rootPat, List.nil_append] at this

theorem reach_pattern_ne {t : Tree} (hr : ReachWf t) {n : Node} {segs : List Seg} (hc : Chain t.root segs n)
    (hne : segs ≠ []) : n.pattern ≠ [] := by
  rw [reach_chain_pattern hr hc]
  cases segs with
  | nil => exact absurd rfl hne
  | cons s segs =>
    rw [List.map_cons, List.flatten_cons]
    exact fun e => (reach_chain_segOk hr hc s List.mem_cons_self).ne (List.append_eq_nil_iff.1 e).1

theorem mem_tableOf_patterns {t : Tree} {p : Bytes} :
    p ∈ (tableOf t).patterns ↔ ∃ n ∈ nodesL t.root.children, n.pattern = p ∧ n.handlers ≠ [] := by
  rw [Mux.P11.tableOf_patterns]
  simp only [List.mem_map]
  constructor
  · rintro ⟨e, he, rfl⟩
    obtain ⟨n, hn, hne, rfl⟩ := Mux.P11.mem_liveL.1 he
    exact ⟨n, hn, rfl, hne⟩
  · rintro ⟨n, hn, rfl, hne⟩
    exact ⟨(n.pattern, n.handlers), Mux.P11.mem_liveL.2 ⟨n, hn, hne, rfl⟩, rfl⟩

/-! Every live pattern was accepted by `Split`: it entered the abstract table through an accepted `Handle`, under the
tree's interceptors. -/

theorem specRunFrom_split (ic : Interceptors) (ops : List TOp) (t : Tree) (tb : Spec.Table) (hic : t.ic = ic)
    (h : ∀ p ∈ tb.patterns, ∃ segs, split ic p = .ok segs) :
    ∀ p ∈ (specRunFrom t tb ops).patterns, ∃ segs, split ic p = .ok segs := by
  refine (specRun_inv (I := fun t tb => t.ic = ic ∧ ∀ p ∈ tb.patterns, ∃ segs, split ic p = .ok segs) (ops := ops)
    (fun t tb op _ ⟨hic, h⟩ => ⟨(sameCfg_step t op).2.2.1.trans hic, fun p hp => ?_⟩) ⟨hic, h⟩).2
  cases op with
  | add q hh ms methods =>
    simp only [Spec.stepWith] at hp
    split at hp
    · rename_i t' he
      rcases (Mux.P11.mem_patterns_add tb q methods p).1 hp with hp | rfl
      · exact h p hp
      · obtain ⟨segs, _, _, _, _, _, hs, _⟩ := Tree.add_ok he
        exact ⟨segs, hic ▸ hs⟩
    · exact h p hp
  | remove q methods => exact h p (Mux.P11.patterns_remove_sub tb q methods p hp)
  | clean pre => exact h p (Mux.P11.patterns_clean_sub tb pre p hp)
  | use ms => exact h p hp

theorem history_patterns_split (name : Bytes) (ic : Interceptors) (nf : Handler) (tr : Option Handler) (ob nb : Base)
    (ops : List TOp) (hw : ∀ op ∈ ops, op.wf = true) :
    ∀ p ∈ (tableOf ((Tree.new name ic nf tr ob nb).run ops)).patterns, ∃ segs, split ic p = .ok segs := fun p hp =>
  specRunFrom_split ic ops (Tree.new name ic nf tr ob nb) [] rfl (by simp [Spec.Table.patterns]) p
    (((Mux.P11.sim_history name ic nf tr ob nb ops hw).patterns p).1 hp)

theorem reach_live_split {t : Tree} (hr : ReachWf t) {n : Node} (hn : n ∈ nodesL t.root.children)
    (hh : n.handlers ≠ []) : ∃ segs, split t.ic n.pattern = .ok segs := by
  obtain ⟨name, ic, nf, tr, ob, nb, ops, hw, rfl⟩ := P14.ReachAll.of_reachWf hr
  rw [(sameCfg_run _ ops).2.2.1]
  exact history_patterns_split name ic nf tr ob nb ops hw _ (mem_tableOf_patterns.2 ⟨n, hn, rfl, hh⟩)

theorem Tree.url_of_live {t : Tree} (hr : ReachWf t) (env : Env) (ps : AMap Bytes) {n : Node} {segs : List Seg}
    (hn : n ∈ nodesL t.root.children) (hh : n.handlers ≠ []) (hc : Chain t.root segs n) :
    t.url env n.pattern ps = strictUrlLoop env t.ic ps segs := by
  obtain ⟨p, hf, hget⟩ := (Mux.P11.findPath_iff (reach_tinv hr)).2 ⟨hn, rfl⟩
  obtain ⟨segs', hs, hc', _⟩ := getAt_chain p t.root n hget
  rw [Tree.url_of_find hf hget hs, if_neg hh, chain_unique hc' hc (reach_uniqHyp hr)]

theorem Tree.url_reach_cases {t : Tree} (hr : ReachWf t) (env : Env) (pattern : Bytes) (ps : AMap Bytes) :
    (pattern ∉ (tableOf t).patterns ∧ t.url env pattern ps = .error .notRoute) ∨
    ∃ n segs, n ∈ nodesL t.root.children ∧ n.pattern = pattern ∧ n.handlers ≠ [] ∧ Chain t.root segs n ∧
      t.url env pattern ps = strictUrlLoop env t.ic ps segs := by
  by_cases hmem : pattern ∈ (tableOf t).patterns
  · obtain ⟨n, hn, rfl, hh⟩ := mem_tableOf_patterns.1 hmem
    obtain ⟨p, hf, hget⟩ := (Mux.P11.findPath_iff (reach_tinv hr)).2 ⟨hn, rfl⟩
    obtain ⟨segs, hsegs, hc, _⟩ := getAt_chain p t.root n hget
    exact .inr ⟨n, segs, hn, rfl, hh, hc, by rw [Tree.url_of_find hf hget hsegs, if_neg hh]⟩
  · refine .inl ⟨hmem, ?_⟩
    rcases Tree.url_cases env t pattern ps with ⟨_, hu⟩ | ⟨p, n, segs, h1, h2, hu⟩
    · exact hu
    · -- `find` found a node: it has no handlers, or the pattern would be in the table
      obtain ⟨n', g1, g4, g5⟩ := Mux.P11.findPath_node (reach_tinv hr) h1
      cases h2.symm.trans g1
      rw [hu, if_pos (Classical.byContradiction fun hz => hmem (mem_tableOf_patterns.2 ⟨n, g4, g5, hz⟩))]

/-- Every outcome other than `notRoute`: the pattern is a live route, and the outcome is that of the strict loop over
the chain of its node. -/
theorem Tree.url_eq_iff_reach {t : Tree} (hr : ReachWf t) (env : Env) (pattern : Bytes) (ps : AMap Bytes)
    {r : Except Err Bytes} (hne : r ≠ .error .notRoute) :
    t.url env pattern ps = r ↔
      ∃ n segs, n ∈ nodesL t.root.children ∧ n.pattern = pattern ∧ n.handlers ≠ [] ∧ Chain t.root segs n ∧
        strictUrlLoop env t.ic ps segs = r := by
  constructor
  · intro h
    rcases Tree.url_reach_cases hr env pattern ps with ⟨_, hu⟩ | ⟨n, segs, h1, h2, h3, h4, hu⟩
    · exact absurd (h.symm.trans hu) hne
    · exact ⟨n, segs, h1, h2, h3, h4, hu ▸ h⟩
  · rintro ⟨n, segs, h1, rfl, h3, h4, h5⟩
    rw [Tree.url_of_live hr env ps h1 h3 h4, h5]

/-- **`Tree.URL` succeeds exactly on live routes with valid values.** `pattern` is the pattern of a node
below the root that has handlers; every parameter segment on the node's chain has a value that passes
`Segment.Valid`; and the result is the non-strict loop over the chain. -/
theorem Tree.url_ok_iff_reach {t : Tree} (hr : ReachWf t) (env : Env) (pattern : Bytes) (ps : AMap Bytes) (u : Bytes) :
    t.url env pattern ps = .ok u ↔
      ∃ n segs, n ∈ nodesL t.root.children ∧ n.pattern = pattern ∧ n.handlers ≠ [] ∧ Chain t.root segs n ∧
        AllValid env t.ic ps segs ∧ urlLoop ps segs = .ok u := by
  simp only [Tree.url_eq_iff_reach hr env pattern ps (r := .ok u) nofun, strictUrlLoop_ok_iff]

theorem Tree.url_notRoute_iff_reach {t : Tree} (hr : ReachWf t) (env : Env) (pattern : Bytes) (ps : AMap Bytes) :
    t.url env pattern ps = .error .notRoute ↔ pattern ∉ (tableOf t).patterns := by
  rcases Tree.url_reach_cases hr env pattern ps with ⟨hno, hu⟩ | ⟨n, segs, h1, h2, h3, _, hu⟩
  · exact ⟨fun _ => hno, fun _ => hu⟩
  · have hmem := mem_tableOf_patterns.2 ⟨n, h1, h2, h3⟩
    exact ⟨fun h => absurd (hu ▸ h) strictUrlLoop_ne_notRoute, fun hno => absurd hmem hno⟩

/-- Every other error: the pattern is a live route and the strict loop stopped at the first parameter
segment of the node's chain without a valid value. -/
theorem Tree.url_error_iff_reach {t : Tree} (hr : ReachWf t) (env : Env) (pattern : Bytes) (ps : AMap Bytes) (e : Err)
    (hne : e ≠ .notRoute) :
    t.url env pattern ps = .error e ↔
      ∃ n segs, n ∈ nodesL t.root.children ∧ n.pattern = pattern ∧ n.handlers ≠ [] ∧ Chain t.root segs n ∧
        FirstBad env t.ic ps segs e := by
  simp only [Tree.url_eq_iff_reach hr env pattern ps (r := .error e) (fun h => hne (Except.error.inj h)),
    strictUrlLoop_error_iff]

/-- On a segment that `NewSegment` produced, `Valid` cannot judge exactly: a regexp segment whose rule
has a wide class (`.` or a negated class), given a non-ASCII value. -/
theorem valid_none_iff_segOk {env : Env} {ic : Interceptors} {s : Seg} (hs : SegOk ic s) (v : Bytes) :
    s.valid env ic v = none ↔ s.kind = .rx ∧ s.re.wide = true ∧ isAscii v = false := by
  rw [valid_none_iff]
  constructor
  · rintro ⟨hk, h | h⟩
    · exact ⟨hk, h⟩
    · rw [newSegment_rx_ascii hs.seg hk] at h; cases h
  · rintro ⟨hk, h⟩
    exact ⟨hk, .inl h⟩

/-- The chain that dispatch reports on a reachable tree satisfies the hypotheses of `urlLoop_captures`,
provided none of its parameters is ignored. -/
theorem reach_chainOk {t : Tree} (hr : ReachWf t) {n : Node} {chain : List (Seg × Bytes)}
    (hc : Chain t.root (chain.map (·.1)) n)
    (hign : ∀ s ∈ chain.map (·.1), s.kind ≠ .str → s.ignoreName = false) : ChainOk t.ic chain := by
  refine ⟨?_, reach_chainNames hr hc, ?_⟩
  · intro sv hsv
    exact reach_chain_segOk hr hc sv.1 (List.mem_map_of_mem (f := (·.1)) hsv)
  · intro sv hsv
    exact hign sv.1 (List.mem_map_of_mem (f := (·.1)) hsv)

/-- What dispatch reports about the node it found, told on the node's own chain `segs` (the chain is unique): the
values `Segment.Match` captured along it spell the path and are the reported parameters. -/
theorem reach_dispatch_chain {env : Env} {t : Tree} (hr : ReachWf t) {path method : Bytes} {f : Found} {n : Node}
    (hp : path ≠ []) (hs : path ≠ [42]) (htr : t.trace = none ∨ method ≠ mTRACE)
    (h : t.handler env path [] method = .res f) (hf : f.node = some n) {segs : List Seg} (hc : Chain t.root segs n) :
    ∃ chain : List (Seg × Bytes), chain.map (·.1) = segs ∧ path = instChain chain ∧
      (∀ sv ∈ chain, CapOk env t.ic sv.1 sv.2) ∧ f.params = captures chain ∧
      segs ≠ [] ∧ n.handlers ≠ [] := by
  obtain ⟨chain, c0, c1, c2, c3, c4, c5, _⟩ := Tree.handler_found_cap (ps := [])
    ⟨reach_namesOk hr, P8.All_idxLit_of_SOk _ (P8.struct_reach hr.reach).all⟩ hp hs htr h hf
  have e := chain_unique c1 hc (reach_uniqHyp hr)
  exact ⟨chain, e, c2, c3, c4, e ▸ by simpa using c0, c5⟩

end Mux.P13
