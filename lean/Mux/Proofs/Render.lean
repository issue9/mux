/-
  Mux.Proofs.Render — `methodBit`, `renderMethods`, `sortBytes`: masks of method sets and their rendering.
-/
import Mux.Model.Tree
namespace Mux

theorem methodsTable_unfold :
    methodsTable = [mGET, mPOST, mDELETE, mPUT, mPATCH, mCONNECT, mTRACE, mHEAD, mOPTIONS] := rfl

theorem methodsTable_length : methodsTable.length = 9 := rfl

theorem methodsTable_nodup : methodsTable.Nodup := by decide +kernel

theorem methodBit_notAllowed : methodBit mNotAllowed = 0 := by decide +kernel

theorem methodBit_of_not_mem {m : Bytes} (h : m ∉ methodsTable) : methodBit m = 0 := by
  unfold methodBit
  rw [List.idxOf?_eq_none_iff.2 h]

theorem methodBit_table :
    methodBit mGET = 1 ∧ methodBit mPOST = 2 ∧ methodBit mDELETE = 4 ∧ methodBit mPUT = 8 ∧
    methodBit mPATCH = 16 ∧ methodBit mCONNECT = 32 ∧ methodBit mTRACE = 64 ∧ methodBit mHEAD = 128 ∧
    methodBit mOPTIONS = 256 := by decide +kernel

theorem mem_methodsTable_iff {m : Bytes} :
    m ∈ methodsTable ↔ m = mGET ∨ m = mPOST ∨ m = mDELETE ∨ m = mPUT ∨ m = mPATCH ∨ m = mCONNECT ∨
      m = mTRACE ∨ m = mHEAD ∨ m = mOPTIONS := by
  simp [methodsTable_unfold]

/-- The number whose bit `i` is `bs[i]`. -/
def bitsVal : List Bool → Nat
  | [] => 0
  | b :: bs => (if b then 1 else 0) + 2 * bitsVal bs

theorem testBit_bitsVal : ∀ (bs : List Bool) (j : Nat), (bitsVal bs).testBit j = bs.getD j false
  | [], j => by simp [bitsVal]
  | b :: bs, 0 => by cases b <;> simp [bitsVal, Nat.testBit_zero] <;> omega
  | b :: bs, j + 1 => by
    rw [Nat.testBit_succ, List.getD_cons_succ, ← testBit_bitsVal bs j]
    congr 1
    cases b <;> simp [bitsVal] <;> omega

/-- The weight a table gives its `i`-th element: `2 ^ i`; a stranger weighs nothing. -/
def bitOf (l : List Bytes) (x : Bytes) : Nat :=
  match l.idxOf? x with
  | some i => 2 ^ i
  | none => 0

theorem bitOf_cons_self (a : Bytes) (t : List Bytes) : bitOf (a :: t) a = 1 := by
  simp [bitOf, List.idxOf?_cons]

theorem bitOf_cons_ne {a x : Bytes} (t : List Bytes) (h : a ≠ x) : bitOf (a :: t) x = 2 * bitOf t x := by
  simp only [bitOf, List.idxOf?_cons, beq_iff_eq, h, if_false]
  cases t.idxOf? x with
  | none => rfl
  | some i => simp [Nat.pow_succ, Nat.mul_comm]

theorem sum_map_two_mul {α} (f : α → Nat) : ∀ l : List α, (l.map fun x => 2 * f x).sum = 2 * (l.map f).sum
  | [] => rfl
  | x :: l => by simp only [List.map_cons, List.sum_cons, sum_map_two_mul f l, Nat.mul_add]

/-- The weights of a sub-multiset of a table without repetitions add up to the number whose bits say which elements
were taken. -/
theorem sum_bitOf_filter (p : Bytes → Bool) : ∀ {l : List Bytes}, l.Nodup →
    ((l.filter p).map (bitOf l)).sum = bitsVal (l.map p)
  | [], _ => rfl
  | a :: t, hnd => by
    rw [List.nodup_cons] at hnd
    have ht : ((t.filter p).map (bitOf (a :: t))).sum = 2 * bitsVal (t.map p) := by
      rw [← sum_bitOf_filter p hnd.2, ← sum_map_two_mul]
      exact congrArg _ (List.map_congr_left fun x hx =>
        bitOf_cons_ne t fun e => hnd.1 (e ▸ (List.mem_filter.1 hx).1))
    cases hp : p a <;> simp [hp, bitsVal, bitOf_cons_self, ht]

theorem testBit_sum_bitOf_filter (p : Bytes → Bool) {l : List Bytes} (hnd : l.Nodup) {m : Bytes} (hm : m ∈ l) :
    (((l.filter p).map (bitOf l)).sum).testBit ((l.idxOf? m).getD 0) = p m := by
  obtain ⟨i, hi⟩ := Option.isSome_iff_exists.1 (List.isSome_idxOf?.2 hm)
  obtain ⟨hlt, hget, _⟩ := List.idxOf?_eq_some_iff.1 hi
  rw [sum_bitOf_filter p hnd, testBit_bitsVal, hi, Option.getD_some, List.getD_eq_getElem?_getD, List.getElem?_map,
    List.getElem?_eq_getElem hlt, hget]
  rfl

theorem perm_filter_table (ks : List Bytes) (hnd : ks.Nodup) (hsub : ∀ k ∈ ks, k ∈ methodsTable) :
    ks.Perm (methodsTable.filter (fun m => decide (m ∈ ks))) := by
  rw [List.perm_ext_iff_of_nodup hnd (methodsTable_nodup.sublist List.filter_sublist)]
  intro a
  simp only [List.mem_filter, decide_eq_true_eq]
  exact ⟨fun h => ⟨hsub a h, h⟩, fun h => h.2⟩

theorem testBit_sum_methodBit (ks : List Bytes) (hnd : ks.Nodup) (hsub : ∀ k ∈ ks, k ∈ methodsTable)
    (m : Bytes) (hm : m ∈ methodsTable) :
    ((ks.map methodBit).sum).testBit ((methodsTable.idxOf? m).getD 0) = decide (m ∈ ks) := by
  rw [((perm_filter_table ks hnd hsub).map methodBit).sum_nat]
  -- `methodBit` is the weight `methodsTable` gives
  exact testBit_sum_bitOf_filter (fun m => decide (m ∈ ks)) methodsTable_nodup hm

example : ([mPUT, mGET] : List Bytes).Nodup ∧ ∀ k ∈ [mPUT, mGET], k ∈ methodsTable := by decide +kernel

theorem renderMethods_sum (ks : List Bytes) (hnd : ks.Nodup) (hsub : ∀ k ∈ ks, k ∈ methodsTable) :
    renderMethods ((ks.map methodBit).sum) = sortBytes (methodsTable.filter (fun m => decide (m ∈ ks))) := by
  unfold renderMethods
  congr 1
  apply List.filter_congr
  intro m hm
  exact testBit_sum_methodBit ks hnd hsub m hm

theorem insertSorted_perm (m : Bytes) (l : List Bytes) : (insertSorted m l).Perm (m :: l) := by
  fun_induction insertSorted m l with
  | case1 => exact .refl _
  | case2 x xs hlt => exact .refl _
  | case3 x xs hlt ih => exact (List.Perm.cons x ih).trans (List.Perm.swap m x xs)

theorem sortBytes_cons (x : Bytes) (xs : List Bytes) : sortBytes (x :: xs) = insertSorted x (sortBytes xs) := rfl

theorem sortBytes_perm (l : List Bytes) : (sortBytes l).Perm l := by
  induction l with
  | nil => exact .refl _
  | cons x xs ih =>
    rw [sortBytes_cons]
    exact (insertSorted_perm x _).trans (List.Perm.cons x ih)

theorem mem_sortBytes {l : List Bytes} {m : Bytes} : m ∈ sortBytes l ↔ m ∈ l :=
  (sortBytes_perm l).mem_iff

theorem bytesLt_iff_lt : ∀ {a b : Bytes}, bytesLt a b = true ↔ a < b
  | [], [] => by simp [bytesLt]
  | [], _ :: _ => by simp [bytesLt]
  | _ :: _, [] => by simp [bytesLt]
  | x :: a, y :: b => by
    rw [bytesLt, List.cons_lt_cons_iff, ← bytesLt_iff_lt (a := a) (b := b)]
    by_cases hxy : x < y
    · simp [hxy]
    · by_cases hyx : y < x
      · have : x ≠ y := fun e => hxy (e ▸ hyx)
        simp [hxy, hyx, this]
      · have : x = y := UInt8.le_antisymm (UInt8.not_lt.1 hyx) (UInt8.not_lt.1 hxy)
        simp [this]

theorem bytesLt_trans {a b c : Bytes} (h1 : bytesLt a b = true) (h2 : bytesLt b c = true) : bytesLt a c = true :=
  bytesLt_iff_lt.2 (List.lt_trans (bytesLt_iff_lt.1 h1) (bytesLt_iff_lt.1 h2))

theorem bytesLt_total {a b : Bytes} (hne : a ≠ b) (h : bytesLt a b ≠ true) : bytesLt b a = true :=
  bytesLt_iff_lt.2 <|
    (List.le_iff_lt_or_eq.1 (List.not_lt.1 fun hl => h (bytesLt_iff_lt.2 hl))).resolve_right (Ne.symm hne)

theorem insertSorted_sorted (m : Bytes) (l : List Bytes) (hnot : m ∉ l)
    (hs : l.Pairwise (fun a b => bytesLt a b = true)) :
    (insertSorted m l).Pairwise (fun a b => bytesLt a b = true) := by
  fun_induction insertSorted m l with
  | case1 => exact List.pairwise_singleton _ _
  | case2 x xs hlt =>
    refine List.pairwise_cons.2 ⟨fun y hy => ?_, hs⟩
    rcases List.mem_cons.1 hy with rfl | hy
    · exact hlt
    · exact bytesLt_trans hlt ((List.pairwise_cons.1 hs).1 y hy)
  | case3 x xs hlt ih =>
    rw [List.pairwise_cons] at hs
    refine List.pairwise_cons.2 ⟨fun y hy => ?_, ih (fun h => hnot (List.mem_cons_of_mem _ h)) hs.2⟩
    rcases List.mem_cons.1 ((insertSorted_perm m xs).mem_iff.1 hy) with rfl | hy
    · exact bytesLt_total (fun h => hnot (h ▸ List.mem_cons_self ..)) hlt
    · exact hs.1 y hy

theorem sortBytes_sorted (l : List Bytes) (hnd : l.Nodup) : (sortBytes l).Pairwise (fun a b => bytesLt a b = true) := by
  induction l with
  | nil => exact List.Pairwise.nil
  | cons x xs ih =>
    rw [sortBytes_cons]
    rw [List.nodup_cons] at hnd
    exact insertSorted_sorted x _ (fun h => hnd.1 (mem_sortBytes.1 h)) (ih hnd.2)

theorem mem_renderMethods (i : Nat) (m : Bytes) :
    m ∈ renderMethods i ↔ m ∈ methodsTable ∧ i.testBit ((methodsTable.idxOf? m).getD 0) = true := by
  unfold renderMethods
  rw [mem_sortBytes, List.mem_filter]

theorem renderMethods_subset (i : Nat) : ∀ m ∈ renderMethods i, m ∈ methodsTable :=
  fun m hm => ((mem_renderMethods i m).1 hm).1

theorem renderMethods_nodup (i : Nat) : (renderMethods i).Nodup := by
  unfold renderMethods
  exact (sortBytes_perm _).nodup_iff.2 (methodsTable_nodup.sublist List.filter_sublist)

theorem renderMethods_sorted (i : Nat) : (renderMethods i).Pairwise (fun a b => bytesLt a b = true) := by
  unfold renderMethods
  exact sortBytes_sorted _ (methodsTable_nodup.sublist List.filter_sublist)

theorem mem_renderMethods_sum (ks : List Bytes) (hnd : ks.Nodup) (hsub : ∀ k ∈ ks, k ∈ methodsTable) (m : Bytes) :
    m ∈ renderMethods ((ks.map methodBit).sum) ↔ m ∈ ks := by
  rw [renderMethods_sum ks hnd hsub, mem_sortBytes, List.mem_filter]
  simp only [decide_eq_true_eq]
  exact ⟨fun h => h.2, fun h => ⟨hsub m h, h⟩⟩

theorem table_index_surj (k : Nat) (hk : k < methodsTable.length) :
    ∃ m ∈ methodsTable, methodsTable.idxOf? m = some k :=
  ⟨methodsTable[k], List.getElem_mem hk, List.idxOf?_eq_some_iff.2 ⟨hk, rfl, fun j hj e =>
    Nat.ne_of_lt hj ((List.getElem_inj methodsTable_nodup).1 e)⟩⟩

theorem renderMethods_injective (i j : Nat) (hi : i < 2 ^ methodsTable.length) (hj : j < 2 ^ methodsTable.length)
    (h : renderMethods i = renderMethods j) : i = j := by
  rw [methodsTable_length] at hi hj
  apply Nat.eq_of_testBit_eq
  intro k
  by_cases hk : k < 9
  · obtain ⟨m, hm, hidx⟩ := table_index_surj k (methodsTable_length ▸ hk)
    have h1 := mem_renderMethods i m
    have h2 := mem_renderMethods j m
    rw [h, h2, hidx] at h1
    simp only [Option.getD_some, hm, true_and] at h1
    exact Bool.eq_iff_iff.2 h1.symm
  · have hle : 2 ^ 9 ≤ 2 ^ k := Nat.pow_le_pow_right (by omega) (by omega)
    rw [Nat.testBit_lt_two_pow (Nat.lt_of_lt_of_le hi hle), Nat.testBit_lt_two_pow (Nat.lt_of_lt_of_le hj hle)]

example : (5 : Nat) < 2 ^ methodsTable.length ∧ renderMethods 5 = renderMethods 5 := ⟨by decide, rfl⟩

end Mux
